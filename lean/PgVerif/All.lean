-- root importing every Props module and Proofs.IndexDefects: built with the library, it shows that no two areas declare the
-- same name; no command uses it, and the Proofs/SrcTie modules are not below it
import PgVerif.Props.C01
import PgVerif.Props.C02
import PgVerif.Props.C03
import PgVerif.Props.C04
import PgVerif.Props.C05
import PgVerif.Props.C06
import PgVerif.Props.C07
import PgVerif.Props.C08
import PgVerif.Props.C09
import PgVerif.Props.C09Block
import PgVerif.Props.C09Rows
import PgVerif.Props.C09Scan
import PgVerif.Props.C11
import PgVerif.Props.C12
import PgVerif.Props.C12Cli
import PgVerif.Props.C12CliDump
import PgVerif.Props.C13
import PgVerif.Props.C14
import PgVerif.Props.C14Paths
import PgVerif.Props.C15
import PgVerif.Props.C15Bytes
import PgVerif.Props.C15Float
import PgVerif.Props.C16
import PgVerif.Props.C17
import PgVerif.Props.C18
import PgVerif.Props.C19
import PgVerif.Props.C20
import PgVerif.Props.C10.Arrays
import PgVerif.Props.C10.Block
import PgVerif.Props.C10.Cluster
import PgVerif.Props.C10.Control
import PgVerif.Props.C10.Heap
import PgVerif.Props.C10.Isolation
import PgVerif.Props.C10.Index
import PgVerif.Props.C10.Numjson
import PgVerif.Props.C10.Rows
import PgVerif.Props.C10.DeletedScan
import PgVerif.Props.C10.Scalars
import PgVerif.Props.C10.Search
import PgVerif.Props.C10.Toast
import PgVerif.Props.C10.Wal
import PgVerif.Proofs.IndexDefects
import PgVerif.Props.C10.Entry
import PgVerif.Props.C10.Dropped
import PgVerif.Props.C11Dropped
import PgVerif.Props.C11Maps
import PgVerif.Props.Dropped
import PgVerif.Props.C10.Extra
import PgVerif.Props.C10.EntryFS
import PgVerif.Props.C12Extra
import PgVerif.Props.C15Extra
import PgVerif.Props.C08Extra
import PgVerif.Props.C12Remote
