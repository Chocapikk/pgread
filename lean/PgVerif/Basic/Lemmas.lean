/-
  No declarations: imports the modules of `PgVerif/Lib`, so that an area module gets them all with one import.
-/
import PgVerif.Lib.Fault
import PgVerif.Lib.Reads
import PgVerif.Lib.Bits
import PgVerif.Lib.Lists
import PgVerif.Lib.Pages
import PgVerif.Lib.LastSplit
import PgVerif.Lib.Sorting
import PgVerif.Lib.AssocMap
import PgVerif.Lib.TableKit
import PgVerif.Lib.Lit
import PgVerif.Lib.StrBytes
import PgVerif.Lib.BytesOrder
