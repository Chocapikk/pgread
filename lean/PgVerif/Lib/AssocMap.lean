/-
  Go maps as association lists in insertion order: `m[k] = g(m[k])`, with `d` for an absent key, is `upsert m k d g` (the map updates
  of the models are `upsert` by `rfl`, those that write `k` itself into the entry by `upsert_const`); the catalog model's `mapPut` /
  `mapAppend` stop at the first entry of the key (`upsertFirst`).
-/
import PgVerif.Lib.Lists
namespace PgVerif.AssocMap
variable {κ : Type _} {β : Type _} [BEq κ]

def upsert (m : List (κ × β)) (k : κ) (d : β) (g : β → β) : List (κ × β) :=
  if m.any (·.1 == k) then m.map fun kv => if kv.1 == k then (kv.1, g kv.2) else kv else m ++ [(k, d)]

variable [LawfulBEq κ]

theorem any_iff_mem_keys (m : List (κ × β)) (k : κ) : m.any (·.1 == k) = true ↔ k ∈ m.map (·.1) := by
  simp only [List.any_eq_true, beq_iff_eq, List.mem_map]

/-- the models that write the key `k` itself into the updated entries -/
theorem upsert_const (m : List (κ × β)) (k : κ) (v : β) :
    (if m.any (·.1 == k) then m.map fun kv => if kv.1 == k then (k, v) else kv else m ++ [(k, v)]) =
      upsert m k v fun _ => v := by
  unfold upsert
  congr 1
  exact List.map_congr_left fun kv _ => by by_cases h : kv.1 = k <;> simp [h]

theorem upsert_fresh {m : List (κ × β)} {k : κ} (h : k ∉ m.map (·.1)) (d : β) (g : β → β) :
    upsert m k d g = m ++ [(k, d)] :=
  if_neg fun hc => h ((any_iff_mem_keys m k).mp hc)

theorem foldl_upsert_fresh (xs m : List (κ × β)) (g : κ × β → β → β) (h : ((m ++ xs).map (·.1)).Nodup) :
    xs.foldl (fun m e => upsert m e.1 e.2 (g e)) m = m ++ xs := by
  induction xs generalizing m with
  | nil => exact (List.append_nil m).symm
  | cons e xs ih =>
    have he : e.1 ∉ m.map (·.1) := fun hm => by
      rw [List.map_append, List.nodup_append] at h
      exact h.2.2 _ hm _ (List.mem_map_of_mem List.mem_cons_self) rfl
    rw [List.foldl_cons, upsert_fresh he, ih _ (by rwa [List.append_assoc]), List.append_assoc]; rfl

theorem keys_upsert [DecidableEq κ] (m : List (κ × β)) (k : κ) (d : β) (g : β → β) :
    (upsert m k d g).map (·.1) = if k ∈ m.map (·.1) then m.map (·.1) else m.map (·.1) ++ [k] := by
  unfold upsert
  by_cases h : m.any (·.1 == k) = true
  · rw [if_pos h, if_pos ((any_iff_mem_keys m k).mp h), List.map_map]
    exact List.map_congr_left fun a _ => by simp only [Function.comp]; split <;> rfl
  · rw [if_neg h, if_neg (fun hc => h ((any_iff_mem_keys m k).mpr hc))]
    simp

theorem mem_upsert {m : List (κ × β)} {k : κ} {d : β} {g : β → β} {e : κ × β} (h : e ∈ upsert m k d g) :
    (e ∈ m ∧ e.1 ≠ k) ∨ (∃ v, (k, v) ∈ m ∧ e = (k, g v)) ∨ (k ∉ m.map (·.1) ∧ e = (k, d)) := by
  unfold upsert at h
  split at h
  · obtain ⟨kv, hkv, rfl⟩ := List.mem_map.mp h
    by_cases hc : kv.1 = k
    · rw [if_pos (beq_iff_eq.mpr hc)]
      exact .inr (.inl ⟨kv.2, hc ▸ hkv, by rw [hc]⟩)
    · rw [if_neg (fun e => hc (beq_iff_eq.mp e))]
      exact .inl ⟨hkv, hc⟩
  · rename_i hk
    have hk' : k ∉ m.map (·.1) := fun hc => hk ((any_iff_mem_keys m k).mpr hc)
    rcases List.mem_append.mp h with h | h
    · exact .inl ⟨h, fun e' => hk' (e' ▸ List.mem_map_of_mem h)⟩
    · exact .inr (.inr ⟨hk', List.mem_singleton.mp h⟩)

/-- the case split of `find?_upsert`: the search for `k` finds an entry whose key IS `k`, or finds none and `any` says so -/
theorem find?_key (m : List (κ × β)) (k : κ) :
    (∃ v, m.find? (·.1 == k) = some (k, v)) ∨ (m.find? (·.1 == k) = none ∧ m.any (·.1 == k) = false) := by
  cases hf : m.find? (·.1 == k) with
  | some kv =>
    have := List.find?_some hf
    simp only [beq_iff_eq] at this
    exact .inl ⟨kv.2, by rw [← this]⟩
  | none => exact .inr ⟨rfl, by simpa using hf⟩

theorem find?_upsert (m : List (κ × β)) (k x : κ) (d : β) (g : β → β) :
    (upsert m k d g).find? (·.1 == x) =
      if x == k then some (k, ((m.find? (·.1 == k)).map (g ·.2)).getD d) else m.find? (·.1 == x) := by
  unfold upsert
  split
  · rename_i h
    -- the update keeps keys, so a search in the updated list is the updated result of the search; then the two cases of `find?_key`
    have hu : (m.map fun kv => if kv.1 == k then (kv.1, g kv.2) else kv).find? (·.1 == x) =
        (m.find? (·.1 == x)).map fun kv => if kv.1 == k then (kv.1, g kv.2) else kv := by
      rw [List.find?_map]
      congr 2
      funext kv
      simp only [Function.comp]
      split <;> rfl
    rw [hu]
    rcases find?_key m x with ⟨v, hv⟩ | ⟨hn, ha⟩
    · rw [hv]
      by_cases hk : x = k
      · subst hk; simp [hv]
      · simp [hk]
    · have : x ≠ k := fun e => by rw [e, h] at ha; cases ha
      simp [hn, this]
  · rename_i h
    rw [List.find?_append]
    rcases find?_key m x with ⟨v, hv⟩ | ⟨hn, ha⟩
    · have : x ≠ k := fun e => h (by rw [← e]; exact List.any_eq_true.mpr ⟨_, List.mem_of_find?_eq_some hv, by simp⟩)
      simp [hv, this]
    · by_cases hk : x = k
      · subst hk; simp [hn]
      · have : ¬ k = x := fun e => hk e.symm
        simp [hn, hk, this]

theorem lookup_eq_find? (m : List (κ × β)) (k : κ) : m.lookup k = (m.find? (·.1 == k)).map (·.2) := by
  induction m with
  | nil => rfl
  | cons e m ih =>
    obtain ⟨a, b⟩ := e
    rw [List.lookup_cons, List.find?_cons, ih, Bool.beq_comm (a := k)]
    cases a == k <;> rfl

/-- Go's `m[k] = …` read back -/
theorem lookup_upsert (m : List (κ × β)) (k x : κ) (d : β) (g : β → β) :
    (upsert m k d g).lookup x = if x == k then some (((m.lookup k).map g).getD d) else m.lookup x := by
  rw [lookup_eq_find?, find?_upsert, lookup_eq_find?, lookup_eq_find?]
  split
  · cases m.find? (·.1 == k) <;> rfl
  · rfl

/-- the right-hand side of `lookup_upsert` / `lookup_upsertFirst` for `m[k] = v`: the old value does not matter -/
theorem lookup_upsert_const [DecidableEq κ] (o r : Option β) (k x : κ) (v : β) :
    (if x == k then some ((o.map fun _ => v).getD v) else r) = if x = k then some v else r := by
  by_cases h : x = k
  · rw [if_pos h, if_pos (beq_iff_eq.mpr h)]; cases o <;> rfl
  · rw [if_neg h, if_neg fun e => h (beq_iff_eq.mp e)]

theorem keys_foldl_upsert [DecidableEq κ] {α} (key : α → κ) (ins : α → β) (upd : α → β → β) (xs : List α) (m : List (κ × β)) :
    (xs.foldl (fun m x => upsert m (key x) (ins x) (upd x)) m).map (·.1) =
      xs.foldl (fun ks x => if key x ∈ ks then ks else ks ++ [key x]) (m.map (·.1)) := by
  induction xs generalizing m with
  | nil => rfl
  | cons x xs ih => rw [List.foldl_cons, List.foldl_cons, ih, keys_upsert]

/-- what the loop `for x in xs { m[key x] = upd x (m[key x]) }` (`ins x` for an absent key) has made of the events `xs` processed
so far, `S` being the summary of the events of one key -/
structure MapInv {α} (key : α → κ) (S : List α → β) (m : List (κ × β)) (xs : List α) : Prop where
  distinct : (m.map (·.1)).Pairwise (· ≠ ·)
  entries : ∀ kv ∈ m, kv.2 = S (xs.filter (key · == kv.1)) ∧ xs.filter (key · == kv.1) ≠ []
  present : ∀ x ∈ xs, ∃ kv ∈ m, kv.1 = key x

omit [LawfulBEq κ] in
theorem mapInv_nil {α} (key : α → κ) (S : List α → β) : MapInv key S [] ([] : List α) :=
  { distinct := List.Pairwise.nil, entries := fun _ h => (nomatch h), present := fun _ h => (nomatch h) }

theorem upsert_inv [DecidableEq κ] {α} (key : α → κ) (S : List α → β) (ins : α → β) (upd : α → β → β)
    (hins : ∀ x, S [x] = ins x) (hupd : ∀ l x, l ≠ [] → S (l ++ [x]) = upd x (S l))
    (m : List (κ × β)) (xs : List α) (x : α) (h : MapInv key S m xs) :
    MapInv key S (upsert m (key x) (ins x) (upd x)) (xs ++ [x]) := by
  -- the events with key `c` after `x`: `x` joins those of its own key
  have hfil : ∀ c, (xs ++ [x]).filter (key · == c) = xs.filter (key · == c) ++ if key x = c then [x] else [] := by
    intro c
    by_cases hc : key x = c <;> simp [List.filter_append, hc]
  have hkeys : ∀ y ∈ xs, key y ∈ m.map (·.1) := fun y hy => by
    obtain ⟨kv, hkv, e⟩ := h.present y hy
    exact e ▸ List.mem_map_of_mem hkv
  refine ⟨?_, ?_, ?_⟩
  · rw [keys_upsert]
    split
    · exact h.distinct
    · rename_i hc
      exact List.pairwise_append.mpr ⟨h.distinct, List.pairwise_singleton _ _,
        fun a ha b hb e => hc (by rw [← List.mem_singleton.mp hb, ← e]; exact ha)⟩
  · intro kv' hkv'
    rw [hfil]
    rcases mem_upsert hkv' with ⟨hm, hne⟩ | ⟨v, hv, rfl⟩ | ⟨hno, rfl⟩
    · rw [if_neg (Ne.symm hne), List.append_nil]; exact h.entries kv' hm
    · obtain ⟨e1, e2⟩ := h.entries _ hv
      rw [if_pos rfl]
      exact ⟨by rw [hupd _ _ e2, ← e1], by simp⟩
    · have : xs.filter (key · == key x) = [] :=
        List.filter_eq_nil_iff.mpr fun y hy hc => hno (eq_of_beq hc ▸ hkeys y hy)
      rw [if_pos rfl, this]
      exact ⟨(hins x).symm, by simp⟩
  · intro y hy
    have hmem : key y ∈ (upsert m (key x) (ins x) (upd x)).map (·.1) := by
      rw [keys_upsert]
      rcases List.mem_append.mp hy with hy | hy
      · split
        · exact hkeys y hy
        · exact List.mem_append_left _ (hkeys y hy)
      · rw [List.mem_singleton.mp hy]
        split
        · assumption
        · exact List.mem_append_right _ (List.mem_singleton_self _)
    obtain ⟨kv, hkv, e⟩ := List.mem_map.mp hmem
    exact ⟨kv, hkv, e⟩

theorem foldl_upsert_inv [DecidableEq κ] {α} (key : α → κ) (S : List α → β) (ins : α → β) (upd : α → β → β)
    (hins : ∀ x, S [x] = ins x) (hupd : ∀ l x, l ≠ [] → S (l ++ [x]) = upd x (S l)) (rest : List α)
    (m : List (κ × β)) (pre : List α) (h : MapInv key S m pre) :
    MapInv key S (rest.foldl (fun m x => upsert m (key x) (ins x) (upd x)) m) (pre ++ rest) := by
  induction rest generalizing m pre with
  | nil => rwa [List.append_nil]
  | cons x rest ih =>
    rw [List.foldl_cons, List.append_cons]
    exact ih _ _ (upsert_inv key S ins upd hins hupd m pre x h)

omit [LawfulBEq κ] in
theorem MapInv.perm {α} {key : α → κ} {S : List α → β} {m m' : List (κ × β)} {xs : List α}
    (h : MapInv key S m xs) (hp : m'.Perm m) : MapInv key S m' xs :=
  ⟨((hp.map (·.1)).pairwise_iff (fun {a b} (hab : a ≠ b) => fun e => hab e.symm)).mpr h.distinct,
   fun kv hkv => h.entries kv (hp.subset hkv),
   fun x hx => by obtain ⟨kv, hkv, e⟩ := h.present x hx; exact ⟨kv, hp.symm.subset hkv, e⟩⟩

theorem lookup_mem (l : List (κ × β)) (k : κ) (v : β) (h : l.lookup k = some v) : (k, v) ∈ l := by
  obtain ⟨l₁, l₂, rfl, _⟩ := List.lookup_eq_some_iff.1 h
  exact List.mem_append_right _ List.mem_cons_self

theorem lookup_of_mem {l : List (κ × β)} (h : (l.map (·.1)).Nodup) {e : κ × β} (he : e ∈ l) :
    l.lookup e.1 = some e.2 := by
  induction l with
  | nil => cases he
  | cons x l ih =>
    obtain ⟨k, v⟩ := x
    rw [List.map_cons, List.nodup_cons] at h
    rcases List.mem_cons.mp he with rfl | he
    · rw [List.lookup_cons, beq_self_eq_true]
    · have hne : (e.1 == k) = false := by
        rw [beq_eq_false_iff_ne]
        intro hk
        exact h.1 (hk ▸ List.mem_map.mpr ⟨e, he, rfl⟩)
      rw [List.lookup_cons, hne]
      exact ih h.2 he

theorem filterMap_lookup_keys (m : List (κ × β)) (h : (m.map (·.1)).Nodup) :
    (m.map (·.1)).filterMap (fun c => (m.lookup c).map fun v => (c, v)) = m := by
  rw [List.filterMap_map]
  exact (PgVerif.filterMap_congr _ some _ fun e he => by
    show (m.lookup e.1).map (fun v => (e.1, v)) = some e
    rw [lookup_of_mem h he]; rfl).trans List.filterMap_some

theorem lookup_isSome_of_mem_keys (l : List (κ × β)) (k : κ) (h : k ∈ l.map (·.1)) : (l.lookup k).isSome = true := by
  obtain ⟨p, hp, rfl⟩ := List.mem_map.1 h
  exact List.lookup_isSome_iff.2 ⟨p, hp, beq_self_eq_true _⟩

theorem lookup_none_of_keys (l : List (κ × β)) (k : κ) (h : ∀ e ∈ l, e.1 ≠ k) : l.lookup k = none :=
  List.lookup_eq_none_iff.mpr fun e he => bne_iff_ne.mpr fun hk => h e he hk.symm

theorem find?_none_of_keys (l : List (κ × β)) (k : κ) (h : k ∉ l.map (·.1)) : l.find? (·.1 == k) = none :=
  List.find?_eq_none.mpr fun _ hx hp => h (beq_iff_eq.mp hp ▸ List.mem_map_of_mem hx)

/-- the update that leaves the list behind the first entry of key `k` alone (the catalog model's `mapPut` and `mapAppend`) -/
def upsertFirst (m : List (κ × β)) (k : κ) (d : β) (g : β → β) : List (κ × β) :=
  match m with
  | [] => [(k, d)]
  | kv :: m => if kv.1 == k then (k, g kv.2) :: m else kv :: upsertFirst m k d g

theorem lookup_upsertFirst (m : List (κ × β)) (k x : κ) (d : β) (g : β → β) :
    (upsertFirst m k d g).lookup x = if x == k then some (((m.lookup k).map g).getD d) else m.lookup x := by
  induction m with
  | nil => rw [upsertFirst, List.lookup_cons]; cases x == k <;> rfl
  | cons kv m ih =>
    obtain ⟨a, b⟩ := kv
    rw [upsertFirst]
    by_cases ha : a = k
    · subst ha
      simp only [beq_self_eq_true, if_true, List.lookup_cons]
      cases x == a <;> rfl
    · have hak : (a == k) = false := beq_false_of_ne ha
      have hka : (k == a) = false := beq_false_of_ne fun e => ha e.symm
      simp only [hak, Bool.false_eq_true, if_false, List.lookup_cons, hka]
      cases hx : x == a
      · exact ih
      · rw [eq_of_beq hx, hak]; rfl

theorem upsertFirst_cases (m : List (κ × β)) (k : κ) (d : β) (g : β → β) :
    (k ∉ m.map (·.1) ∧ upsertFirst m k d g = m ++ [(k, d)]) ∨
    ∃ l₁ v l₂, m = l₁ ++ (k, v) :: l₂ ∧ k ∉ l₁.map (·.1) ∧ upsertFirst m k d g = l₁ ++ (k, g v) :: l₂ := by
  induction m with
  | nil => exact .inl ⟨List.not_mem_nil, rfl⟩
  | cons kv m ih =>
    obtain ⟨a, b⟩ := kv
    rw [upsertFirst]
    by_cases ha : a = k
    · subst ha
      exact .inr ⟨[], b, m, rfl, List.not_mem_nil, by rw [if_pos (beq_self_eq_true _)]; rfl⟩
    · have hka : ¬ k = a := fun e => ha e.symm
      rw [if_neg (fun e => ha (eq_of_beq e))]
      rcases ih with ⟨h1, h2⟩ | ⟨l₁, v, l₂, h1, h0, h2⟩
      · exact .inl ⟨fun hc => (List.mem_cons.mp hc).elim hka h1, by rw [h2]; rfl⟩
      · exact .inr ⟨(a, b) :: l₁, v, l₂, by rw [h1]; rfl, fun hc => (List.mem_cons.mp hc).elim hka h0, by rw [h2]; rfl⟩

theorem upsertFirst_fresh {m : List (κ × β)} {k : κ} (h : k ∉ m.map (·.1)) (d : β) (g : β → β) :
    upsertFirst m k d g = m ++ [(k, d)] := by
  rcases upsertFirst_cases m k d g with ⟨_, h2⟩ | ⟨l₁, v, l₂, h1, _, _⟩
  · exact h2
  · exact absurd (h1 ▸ List.mem_map_of_mem (List.mem_append_right _ List.mem_cons_self)) h

theorem keys_upsertFirst [DecidableEq κ] (m : List (κ × β)) (k : κ) (d : β) (g : β → β) :
    (upsertFirst m k d g).map (·.1) = if k ∈ m.map (·.1) then m.map (·.1) else m.map (·.1) ++ [k] := by
  rcases upsertFirst_cases m k d g with ⟨h1, h2⟩ | ⟨l₁, v, l₂, h1, _, h2⟩
  · rw [if_neg h1, h2, List.map_append]; rfl
  · rw [if_pos (h1 ▸ List.mem_map_of_mem (List.mem_append_right _ List.mem_cons_self)), h2, h1, List.map_append,
      List.map_append, List.map_cons, List.map_cons]

/-- as `mem_upsert`, except that a later entry of the key `k` is an old entry too (no `e.1 ≠ k`) -/
theorem mem_upsertFirst {m : List (κ × β)} {k : κ} {d : β} {g : β → β} {e : κ × β} (h : e ∈ upsertFirst m k d g) :
    e ∈ m ∨ (∃ v, (k, v) ∈ m ∧ e = (k, g v)) ∨ (k ∉ m.map (·.1) ∧ e = (k, d)) := by
  rcases upsertFirst_cases m k d g with ⟨h1, h2⟩ | ⟨l₁, v, l₂, h1, _, h2⟩
  · rw [h2] at h
    rcases List.mem_append.mp h with h | h
    · exact .inl h
    · exact .inr (.inr ⟨h1, List.mem_singleton.mp h⟩)
  · rw [h2] at h
    rw [h1]
    rcases List.mem_append.mp h with h | h
    · exact .inl (List.mem_append_left _ h)
    · rcases List.mem_cons.mp h with h | h
      · exact .inr (.inl ⟨v, List.mem_append_right _ List.mem_cons_self, h⟩)
      · exact .inl (List.mem_append_right _ (List.mem_cons_of_mem _ h))

end PgVerif.AssocMap
