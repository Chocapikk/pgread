/-
  Words and bits: little-endian words and two's complement, numerals given by their binary digits, the masks and packed
  fields the parsers take apart, alignment.
-/
import PgVerif.Basic.Bytes
namespace PgVerif

/-! ## Little-endian words and two's complement -/

/-- core's `UInt8.toNat_ofNat_of_lt'` with the bound as a literal: `omega` at the call sites does not know `UInt8.size` -/
theorem u8_toNat (n : Nat) (h : n < 256) : (UInt8.ofNat n).toNat = n := UInt8.toNat_ofNat_of_lt' h

theorem u8_bne (n : Nat) (k : UInt8) (hn : n < 256) : (UInt8.ofNat n != k) = (n != k.toNat) := by
  rw [Bool.eq_iff_iff]
  simp only [bne_iff_ne, ne_eq]
  refine not_congr ⟨fun h => ?_, fun h => ?_⟩
  · rw [← h, u8_toNat n hn]
  · rw [h, UInt8.ofNat_toNat]

theorem le_add (m n v : Nat) : le (m + n) v = le m (v % 256 ^ m) ++ le n (v / 256 ^ m) := by
  induction m generalizing v with
  | zero => simp [le]
  | succ m ih =>
    rw [show m + 1 + n = (m + n) + 1 by omega]
    simp only [le, List.cons_append, ih, Nat.pow_succ]
    have e1 : v % (256 ^ m * 256) % 256 = v % 256 := Nat.mod_mul_left_mod _ _ _
    have e2 : v % (256 ^ m * 256) / 256 = v / 256 % 256 ^ m := by
      rw [Nat.mul_comm, Nat.mod_mul_right_div_self]
    have e3 : v / (256 ^ m * 256) = v / 256 / 256 ^ m := by rw [Nat.mul_comm, Nat.div_div_eq_div_mul]
    rw [e1, e2, e3]

theorem le_rd (n : Nat) (bs : Bytes) (h : n ≤ bs.length) : le n (rd n bs) = bs.take n := by
  induction n generalizing bs with
  | zero => rfl
  | succ n ih =>
    cases bs with
    | nil => simp at h
    | cons b t =>
      have hb := b.toNat_lt
      simp only [rd, le, List.take_succ_cons]
      have h1 : (b.toNat + 256 * rd n t) % 256 = b.toNat := by omega
      have h2 : (b.toNat + 256 * rd n t) / 256 = rd n t := by omega
      rw [h1, h2, ih t (by simpa using h)]
      congr 1
      exact UInt8.ofNat_toNat

theorem le_append (m n a b : Nat) (ha : a < 256 ^ m) : le m a ++ le n b = le (m + n) (a + 256 ^ m * b) := by
  rw [le_add, Nat.add_mul_mod_self_left, Nat.mod_eq_of_lt ha,
    Nat.add_mul_div_left _ _ (Nat.pos_of_ne_zero (by intro h; rw [h] at ha; omega)), Nat.div_eq_of_lt ha, Nat.zero_add]

theorem toSigned_small (bits v : Nat) (h : v < 2 ^ (bits - 1)) : toSigned bits v = (v : Int) := by
  unfold toSigned; rw [if_pos h]

theorem ofSigned_lt (bits : Nat) (i : Int) : ofSigned bits i < 2 ^ bits := by
  unfold ofSigned
  have hp : (0 : Int) < ((2 ^ bits : Nat) : Int) := by
    have := Nat.pow_pos (n := bits) (show 0 < 2 by decide); omega
  have h1 := Int.emod_lt_of_pos i hp
  have h2 := Int.emod_nonneg i (Int.ne_of_gt hp)
  omega

theorem toSigned_ofSigned (bits : Nat) (hb : 1 ≤ bits) (i : Int)
    (h1 : -((2 ^ (bits - 1) : Nat) : Int) ≤ i) (h2 : i < ((2 ^ (bits - 1) : Nat) : Int)) :
    toSigned bits (ofSigned bits i) = i := by
  obtain ⟨k, rfl⟩ : ∃ k, bits = k + 1 := ⟨bits - 1, by omega⟩
  rw [Nat.add_sub_cancel] at h1 h2
  unfold toSigned ofSigned
  rw [Nat.add_sub_cancel, Nat.pow_succ]
  generalize 2 ^ k = P at h1 h2 ⊢
  -- `i % 2P` is `i` or `i + 2P`
  by_cases hn : 0 ≤ i
  · have : i % ((P * 2 : Nat) : Int) = i := Int.emod_eq_of_lt hn (by omega)
    rw [this]; split <;> omega
  · have : i % ((P * 2 : Nat) : Int) = i + ((P * 2 : Nat) : Int) := by
      rw [← Int.add_emod_right, Int.emod_eq_of_lt (by omega) (by omega)]
    rw [this]; split <;> omega

/-! ## Bits of a numeral given by its binary digits, least significant first -/

def ofBits : List Bool → Nat
  | [] => 0
  | b :: bs => b.toNat + 2 * ofBits bs

theorem ofBits_testBit : ∀ (bs : List Bool) (k : Nat), (ofBits bs).testBit k = bs.getD k false
  | [], k => by simp [ofBits]
  | b :: bs, 0 => by
    have : (b.toNat + 2 * ofBits bs) % 2 = b.toNat := by cases b <;> simp <;> omega
    rw [ofBits, Nat.testBit_zero, this]; cases b <;> rfl
  | b :: bs, k + 1 => by
    have : (b.toNat + 2 * ofBits bs) / 2 = ofBits bs := by cases b <;> simp <;> omega
    rw [ofBits, Nat.testBit_succ, this, ofBits_testBit bs k]; rfl

theorem ofBits_lt : ∀ bs : List Bool, ofBits bs < 2 ^ bs.length
  | [] => by simp [ofBits]
  | b :: bs => by
    have := ofBits_lt bs
    have : b.toNat ≤ 1 := Bool.toNat_le b
    rw [ofBits, List.length_cons, Nat.pow_succ]; omega

/-- the fold `byteOfBits` runs, on the digits least significant first, is `ofBits` -/
theorem foldr_eq_ofBits (l : List Bool) :
    l.foldr (fun (b : Bool) (acc : Nat) => 2 * acc + (if b then 1 else 0)) 0 = ofBits l := by
  induction l with
  | nil => rfl
  | cons b t ih => rw [List.foldr_cons, ih, ofBits]; cases b <;> simp <;> omega

/-- Go's `x & (1 << k) == 0`: bit `k` is clear -/
theorem land_shift_eq_zero (n k : Nat) : (n &&& (1 <<< k) == 0) = !n.testBit k := by
  rw [Nat.one_shiftLeft, ← land_pow_ne_zero, bne, Bool.not_not]

/-- byte `j` of a bitmap (bit `b` is `bits[8j+b]`): what every `bitmapByte` of the specifications computes -/
def bitsByte (bits : List Bool) (j : Nat) : Nat := ofBits ((List.range 8).map fun b => bits.getD (8 * j + b) false)

theorem bitsByte_lt (bits : List Bool) (j : Nat) : bitsByte bits j < 256 :=
  Nat.lt_of_lt_of_eq (ofBits_lt _) (by simp)

theorem bitsByte_test (bits : List Bool) (j b : Nat) (hb : b < 8) :
    (bitsByte bits j &&& (1 <<< b) == 0) = !(bits.getD (8 * j + b) false) := by
  rw [land_shift_eq_zero, bitsByte, ofBits_testBit]
  simp [List.getD, hb]

/-! ## Masks

Go's flag test `x & 0x… != 0` for the one-bit masks the parsers use, named by the bit: `simp` needs the mask as a literal. -/

theorem land_bit0 (m : Nat) : (m &&& 1 != 0) = m.testBit 0 := land_pow_ne_zero m 0
theorem land_bit1 (m : Nat) : (m &&& 2 != 0) = m.testBit 1 := land_pow_ne_zero m 1
theorem land_bit2 (m : Nat) : (m &&& 4 != 0) = m.testBit 2 := land_pow_ne_zero m 2
theorem land_bit3 (m : Nat) : (m &&& 8 != 0) = m.testBit 3 := land_pow_ne_zero m 3
theorem land_bit4 (m : Nat) : (m &&& 16 != 0) = m.testBit 4 := land_pow_ne_zero m 4
theorem land_bit8 (m : Nat) : (m &&& 256 != 0) = m.testBit 8 := land_pow_ne_zero m 8
theorem land_bit9 (m : Nat) : (m &&& 512 != 0) = m.testBit 9 := land_pow_ne_zero m 9
theorem land_bit10 (m : Nat) : (m &&& 1024 != 0) = m.testBit 10 := land_pow_ne_zero m 10
theorem land_bit11 (m : Nat) : (m &&& 2048 != 0) = m.testBit 11 := land_pow_ne_zero m 11

/-- Go's flag test `x & (1 << k) != 0` as a quotient and remainder, the form `omega` works with -/
theorem land_pow_flag (x k : Nat) : (x &&& 2 ^ k != 0) = (x / 2 ^ k % 2 == 1) := by
  rw [land_pow_ne_zero, Nat.testBit_eq_decide_div_mod_eq, Bool.beq_eq_decide_eq]

theorem land_FF (x : Nat) : x &&& 255 = x % 256 := land_mask x 8

/-- bit `i` of either side: clear below `k`, bit `i` of `x` while `i - k < n`, clear above -/
theorem land_field (x n k : Nat) : x &&& ((2 ^ n - 1) * 2 ^ k) = (x / 2 ^ k % 2 ^ n) * 2 ^ k := by
  apply Nat.eq_of_testBit_eq
  intro i
  simp only [Nat.testBit_and, Nat.testBit_mul_two_pow, Nat.testBit_two_pow_sub_one, Nat.testBit_mod_two_pow,
    Nat.testBit_div_two_pow]
  by_cases h : k ≤ i
  · by_cases h2 : i - k < n
    · simp [h, h2]
    · simp [h, h2]
  · simp [h]

theorem land_FF00 (x : Nat) : x &&& 0xFF00 = x / 256 % 256 * 256 := land_field x 8 8

theorem unpack (a b k : Nat) (h : a < 2 ^ k) : (a + 2 ^ k * b) &&& (2 ^ k - 1) = a ∧ (a + 2 ^ k * b) >>> k = b :=
  ⟨by rw [land_mask, Nat.add_mul_mod_self_left, Nat.mod_eq_of_lt h],
   by rw [Nat.shiftRight_eq_div_pow, Nat.add_mul_div_left _ _ (Nat.pow_pos (by decide)), Nat.div_eq_of_lt h, Nat.zero_add]⟩

/-- the fields of an ItemIdData word (lp_off : 15 bits, lp_flags : 2, lp_len : 15) as the readers take them out -/
theorem itemWord_fields (off flags len : Nat) (ho : off < 2 ^ 15) (hf : flags < 4) (hl : len < 2 ^ 15) :
    (off + 2 ^ 15 * flags + 2 ^ 17 * len) &&& 0x7FFF = off ∧
    ((off + 2 ^ 15 * flags + 2 ^ 17 * len) >>> 17) &&& 0x7FFF = len ∧
    ((off + 2 ^ 15 * flags + 2 ^ 17 * len) >>> 15) &&& 0x03 = flags := by
  -- lp_off is packed with the rest, and the rest is lp_flags packed with lp_len
  have e : off + 2 ^ 15 * flags + 2 ^ 17 * len = off + 2 ^ 15 * (flags + 2 ^ 2 * len) := by omega
  obtain ⟨m1, s1⟩ := unpack off (flags + 2 ^ 2 * len) 15 ho
  obtain ⟨m2, s2⟩ := unpack flags len 2 hf
  rw [e, show 17 = 15 + 2 from rfl, Nat.shiftRight_add, s1, s2]
  exact ⟨m1, (land_mask len 15).trans (Nat.mod_eq_of_lt hl), m2⟩

/-! ## Alignment

Every `alignUp` of the specifications unfolds to `roundUp`, every `align` of the models to `goAlign`. -/

def roundUp (o a : Nat) : Nat := (o + a - 1) / a * a

/-- binary.go:align, `(o + a - 1) &^ (a - 1)` with `a ≤ 1` returning `o` -/
def goAlign (o a : Nat) : Nat := if a ≤ 1 then o else andNot (o + a - 1) (a - 1)

theorem roundUp_one (o : Nat) : roundUp o 1 = o := by simp [roundUp]

theorem roundUp_mod (o a : Nat) : roundUp o a % a = 0 := Nat.mul_mod_left ..

theorem roundUp_ge (o a : Nat) (ha : 0 < a) : o ≤ roundUp o a := by
  have := Nat.div_add_mod' (o + a - 1) a
  have := Nat.mod_lt (o + a - 1) ha
  unfold roundUp; omega

theorem roundUp_lt (o a : Nat) (ha : 0 < a) : roundUp o a < o + a := by
  have := Nat.div_add_mod' (o + a - 1) a
  unfold roundUp; omega

/-- two multiples of `a` less than `a` apart are equal -/
theorem roundUp_of_mod (o a : Nat) (ha : 0 < a) (h : o % a = 0) : roundUp o a = o := by
  have hge := roundUp_ge o a ha
  have hlt := roundUp_lt o a ha
  have hd : (roundUp o a - o) % a = 0 := Nat.sub_mod_eq_zero_of_mod_eq (by rw [roundUp_mod, h])
  rw [Nat.mod_eq_of_lt (by omega)] at hd
  omega

theorem goAlign_pow (o k : Nat) : goAlign o (2 ^ k) = roundUp o (2 ^ k) := by
  unfold goAlign
  split
  · next h =>
    have : 2 ^ k = 1 := by have := Nat.pow_pos (n := k) (show 0 < 2 by decide); omega
    rw [this, roundUp_one]
  · exact andNot_mask _ k

/-- the four alignments PostgreSQL has -/
theorem goAlign_eq (o a : Nat) (ha : a = 1 ∨ a = 2 ∨ a = 4 ∨ a = 8) : goAlign o a = roundUp o a := by
  rcases ha with h | h | h | h <;> subst h
  · exact goAlign_pow o 0
  · exact goAlign_pow o 1
  · exact goAlign_pow o 2
  · exact goAlign_pow o 3

/-- for every alignment value, hostile schemas included -/
theorem goAlign_ge (o a : Nat) : o ≤ goAlign o a := by
  unfold goAlign
  split
  · exact Nat.le_refl _
  · unfold andNot
    have := @Nat.and_le_right (o + a - 1) (a - 1)
    omega

end PgVerif
