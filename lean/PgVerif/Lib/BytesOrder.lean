/-
  The bytewise order of byte strings (`bytesLt`, `bytesLe` of Basic/Canon.lean: Go's string comparison, memcmp) is core's
  lexicographic order on `List UInt8`; every order property comes from core through the two equivalences `bytesLt_iff`, `bytesLe_iff`.
-/
import PgVerif.Basic.Canon
namespace PgVerif

theorem bytesLt_iff : ∀ a b : Bytes, bytesLt a b = true ↔ a < b
  | [], [] => by simp [bytesLt]
  | [], _ :: _ => by simp [bytesLt]
  | _ :: _, [] => by simp [bytesLt]
  | x :: xs, y :: ys => by
    rw [bytesLt, List.cons_lt_cons_iff]
    by_cases h1 : x < y
    · simp [h1]
    · by_cases h2 : y < x
      · have : x ≠ y := fun h => h1 (h ▸ h2)
        simp [h1, h2, this]
      · have : x = y := UInt8.le_antisymm (UInt8.not_lt.1 h2) (UInt8.not_lt.1 h1)
        simp [this, bytesLt_iff xs ys]

theorem bytesLe_iff (a b : Bytes) : bytesLe a b = true ↔ a ≤ b := by
  rw [bytesLe, Bool.not_eq_true', ← Bool.not_eq_true, bytesLt_iff, List.not_lt]

/-! The order properties in the Boolean form in which `List.pairwise_mergeSort` and the strict weak orders of the sorts take them. -/

theorem bytesLt_asymm (a b : Bytes) (h : bytesLt a b = true) : bytesLt b a = false := by
  rw [← Bool.not_eq_true, bytesLt_iff]; exact List.lt_asymm ((bytesLt_iff a b).1 h)

theorem bytesLe_total (a b : Bytes) : (bytesLe a b || bytesLe b a) = true := by
  rw [Bool.or_eq_true, bytesLe_iff, bytesLe_iff]; exact List.le_total a b

theorem bytesLe_antisymm (a b : Bytes) (h1 : bytesLe a b = true) (h2 : bytesLe b a = true) : a = b :=
  List.le_antisymm ((bytesLe_iff a b).1 h1) ((bytesLe_iff b a).1 h2)

theorem bytesLe_trans (a b c : Bytes) (h1 : bytesLe a b = true) (h2 : bytesLe b c = true) : bytesLe a c = true :=
  (bytesLe_iff a c).2 (List.le_trans ((bytesLe_iff a b).1 h1) ((bytesLe_iff b c).1 h2))

/-- negative transitivity, the contrapositive of transitivity of `≤` -/
theorem bytesLt_negtrans (a b c : Bytes) (h : bytesLt c a = true) : bytesLt c b = true ∨ bytesLt b a = true := by
  rw [bytesLt_iff] at *
  rw [bytesLt_iff]
  by_cases hcb : c < b
  · exact Or.inl hcb
  · exact Or.inr (List.lt_of_le_of_lt (List.not_lt.1 hcb) h)

end PgVerif
