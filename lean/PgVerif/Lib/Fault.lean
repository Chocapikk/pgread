/-
  Rules for following a `do` block of the fault monad `M = Except Fault` (Basic/Bytes.lean) action by action; the table in
  DESIGN.md section 7, "The general modules", says which notion serves which kind of statement.
-/
import PgVerif.Basic.Bytes
namespace PgVerif

/-- inversion of a `>>=` that returned (`bind_eq` goes forward) -/
theorem bind_eq_ok {α β} {x : M α} {f : α → M β} {b : β} (h : (x >>= f) = .ok b) : ∃ a, x = .ok a ∧ f a = .ok b := by
  cases x with
  | error e => cases h
  | ok a => exact ⟨a, rfl, h⟩

theorem map_eq_ok {α β} {x : M α} {f : α → β} {b : β} (h : x.map f = .ok b) : ∃ a, x = .ok a ∧ f a = b := by
  cases x with
  | error e => cases h
  | ok a => exact ⟨a, rfl, Except.ok.inj h⟩

theorem bind_eq {α β} {m : M α} {f : α → M β} {a : α} {r : M β} (hm : m = .ok a) (hf : f a = r) : (m >>= f) = r := by
  rw [hm]; exact hf

def Post {α} (m : M α) (P : α → Prop) : Prop := ∀ a, m = .ok a → P a

theorem post_pure {α} {P : α → Prop} {a : α} (h : P a) : Post (pure a) P := fun _ e => Except.ok.inj e ▸ h

theorem post_bind {α β} {P : β → Prop} {m : M α} {f : α → M β} (h : ∀ x, m = .ok x → Post (f x) P) : Post (m >>= f) P := fun b e => by
  obtain ⟨x, hm, hx⟩ := bind_eq_ok e
  exact h x hm b hx

theorem tot_bind {α β} {m : M α} {f : α → M β} (hm : ∃ a, m = .ok a) (hf : ∀ a, m = .ok a → ∃ r, f a = .ok r) :
    ∃ r, (m >>= f) = .ok r := by
  obtain ⟨a, rfl⟩ := hm; exact hf a rfl

theorem tot_ite {α} {c : Prop} [Decidable c] {a b : M α} (ha : c → ∃ r, a = .ok r) (hb : ¬ c → ∃ r, b = .ok r) :
    ∃ r, (if c then a else b) = .ok r := by
  by_cases h : c
  · rw [if_pos h]; exact ha h
  · rw [if_neg h]; exact hb h

theorem tot_ok {α} (a : α) : ∃ r, (Except.ok a : M α) = .ok r := ⟨a, rfl⟩

theorem tot_iteB {α} {c : Bool} {a b : M α} (ha : c = true → ∃ r, a = .ok r) (hb : c = false → ∃ r, b = .ok r) :
    ∃ r, (if c = true then a else b) = .ok r := by
  cases c
  · exact hb rfl
  · exact ha rfl

/-- `m >>= fun a => pure (f a)` is `m.map f` only by `rfl` after unfolding `Except.map`: `rw` and `simp` do not see one term -/
theorem tot_map {α β} (f : α → β) {m : M α} (h : ∃ r, m = .ok r) : ∃ r, m.map f = .ok r := by
  obtain ⟨r, rfl⟩ := h; exact ⟨f r, rfl⟩

theorem mapM_total {α β} (f : α → M β) (l : List α) (h : ∀ x ∈ l, ∃ r, f x = .ok r) : ∃ r, l.mapM f = .ok r := by
  induction l with
  | nil => exact ⟨[], rfl⟩
  | cons x xs ih =>
    rw [List.mapM_cons]
    exact tot_bind (h x List.mem_cons_self) fun _ _ =>
      tot_bind (ih fun y hy => h y (List.mem_cons_of_mem _ hy)) fun _ _ => tot_ok _

theorem mapM_eq_map {α β} (f : α → M β) (g : α → β) (l : List α) (h : ∀ x ∈ l, f x = .ok (g x)) :
    l.mapM f = .ok (l.map g) := by
  induction l with
  | nil => rfl
  | cons x xs ih => rw [List.mapM_cons, h x List.mem_cons_self, ih fun y hy => h y (List.mem_cons_of_mem _ hy)]; rfl

theorem bind_congr_ok {α β} {x : M α} {f g : α → M β} (h : ∀ a, x = .ok a → f a = g a) : (x >>= f) = (x >>= g) := by
  cases x with
  | error e => rfl
  | ok a => exact h a rfl

/-- core's `apply_ite` from right to left, for `simp` -/
theorem ite_ok {α} (c : Prop) [Decidable c] (a b : α) :
    (if c then (Except.ok a : M α) else .ok b) = .ok (if c then a else b) := (apply_ite _ _ _ _).symm

/-- two runs return the same: independence of surplus fuel or of a recursion parameter, carried through a `do` block together
with totality (`Same x x` is totality alone) -/
def Same {α} (x y : M α) : Prop := x = y ∧ ∃ r, x = .ok r

theorem Same.ok {α} (a : α) : Same (.ok a : M α) (.ok a) := ⟨rfl, a, rfl⟩

theorem Same.bind {α β} {x y : M α} {f g : α → M β} (h : Same x y) (hf : ∀ a, x = .ok a → Same (f a) (g a)) :
    Same (x >>= f) (y >>= g) := by
  obtain ⟨rfl, a, rfl⟩ := h
  exact hf a rfl

theorem Same.ite {α} {c : Prop} [Decidable c] {a a' b b' : M α} (ht : c → Same a a') (he : ¬ c → Same b b') :
    Same (if c then a else b) (if c then a' else b') := by
  by_cases hc : c
  · rw [if_pos hc, if_pos hc]; exact ht hc
  · rw [if_neg hc, if_neg hc]; exact he hc

theorem Same.bind_ok {α β} {x : M α} {a : α} {f g : α → M β} (hx : x = .ok a) (hf : Same (f a) (g a)) :
    Same (x >>= f) (x >>= g) :=
  Same.bind ⟨rfl, a, hx⟩ fun _ hb => Except.ok.inj (hx.symm.trans hb) ▸ hf

theorem Same.symm {α} {x y : M α} (h : Same x y) : Same y x := by obtain ⟨rfl, r⟩ := h; exact ⟨rfl, r⟩

theorem Same.trans {α} {x y z : M α} (h : Same x y) (h' : Same y z) : Same x z := by obtain ⟨rfl, -⟩ := h; exact h'

/-- a definition, made a local instance where a witness is evaluated: a global instance could clash with another area's -/
@[instance_reducible] def exceptDecEq {ε α : Type} [DecidableEq ε] [DecidableEq α] : DecidableEq (Except ε α)
  | .ok a, .ok b => if h : a = b then isTrue (by rw [h]) else isFalse (fun e => h (Except.ok.inj e))
  | .error a, .error b => if h : a = b then isTrue (by rw [h]) else isFalse (fun e => h (Except.error.inj e))
  | .ok _, .error _ => isFalse (fun e => nomatch e)
  | .error _, .ok _ => isFalse (fun e => nomatch e)

end PgVerif
