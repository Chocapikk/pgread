/-
  A list cut at the last occurrence of an element.  Written as `List.span` on the reversed list, as `takeWhile` on it, or
  as the length of that `takeWhile`, it is read off the one `span` equation below.
-/
import PgVerif.Basic.Bytes
namespace PgVerif.LastSplit
open PgVerif

theorem span_loop_eq {α} (p : α → Bool) (l acc : List α) :
    List.span.loop p l acc = (acc.reverse ++ l.takeWhile p, l.dropWhile p) := by
  induction l generalizing acc with
  | nil => simp [List.span.loop]
  | cons y ys ih =>
    cases hy : p y
    · simp [List.span.loop, hy]
    · simp [List.span.loop, hy, ih]

/-- core has no lemma for `List.span` -/
theorem span_eq {α} (p : α → Bool) (l : List α) : l.span p = (l.takeWhile p, l.dropWhile p) :=
  span_loop_eq p l []

theorem takeWhile_eq_span {α} (p : α → Bool) (l : List α) : l.takeWhile p = (l.span p).1 := by rw [span_eq]

theorem last_split {α} (c : α) (s : List α) : c ∉ s ∨ ∃ a b, s = a ++ c :: b ∧ c ∉ b := by
  induction s with
  | nil => exact .inl List.not_mem_nil
  | cons x t ih =>
    rcases ih with ht | ⟨a, b, rfl, hb⟩
    · by_cases hx : c = x
      · exact .inr ⟨[], t, by rw [hx]; rfl, ht⟩
      · exact .inl fun h => (List.mem_cons.mp h).elim hx ht
    · exact .inr ⟨x :: a, b, rfl, hb⟩

theorem bne_of_not_mem (c : UInt8) (s : Bytes) (h : c ∉ s) : ∀ y ∈ s.reverse, (y != c) = true :=
  fun _ hy => bne_iff_ne.mpr fun e => h (e ▸ List.mem_reverse.mp hy)

theorem span_reverse_not_mem (c : UInt8) (s : Bytes) (h : c ∉ s) :
    s.reverse.span (· != c) = (s.reverse, []) := by
  have ha := bne_of_not_mem c s h
  have t := List.takeWhile_append_of_pos (l₂ := []) ha
  have d := List.dropWhile_append_of_pos (l₂ := []) ha
  rw [List.append_nil] at t d
  rw [span_eq, t, d, List.takeWhile_nil, List.dropWhile_nil, List.append_nil]

theorem span_reverse_split (c : UInt8) (a b : Bytes) (h : c ∉ b) :
    (a ++ c :: b).reverse.span (· != c) = (b.reverse, c :: a.reverse) := by
  have ha := bne_of_not_mem c b h
  have hc : ¬ (c != c) = true := by simp
  rw [span_eq, List.reverse_append, List.reverse_cons, List.append_assoc, List.singleton_append,
    List.takeWhile_append_of_pos ha, List.dropWhile_append_of_pos ha,
    List.takeWhile_cons_of_neg (p := (· != c)) hc, List.dropWhile_cons_of_neg (p := (· != c)) hc, List.append_nil]

end PgVerif.LastSplit
