/-
  String literals in closed checks (`decide +kernel`).  For the kernel a literal is a UTF-8 byte array, and `String.toList` decodes
  it by well-founded recursion over byte positions, several times dearer than walking the array; `chars` walks it when every byte
  is below 0x80 (and is `String.toList` otherwise: no side condition).  `toList_eq_chars` is an equation between FUNCTIONS: once the
  definitions that hold the literals are unfolded, one `rw` replaces every `String.toList` of the goal, whatever the number of
  literals: `unfold ..; rw [Lit.toList_eq_chars]; decide +kernel`.  (`SqlLex.asc_ofList` rewrites literal by literal instead.)  Core Lean only.
-/
namespace PgVerif.Lit

def chars (s : String) : List Char :=
  if s.toUTF8.data.toList.all (· < 0x80) then s.toUTF8.data.toList.map fun b => Char.ofNat b.toNat else s.toList

theorem utf8Encode_ascii (c : Char) (h : ∀ b ∈ String.utf8EncodeChar c, b < 0x80) :
    c.toNat ≤ 127 ∧ String.utf8EncodeChar c = [UInt8.ofNat c.toNat] := by
  have e : (0x80 : UInt8).toNat = 128 := rfl
  simp only [String.utf8EncodeChar, UInt8.lt_iff_toNat_lt, e] at h ⊢
  by_cases h1 : c.val.toNat ≤ 127
  · rw [if_pos h1]; exact ⟨h1, rfl⟩
  · exfalso
    rw [if_neg h1] at h
    -- the first byte of a longer encoding is at least 0xC0
    split at h
    · have := h _ List.mem_cons_self; simp only [UInt8.toNat_ofNat'] at this; omega
    · split at h
      · have := h _ List.mem_cons_self; simp only [UInt8.toNat_ofNat'] at this; omega
      · have := h _ List.mem_cons_self; simp only [UInt8.toNat_ofNat'] at this; omega

theorem utf8_data (s : String) : s.toUTF8.data.toList = s.toList.flatMap String.utf8EncodeChar := by
  rw [String.toUTF8_eq_toByteArray, ← String.utf8Encode_toList, List.utf8Encode, List.toList_data_toByteArray]

theorem flatMap_ascii : ∀ (l : List Char), (l.flatMap String.utf8EncodeChar).all (· < 0x80) = true →
    l.flatMap String.utf8EncodeChar = l.map (fun c => UInt8.ofNat c.toNat) ∧ ∀ c ∈ l, c.toNat ≤ 127
  | [], _ => ⟨rfl, fun _ h => nomatch h⟩
  | c :: l, h => by
    rw [List.flatMap_cons, List.all_append, Bool.and_eq_true] at h
    obtain ⟨h7, hc⟩ := utf8Encode_ascii c fun b hb => of_decide_eq_true (List.all_eq_true.mp h.1 b hb)
    obtain ⟨ih, ih7⟩ := flatMap_ascii l h.2
    refine ⟨by rw [List.flatMap_cons, hc, ih]; rfl, fun d hd => ?_⟩
    rcases List.mem_cons.mp hd with rfl | hd
    · exact h7
    · exact ih7 d hd

theorem toList_eq_chars : String.toList = chars := by
  funext s
  unfold chars
  split
  · next h =>
    rw [utf8_data] at h ⊢
    obtain ⟨hb, h7⟩ := flatMap_ascii s.toList h
    rw [hb, List.map_map]
    refine (List.map_id s.toList).symm.trans (List.map_congr_left fun c hc => ?_)
    simp [UInt8.toNat_ofNat', Nat.mod_eq_of_lt (show c.toNat < 256 by have := h7 c hc; omega)]
  · rfl

end PgVerif.Lit
