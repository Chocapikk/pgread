/-
  A file as the list of its whole 8192-byte pages; page numbers come from core's `List.zipIdx`.  Nothing here mentions a particular
  page format.
-/
import PgVerif.Basic.Bytes
namespace PgVerif

def pages (d : Bytes) : List Bytes :=
  if _h : 8192 ≤ d.length then d.take 8192 :: pages (d.drop 8192) else []
termination_by d.length
decreasing_by rw [List.length_drop]; omega

theorem pages_short {d : Bytes} (h : d.length < 8192) : pages d = [] := by
  rw [pages, dif_neg (by omega)]

theorem pages_step {d : Bytes} (h : 8192 ≤ d.length) : pages d = d.take 8192 :: pages (d.drop 8192) := by
  rw [pages, dif_pos h]

/-- a loop that walks `d` by offset: its window `d[off : off+8192]` is the first page from `off` on -/
theorem pages_drop_step {d : Bytes} {off : Nat} (h : off + 8192 ≤ d.length) :
    pages (d.drop off) = (d.take (off + 8192)).drop off :: pages (d.drop (off + 8192)) := by
  rw [pages_step (by rw [List.length_drop]; omega), List.drop_drop, List.drop_take, Nat.add_sub_cancel_left]

theorem pages_drop_short {d : Bytes} {off : Nat} (h : d.length < off + 8192) : pages (d.drop off) = [] :=
  pages_short (by rw [List.length_drop]; omega)

/-- a loop with fuel for `n + 1` pages over the remaining bytes -/
theorem pages_fuel {n : Nat} {d : Bytes} (h : (n + 1) * 8192 ≤ d.length) :
    8192 ≤ d.length ∧ n * 8192 ≤ (d.drop 8192).length := by
  rw [Nat.succ_mul] at h
  exact ⟨Nat.le_trans (Nat.le_add_left _ _) h, by rw [List.length_drop]; exact Nat.le_sub_of_add_le h⟩

theorem pages_cons (pg rest : Bytes) (h : pg.length = 8192) : pages (pg ++ rest) = pg :: pages rest := by
  rw [pages_step (by rw [List.length_append]; omega), List.take_left' h, List.drop_left' h]

theorem pages_append (a b : Bytes) (h : a.length % 8192 = 0) : pages (a ++ b) = pages a ++ pages b := by
  induction a using pages.induct with
  | case1 a hl ih =>
    have hpg : (a.take 8192).length = 8192 := by rw [List.length_take]; omega
    have := pages_cons (a.take 8192) (a.drop 8192 ++ b) hpg
    rw [← List.append_assoc, List.take_append_drop] at this
    rw [this, ih (by rw [List.length_drop]; omega), pages_step hl, List.cons_append]
  | case2 a hl =>
    cases List.eq_nil_of_length_eq_zero (by omega : a.length = 0)
    rw [List.nil_append, pages_short (d := []) (by decide), List.nil_append]

theorem length_pages (d : Bytes) : (pages d).length = d.length / 8192 := by
  induction d using pages.induct with
  | case1 d hl ih => rw [pages_step hl, List.length_cons, ih, List.length_drop]; omega
  | case2 d hl => rw [pages_short (by omega), List.length_nil]; omega

theorem pages_flatMap {α} (enc : α → Bytes) (xs : List α) (h : ∀ x ∈ xs, (enc x).length = 8192) (tail : Bytes)
    (ht : tail.length < 8192) : pages (xs.flatMap enc ++ tail) = xs.map enc := by
  induction xs with
  | nil => exact pages_short ht
  | cons x xs ih =>
    rw [List.flatMap_cons, List.append_assoc, pages_cons _ _ (h x List.mem_cons_self),
      ih fun y hy => h y (List.mem_cons_of_mem _ hy), List.map_cons]

theorem pages_drop (d : Bytes) (k : Nat) : pages (d.drop (k * 8192)) = (pages d).drop k := by
  induction k generalizing d with
  | zero => rw [Nat.zero_mul, List.drop_zero, List.drop_zero]
  | succ k ih =>
    by_cases hl : 8192 ≤ d.length
    · rw [pages_step hl, List.drop_succ_cons, ← ih, List.drop_drop, Nat.succ_mul, Nat.add_comm]
    · rw [pages_short (d := d) (by omega), List.drop_nil, pages_short (by rw [List.length_drop]; omega)]

theorem head?_pages (d : Bytes) : (pages d).head? = if 8192 ≤ d.length then some (d.take 8192) else none := by
  by_cases hl : 8192 ≤ d.length
  · rw [pages_step hl, if_pos hl]; rfl
  · rw [pages_short (by omega), if_neg hl]; rfl

theorem getElem?_pages (d : Bytes) (i : Nat) :
    (pages d)[i]? = if (i + 1) * 8192 ≤ d.length then some ((d.drop (i * 8192)).take 8192) else none := by
  rw [← List.head?_drop, ← pages_drop, head?_pages, List.length_drop, Nat.succ_mul]
  by_cases h : i * 8192 + 8192 ≤ d.length
  · rw [if_pos h, if_pos (by omega)]
  · rw [if_neg h, if_neg (by omega)]

theorem flatten_take_pages (d : Bytes) (m : Nat) (h : m ≤ (pages d).length) :
    ((pages d).take m).flatten = d.take (m * 8192) := by
  induction m generalizing d with
  | zero => rw [Nat.zero_mul, List.take_zero, List.take_zero]; rfl
  | succ m ih =>
    have hl : 8192 ≤ d.length := by
      rcases Nat.lt_or_ge d.length 8192 with hs | hl
      · rw [pages_short hs] at h; cases h
      · exact hl
    rw [pages_step hl] at h ⊢
    rw [List.take_succ_cons, List.flatten_cons, ih _ (Nat.le_of_succ_le_succ h), Nat.succ_mul, Nat.add_comm,
      List.take_add]

theorem flatten_slice_pages (d : Bytes) (k m : Nat) (h : k + m ≤ (pages d).length) :
    (((pages d).drop k).take m).flatten = (d.drop (k * 8192)).take (m * 8192) := by
  rw [← pages_drop, flatten_take_pages _ _ (by rw [pages_drop, List.length_drop]; omega)]

theorem zipIdx_pages (d : Bytes) :
    (pages d).zipIdx = (List.range (d.length / 8192)).map fun i => ((d.drop (i * 8192)).take 8192, i) := by
  apply List.ext_getElem?
  intro i
  rw [List.getElem?_zipIdx, getElem?_pages, List.getElem?_map, Nat.zero_add]
  by_cases h : (i + 1) * 8192 ≤ d.length
  · rw [if_pos h, List.getElem?_range (by omega)]; rfl
  · rw [if_neg h, List.getElem?_eq_none (by rw [List.length_range]; omega)]; rfl

end PgVerif
