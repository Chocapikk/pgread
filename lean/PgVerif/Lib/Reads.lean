/-
  What a read of the byte library sees: on arbitrary bytes (the result named by `rd` / `rdAt`), on an encoding (`At bs off x`), on two
  strings that agree on a window (`AgreeOn`); `At.rd` leads from the second to the first.
-/
import PgVerif.Lib.Fault
namespace PgVerif

/-! ## Indexing and slicing -/

theorem idx_getD (data : Bytes) (i : Nat) (h : i < data.length) : idx data i = .ok (data[i]?.getD 0) := by
  rw [idx_ok data i h, List.getElem?_eq_getElem h]; rfl

/-! As `↓` lemmas these let `simp` follow a `do` block from the top (the continuation is entered only after its argument is known).
Rewrite the model's `pure` to `.ok` by a `simp only [f, pure_eq_ok]` of its own first (Proofs/IndexTotal.lean): `pure_eq_ok` holds by
`rfl`, and in one call with it simp's congruence for `if`, which checks such steps at reducible transparency, fails, so that the guards
are not known when the reads are met. -/

theorem uN_bind {β} (n : Nat) (data : Bytes) (off : Nat) (f : Nat → M β) (h : off + n ≤ data.length) :
    (uN n data off >>= f) = f (rd n (data.drop off)) := by rw [uN_ok n data off h]; rfl

theorem sliceFrom_bind {β} (data : Bytes) (lo : Nat) (f : Bytes → M β) (h : lo ≤ data.length) :
    (sliceFrom data lo >>= f) = f (data.drop lo) := by rw [sliceFrom_ok data lo h]; rfl

theorem uN_total (n : Nat) (data : Bytes) (off : Nat) (h : off + n ≤ data.length) : ∃ r, uN n data off = .ok r :=
  ⟨_, uN_ok n data off h⟩

theorem idx_total (data : Bytes) (i : Nat) (h : i < data.length) : ∃ r, idx data i = .ok r := ⟨_, idx_ok data i h⟩

theorem slice_total (data : Bytes) (lo hi : Nat) (h : hi ≤ data.length) (h2 : lo ≤ hi) : ∃ r, slice data lo hi = .ok r :=
  ⟨_, slice_ok data lo hi h h2⟩

theorem slice_length (data : Bytes) (lo hi : Nat) (s : Bytes) (h : slice data lo hi = .ok s) : s.length = hi - lo := by
  unfold slice at h
  split at h
  · cases h
  · injection h with h; subst h; simp; omega

theorem tot_uN {β} {n : Nat} {data : Bytes} {off : Nat} {f : Nat → M β} (h : off + n ≤ data.length)
    (hf : ∀ v, ∃ r, f v = .ok r) : ∃ r, (uN n data off >>= f) = .ok r :=
  tot_bind (uN_total n data off h) fun v _ => hf v

theorem uN_eq_ok {w off v : Nat} {bs : Bytes} : uN w bs off = .ok v ↔ off + w ≤ bs.length ∧ rdAt w off bs = v := by
  unfold uN rdAt
  by_cases h1 : off > bs.length
  · rw [if_pos h1]; exact ⟨fun h => (nomatch h), fun h => by omega⟩
  · by_cases h2 : bs.length - off < w
    · rw [if_neg h1, if_pos h2]; exact ⟨fun h => (nomatch h), fun h => by omega⟩
    · rw [if_neg h1, if_neg h2]; exact ⟨fun h => ⟨by omega, Except.ok.inj h⟩, fun h => congrArg _ h.2⟩

/-- Go: `binary.LittleEndian.UintN(page[lo:lo+n])` as the model writes it: a slice, then a read at 0 -/
theorem uN_slice (n lo : Nat) (p : Bytes) (h : lo + n ≤ p.length) :
    (slice p lo (lo + n) >>= fun s => uN n s 0) = .ok (rd n (p.drop lo)) := by
  rw [slice_ok p lo (lo + n) h (Nat.le_add_right _ _), ok_bind,
    uN_ok n _ 0 (by simp only [List.length_drop, List.length_take]; omega), List.drop_zero, List.drop_take,
    Nat.add_sub_cancel_left]
  exact congrArg Except.ok (rd_take n _ n (Nat.le_refl n))

theorem idx_of_uN {bs : Bytes} {k v : Nat} (h : uN 1 bs k = .ok v) : idx bs k = .ok (UInt8.ofNat v) := by
  obtain ⟨hl, hr⟩ := uN_eq_ok.1 h
  have hk : k < bs.length := by omega
  rw [idx_ok bs k hk, ← hr, rdAt, ← List.getElem_cons_drop hk]
  simp [rd]

theorem rd_zeros (n k : Nat) : rd n (zeros k) = 0 := by
  induction n generalizing k with
  | zero => rfl
  | succ n ih =>
    cases k with
    | zero => rfl
    | succ k =>
      have : zeros (k + 1) = 0 :: zeros k := rfl
      rw [this, rd, ih]; rfl

theorem drop_zeros (n k : Nat) : (zeros k).drop n = zeros (k - n) := by
  simp [zeros]

/-! ## What stands at an offset, and records of little-endian fields

`At bs off x` stands under every read of an encoded layout.  A record of little-endian fields `(width, value)` is `leFields fs`;
`FieldsAt` states all its reads at once. -/

def At (bs : Bytes) (off : Nat) (x : Bytes) : Prop := ∃ pre rest, bs = pre ++ (x ++ rest) ∧ pre.length = off

theorem at_mid (pre x rest : Bytes) {k : Nat} (hk : pre.length = k) : At (pre ++ (x ++ rest)) k x := ⟨pre, rest, rfl, hk⟩

theorem at_zero (x rest : Bytes) : At (x ++ rest) 0 x := at_mid [] x rest rfl

theorem at_end (pre x : Bytes) {k : Nat} (hk : pre.length = k) : At (pre ++ x) k x := ⟨pre, [], by rw [List.append_nil], hk⟩

theorem at_self (x : Bytes) : At x 0 x := ⟨[], [], (List.append_nil x).symm, rfl⟩

theorem At.left {bs x y : Bytes} {off : Nat} (h : At bs off (x ++ y)) : At bs off x := by
  obtain ⟨pre, rest, rfl, hl⟩ := h
  exact ⟨pre, y ++ rest, by rw [List.append_assoc], hl⟩

theorem At.right {bs x y : Bytes} {off : Nat} (h : At bs off (x ++ y)) : At bs (off + x.length) y := by
  obtain ⟨pre, rest, rfl, rfl⟩ := h
  exact ⟨pre ++ x, rest, by simp only [List.append_assoc], List.length_append⟩

theorem At.append {bs x : Bytes} {off : Nat} (h : At bs off x) (more : Bytes) : At (bs ++ more) off x := by
  obtain ⟨pre, rest, rfl, hl⟩ := h
  exact ⟨pre, rest ++ more, by simp only [List.append_assoc], hl⟩

theorem At.length_le {bs x : Bytes} {off : Nat} (h : At bs off x) : off + x.length ≤ bs.length := by
  obtain ⟨pre, rest, rfl, rfl⟩ := h
  simp only [List.length_append]; omega

theorem At.slice {bs x : Bytes} {off : Nat} (h : At bs off x) : slice bs off (off + x.length) = .ok x := by
  obtain ⟨pre, rest, rfl, rfl⟩ := h
  rw [slice_ok _ _ _ (by simp only [List.length_append]; omega) (by omega), ← List.append_assoc,
    List.take_left' List.length_append, List.drop_left' rfl]

theorem take_drop_mid (a p rest : Bytes) (n : Nat) (hn : a.length = n) :
    ((a ++ (p ++ rest)).take (p.length + n)).drop n = p := by
  subst hn
  rw [← List.append_assoc, show p.length + a.length = (a ++ p).length by simp; omega, List.take_left']
  · simp
  · rfl

theorem slice_mid (a b c : Bytes) (off n : Nat) (ha : a.length = off) (hb : b.length = n) :
    slice (a ++ b ++ c) off (off + n) = .ok b := by
  rw [List.append_assoc, ← hb]; exact (at_mid a b c ha).slice

theorem At.idx {bs : Bytes} {off : Nat} {b : UInt8} (h : At bs off [b]) : idx bs off = .ok b := by
  obtain ⟨pre, rest, rfl, rfl⟩ := h
  unfold PgVerif.idx; simp

/-- the form in which the closed forms of the readers spell an index (`idx_getD`) -/
theorem At.getD {bs : Bytes} {off : Nat} {b : UInt8} (h : At bs off [b]) : bs[off]?.getD 0 = b := by
  have := h.idx
  rw [idx_getD bs off (by have := h.length_le; rw [List.length_singleton] at this; omega)] at this
  exact Except.ok.inj this

theorem At.rd {bs : Bytes} {off w v : Nat} (h : At bs off (le w v)) (hv : v < 256 ^ w) : rdAt w off bs = v := by
  obtain ⟨pre, rest, rfl, rfl⟩ := h
  exact rdAt_append' w v _ pre rest rfl hv

theorem At.uN {bs : Bytes} {off w v : Nat} (h : At bs off (le w v)) (hv : v < 256 ^ w) : uN w bs off = .ok v := by
  rw [uN_ok _ _ _ (by simpa using h.length_le)]; exact congrArg _ (h.rd hv)

theorem uN_mid (n v : Nat) (pre rest : Bytes) (k : Nat) (hk : pre.length = k) (h : v < 256 ^ n) :
    uN n (pre ++ (le n v ++ rest)) k = .ok v :=
  (at_mid pre _ rest hk).uN h

theorem idx_mid (pre rest : Bytes) (b : UInt8) (k : Nat) (hk : pre.length = k) : idx (pre ++ (b :: rest)) k = .ok b :=
  (at_mid pre [b] rest hk).idx

def leFields (fs : List (Nat × Nat)) : Bytes := fs.flatMap fun f => le f.1 f.2

theorem leFields_append (a b : List (Nat × Nat)) : leFields (a ++ b) = leFields a ++ leFields b := List.flatMap_append

theorem leFields_length (fs : List (Nat × Nat)) : (leFields fs).length = (fs.map (·.1)).sum := by
  induction fs with
  | nil => rfl
  | cons f t ih => rw [leFields, List.flatMap_cons, List.length_append, le_length, ← leFields, ih]; rfl

theorem At.field {bs : Bytes} {off : Nat} {fs : List (Nat × Nat)} (h : At bs off (leFields fs)) (i : Nat) (hi : i < fs.length) :
    At bs (off + ((fs.take i).map (·.1)).sum) (le fs[i].1 fs[i].2) := by
  rw [← List.take_append_drop i fs, leFields_append, List.drop_eq_getElem_cons hi] at h
  have := h.right.left (y := leFields (fs.drop (i + 1)))
  rwa [leFields_length] at this

/-- On a literal list this unfolds in one `simp` pass to `uN width bs offset = .ok value` for every field; with `uN_eq_ok` in the same
pass, to `rdAt width offset bs = value`. -/
def FieldsAt (bs : Bytes) : Nat → List (Nat × Nat) → Prop
  | _, [] => True
  | off, f :: fs => uN f.1 bs off = .ok f.2 ∧ FieldsAt bs (off + f.1) fs

theorem At.fields {bs : Bytes} {off : Nat} {fs : List (Nat × Nat)} (h : At bs off (leFields fs))
    (hv : ∀ f ∈ fs, f.2 < 256 ^ f.1) : FieldsAt bs off fs := by
  induction fs generalizing off with
  | nil => trivial
  | cons f t ih =>
    have h' : At bs off (le f.1 f.2 ++ leFields t) := h
    have := ih h'.right fun x hx => hv x (List.mem_cons_of_mem _ hx)
    rw [le_length] at this
    exact ⟨h'.left.uN (hv f List.mem_cons_self), this⟩

theorem fieldsAt_mid (fs : List (Nat × Nat)) (pre rest : Bytes) (hv : ∀ f ∈ fs, f.2 < 256 ^ f.1) :
    FieldsAt (pre ++ (leFields fs ++ rest)) pre.length fs :=
  (at_mid pre _ rest rfl).fields hv

/-- The offset is a left fold: for a literal record `hi` and `hk` are closed by `rfl` (which also finds `w` and `v`) in binary
arithmetic, where a right-nested sum `4 + (4 + …)` would be counted down in unary. -/
theorem FieldsAt.get {bs : Bytes} {off : Nat} {fs : List (Nat × Nat)} (h : FieldsAt bs off fs) (i k : Nat) {w v : Nat}
    (hi : fs[i]? = some (w, v)) (hk : (fs.take i).foldl (fun a f => a + f.1) off = k) : uN w bs k = .ok v := by
  induction fs generalizing off i with
  | nil => cases hi
  | cons f t ih =>
    cases i with
    | zero => cases hi; exact hk ▸ h.1
    | succ i => exact ih h.2 i hi hk

theorem fieldsAt_enc (fs : List (Nat × Nat)) (pre enc rest : Bytes) (he : leFields fs = enc)
    (hv : ∀ f ∈ fs, f.2 < 256 ^ f.1) : FieldsAt (pre ++ (enc ++ rest)) pre.length fs :=
  he ▸ fieldsAt_mid fs pre rest hv

/-! ## Two byte strings that agree on a window

A read whose window lies inside `[lo, hi)` gives the same on both strings, faults included: the guards of the primitives look at the
length only.  (`At` names the content of a window of one string; here the window may reach the end and its content stays unnamed.)
All consequences are oriented `… bs' = … bs`: rewrite the second string to the first.  A smaller window is
`⟨h.1, fun i a b => h.2 i (by omega) (by omega)⟩`; the upper end may exceed the length (there both sides are `none` by `h.1`). -/

def AgreeOn (bs bs' : Bytes) (lo hi : Nat) : Prop := bs'.length = bs.length ∧ ∀ i, lo ≤ i → i < hi → bs'[i]? = bs[i]?

theorem AgreeOn.window {bs bs' : Bytes} {lo hi : Nat} (h : AgreeOn bs bs' lo hi) (a b : Nat) (ha : lo ≤ a) (hb : b ≤ hi) :
    (bs'.take b).drop a = (bs.take b).drop a := by
  apply List.ext_getElem?
  intro k
  simp only [List.getElem?_drop, List.getElem?_take]
  by_cases hk : a + k < b
  · rw [if_pos hk, if_pos hk]; exact h.2 _ (Nat.le_trans ha (Nat.le_add_right a k)) (Nat.lt_of_lt_of_le hk hb)
  · rw [if_neg hk, if_neg hk]

theorem AgreeOn.take {bs bs' : Bytes} {hi : Nat} (h : AgreeOn bs bs' 0 hi) (b : Nat) (hb : b ≤ hi) : bs'.take b = bs.take b :=
  h.window 0 b (Nat.le_refl 0) hb

theorem AgreeOn.drop {bs bs' : Bytes} {lo hi : Nat} (h : AgreeOn bs bs' lo hi) (he : bs.length ≤ hi) (a : Nat) (ha : lo ≤ a) :
    bs'.drop a = bs.drop a := by
  have := h.window a _ ha he
  rwa [List.take_of_length_le (by rw [h.1]; exact Nat.le_refl _), List.take_of_length_le (Nat.le_refl _)] at this

theorem AgreeOn.rd {bs bs' : Bytes} {lo hi : Nat} (h : AgreeOn bs bs' lo hi) (n off : Nat) (ha : lo ≤ off) (hb : off + n ≤ hi) :
    rd n (bs'.drop off) = rd n (bs.drop off) := by
  rw [← rd_take n (bs'.drop off) n (Nat.le_refl _), ← rd_take n (bs.drop off) n (Nat.le_refl _), List.take_drop, List.take_drop,
    h.window _ _ ha hb]

theorem AgreeOn.uN {bs bs' : Bytes} {lo hi : Nat} (h : AgreeOn bs bs' lo hi) (n off : Nat) (ha : lo ≤ off) (hb : off + n ≤ hi) :
    uN n bs' off = uN n bs off := by
  unfold PgVerif.uN; rw [h.1, h.rd n off ha hb]

theorem AgreeOn.idx {bs bs' : Bytes} {lo hi : Nat} (h : AgreeOn bs bs' lo hi) (i : Nat) (ha : lo ≤ i) (hb : i < hi) :
    idx bs' i = idx bs i := by
  unfold PgVerif.idx; rw [h.2 i ha hb]

theorem AgreeOn.slice {bs bs' : Bytes} {lo hi : Nat} (h : AgreeOn bs bs' lo hi) (a b : Nat) (ha : lo ≤ a) (hb : b ≤ hi) :
    slice bs' a b = slice bs a b := by
  unfold PgVerif.slice; rw [h.1, h.window a b ha hb]

theorem AgreeOn.shift {bs bs' : Bytes} {lo hi : Nat} (h : AgreeOn bs bs' lo hi) (k : Nat) :
    AgreeOn (bs.drop k) (bs'.drop k) (lo - k) (hi - k) :=
  ⟨by rw [List.length_drop, List.length_drop, h.1], fun i h1 h2 => by
    rw [List.getElem?_drop, List.getElem?_drop]; exact h.2 _ (Nat.sub_le_iff_le_add'.mp h1) (Nat.add_lt_of_lt_sub' h2)⟩

theorem agreeOn_of_drop_eq {bs bs' : Bytes} {o : Nat} (hl : bs'.length = bs.length) (hs : bs'.drop o = bs.drop o) (hi : Nat) :
    AgreeOn bs bs' o hi :=
  ⟨hl, fun i h1 _ => by
    have e (l : Bytes) : l[i]? = (l.drop o)[i - o]? := by rw [List.getElem?_drop, Nat.add_sub_cancel' h1]
    rw [e bs', e bs, hs]⟩

end PgVerif
