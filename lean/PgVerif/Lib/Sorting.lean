/-
  Insertion sort with respect to a decidable relation `r` ("not after"): `orderedInsert r a l` puts `a` before the first `b` with
  `r a b`.  Every sort the model or a specification writes as a fold of an insertion is `insertionSort r` for some `r`
  (`foldr_eq_insertionSort`: the two defining equations suffice).  A Boolean comparison `le` is the relation `fun a b => le a b = true`;
  a key is `fun a b => key a ≤ key b`; Go's `less` read the other way round is `fun a b => ¬ less b a`.
-/
namespace PgVerif.Sorting
open List

variable {α : Type _} (r : α → α → Prop) [DecidableRel r]

def orderedInsert (a : α) : List α → List α
  | [] => [a]
  | b :: bs => if r a b then a :: b :: bs else b :: orderedInsert a bs

def insertionSort (l : List α) : List α := l.foldr (orderedInsert r) []

@[simp] theorem insertionSort_cons (a : α) (l : List α) :
    insertionSort r (a :: l) = orderedInsert r a (insertionSort r l) := rfl

theorem eq_orderedInsert {f : α → List α → List α} (h0 : ∀ a, f a [] = [a])
    (h1 : ∀ a b bs, f a (b :: bs) = if r a b then a :: b :: bs else b :: f a bs) : f = orderedInsert r := by
  funext a l
  induction l with
  | nil => exact h0 a
  | cons b bs ih => rw [h1, ih]; rfl

theorem foldr_eq_insertionSort {f : α → List α → List α} (h0 : ∀ a, f a [] = [a])
    (h1 : ∀ a b bs, f a (b :: bs) = if r a b then a :: b :: bs else b :: f a bs) (l : List α) :
    l.foldr f [] = insertionSort r l := by
  rw [eq_orderedInsert r h0 h1]; rfl

/-- for Go's `less` read the other way round: `a` goes before the first `b` that is not less than `a` -/
theorem foldr_eq_insertionSort_not {lt : α → α → Prop} [DecidableRel lt] {f : α → List α → List α} (h0 : ∀ a, f a [] = [a])
    (h1 : ∀ a b bs, f a (b :: bs) = if lt b a then b :: f a bs else a :: b :: bs) (l : List α) :
    l.foldr f [] = insertionSort (fun a b => ¬ lt b a) l :=
  foldr_eq_insertionSort _ h0 (fun a b bs => by rw [h1, ite_not]) l

theorem orderedInsert_perm (a : α) (l : List α) : orderedInsert r a l ~ a :: l := by
  induction l with
  | nil => exact .refl _
  | cons b bs ih =>
    unfold orderedInsert
    split
    · exact .refl _
    · exact (ih.cons b).trans (.swap a b bs)

theorem insertionSort_perm (l : List α) : insertionSort r l ~ l := by
  induction l with
  | nil => exact .refl _
  | cons a l ih => exact (orderedInsert_perm r a _).trans (ih.cons a)

theorem mem_orderedInsert {a x : α} {l : List α} : x ∈ orderedInsert r a l ↔ x = a ∨ x ∈ l :=
  (orderedInsert_perm r a l).mem_iff.trans mem_cons

theorem mem_insertionSort {x : α} {l : List α} : x ∈ insertionSort r l ↔ x ∈ l :=
  (insertionSort_perm r l).mem_iff

theorem orderedInsert_of_forall {a : α} {l : List α} (h : ∀ b ∈ l, r a b) : orderedInsert r a l = a :: l := by
  cases l with
  | nil => rfl
  | cons b bs => exact if_pos (h b mem_cons_self)

/-- no hypothesis on `r` -/
theorem insertionSort_of_sorted {l : List α} (h : l.Pairwise r) : insertionSort r l = l := by
  induction l with
  | nil => rfl
  | cons a l ih =>
    have h' := pairwise_cons.mp h
    rw [insertionSort_cons, ih h'.2, orderedInsert_of_forall r h'.1]

variable {r}

theorem orderedInsert_sorted (total : ∀ a b, r a b ∨ r b a) (trans : ∀ {a b c}, r a b → r b c → r a c)
    (a : α) {l : List α} (h : l.Pairwise r) : (orderedInsert r a l).Pairwise r := by
  induction l with
  | nil => exact pairwise_singleton r a
  | cons b bs ih =>
    have hb := pairwise_cons.mp h
    unfold orderedInsert
    split
    · next hab => exact pairwise_cons.mpr ⟨fun y hy => (mem_cons.mp hy).elim (· ▸ hab) fun hy => trans hab (hb.1 y hy), h⟩
    · next hab =>
      refine pairwise_cons.mpr ⟨fun y hy => ?_, ih hb.2⟩
      rcases (mem_orderedInsert r).mp hy with rfl | hy
      · exact (total y b).resolve_left hab
      · exact hb.1 y hy

theorem insertionSort_sorted (total : ∀ a b, r a b ∨ r b a) (trans : ∀ {a b c}, r a b → r b c → r a c)
    (l : List α) : (insertionSort r l).Pairwise r := by
  induction l with
  | nil => exact .nil
  | cons a l ih => exact orderedInsert_sorted total trans a ih

/-- the only thing distinctness of keys is ever used for -/
def AntisymmOn (r : α → α → Prop) (l : List α) : Prop := ∀ a ∈ l, ∀ b ∈ l, r a b → r b a → a = b

omit [DecidableRel r] in
theorem AntisymmOn.perm {l₁ l₂ : List α} (hp : l₁ ~ l₂) (h : AntisymmOn r l₁) : AntisymmOn r l₂ :=
  fun a ha b hb => h a (hp.mem_iff.mpr ha) b (hp.mem_iff.mpr hb)

omit [DecidableRel r] in
theorem AntisymmOn.sublist {l₁ l₂ : List α} (hs : l₁ <+ l₂) (h : AntisymmOn r l₂) : AntisymmOn r l₁ :=
  fun a ha b hb => h a (hs.subset ha) b (hs.subset hb)

omit [DecidableRel r] in
theorem eq_of_sorted_perm {l₁ l₂ : List α} (hp : l₁ ~ l₂) (h1 : l₁.Pairwise r) (h2 : l₂.Pairwise r)
    (ha : AntisymmOn r l₁) : l₁ = l₂ :=
  hp.eq_of_pairwise (fun a b ha' hb' => ha a ha' b (hp.mem_iff.mpr hb')) h1 h2

section
variable (total : ∀ a b, r a b ∨ r b a) (trans : ∀ {a b c}, r a b → r b c → r a c)
include total trans

theorem eq_insertionSort {s l : List α} (hp : s ~ l) (hs : s.Pairwise r) (ha : AntisymmOn r l) : s = insertionSort r l :=
  eq_of_sorted_perm (hp.trans (insertionSort_perm r l).symm) hs (insertionSort_sorted total trans l) (ha.perm hp.symm)

theorem insertionSort_eq_of_perm {l₁ l₂ : List α} (hp : l₁ ~ l₂) (ha : AntisymmOn r l₁) :
    insertionSort r l₁ = insertionSort r l₂ :=
  eq_insertionSort total trans ((insertionSort_perm r l₁).trans hp) (insertionSort_sorted total trans l₁) (ha.perm hp)

theorem insertionSort_filter (p : α → Bool) {l : List α} (ha : AntisymmOn r l) :
    (insertionSort r l).filter p = insertionSort r (l.filter p) :=
  eq_insertionSort total trans ((insertionSort_perm r l).filter p) ((insertionSort_sorted total trans l).filter p)
    (ha.sublist filter_sublist)

end

/-- only the comparisons of an element with the later ones are made -/
theorem insertionSort_congr {r' : α → α → Prop} [DecidableRel r'] {l : List α}
    (h : l.Pairwise fun a b => r a b ↔ r' a b) : insertionSort r l = insertionSort r' l := by
  induction l with
  | nil => rfl
  | cons a l ih =>
    have h' := pairwise_cons.mp h
    rw [insertionSort_cons, insertionSort_cons, ih h'.2]
    have hm : ∀ b ∈ insertionSort r' l, r a b ↔ r' a b := fun b hb => h'.1 b ((mem_insertionSort r').mp hb)
    generalize insertionSort r' l = s at hm
    induction s with
    | nil => rfl
    | cons b bs ihs =>
      simp only [orderedInsert, hm b mem_cons_self, ihs fun c hc => hm c (mem_cons_of_mem _ hc)]

theorem insertionSort_decide (l : List α) : insertionSort (fun a b => decide (r a b) = true) l = insertionSort r l :=
  insertionSort_congr (pairwise_of_forall fun _ _ => decide_eq_true_iff)

theorem orderedInsert_map {β} {r' : β → β → Prop} [DecidableRel r'] (f : α → β) (h : ∀ x y, r' (f x) (f y) ↔ r x y)
    (a : α) (l : List α) : orderedInsert r' (f a) (l.map f) = (orderedInsert r a l).map f := by
  induction l with
  | nil => rfl
  | cons b bs ih =>
    simp only [map_cons, orderedInsert, h, ih]
    split <;> rfl

theorem insertionSort_map {β} {r' : β → β → Prop} [DecidableRel r'] (f : α → β) (h : ∀ x y, r' (f x) (f y) ↔ r x y)
    (l : List α) : insertionSort r' (l.map f) = (insertionSort r l).map f := by
  induction l with
  | nil => rfl
  | cons a l ih => rw [map_cons, insertionSort_cons, ih, orderedInsert_map f h, insertionSort_cons]

theorem inj_of_nodup_map {β} {f : α → β} {l : List α} (h : (l.map f).Nodup) : ∀ a ∈ l, ∀ b ∈ l, f a = f b → a = b := by
  have h' : l.Pairwise fun a b => f a = f b → a = b := (pairwise_map.mp h).imp fun hne e => absurd e hne
  exact fun a ha b hb => h'.forall_of_forall_of_flip (fun _ _ _ => rfl) (h'.imp fun h e => (h e.symm).symm) ha hb

section key
variable {κ : Type _} [LE κ] [Std.IsLinearOrder κ] (key : α → κ)

abbrev byKey : α → α → Prop := fun a b => key a ≤ key b

theorem byKey_total (a b : α) : byKey key a b ∨ byKey key b a := Std.le_total

theorem byKey_trans {a b c : α} : byKey key a b → byKey key b c → byKey key a c := Std.le_trans

theorem antisymmOn_key {l : List α} (h : (l.map key).Nodup) : AntisymmOn (byKey key) l :=
  fun a ha b hb h1 h2 => inj_of_nodup_map h a ha b hb (Std.le_antisymm h1 h2)

variable [DecidableLE κ]

theorem byKey_sorted (l : List α) : (insertionSort (byKey key) l).Pairwise (byKey key) :=
  insertionSort_sorted (byKey_total key) (byKey_trans key) l

theorem byKey_eq_of_perm {l₁ l₂ : List α} (hp : l₁ ~ l₂) (h : AntisymmOn (byKey key) l₁) :
    insertionSort (byKey key) l₁ = insertionSort (byKey key) l₂ :=
  insertionSort_eq_of_perm (byKey_total key) (byKey_trans key) hp h

theorem byKey_filter (p : α → Bool) {l : List α} (h : AntisymmOn (byKey key) l) :
    (insertionSort (byKey key) l).filter p = insertionSort (byKey key) (l.filter p) :=
  insertionSort_filter (byKey_total key) (byKey_trans key) p h

/-- inserting after the equal keys instead of before them makes no difference when there are none -/
theorem insertionSort_lt [LT κ] [DecidableLT κ] [Std.LawfulOrderLT κ] {l : List α} (h : (l.map key).Nodup) :
    insertionSort (fun a b => key a < key b) l = insertionSort (byKey key) l :=
  insertionSort_congr ((pairwise_map.mp h).imp fun hne =>
    ⟨Std.le_of_lt, fun h1 => Std.not_le.mp fun h2 => hne (Std.le_antisymm h1 h2)⟩)

/-- Go's `less` read the other way round -/
theorem insertionSort_not_gt [LT κ] [DecidableLT κ] [Std.LawfulOrderLT κ] (l : List α) :
    insertionSort (fun a b => ¬ key b < key a) l = insertionSort (byKey key) l :=
  insertionSort_congr (pairwise_of_forall fun _ _ => Std.not_lt)

theorem byKey_sorted_strict [LT κ] [Std.LawfulOrderLT κ] {key : α → κ} {l : List α} (h : (l.map key).Nodup) :
    (insertionSort (byKey key) l).Pairwise fun a b => key a < key b :=
  ((byKey_sorted key l).and (pairwise_map.mp (((insertionSort_perm _ l).map key).nodup_iff.mpr h))).imp
    fun ⟨h1, h2⟩ => Std.lt_of_le_of_ne h1 h2

end key

end PgVerif.Sorting
