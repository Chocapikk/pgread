/-
  The bytes of a string literal.  `strBytes s = s.toUTF8.toList` (Basic/Canon.lean) is evaluated by the kernel
  (`decide +kernel` on a closed literal) but not by the elaborator's `rfl`/`decide`/`simp` (strings are byte arrays);
  `strBytes_eq` turns it into a computation on the list of characters, on which those work too; `strBytes_inj` (through
  `String.toByteArray_inj`) reduces facts about lists of literal names to facts about the String literals.
  `Proofs.Cluster.strBytes_append` is a theorem stated for its own sake, kept under the name it was first given; nothing cites it.
-/
import PgVerif.Basic.Canon
import PgVerif.Lib.Lit
namespace PgVerif

theorem byteArray_toList_loop (bs : ByteArray) (n : Nat) : ∀ (i : Nat) (r : List UInt8), bs.size - i = n →
    ByteArray.toList.loop bs i r = r.reverse ++ bs.data.toList.drop i := by
  have hsz : bs.data.toList.length = bs.size := by rw [Array.length_toList]; rfl
  induction n with
  | zero =>
    intro i r h
    unfold ByteArray.toList.loop
    have : ¬ i < bs.size := by omega
    rw [if_neg this]
    have : bs.data.toList.length ≤ i := by omega
    rw [List.drop_of_length_le this]; simp
  | succ n ih =>
    intro i r h
    unfold ByteArray.toList.loop
    have hi : i < bs.size := by omega
    rw [if_pos hi, ih (i + 1) _ (by omega)]
    have hl : i < bs.data.toList.length := by omega
    rw [List.drop_eq_getElem_cons hl]
    have : bs.get! i = bs.data.toList[i] := by
      show bs.data[i]! = _
      rw [getElem!_pos bs.data i hi]; simp
    rw [this]; simp

theorem byteArray_toList (bs : ByteArray) : bs.toList = bs.data.toList := by
  unfold ByteArray.toList
  rw [byteArray_toList_loop bs _ 0 [] rfl]; simp

theorem strBytes_eq (s : String) : strBytes s = s.toList.flatMap String.utf8EncodeChar := by
  rw [strBytes, byteArray_toList, Lit.utf8_data]

theorem Proofs.Cluster.strBytes_append (a b : String) : strBytes (a ++ b) = strBytes a ++ strBytes b := by
  simp [strBytes_eq, String.toList_append]

theorem strBytes_inj (a b : String) (h : strBytes a = strBytes b) : a = b := by
  unfold strBytes at h
  rw [String.toUTF8_eq_toByteArray, String.toUTF8_eq_toByteArray, byteArray_toList, byteArray_toList] at h
  apply String.toByteArray_inj.mp
  apply ByteArray.ext
  exact Array.toList_inj.mp h

/-- comparisons of command words and of literal keys reduce to comparisons of strings; no byte string has to be computed -/
theorem strBytes_beq (a b : String) : (strBytes a == strBytes b) = decide (a = b) := by
  by_cases h : a = b
  · rw [h, beq_self_eq_true, decide_eq_true rfl]
  · rw [beq_false_of_ne fun e => h (strBytes_inj a b e), decide_eq_false h]

theorem strBytes_empty : strBytes "" = [] := by decide +kernel

/-- facts about lists of column names (`strBytes` of literals) are facts about the lists of literals, which the kernel compares
without UTF-8 encoding whole byte lists -/
theorem strBytes_nodup {l : List String} (h : l.Nodup) : (l.map strBytes).Nodup :=
  List.Pairwise.map strBytes (fun a b hab he => hab (strBytes_inj a b he)) h

theorem idxOf_strBytes (l : List String) (k : String) : (l.map strBytes).idxOf (strBytes k) = l.idxOf k := by
  induction l with
  | nil => rfl
  | cons a l ih =>
    rw [List.map_cons, List.idxOf_cons, List.idxOf_cons, ih, strBytes_beq, Bool.beq_eq_decide_eq]

end PgVerif
