/-
  Checkers for finite tables, each proved right for arbitrary lists: a fact about two concrete tables is ONE kernel evaluation,
  its consequences are corollaries.  Core Lean only.
-/
namespace PgVerif.TableKit

def sameMembers [BEq α] (a b : List α) : Bool := a.all (b.contains ·) && b.all (a.contains ·)

theorem sameMembers_iff [BEq α] [LawfulBEq α] {a b : List α} : sameMembers a b = true ↔ ∀ x, x ∈ a ↔ x ∈ b := by
  simp only [sameMembers, Bool.and_eq_true, List.all_eq_true, List.contains_iff_mem]
  exact ⟨fun h x => ⟨h.1 x, h.2 x⟩, fun h => ⟨fun x => (h x).1, fun x => (h x).2⟩⟩

/-- a table sorted by key -/
def increasing : List Nat → Bool
  | a :: b :: l => decide (a < b) && increasing (b :: l)
  | _ => true

theorem pairwise_of_increasing : ∀ {l : List Nat}, increasing l = true → l.Pairwise (· < ·)
  | [], _ => .nil
  | [_], _ => .cons (fun _ h => nomatch h) .nil
  | a :: b :: l, h => by
    rw [increasing, Bool.and_eq_true, decide_eq_true_eq] at h
    have ih := pairwise_of_increasing h.2
    refine .cons (fun x hx => ?_) ih
    rcases List.mem_cons.mp hx with rfl | hx
    · exact h.1
    · exact Nat.lt_trans h.1 (List.rel_of_pairwise_cons ih hx)

/-- the linear way to the hypothesis of `AssocMap.lookup_of_mem` -/
theorem nodup_of_increasing {l : List Nat} (h : increasing l = true) : l.Nodup :=
  (pairwise_of_increasing h).imp Nat.ne_of_lt

end PgVerif.TableKit
