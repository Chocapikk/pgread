/-
  Model of main.go: the dispatch of `main()` as a decision function `Flags → Action`, with main.go's
  precedence (version > detect > -f modes > data directory resolution > list-db > control > checksum > dropped >
  sequences > relmap > passwords > secrets > search > wal > dump; inside -f: -b > -index > -toast-verbose > -R >
  plain; output: -sql > -csv > json), and the `Options` each action hands to the library.

  Go's `flag` package is a parameter (contract: standard flag syntax fills the `Flags` record);
  `pgdump.DetectDataDir()` is the parameter `detected` ("" = nothing found).
  `-deleted`, `-o`, `-v` are parsed by main.go and do not influence stdout (noted in DESIGN C12); `-debug` sets
  `pgdump.Debug`, under which the decoder prints `DEBUG:` lines to stdout while DumpDataDir runs: outside the model (see
  `Model.CliRender.cliRun`).
-/
import PgVerif.Spec.Cluster
namespace PgVerif.Model
open PgVerif
open PgVerif.Spec (Options)

structure Flags where
  dataDir : Bytes := []
  singleFile : Bytes := []
  dbFilter : Bytes := []
  tableFilter : Bytes := []
  listOnly : Bool := false
  listDBs : Bool := false
  detectPaths : Bool := false
  sqlOutput : Bool := false
  csvOutput : Bool := false
  searchPattern : Bytes := []
  passwords : Bytes := []
  secrets : Bytes := []
  showDeleted : Bool := false
  showWAL : Bool := false
  showControl : Bool := false
  verifyChecksums : Bool := false
  parseIndex : Bool := false
  showDropped : Bool := false
  showSequences : Bytes := []
  showRelmap : Bytes := []
  blockRange : Bytes := []
  binaryDump : Bool := false
  skipOldValues : Bool := false
  toastVerbose : Bool := false
  segmentNumber : Int := 0
  segmentSize : Int := 0
  verbose : Bool := false
  debug : Bool := false
  showVersion : Bool := false
deriving Repr, Inhabited, DecidableEq

inductive Format where
  | json | sql | csv
deriving Repr, DecidableEq, Inhabited

inductive FileMode where
  | binary (range : Bytes)                       -- parseBinaryDump(path, blockRange)
  | index                                        -- parseIndexFile(path)
  | toastVerbose                                 -- parseToastVerbose(path)
  | range (r : Bytes) (seg : Option (Int × Int)) -- parseBlockRangeWithSegment(path, blockRange, segOpts)
  | plain                                        -- parseSingle(path)
deriving Repr, DecidableEq, Inhabited

inductive Action where
  | version
  | detect
  | file (path : Bytes) (mode : FileMode)
  | noDataDir                                    -- "Error: PostgreSQL data directory not found", exit 1
  | listDb (dir : Bytes)
  | control (dir : Bytes)
  | checksum (dir : Bytes)
  | droppedDb (dir db : Bytes)
  | droppedAll (dir : Bytes)
  | sequencesAll (dir : Bytes)
  | sequencesDb (dir db : Bytes)
  | relmapGlobal (dir : Bytes)
  | relmapAll (dir : Bytes)
  | relmapDb (dir : Bytes) (oid : Nat)
  | relmapInvalid (arg : Bytes)                  -- "Invalid relmap option", exit 1
  | passwords (dir user : Bytes)                 -- user = "all" prints every role
  | secrets (dir : Bytes) (opts : Options)
  | search (dir pattern : Bytes)
  | wal (dir : Bytes)
  | dump (dir : Bytes) (opts : Options) (fmt : Format)
deriving Repr, DecidableEq, Inhabited

def allDigits (s : Bytes) : Bool := !s.isEmpty && s.all fun b => 48 ≤ b && b ≤ 57

def decVal (s : Bytes) : Nat := s.foldl (fun acc d => acc * 10 + (d.toNat - 48)) 0

/-- `strconv.ParseUint(s, 10, 32)`: decimal digits only (no sign, no underscore), value below 2³² -/
def cliParseUint32 (s : Bytes) : Option Nat :=
  if allDigits s ∧ decVal s < 4294967296 then some (decVal s) else none

def fileMode (f : Flags) : FileMode :=
  if f.binaryDump then .binary f.blockRange
  else if f.parseIndex then .index
  else if f.toastVerbose then .toastVerbose
  else if f.blockRange ≠ [] then
    .range f.blockRange (if f.segmentNumber > 0 ∨ f.segmentSize > 0 then some (f.segmentNumber, f.segmentSize) else none)
  else .plain

def outFormat (f : Flags) : Format := if f.sqlOutput then .sql else if f.csvOutput then .csv else .json

/-- the `Options` of the final DumpDataDir call -/
def dumpOptions (f : Flags) : Options :=
  { dbFilter := f.dbFilter, tableFilter := f.tableFilter, listOnly := f.listOnly, skipSystem := true, pgVersion := 0 }

/-- main.go:main as a decision table -/
def cliAction (detected : Bytes) (f : Flags) : Action :=
  if f.showVersion then .version
  else if f.detectPaths then .detect
  else if f.singleFile ≠ [] then .file f.singleFile (fileMode f)
  else
    let dir := if f.dataDir = [] then detected else f.dataDir
    if dir = [] then .noDataDir
    else if f.listDBs then .listDb dir
    else if f.showControl then .control dir
    else if f.verifyChecksums then .checksum dir
    else if f.showDropped then (if f.dbFilter ≠ [] then .droppedDb dir f.dbFilter else .droppedAll dir)
    else if f.showSequences ≠ [] then
      (if f.showSequences = strBytes "all" then .sequencesAll dir else .sequencesDb dir f.showSequences)
    else if f.showRelmap ≠ [] then
      (if f.showRelmap = strBytes "global" then .relmapGlobal dir
       else if f.showRelmap = strBytes "all" then .relmapAll dir
       else match cliParseUint32 f.showRelmap with
         | some oid => .relmapDb dir oid
         | none => .relmapInvalid f.showRelmap)
    else if f.passwords ≠ [] then .passwords dir f.passwords
    else if f.secrets ≠ [] then
      .secrets dir { dbFilter := f.dbFilter, tableFilter := f.tableFilter, listOnly := false, skipSystem := true, pgVersion := 0 }
    else if f.searchPattern ≠ [] then .search dir f.searchPattern
    else if f.showWAL then .wal dir
    else .dump dir (dumpOptions f) (outFormat f)

end PgVerif.Model
