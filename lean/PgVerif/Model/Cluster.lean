/-
  Model of pgdump/pgdump.go: DumpDataDir, DumpDatabaseFromFiles, dumpTable, readTableRows (withDefaults is the default value
  `{}` of `Spec.Options`: `skipSystem := true`) — the tree
  after fixes/cluster/01 (tables are visited in filenode order instead of map-iteration order) and 09 (every tuple
  of a table without columns is the empty row).

  * `ReadTuples` (heap.go, area `heap`) is `Model.readTuples` itself, not a parameter: readTableRows uses it only
    to count the visible tuples of a table without columns.

  * `rr` = the row reader (heap.go:ReadRows), a parameter.
  * the file system is `fs : path ↦ Option content` (`os.ReadFile`; an error = `none`); a `FileReader`
    is `filenode ↦ Option content`.
  * every `range` over a Go map takes the iteration order as a parameter `π` (a function that permutes the
    entries); the theorems of C11 quantify over all of them.
  * `strings.HasPrefix/Contains` = list prefix / infix; `strings.ToLower` = `GoCase.goToLower` (Model/GoCase.lean: Go's
    function — ASCII fast path, invalid UTF-8, `unicode.ToLower` from Go's own table for all of Unicode); `TypeName` = the generated
    table + `fmt.Sprintf("oid:%d")`; `strconv.FormatUint(_, 10)` = decimal text.
-/
import PgVerif.Model.Catalog
import PgVerif.Spec.Cluster
import PgVerif.Model.GoCase
namespace PgVerif.Model
open PgVerif
open PgVerif.Spec (ColumnInfo TableDump DatabaseDump DumpResult Options isPrefixB lowerB containsB natBytes)

/-- the iteration order of one `range` over a map: some rearrangement of its entries -/
abbrev MapOrder (β : Type) := List (Nat × β) → List (Nat × β)

/-- types.go:TypeName -/
def typeName (oid : Int) : Bytes :=
  match lookupOid' oid with
  | some n => strBytes n
  | none => strBytes ("oid:" ++ toString oid)
where lookupOid' (oid : Int) : Option String := if oid < 0 then none else Generated.Cluster.typeNames.lookup oid.toNat

def insertNat (a : Nat) : List Nat → List Nat
  | [] => [a]
  | b :: bs => if a ≤ b then a :: b :: bs else b :: insertNat a bs

/-- `sort.Slice(keys, func(i, j) bool { return keys[i] < keys[j] })` on distinct keys -/
def sortNat (l : List Nat) : List Nat := l.foldr insertNat []

abbrev FileReader := Nat → Option Bytes

/-- pgdump.go:readTableRows (fixes/cluster/09) — ReadRows for a table with columns; for a table without columns one
empty row per visible tuple (DecodeTuple answers nil for a tuple without data and without columns, which ReadRows
skips) -/
def readTableRows (rr : RowReader) (data : Bytes) (cols : List Column) : M (List Row) :=
  if cols.length > 0 then rr data cols true
  else do
    let es ← readTuples data true
    pure (es.map fun _ => [])

/-- pgdump.go:dumpTable -/
def dumpTable (rr : RowReader) (filenode : Nat) (info : TableInfo) (attrs : List AttrInfo)
    (reader : Option FileReader) (opts : Options) : M TableDump :=
  let cols : List ColumnInfo := attrs.map fun a => ⟨a.name, typeName a.typid, a.typid⟩
  let t : TableDump := { oid := info.oid, name := info.name, filenode, kind := info.kind, columns := cols,
                         rows := [], rowCount := 0 }
  match (if opts.listOnly then none else reader) with
  | none => pure t
  | some rd =>
    match rd filenode with
    | none => pure t
    | some data =>
      if data.length = 0 then pure t
      else do
        let mcols : List Column := attrs.map fun a => ⟨a.name, a.typid, a.len, a.num, a.align⟩
        let rows ← readTableRows rr data mcols
        pure { t with rows := rows, rowCount := rows.length }

/-- the three `continue` filters of DumpDatabaseFromFiles -/
def keepTable (opts : Options) (info : TableInfo) : Bool :=
  !(info.kind != [114] && info.kind != []) &&
  !(opts.skipSystem && isPrefixB (strBytes "pg_") info.name) &&
  !(opts.tableFilter != [] && !containsB (GoCase.goToLower info.name) (GoCase.goToLower opts.tableFilter))

/-- the loop body for one filenode of the sorted key list -/
def dumpOne (rr : RowReader) (tables : List (Nat × TableInfo)) (attrs : List (Nat × List AttrInfo))
    (reader : Option FileReader) (opts : Options) (filenode : Nat) : M (Option TableDump) :=
  match mapGet tables filenode with
  | none => pure none
  | some info =>
    if keepTable opts info then do
      let t ← dumpTable rr filenode info ((mapGet attrs info.oid).getD []) reader opts
      pure (some t)
    else pure none

/-- pgdump.go:DumpDatabaseFromFiles (OID and Name are filled in by the caller) -/
def dumpDatabaseFromFiles (rr : RowReader) (π : MapOrder TableInfo) (classData attrData : Bytes)
    (reader : Option FileReader) (opts : Options) : M (List TableDump) := do
  let tables ← parsePGClass rr classData
  let attrs ← parsePGAttribute rr attrData opts.pgVersion
  let filenodes := sortNat ((π tables).map (·.1))
  collectM (dumpOne rr tables attrs reader opts) filenodes

def pathGlobal1262 : Bytes := strBytes "global/1262"
def basePath (db fn : Nat) : Bytes := strBytes "base/" ++ natBytes db ++ strBytes "/" ++ natBytes fn

/-- the loop body of DumpDataDir for one database -/
def dumpDb (rr : RowReader) (π : MapOrder TableInfo) (fs : Bytes → Option Bytes) (opts : Options)
    (db : DatabaseInfo) : M (Option DatabaseDump) :=
  if isPrefixB (strBytes "template") db.name then pure none
  else if opts.dbFilter != [] && db.name != opts.dbFilter then pure none
  else
    let classData := (fs (basePath db.oid 1259)).getD []
    let attrData := (fs (basePath db.oid 1249)).getD []
    if classData.length = 0 then pure none
    else do
      let tables ← dumpDatabaseFromFiles rr π classData attrData (some fun fn => fs (basePath db.oid fn)) opts
      pure (some { oid := db.oid, name := db.name, tables })

/-- pgdump.go:DumpDataDir (`none` = the error of reading global/1262) -/
def dumpDataDir (rr : RowReader) (π : MapOrder TableInfo) (fs : Bytes → Option Bytes) (opts : Options) :
    M (Option DumpResult) :=
  match fs pathGlobal1262 with
  | none => pure none
  | some dbData => do
    let dbs ← parsePGDatabase rr dbData
    let r ← collectM (dumpDb rr π fs opts) dbs
    pure (some r)

/-- the TableInfo `classStep` builds from a row -/
def infoOfRow (row : Row) : TableInfo :=
  ⟨getOID row "oid", getOID row "relfilenode", getString row "relname", getString row "relkind"⟩

/-- the TableInfo a correct row reader must lead to for a pg_class row (used as the reader hypothesis of C01) -/
def infoOfRel (r : Spec.ClassRow) : TableInfo := ⟨r.oid, r.filenode, r.name, [UInt8.ofNat r.kind]⟩

end PgVerif.Model
