/-
  Model of pgdump/control.go (with the repairs of /verif/fixes/control applied: constant offsets for
  the settings and storage sections, checkpoint-tail xids in struct order, redo WAL file name from the
  stored timeline and segment size).  The code as it was before the repairs — including the two
  plausibility searches findConfigSection / findStorageSection — is modelled in Model/ControlOrig.lean.

  One Lean function per Go function, same guards, same order of evaluation.  `data[i]` on a byte is
  written as the 1-byte read `uN 1 data i` (fault kinds are only compared as "panic").
  Library behaviour modelled by small definitions: `fmt.Sprintf` with `%X`, `%08X`, `%d` (hex/decimal
  text), `time.Unix(s, 0).UTC()` (kept as the number of seconds; the driver renders it with a civil
  calendar function and the harness compares that with Go's formatting).
-/
import PgVerif.Basic.Bytes
namespace PgVerif.Model
open PgVerif

abbrev W32 := BitVec 32

/-! ### CRC-32C (control.go: verifyCRC32C, makeCRC32CTable) -/

/-- inner loop of makeCRC32CTable: `if crc&1 != 0 { crc = (crc >> 1) ^ polynomial } else { crc >>= 1 }` -/
def crcTableStep (crc : W32) : W32 :=
  if crc &&& 1#32 != 0#32 then (crc >>> 1) ^^^ 0x82F63B78#32 else crc >>> 1

/-- `for j := 0; j < 8; j++` -/
def crcTableEntry (i : W32) : W32 :=
  crcTableStep (crcTableStep (crcTableStep (crcTableStep (crcTableStep (crcTableStep (crcTableStep (crcTableStep i)))))))

/-- makeCRC32CTable: `for i := uint32(0); i < 256; i++ { … table[i] = crc }` -/
def makeCRC32CTable : List W32 := (List.range 256).map fun i => crcTableEntry (BitVec.ofNat 32 i)

/-- loop body of verifyCRC32C: `crc = table[(crc^uint32(b))&0xFF] ^ (crc >> 8)` -/
def crcUpdate (table : List W32) (crc : W32) (b : UInt8) : W32 :=
  table.getD ((crc ^^^ BitVec.ofNat 32 b.toNat) &&& 0xFF#32).toNat 0#32 ^^^ (crc >>> 8)

def verifyCRC32C (data : Bytes) (expected : Nat) : Bool :=
  let table := makeCRC32CTable
  let crc := data.foldl (crcUpdate table) 0xFFFFFFFF#32
  (crc ^^^ 0xFFFFFFFF#32).toNat == expected

/-! ### text helpers (fmt.Sprintf) -/

def upperHexDigit (n : Nat) : Char := if n < 10 then Char.ofNat (48 + n) else Char.ofNat (55 + n)

def hexDigitsAux : Nat → Nat → List Char → List Char
  | 0, _, acc => acc
  | fuel+1, v, acc =>
    let acc := upperHexDigit (v % 16) :: acc
    if v / 16 = 0 then acc else hexDigitsAux fuel (v / 16) acc

/-- `%X` of an unsigned value below 2^64 -/
def fmtX (v : Nat) : String := String.ofList (hexDigitsAux 16 v [])

/-- `%08X` -/
def fmt08X (v : Nat) : String :=
  let ds := hexDigitsAux 16 v []
  String.ofList (List.replicate (8 - ds.length) '0' ++ ds)

/-- Go: formatLSN (named ctlFormatLSN here: the name Model.formatLSN is used by another area's model).
`high := uint32(lsn >> 32); low := uint32(lsn & 0xFFFFFFFF); Sprintf("%X/%X", high, low)` -/
def ctlFormatLSN (lsn : Nat) : String :=
  fmtX ((lsn >>> 32) % 2 ^ 32) ++ "/" ++ fmtX ((lsn &&& 0xFFFFFFFF) % 2 ^ 32)

/-- formatWALFilename (repaired): segments per xlogid = 2^32 / segSize; the two quotients are cast to uint32.
`segSize` is never 0 at the call site (a stored 0 was replaced by the 16 MiB default). -/
def formatWALFilename (lsn timeline segSize : Nat) : M String :=
  if segSize = 0 then throw .divZero
  else
    let perID := 0x100000000 / segSize
    let segNo := lsn / segSize
    if perID = 0 then throw .divZero
    else pure (fmt08X timeline ++ fmt08X ((segNo / perID) % 2 ^ 32) ++ fmt08X ((segNo % perID) % 2 ^ 32))

/-- DBState.String (the receiver is an int32) -/
def dbStateString (s : Int) : String :=
  if s = 0 then "starting up"
  else if s = 1 then "shut down"
  else if s = 2 then "shut down in recovery"
  else if s = 3 then "shutting down"
  else if s = 4 then "in crash recovery"
  else if s = 5 then "in archive recovery"
  else if s = 6 then "in production"
  else "unknown (" ++ toString s ++ ")"

def walLevelNames : List String := ["minimal", "replica", "logical"]

/-- `if walLevel >= 0 && walLevel < len(walLevelNames) { cf.WALLevel = walLevelNames[walLevel] }` (else "");
`walLevel` is `int(uint32)`, never negative -/
def walLevelName (n : Nat) : String := if n < walLevelNames.length then walLevelNames.getD n "" else ""

/-- inferPGVersion (with fixes/control/22: `switch catalogVersion { case 202406281: return 17 … case 201909212:
return 12 }` first — the catalog version of a released major decides, whatever the control version — then
`switch { case controlVersion >= 1201: return 0 …}`: any other catalog version under a control version of 12 or later
is unknown (0); older control versions are told by the control version) -/
def inferPGVersion (controlVersion catalogVersion : Nat) : Nat :=
  if catalogVersion = 202406281 then 17
  else if catalogVersion = 202307071 then 16
  else if catalogVersion = 202209061 then 15
  else if catalogVersion = 202107181 then 14
  else if catalogVersion = 202007201 then 13
  else if catalogVersion = 201909212 then 12
  else if controlVersion ≥ 1201 then 0
  else if controlVersion ≥ 1100 then 11
  else if controlVersion ≥ 1002 then 10
  else if controlVersion ≥ 960 then 9
  else 9

/-! ### ParseControlFile -/

structure ControlFile where
  pgControlVersion : Nat
  catalogVersionNo : Nat
  systemIdentifier : Nat
  state : Int
  stateString : String
  checkpointLSN : String
  redoLSN : String
  redoWALFile : String
  timeLineID : Nat
  prevTimeLineID : Nat
  fullPageWrites : Bool
  nextXIDEpoch : Nat
  nextXID : Nat
  nextOID : Nat
  nextMulti : Nat
  nextMultiOffset : Nat
  oldestXID : Nat
  oldestXIDDB : Nat
  oldestActiveXID : Nat
  oldestMulti : Nat
  oldestMultiDB : Nat
  oldestCommitTsXID : Nat
  newestCommitTsXID : Nat
  checkpointTime : Int
  walLevel : String
  walLogHints : Bool
  maxConnections : Int
  maxWorkerProcesses : Int
  maxWALSenders : Int
  maxPreparedXacts : Int
  maxLocksPerXact : Int
  trackCommitTS : Bool
  maxAlign : Nat
  blockSize : Nat
  blocksPerSeg : Nat
  walBlockSize : Nat
  walSegmentSize : Nat
  nameDataLen : Nat
  indexMaxKeys : Nat
  toastMaxChunk : Nat
  largeObjectChunk : Nat
  floatFormatOK : Bool
  dataChecksumsEnabled : Bool
  crc : Nat
  crcValid : Bool
  pgVersionMajor : Nat
deriving Repr, DecidableEq, Inhabited

/-- `floatVal == 1234567.0` on `math.Float64frombits(bits)`: exactly one bit pattern compares equal -/
def floatIs1234567 (bits : Nat) : Bool := bits == 0x4132D68700000000

/-- ParseControlFile; `none` = the error return -/
def parseControlFile (data : Bytes) : M (Option ControlFile) := do
  if data.length < 296 then return none
  let systemIdentifier ← uN 8 data 0
  let pgControlVersion ← uN 4 data 8
  let catalogVersionNo ← uN 4 data 12
  let pgVersionMajor := inferPGVersion pgControlVersion catalogVersionNo
  let state := toSigned 32 (← uN 4 data 16)
  let stateString := dbStateString state
  let checkpointLSN ← uN 8 data 32
  let redoLSN ← uN 8 data 40
  let timeLineID ← uN 4 data 48
  let prevTimeLineID ← uN 4 data 52
  let fullPageWrites := (← uN 1 data 56) != 0
  let nextXID ← uN 4 data 64
  let nextXIDEpoch ← uN 4 data 68
  let nextOID ← uN 4 data 72
  let nextMulti ← uN 4 data 76
  let nextMultiOffset ← uN 4 data 80
  let oldestXID ← uN 4 data 84
  let oldestXIDDB ← uN 4 data 88
  let oldestMulti ← uN 4 data 92
  let oldestMultiDB ← uN 4 data 96
  let cpTime := toSigned 64 (← uN 8 data 104)
  let oldestCommitTsXID ← uN 4 data 112
  let newestCommitTsXID ← uN 4 data 116
  let oldestActiveXID ← uN 4 data 120
  -- settings: constant offsets (PostgreSQL 12–16)
  let walLevelN ← uN 4 data 172
  let walLevel := walLevelName walLevelN
  let walLogHints := (← uN 1 data 176) != 0
  let maxConnections := toSigned 32 (← uN 4 data 180)
  let maxWorkerProcesses := toSigned 32 (← uN 4 data 184)
  let maxWALSenders := toSigned 32 (← uN 4 data 188)
  let maxPreparedXacts := toSigned 32 (← uN 4 data 192)
  let maxLocksPerXact := toSigned 32 (← uN 4 data 196)
  let trackCommitTS := (← uN 1 data 200) != 0
  -- storage parameters: constant offsets
  let maxAlign ← uN 4 data 204
  let floatFormatOK := floatIs1234567 (← uN 8 data 208)
  let blockSize ← uN 4 data 216
  let blocksPerSeg ← uN 4 data 220
  let walBlockSize ← uN 4 data 224
  let walSegmentSize ← uN 4 data 228
  let nameDataLen ← uN 4 data 232
  let indexMaxKeys ← uN 4 data 236
  let toastMaxChunk ← uN 4 data 240
  let largeObjectChunk ← uN 4 data 244
  let dataChecksumsEnabled := (← uN 4 data 252) != 0
  let blockSize := if blockSize = 0 then 8192 else blockSize
  let walBlockSize := if walBlockSize = 0 then 8192 else walBlockSize
  let walSegmentSize := if walSegmentSize = 0 then 16 * 1024 * 1024 else walSegmentSize
  let redoWALFile ← formatWALFilename redoLSN timeLineID walSegmentSize
  -- `if len(data) > crcOffset+4`
  let (crc, crcValid) ← (if data.length > 292 then do
      let crc ← uN 4 data 288
      let body ← sliceTo data 288
      pure (crc, verifyCRC32C body crc)
    else pure (0, false) : M (Nat × Bool))
  return some
    { pgControlVersion, catalogVersionNo, systemIdentifier, state, stateString,
      checkpointLSN := ctlFormatLSN checkpointLSN, redoLSN := ctlFormatLSN redoLSN, redoWALFile,
      timeLineID, prevTimeLineID, fullPageWrites, nextXIDEpoch, nextXID, nextOID, nextMulti, nextMultiOffset,
      oldestXID, oldestXIDDB, oldestActiveXID, oldestMulti, oldestMultiDB, oldestCommitTsXID, newestCommitTsXID,
      checkpointTime := cpTime, walLevel, walLogHints, maxConnections, maxWorkerProcesses, maxWALSenders,
      maxPreparedXacts, maxLocksPerXact, trackCommitTS, maxAlign, blockSize, blocksPerSeg, walBlockSize,
      walSegmentSize, nameDataLen, indexMaxKeys, toastMaxChunk, largeObjectChunk, floatFormatOK,
      dataChecksumsEnabled, crc, crcValid, pgVersionMajor }

/-- ReadControlFile: `readRegularFile(dataDir/global/pg_control)` (fixes/entry/02: os.Stat + IsRegular + os.ReadFile — on a
regular file the content os.ReadFile returns, on anything else an error like a missing file) as a file-system parameter; a read error
and a parse error are both the error return -/
def readControlFile (fs : String → Option Bytes) (dataDir : String) : M (Option ControlFile) :=
  match fs (dataDir ++ "/global/pg_control") with
  | none => pure none
  | some data => parseControlFile data

end PgVerif.Model
