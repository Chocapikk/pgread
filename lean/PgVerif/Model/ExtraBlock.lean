/-
  blockrange.go:FormatBinaryDump (area `block`; row E9 of /verif/C10_COVERAGE.md).
  Its body is `return hex.Dump(data)`; `encoding/hex.Dump` is modelled from its documented output format by
  `CliRender.hexDump` (offset in 8 hex digits, two spaces, sixteen `xx ` cells with an extra space after the 8th and
  the 16th, the bytes between `|` with non-printable ones as `.`, one line per 16 bytes, nothing for empty input).
  A pure function: no index, slice or division that can fault.  Core Lean only.
-/
import PgVerif.Model.CliRender
namespace PgVerif.Model.Extra
open PgVerif PgVerif.Model

/-- blockrange.go:FormatBinaryDump -/
def formatBinaryDump (data : Bytes) : Bytes := CliRender.hexDump data

end PgVerif.Model.Extra
