/-
  Topic E9 — the exported functions of area `cluster` that /verif/C10_COVERAGE.md listed as "not modelled":

    detect.go   ListDatabases, DetectDataDir, DetectAllDataDirs (isValidDataDir / getDataDirCandidates / expandPath
                are parameters: they only call os.Stat / os.Getenv / filepath.Abs)
    pgdump.go   DumpAll
    remote.go   Credentials, Control, Summary, SummaryResult.MarshalJSON (the only MarshalJSON method of package pgdump)
    deleted.go  ScanAllDeletedRows;  passwords.go  ExtractPasswords   (one-line wrappers)

  Same conventions as Model/Cluster.lean: the file system is `fs : path ↦ Option content` relative to the data
  directory (`none` = os.ReadFile failed), `rr` = the row reader, `π` = map iteration order, a Go panic = a fault.
  Core Lean only.

  Library calls:
    * `sort.Slice(dbs, less)` in ListDatabases — modelled as Go's insertion sort (`insertionSortLessFunc`: an element
      moves left while it is `less` than its left neighbour), which is what `sort.Slice` runs for at most 12 elements;
      for longer slices pdqsort gives the same list whenever no two databases are equal under `less` (same name and
      same template-ness), otherwise the same list up to the order of such equal entries.
    * `json.Marshal(&Summary{…})` — struct fields in declaration order under their tag names with `omitempty`, a
      `map[string][]string` with its keys in byte order, strings with Go's escaping (`CliRender.goString`), no
      white space.  json.Marshal cannot fail on strings and maps of string slices, so the model returns the bytes.
    * `strings.HasPrefix` = list prefix.
-/
import PgVerif.Model.Remote
import PgVerif.Model.CliRender
namespace PgVerif.Model.Extra
open PgVerif PgVerif.Model
open PgVerif.Spec (ColumnInfo TableDump DatabaseDump DumpResult Options isPrefixB natBytes)

/-! ### detect.go: ListDatabases -/

def xcIsTemplate (n : Bytes) : Bool := isPrefixB (strBytes "template") n

/-- the `less` closure of ListDatabases: non-templates before templates, then by name (Go string `<` = byte order) -/
def listDbLess (a b : DatabaseInfo) : Bool :=
  if xcIsTemplate a.name != xcIsTemplate b.name then !xcIsTemplate a.name else bytesLt a.name b.name

/-- one step of Go's insertion sort on the already sorted prefix, held in REVERSE order (nearest neighbour first):
`for j := i; j > a && less(data[j], data[j-1]); j-- { swap }` -/
def insertLeft {α} (less : α → α → Bool) (x : α) : List α → List α
  | [] => [x]
  | p :: ps => if less x p then p :: insertLeft less x ps else x :: p :: ps

/-- `insertionSortLessFunc` -/
def goInsertionSort {α} (less : α → α → Bool) (l : List α) : List α :=
  (l.foldl (fun acc x => insertLeft less x acc) []).reverse

/-- detect.go:ListDatabases — nil (`[]`) when global/1262 cannot be read -/
def listDatabases (rr : RowReader) (fs : Bytes → Option Bytes) : M (List DatabaseInfo) :=
  match fs pathGlobal1262 with
  | none => pure []
  | some data => do
    let dbs ← parsePGDatabase rr data
    pure (goInsertionSort listDbLess dbs)

/-! ### detect.go: DetectDataDir / DetectAllDataDirs -/

/-- what the detection functions see of the machine -/
structure DetectEnv where
  /-- `os.Getenv("PGDATA")` (`[]` = unset or empty) -/
  pgdata : Bytes
  /-- `getDataDirCandidates()` -/
  candidates : List Bytes
  /-- `expandPath` (`~` expansion + filepath.Abs) -/
  expand : Bytes → Bytes
  /-- `isValidDataDir`: `<path>/global/1262` is a regular file with size > 0 -/
  valid : Bytes → Bool

/-- getLinuxPaths(): the candidate list on Linux (the Docker default repeats the first entry) -/
def linuxCandidates : List Bytes :=
  let vs := [17, 16, 15, 14, 13, 12, 11, 10]
  ([strBytes "/var/lib/postgresql/data", strBytes "/var/lib/pgsql/data", strBytes "/var/lib/postgresql/data"] ++
   vs.map (fun v => strBytes "/var/lib/postgresql/" ++ natBytes v ++ strBytes "/main") ++
   vs.map (fun v => strBytes "/var/lib/pgsql/" ++ natBytes v ++ strBytes "/data") ++
   [strBytes "/opt/postgresql/data", strBytes "/data/postgresql", strBytes "/pgdata"])

/-- detect.go:DetectDataDir (`[]` = "") -/
def detectDataDir (e : DetectEnv) : Bytes :=
  if e.pgdata ≠ [] ∧ e.valid e.pgdata = true then e.pgdata
  else match e.candidates.find? e.valid with
    | some p => p
    | none => []

/-- the candidate loop of DetectAllDataDirs: `seen` and `results` grow together -/
def detectLoop (e : DetectEnv) : List Bytes → List Bytes → List Bytes
  | _, [] => []
  | seen, path :: rest =>
    let resolved := e.expand path
    if seen.contains resolved then detectLoop e seen rest
    else if e.valid resolved then resolved :: detectLoop e (resolved :: seen) rest
    else detectLoop e seen rest

/-- detect.go:DetectAllDataDirs -/
def detectAllDataDirs (e : DetectEnv) : List Bytes :=
  if e.pgdata ≠ [] ∧ e.valid e.pgdata = true then e.pgdata :: detectLoop e [e.pgdata] e.candidates
  else detectLoop e [] e.candidates

/-- `isValidDataDir` read off a family of file trees: global/1262 exists and is not empty -/
def validBy (fsAt : Bytes → Bytes → Option Bytes) (dir : Bytes) : Bool :=
  match fsAt dir pathGlobal1262 with
  | some d => d.length > 0
  | none => false

/-! ### pgdump.go: DumpAll -/

/-- the loop body of DumpAll: `if result, err := DumpDataDir(dir, opts); err == nil && result != nil` -/
def dumpAllStep (rr : RowReader) (π : MapOrder TableInfo) (fsAt : Bytes → Bytes → Option Bytes) (opts : Options)
    (dir : Bytes) : M (Option DumpResult) :=
  dumpDataDir rr π (fsAt dir) opts

/-- pgdump.go:DumpAll — `fsAt dir` is the file tree under `dir`; the result is the list of dumps (`[]` = nil; the
error result is always nil).  `opts` = the options after `withDefaults` (nil = `{ skipSystem := true }`). -/
def dumpAll (rr : RowReader) (π : MapOrder TableInfo) (e : DetectEnv) (fsAt : Bytes → Bytes → Option Bytes)
    (opts : Options) : M (List DumpResult) :=
  let dirs := detectAllDataDirs e
  if dirs.length = 0 then pure []
  else collectM (dumpAllStep rr π fsAt opts) dirs

/-! ### remote.go: Credentials, Summary, SummaryResult.MarshalJSON -/

/-- remote.go:Credentials — nil when global/1260 cannot be read -/
def rcCredentials (fs : RemoteReader) : M (List AuthInfo) :=
  match fs (strBytes "global/1260") with
  | some data => parsePGAuthID data
  | none => pure []

/-- remote.go:SummaryResult (`tables` is a Go map dbOID ↦ Tables(dbOID)) -/
structure SummaryResult where
  version : Bytes
  creds : List AuthInfo
  dbs : List DatabaseInfo
  tables : List (Nat × List TableInfo)
deriving Inhabited

/-- the loop of Summary(): `if !HasPrefix(db.Name, "template") { s.tables[db.OID] = c.Tables(db.OID) }` -/
def rcSummaryTables (rr : RowReader) (π : MapOrder TableInfo) (fs : RemoteReader) :
    List DatabaseInfo → List (Nat × List TableInfo) → Cache → M (List (Nat × List TableInfo) × Cache)
  | [], m, c => pure (m, c)
  | db :: rest, m, c =>
    if xcIsTemplate db.name then rcSummaryTables rr π fs rest m c
    else do
      let (ts, c) ← rcTables rr π fs db.oid c
      rcSummaryTables rr π fs rest (mapPut m db.oid ts) c

/-- remote.go:Summary -/
def rcSummary (rr : RowReader) (π : MapOrder TableInfo) (fs : RemoteReader) (c : Cache) : M (SummaryResult × Cache) := do
  let version := rcVersion fs
  let creds ← rcCredentials fs
  let (dbs, c) ← rcDatabases rr fs c
  let (tables, c) ← rcSummaryTables rr π fs dbs [] c
  pure ({ version, creds, dbs, tables }, c)

/-- `summary.Credentials = append(…, cr.RoleName+":"+cr.Password)` for the roles with a password -/
def summaryCredentials (creds : List AuthInfo) : List Bytes :=
  (creds.filter fun cr => cr.password != []).map fun cr => cr.roleName ++ [58] ++ cr.password

/-- `m[k] = append(m[k], v)` on a `map[string][]string` (association list in first-insertion order) -/
def strMapAppend (m : List (Bytes × List Bytes)) (k v : Bytes) : List (Bytes × List Bytes) :=
  match m with
  | [] => [(k, [v])]
  | (k', vs) :: rest => if k' == k then (k, vs ++ [v]) :: rest else (k', vs) :: strMapAppend rest k v

def summaryKeep (t : TableInfo) : Bool :=
  !isPrefixB (strBytes "pg_") t.name && !isPrefixB (strBytes "sql_") t.name && t.kind == [114]

/-- the `Databases` map MarshalJSON builds: database name ↦ the names of its ordinary tables that are neither pg_* nor
sql_* (two databases of one name share the key; a database without such a table gets no key) -/
def summaryDatabasesMap (s : SummaryResult) : List (Bytes × List Bytes) :=
  s.dbs.foldl (fun m db =>
    if xcIsTemplate db.name then m
    else (((mapGet s.tables db.oid).getD []).filter summaryKeep).foldl (fun m t => strMapAppend m db.name t.name) m) []

def jsonStrArray (l : List Bytes) : Bytes := [91] ++ Txt.joinBytes [44] (l.map CliRender.goString) ++ [93]

def jsonStrMap (m : List (Bytes × List Bytes)) : Bytes :=
  let sorted := CliRender.sortBy (fun a b => bytesLe a.1 b.1) m
  [123] ++ Txt.joinBytes [44] (sorted.map fun kv => CliRender.goString kv.1 ++ [58] ++ jsonStrArray kv.2) ++ [125]

/-- remote.go:SummaryResult.MarshalJSON — `json.Marshal(&Summary{Version, Credentials, Databases})`, every field
`omitempty` -/
def summaryMarshalJSON (s : SummaryResult) : Bytes :=
  let creds := summaryCredentials s.creds
  let dbs := summaryDatabasesMap s
  let fields : List Bytes :=
    (if s.version = [] then [] else [Txt.asc "\"version\":" ++ CliRender.goString s.version]) ++
    (if creds = [] then [] else [Txt.asc "\"credentials\":" ++ jsonStrArray creds]) ++
    (if dbs = [] then [] else [Txt.asc "\"databases\":" ++ jsonStrMap dbs])
  [123] ++ Txt.joinBytes [44] fields ++ [125]

/-! ### thin wrappers that C10_COVERAGE.md listed as "not modelled separately" -/

-- ScanAllDeletedRows: see Model/DeletedScan.lean (the tree after fix rows/07).

/-- passwords.go:ExtractPasswords — readRegularFile(global/1260), error passed through (`none`), else ParsePGAuthID -/
def extractPasswords (fs : Bytes → Option Bytes) : M (Option (List AuthInfo)) :=
  match fs (strBytes "global/1260") with
  | none => pure none
  | some data => do pure (some (← parsePGAuthID data))

/-- remote.go:Control — nil when global/pg_control cannot be read or ParseControlFile reports its error -/
def rcControl (fs : RemoteReader) : M (Option ControlFile) :=
  match fs (strBytes "global/pg_control") with
  | some data => parseControlFile data
  | none => pure none

end PgVerif.Model.Extra
