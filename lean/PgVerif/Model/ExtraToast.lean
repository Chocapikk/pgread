/-
  Topic E9 — toast.go:AnalyzeTOAST (area `toast`), which /verif/C10_COVERAGE.md listed as "not modelled".

  The code AS IT IS: it finds the database oid in global/1262 (ParsePGDatabase), walks the VISIBLE tuples of
  base/<oid>/1259 (ReadTuples, no schema) and reads a `uint32` at tuple-data offset 48 as "reltoastrelid".  In every
  supported pg_class layout that offset lies inside `relname` (oid at 0..3, relname at 4..67; reltoastrelid is at offset
  108 on PostgreSQL ≥ 12), so the number read is bytes 44..47 of the relation NAME.  The model reproduces this; the
  observation is recorded in Props/C08Extra.lean (`C08_analyzeTOAST_reads_relname`).  No property quantifies over
  AnalyzeTOAST.

  File system `fs`, row reader `rr` as in Model/Cluster.lean.  `map[uint32]bool` = the list of distinct keys.
  Core Lean only.
-/
import PgVerif.Model.Toast
import PgVerif.Model.Cluster
namespace PgVerif.Model.Extra
open PgVerif PgVerif.Model

/-- toast.go:TOASTInfo as AnalyzeTOAST fills it (the other fields stay zero) -/
structure TOASTInfo where
  toastRelID : Nat
  totalChunks : Nat
  uniqueValues : Nat
  totalSize : Nat
deriving Repr, DecidableEq, Inhabited

/-- `uniqueValues[c.ChunkID] = true` -/
def idSetInsert (seen : List Nat) (k : Nat) : List Nat := if seen.contains k then seen else seen ++ [k]

/-- the tallies of one TOAST relation: chunk count, distinct chunk ids, total payload bytes -/
def toastTally (toastRelID : Nat) (chunks : List Toast.Chunk) : TOASTInfo :=
  { toastRelID, totalChunks := chunks.length,
    uniqueValues := (chunks.foldl (fun seen c => idSetInsert seen c.id) []).length,
    totalSize := (chunks.map (·.data.length)).sum }

/-- the body of AnalyzeTOAST's loop over the pg_class tuples (`none` = `continue`) -/
def analyzeEntry (fs : Bytes → Option Bytes) (dbOID : Nat) (e : TupleEntry) : M (Option TOASTInfo) :=
  if e.tuple.data.length < 60 then pure none
  else do
    let toastRelID ← uN 4 e.tuple.data 48                    -- u32(tuple.Data, 48)
    if toastRelID = 0 then pure none
    else match fs (basePath dbOID toastRelID) with
      | none => pure none                                     -- os.ReadFile failed
      | some toastData => do
        let chunks ← Toast.readTOASTTable toastData
        if chunks.length = 0 then pure none
        else pure (some (toastTally toastRelID chunks))

/-- the first loop: `for _, db := range ParsePGDatabase(dbData) { if db.Name == dbName { dbOID = db.OID; break } }` -/
def findDbOID (dbs : List DatabaseInfo) (dbName : Bytes) : Nat :=
  match dbs.find? (fun db => db.name == dbName) with
  | some db => db.oid
  | none => 0

/-- toast.go:AnalyzeTOAST.  `none` = an error return (global/1262 unreadable, database not found, pg_class unreadable). -/
def analyzeTOAST (rr : RowReader) (fs : Bytes → Option Bytes) (dbName : Bytes) : M (Option (List TOASTInfo)) :=
  match fs pathGlobal1262 with
  | none => pure none
  | some dbData => do
    let dbs ← parsePGDatabase rr dbData
    let dbOID := findDbOID dbs dbName
    if dbOID = 0 then pure none
    else match fs (basePath dbOID 1259) with
      | none => pure none
      | some classData => do
        let es ← readTuples classData true
        let r ← collectM (analyzeEntry fs dbOID) es
        pure (some r)

end PgVerif.Model.Extra
