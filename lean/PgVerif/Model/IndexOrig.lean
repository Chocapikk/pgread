/-
  FROZEN: the control flow, guards, offsets and constants of pgdump/index.go as it was at commit 48a415a, before the
  fixes of /verif/fixes/index (kept so that the defects A36, A56, A57, A58, A59 and IDX1 stay reproducible in Lean: see
  Proofs/IndexDefects.lean).  NOT frozen: `typeString` and `flagTable` read Generated/Index.lean, the tables of the
  current source, so `flagStrings` prints the names that fixes/index/08 added; no theorem about this model looks at them.
  The live model is Model/Index.lean.

  Model of pgdump/index.go: ParseIndexFile, detectIndexType, parseIndexPage, the per-method special-space
  parsers, parseBTreeMeta / parseHashMeta / parseGINMeta, IndexType.String.
  One Lean function per Go function, same guards, same order of evaluation; every slice expression and index
  goes through the fault-aware primitives of Basic/Bytes (a Go panic = `.error fault`).

  Conventions
  * `IndexType` is the Go enum as a number: 0 unknown, 1 btree, 2 hash, 3 gist, 4 gin, 5 spgist, 6 brin.
  * `binary.LittleEndian.UintN(s[a:a+n])` is `uN n s a`: it faults exactly when `a+n > len s` (the model checks
    re-slicing against the length, Go against the capacity — see Basic/Bytes) and reads the same bytes.
  * `IndexType.String` and the flag-name lists are *generated tables* (Generated/Index.lean, obtained by executing
    the code); the rule "one name per set bit, in a fixed order" is checked by the table generator and the families.
  * `fmt.Sprintf("%X/%X", hi, lo)`: `fmtX` below is the documented behaviour of `%X` on unsigned integers.
-/
import PgVerif.Basic.Bytes
import PgVerif.Generated.Index
namespace PgVerif.Model.IndexOrig
open PgVerif

/-- IndexType.String -/
def typeString (t : Nat) : String :=
  match Generated.Index.typeNames.lookup t with
  | some s => s
  | none => Generated.Index.typeNameDefault

def flagTable (t : Nat) : List (Nat × String) := (Generated.Index.flagNames.lookup t).getD []

/-- the sequence of `if info.Flags&X != 0 { info.FlagStrings = append(info.FlagStrings, "X") }` statements -/
def flagStrings (t flags : Nat) : List String :=
  ((flagTable t).filter fun e => flags &&& e.1 != 0).map (·.2)

def hexDigitU (n : Nat) : Char := if n < 10 then Char.ofNat (48 + n) else Char.ofNat (55 + n)

def fmtXFuel : Nat → Nat → List Char → List Char
  | 0, _, acc => acc
  | fuel+1, n, acc => if n < 16 then hexDigitU n :: acc else fmtXFuel fuel (n / 16) (hexDigitU (n % 16) :: acc)

/-- `%X` of an unsigned integer below 2^256 -/
def fmtX (n : Nat) : String := String.ofList (fmtXFuel 64 n [])

/-- wal.go:FormatLSN — `fmt.Sprintf("%X/%X", lsn>>32, lsn&0xFFFFFFFF)` -/
def formatLSN (lsn : Nat) : String := fmtX (lsn >>> 32) ++ "/" ++ fmtX (lsn &&& 0xFFFFFFFF)

structure PageInfo where
  pageNumber : Nat
  indexType : Nat
  typeString : String
  isMeta : Bool := false
  isLeaf : Bool := false
  isRoot : Bool := false
  isDeleted : Bool := false
  flags : Nat := 0
  flagStrings : List String := []
  level : Nat := 0
  prevBlock : Nat := 0
  nextBlock : Nat := 0
  rightLink : Nat := 0
  itemCount : Int := 0
  freeSpace : Int := 0
  lsn : Nat := 0
  lsnStr : String := ""
deriving Repr, DecidableEq

inductive MetaInfo where
  | btree (magic version root level fastRoot fastLevel : Nat)
  | hash (magic version numBuckets maxBucket highMask lowMask ffactor ntuples : Nat)   -- ntuples: IEEE bits of NumTuples
  | gin (version head tail tailFreeSize nPendingPages nPendingHeapTuples nTotalPages nEntryPages nDataPages nEntries : Nat)
deriving Repr, DecidableEq

structure IndexInfo where
  type : Nat
  typeString : String
  totalPages : Nat
  metaInfo : Option MetaInfo
  levels : Nat
  rootPage : Nat
  pages : List PageInfo
deriving Repr, DecidableEq

/-! ### detectIndexType -/

def BTMaxCycleID : Nat := 0xFF00

/-- the GIN test at the end of detectIndexType -/
def detectGIN (specialSize : Nat) (specialData : Bytes) : M Nat :=
  if specialSize ≥ 8 then do
    let flags ← uN 2 specialData 6
    if flags &&& 8 != 0 || flags &&& 1 != 0 || flags &&& 16 != 0 then pure 4 else pure 0
  else pure 0

/-- the B-tree test (cycle id range, meta magic when the META flag is set), falling through to the GIN test -/
def detectBTree (page : Bytes) (specialSize : Nat) (specialData : Bytes) : M Nat :=
  if specialSize ≥ 16 then do
    let cycleID ← uN 2 specialData 14
    let flags ← uN 2 specialData 12
    if cycleID ≤ BTMaxCycleID then
      if flags &&& 8 != 0 then do
        let magic ← uN 4 page 24
        if magic = 0x053162 then pure 1 else detectGIN specialSize specialData
      else pure 1
    else detectGIN specialSize specialData
  else detectGIN specialSize specialData

def detectIndexType (page : Bytes) : M Nat :=
  if page.length < 8192 then pure 0
  else do
    let special ← uN 2 page 16
    if special = 0 ∨ special ≥ 8192 then pure 0
    else do
      let specialSize := 8192 - special
      let specialData ← sliceFrom page special
      if specialSize ≥ 2 then do
        let pageID ← uN 2 page 8190
        if pageID = 0xFF80 then pure 2
        else if pageID = 0xFF81 then pure 3
        else if pageID = 0xFF82 then pure 5
        else detectBTree page specialSize specialData
      else detectBTree page specialSize specialData

/-! ### per-method special-space parsers -/

def parseBTreePageSpecial (info : PageInfo) (special : Bytes) : M PageInfo :=
  if special.length < 16 then pure info
  else do
    let prev ← uN 4 special 0
    let next ← uN 4 special 4
    let level ← uN 4 special 8
    let flags ← uN 2 special 12
    pure { info with prevBlock := prev, nextBlock := next, level := level, flags := flags,
                     isLeaf := flags &&& 1 != 0, isRoot := flags &&& 2 != 0, isMeta := flags &&& 8 != 0,
                     isDeleted := flags &&& 4 != 0, flagStrings := info.flagStrings ++ flagStrings 1 flags }

def parseHashPageSpecial (info : PageInfo) (special : Bytes) : M PageInfo :=
  if special.length < 12 then pure info
  else do
    let prev ← uN 4 special 0
    let next ← uN 4 special 4
    let bucket ← uN 4 special 8
    let flags ← uN 2 special 12
    pure { info with prevBlock := prev, nextBlock := next, flags := flags, isMeta := flags &&& 8 != 0,
                     level := if flags &&& 2 != 0 then bucket else info.level,
                     flagStrings := info.flagStrings ++ flagStrings 2 flags }

def parseGiSTPageSpecial (info : PageInfo) (special : Bytes) : M PageInfo :=
  if special.length < 16 then pure info
  else do
    let right ← uN 4 special 8
    let flags ← uN 2 special 12
    pure { info with rightLink := right, flags := flags, isLeaf := flags &&& 1 != 0, isDeleted := flags &&& 2 != 0,
                     flagStrings := info.flagStrings ++ flagStrings 3 flags }

def parseGINPageSpecial (info : PageInfo) (special : Bytes) : M PageInfo :=
  if special.length < 8 then pure info
  else do
    let right ← uN 4 special 0
    let maxOff ← uN 2 special 4
    let flags ← uN 2 special 6
    pure { info with rightLink := right, flags := flags, itemCount := (maxOff : Int), isLeaf := flags &&& 2 != 0,
                     isMeta := flags &&& 8 != 0, isDeleted := flags &&& 4 != 0,
                     flagStrings := info.flagStrings ++ flagStrings 4 flags }

def parseSPGiSTPageSpecial (info : PageInfo) (special : Bytes) : M PageInfo :=
  if special.length < 6 then pure info
  else do
    let flags ← uN 2 special 0
    pure { info with flags := flags, isLeaf := flags &&& 4 != 0, isMeta := flags &&& 1 != 0, isDeleted := flags &&& 2 != 0,
                     flagStrings := info.flagStrings ++ flagStrings 5 flags }

/-! ### parseIndexPage -/

def parseIndexPage (page : Bytes) (pageNum : Nat) (t : Nat) : M PageInfo :=
  let info0 : PageInfo := { pageNumber := pageNum, indexType := t, typeString := typeString t }
  if page.length < 8192 then pure info0
  else do
    let lsn ← uN 8 page 0
    let lower ← uN 2 page 12
    let upper ← uN 2 page 14
    let special ← uN 2 page 16
    let info : PageInfo :=
      { info0 with lsn := lsn, lsnStr := formatLSN lsn, freeSpace := (upper : Int) - (lower : Int),
                   itemCount := Int.tdiv ((lower : Int) - 24) 4 }
    if special < 8192 then do
      let specialData ← sliceFrom page special
      match t with
      | 1 => parseBTreePageSpecial info specialData
      | 2 => parseHashPageSpecial info specialData
      | 3 => parseGiSTPageSpecial info specialData
      | 4 => parseGINPageSpecial info specialData
      | 5 => parseSPGiSTPageSpecial info specialData
      | _ => pure info
    else pure info

/-! ### metapages -/

def parseBTreeMeta (page : Bytes) : M (Option MetaInfo) :=
  if page.length < 8192 then pure none
  else do
    let special ← uN 2 page 16
    if special ≥ 8192 then pure none
    else do
      let flags ← uN 2 page (special + 12)
      if flags &&& 8 == 0 then pure none
      else do
        let data ← sliceFrom page 24
        let magic ← uN 4 data 0
        if magic != 0x053162 then pure none
        else do
          let version ← uN 4 data 4
          let root ← uN 4 data 8
          let level ← uN 4 data 12
          let fastRoot ← uN 4 data 16
          let fastLevel ← uN 4 data 20
          pure (some (.btree magic version root level fastRoot fastLevel))

def parseHashMeta (page : Bytes) : M (Option MetaInfo) :=
  if page.length < 8192 then pure none
  else do
    let special ← uN 2 page 16
    if special ≥ 8192 then pure none
    else do
      let flags ← uN 2 page (special + 12)
      if flags &&& 8 == 0 then pure none
      else do
        let data ← sliceFrom page 24
        let magic ← uN 4 data 0
        let version ← uN 4 data 4
        let numBuckets ← uN 4 data 16
        let maxBucket ← uN 4 data 8
        let highMask ← uN 4 data 12
        let lowMask ← uN 4 data 20
        let ffactor ← uN 2 data 24
        pure (some (.hash magic version numBuckets maxBucket highMask lowMask ffactor 0))

def parseGINMeta (page : Bytes) : M (Option MetaInfo) :=
  if page.length < 8192 then pure none
  else do
    let special ← uN 2 page 16
    if special ≥ 8192 then pure none
    else do
      let specialData ← sliceFrom page special
      if specialData.length < 8 then pure none
      else do
        let flags ← uN 2 specialData 6
        if flags &&& 8 == 0 then pure none
        else do
          let data ← sliceFrom page 24
          let version ← uN 4 data 0
          let head ← uN 4 data 4
          let tail ← uN 4 data 8
          let tailFree ← uN 4 data 12
          let nPendingPages ← uN 4 data 16
          let nPendingHeapTuples ← uN 8 data 24
          let nTotalPages ← uN 4 data 32
          let nEntryPages ← uN 4 data 36
          let nDataPages ← uN 4 data 40
          let nEntries ← uN 8 data 48
          pure (some (.gin version head tail tailFree nPendingPages nPendingHeapTuples nTotalPages nEntryPages nDataPages nEntries))

/-! ### ParseIndexFile -/

/-- `for i := 0; i < info.TotalPages; i++ { page := data[i*PageSize : i*PageSize+PageSize]; … }`:
`n` pages still to do, `i` the current page number -/
def parsePages (data : Bytes) (t : Nat) : Nat → Nat → M (List PageInfo)
  | 0, _ => pure []
  | n+1, i => do
    let page ← slice data (i * 8192) (i * 8192 + 8192)
    let pi ← parseIndexPage page (i % 2 ^ 32) t
    let rest ← parsePages data t n (i + 1)
    pure (pi :: rest)

/-- the `switch info.Type` that fills Meta / RootPage / Levels -/
def parseMeta (t : Nat) (page0 : Bytes) : M (Option MetaInfo) :=
  match t with
  | 1 => parseBTreeMeta page0
  | 2 => parseHashMeta page0
  | 4 => parseGINMeta page0
  | _ => pure none

def metaRoot : Option MetaInfo → Nat
  | some (.btree _ _ root _ _ _) => root
  | _ => 0

def metaLevels : Option MetaInfo → Nat
  | some (.btree _ _ _ level _ _) => level
  | _ => 0

/-- `none` = the error return ("index file too small") -/
def parseIndexFile (data : Bytes) : M (Option IndexInfo) :=
  if data.length < 8192 then pure none
  else do
    let total := data.length / 8192
    let page0 ← slice data 0 8192
    let t ← detectIndexType page0
    let m ← parseMeta t page0
    let pages ← parsePages data t total 0
    pure (some { type := t, typeString := typeString t, totalPages := total, metaInfo := m,
                 levels := metaLevels m, rootPage := metaRoot m, pages := pages })

end PgVerif.Model.IndexOrig
