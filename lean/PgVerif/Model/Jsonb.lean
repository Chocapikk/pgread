/-
  Model of pgdump/jsonb.go (ParseJSONB, parseJSONBObject, parseJSONBArray, totalLen,
  entryOffLen, endOffset, decodeJEntry) and of the OidNumeric / OidJSONB branches of
  types.go:decodeScalar, as repaired by fixes/numjson/04..08 and 10.

  Fix 10: no constant cap on the number of children (the count is bounded by the input: the JEntry
  words must lie inside the data), and the end offsets of all entries are computed in ONE forward
  pass (`endsFrom`), which is also fix 08's monotonicity check.  The loops walk the slices
  `entries[i:]` / `ends[i:]` as lists (an exhausted list = Go's index-out-of-range panic), so the
  model itself is linear in the number of entries.  `endOffset` / `entryOffLen` / `totalLen` are
  still in the source (the repository's tests call them) but ParseJSONB no longer does;
  Proofs/JsonbOffsets.lean shows that `endOffset` / `entryOffLen` compute the same offsets (no lemma speaks of `totalLen`).

  The mutual recursion ParseJSONB → decodeJEntry → ParseJSONB is by fuel; `parseJSONB` supplies
  `len(data) + 1`, which is enough because a child slice starts at or after `dataStart ≥ 8`
  (Proofs/Jsonb.lean: the result does not depend on surplus fuel, and the budget fault is unreachable).
  Go maps are association lists with Go's overwrite-on-equal-key semantics.
-/
import PgVerif.Model.Numeric
namespace PgVerif.Model
open PgVerif

/-- a decoded JSON value as a Go `interface{}`: nil, bool, number (see `NumRes`), string,
`[]interface{}`, `map[string]interface{}` -/
inductive JV where
  | nil
  | bool (b : Bool)
  | num (r : NumRes)          -- `.none` never occurs here (it is mapped to `nil`)
  | str (s : Bytes)
  | arr (xs : List JV)
  | obj (kvs : List (Bytes × JV))
deriving Repr, Inhabited

def JV.ofNum : NumRes → JV
  | .none => .nil
  | r => .num r

/-- Go map assignment `m[k] = v` -/
def jvInsert (m : List (Bytes × JV)) (k : Bytes) (v : JV) : List (Bytes × JV) :=
  if m.any (·.1 == k) then m.map fun kv => if kv.1 == k then (k, v) else kv else m ++ [(k, v)]

/-- binary.go:align(off, 4) = `(off + 3) &^ 3` -/
def align4 (off : Nat) : Nat := andNot (off + 3) 3

def jeHasOff (je : Nat) : Bool := je &&& 0x80000000 != 0
def jeOffLen (je : Nat) : Nat := je &&& 0x0FFFFFFF

/-! ### endOffset / entryOffLen / totalLen -/

/-- `Σ_{j=a}^{a+n-1} int(entries[j] & jeOffMask)` -/
def sumFrom (es : List Nat) (a : Nat) : Nat → Nat
  | 0 => 0
  | n+1 => jeOffLen (es.getD a 0) + sumFrom es (a+1) n

/-- the backward scan of `endOffset` for a HAS_OFF entry: `k` positions (k-1 … 0) still to look at -/
def scan (es : List Nat) (idx : Nat) : Nat → Option Nat
  | 0 => none
  | k+1 =>
    if jeHasOff (es.getD k 0) then
      some (jeOffLen (es.getD k 0) + sumFrom es (k+1) (idx - k))
    else scan es idx k

/-- jsonb.go:endOffset for `0 ≤ idx < len(entries)` -/
def endOffset (es : List Nat) (idx : Nat) : Nat :=
  match scan es idx (idx+1) with
  | some v => v
  | none => sumFrom es 0 (idx+1)

/-- jsonb.go:entryOffLen for `idx < len(entries)`: (offset, length); the length is negative when a
HAS_OFF entry stores an end offset below its start -/
def entryOffLenPure (es : List Nat) (idx base : Nat) : Nat × Int :=
  let je := es.getD idx 0
  let start := if idx > 0 then endOffset es (idx-1) else 0
  if jeHasOff je then (base + start, (jeOffLen je : Int) - start) else (base + start, jeOffLen je)

/-- jsonb.go:entryOffLen (`entries[idx]` panics when out of range) -/
def entryOffLen (es : List Nat) (idx base : Nat) : M (Nat × Int) :=
  if idx < es.length then pure (entryOffLenPure es idx base) else throw .index

/-- jsonb.go:totalLen -/
def totalLen (es : List Nat) : Nat := if es.length == 0 then 0 else endOffset es (es.length - 1)

/-! ### decodeJEntry -/

/-- Go: `data[lo:hi]`, `dlen` being `len(data)` — the same as `slice` of Basic/Bytes (Proofs/Jsonb.lean:
`sliceL_eq`), written drop-then-take so that evaluating it does not copy the `lo` bytes in front, and with
the length handed in (`len` is O(1) on a Go slice but walks the whole list in the model; the compiled
model is run on containers with tens of thousands of children) -/
def sliceL (data : Bytes) (dlen lo hi : Nat) : M Bytes :=
  if hi > dlen ∨ lo > hi then throw .slice else pure ((data.drop lo).take (hi - lo))

/-- jsonb.go:decodeJEntry with `dlen` = `len(data)` handed in; `rec` is ParseJSONB with the remaining fuel -/
def decodeJEntryN (rec : Bytes → M JV) (data : Bytes) (dlen off : Nat) (length : Int) (je : Nat) : M JV := do
  let ty := je &&& 0x70000000
  if ty == 0x00000000 then
    if length ≥ 0 ∧ off + length.toNat ≤ dlen then
      return .str (← sliceL data dlen off (off + length.toNat))
    return .nil
  else if ty == 0x10000000 then
    let aligned := align4 off
    let pad := aligned - off
    if (pad : Int) < length ∧ aligned + length.toNat - pad ≤ dlen then
      let s ← sliceL data dlen aligned (aligned + length.toNat - pad)
      return JV.ofNum (← decodeJNumeric s)
    return .nil
  else if ty == 0x50000000 then
    let aligned := align4 off
    let pad := aligned - off
    if (pad : Int) < length ∧ aligned + length.toNat - pad ≤ dlen then
      let s ← sliceL data dlen aligned (aligned + length.toNat - pad)
      rec s
    else return .nil
  else if ty == 0x40000000 then return .nil
  else if ty == 0x20000000 then return .bool false
  else if ty == 0x30000000 then return .bool true
  else return .nil

/-- jsonb.go:decodeJEntry -/
def decodeJEntry (rec : Bytes → M JV) (data : Bytes) (off : Nat) (length : Int) (je : Nat) : M JV :=
  decodeJEntryN rec data data.length off length je

/-! ### containers -/

/-- `for i := range entries { entries[i] = u32(data, 4+i*4) }`: `n` iterations left, `d` = `data[4+i*4:]`
(`u32` panics exactly when fewer than 4 bytes are left; tested as "the slice after 3 bytes is empty"
so that the test does not walk the whole remaining input) -/
def readEntries : Nat → Bytes → M (List Nat)
  | 0, _ => pure []
  | n+1, d =>
    if (d.drop 3).isEmpty then throw .index
    else do
      let rest ← readEntries n (d.drop 4)
      pure (rd 4 d :: rest)

/-- the forward pass of ParseJSONB (fix 10) over `entries[i:]`, `end_` = end offset of entry i-1:
`ends[i] = v` where HAS_OFF is set, `ends[i-1] + v` elsewhere; `none` = refuse, the monotonicity
check of fix 08 (a HAS_OFF end offset below the running end) -/
def endsFrom (end_ : Nat) : List Nat → Option (List Nat)
  | [] => some []
  | je :: rest =>
    let v := jeOffLen je
    if !jeHasOff je then (endsFrom (end_ + v) rest).map ((end_ + v) :: ·)
    else if v < end_ then none
    else (endsFrom v rest).map (v :: ·)

/-- `entries[i]` -/
def getEntry (es : List Nat) (i : Nat) : M Nat :=
  match es[i]? with
  | some e => pure e
  | none => throw .index

/-- `xs[n:]` of a `[]uint32` / `[]int` -/
def dropM (xs : List Nat) (n : Nat) : M (List Nat) :=
  if n > xs.length then throw .slice else pure (xs.drop n)

/-- jsonb.go:parseJSONBArray loop: `n` iterations left, `off` = end offset of the previous entry
(`ends[i-1]`, 0 for the first), `es` / `ends` = `entries[i:]` / `ends[i:]`; `dlen` = `len(data)` -/
def parseArrayLoop (rec : Bytes → M JV) (data : Bytes) (dlen dataStart : Nat) :
    Nat → Nat → List Nat → List Nat → M (List JV)
  | 0, _, _, _ => pure []
  | n+1, off, je :: es, e :: ends => do
    let v ← decodeJEntryN rec data dlen (dataStart + off) ((e : Int) - off) je
    let rest ← parseArrayLoop rec data dlen dataStart n e es ends
    pure (v :: rest)
  | _+1, _, _, _ => throw .index

/-- the key of a pair: `data[dataStart+kOff : dataStart+kOff+kLen]` if that lies in the data, else "" -/
def objKeyN (data : Bytes) (dlen dataStart kOff : Nat) (kLen : Int) : M Bytes :=
  if kLen ≥ 0 ∧ dataStart + kOff + kLen.toNat ≤ dlen then
    sliceL data dlen (dataStart + kOff) (dataStart + kOff + kLen.toNat)
  else pure []

def objKey (data : Bytes) (dataStart kOff : Nat) (kLen : Int) : M Bytes :=
  objKeyN data data.length dataStart kOff kLen

/-- jsonb.go:parseJSONBObject loop: pairs in iteration order (later equal keys overwrite earlier
ones when the map is built, see `buildMap`); `n` iterations left, `kOff` / `vOff` = end offsets of the
previous key / value entry, `kEnds` = `ends[i:]`, `vals` / `valEnds` = `vals[i:]` / `valEnds[i:]` -/
def parseObjectLoop (rec : Bytes → M JV) (data : Bytes) (dlen dataStart : Nat) :
    Nat → Nat → Nat → List Nat → List Nat → List Nat → M (List (Bytes × JV))
  | 0, _, _, _, _, _ => pure []
  | n+1, kOff, vOff, ke :: kEnds, je :: vals, ve :: valEnds => do
    let key ← objKeyN data dlen dataStart kOff ((ke : Int) - kOff)
    let v ← decodeJEntryN rec data dlen (dataStart + vOff) ((ve : Int) - vOff) je
    let rest ← parseObjectLoop rec data dlen dataStart n ke ve kEnds vals valEnds
    pure ((key, v) :: rest)
  | _+1, _, _, _, _, _ => throw .index

/-- jsonb.go:parseJSONBObject -/
def parseObject (rec : Bytes → M JV) (data : Bytes) (dlen : Nat) (entries ends : List Nat) (dataStart count : Nat) :
    M (List (Bytes × JV)) := do
  let vals ← dropM entries count
  let valEnds ← dropM ends count
  let vOff ← getEntry ends (count - 1)
  parseObjectLoop rec data dlen dataStart count 0 vOff ends vals valEnds

def buildMap (kvs : List (Bytes × JV)) : List (Bytes × JV) :=
  kvs.foldl (fun m kv => jvInsert m kv.1 kv.2) []

/-- the body of jsonb.go:ParseJSONB; `rec` is ParseJSONB itself (with the remaining fuel), reached
through decodeJEntry for container children -/
def parseContainer (rec : Bytes → M JV) (data : Bytes) : M JV := do
  let dlen := data.length        -- `len(data)`, computed once (see `sliceL`)
  if dlen < 4 then return .nil
  let header ← uN 4 data 0
  let count := header &&& 0x0FFFFFFF
  let isObj := header &&& 0x20000000 != 0
  let isArr := header &&& 0x40000000 != 0
  if !isObj && !isArr then return .nil
  if count == 0 then return (if isObj then .obj [] else .arr [])
  let numEntries := if isObj then count * 2 else count
  if 4 + numEntries * 4 > dlen then return .nil
  let entries ← readEntries numEntries (← sliceFrom data 4)
  let dataStart := 4 + numEntries * 4
  match endsFrom 0 entries with
  | none => return .nil
  | some ends =>
    if isObj then
      let kvs ← parseObject rec data dlen entries ends dataStart count
      return .obj (buildMap kvs)
    else
      let xs ← parseArrayLoop rec data dlen dataStart count 0 entries ends
      if header &&& 0x10000000 != 0 then
        match xs with
        | [x] => return x
        | _ => return .arr xs
      return .arr xs

/-- jsonb.go:ParseJSONB with explicit fuel for the recursion through decodeJEntry -/
def parseJSONBFuel : Nat → Bytes → M JV
  | 0, _ => throw .budget
  | fuel+1, data => parseContainer (parseJSONBFuel fuel) data

/-- jsonb.go:ParseJSONB -/
def parseJSONB (data : Bytes) : M JV := parseJSONBFuel (data.length + 1) data

/-! ### types.go: the two DecodeType branches in scope -/

/-- the result of DecodeType for these oids: a JSON value or (fallback) the raw bytes as a string.
`safeString`'s replacement of invalid UTF-8 by '.' is not modelled: the fallback is rendered as
`raw` + the bytes and compared as such only when they are valid UTF-8 (see the handler). -/
inductive DecodeRes where
  | val (v : JV)
  | raw (s : Bytes)
deriving Repr, Inhabited

/-- types.go: `case OidNumeric: return DecodeNumeric(data)` behind DecodeType's `len(data) == 0 → nil` -/
def decodeTypeNumeric (data : Bytes) : M NumRes :=
  if data.length == 0 then pure .none else decodeNumeric data

def isNil : JV → Bool
  | .nil => true
  | _ => false

/-- types.go: `case OidJSONB` (with fix 06: the 8-byte document `null`) -/
def decodeTypeJSONB (data : Bytes) : M DecodeRes := do
  if data.length == 0 then return .val .nil
  let v ← parseJSONB data
  if !isNil v then return .val v
  if data.length == 8 then
    let h ← uN 4 data 0
    let e ← uN 4 data 4
    if h == 0x50000001 ∧ e &&& 0x70000000 == 0x40000000 then return .val .nil
  return .raw data

end PgVerif.Model
