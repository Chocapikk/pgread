/-
  Model of pgdump/toast.go:decompressLZ4.  Same representation as Model/Pglz: the remaining input
  `data[pos:]` stands for (`data`, `pos`); `out` is Go's `result`.  Core Lean only (driver path).
-/
import PgVerif.Model.Pglz
namespace PgVerif.Model.Lz4
open PgVerif PgVerif.Model.Pglz

/-- `for pos < len(data) { extra := int(data[pos]); pos++; n += extra; if extra != 255 { break } }` -/
def readExt : Bytes → Nat → Nat × Bytes
  | [], acc => (acc, [])
  | b :: rest, acc => if b.toNat != 255 then (acc + b.toNat, rest) else readExt rest (acc + 255)

/-- the main loop `for pos < len(data) && len(result) < rawSize`; `f` = iterations left;
`none` = the Go error return (invalid offset / offset too large) -/
def loop (raw : Nat) : Nat → Bytes → Bytes → M (Option Bytes)
  | 0, _, out => pure (some out)
  | f+1, data, out =>
    if data = [] ∨ ¬ out.length < raw then pure (some out)
    else match data with
      | [] => pure (some out)
      | token :: d1 =>
        let lit0 := token.toNat >>> 4
        let r := if lit0 = 15 then readExt d1 15 else (lit0, d1)
        let d2 := r.2
        -- `if pos+literalLen > len(data) { literalLen = len(data) - pos }`
        let litLen := if r.1 > d2.length then d2.length else r.1
        let out := out ++ d2.take litLen
        let d3 := d2.drop litLen
        if d3 = [] ∨ out.length ≥ raw then pure (some out)
        else match d3 with
          | o0 :: o1 :: d4 =>                         -- `if pos+2 > len(data) { break }` otherwise
            let offset := o0.toNat ||| (o1.toNat <<< 8)
            if offset = 0 then pure none
            else
              let ml0 := (token.toNat &&& 0x0F) + 4
              let r2 := if ml0 = 19 then readExt d4 19 else (ml0, d4)
              if offset > out.length then pure none
              else do
                let out ← copyLoopM (out.length - offset) offset raw r2.1 0 out
                loop raw f r2.2 out
          | _ => pure (some out)

/-- `loop` with the iteration budget made VISIBLE: the same loop, except that a budget used up while the Go loop condition
still holds is a fault (`.budget`) instead of a silent return (see `Pglz.decompressB`) -/
def loopB (raw : Nat) : Nat → Bytes → Bytes → M (Option Bytes)
  | 0, data, out => if data = [] ∨ ¬ out.length < raw then pure (some out) else throw .budget
  | f+1, data, out =>
    if data = [] ∨ ¬ out.length < raw then pure (some out)
    else match data with
      | [] => pure (some out)
      | token :: d1 =>
        let lit0 := token.toNat >>> 4
        let r := if lit0 = 15 then readExt d1 15 else (lit0, d1)
        let d2 := r.2
        let litLen := if r.1 > d2.length then d2.length else r.1
        let out := out ++ d2.take litLen
        let d3 := d2.drop litLen
        if d3 = [] ∨ out.length ≥ raw then pure (some out)
        else match d3 with
          | o0 :: o1 :: d4 =>
            let offset := o0.toNat ||| (o1.toNat <<< 8)
            if offset = 0 then pure none
            else
              let ml0 := (token.toNat &&& 0x0F) + 4
              let r2 := if ml0 = 19 then readExt d4 19 else (ml0, d4)
              if offset > out.length then pure none
              else do
                let out ← copyLoopM (out.length - offset) offset raw r2.1 0 out
                loopB raw f r2.2 out
          | _ => pure (some out)

/-! ### compiled code: the same loop over arrays (`@[csimp]`, proved equal) -/

def loopA (raw : Nat) : Nat → Bytes → Array UInt8 → M (Option (Array UInt8))
  | 0, _, out => pure (some out)
  | f+1, data, out =>
    if data = [] ∨ ¬ out.size < raw then pure (some out)
    else match data with
      | [] => pure (some out)
      | token :: d1 =>
        let lit0 := token.toNat >>> 4
        let r := if lit0 = 15 then readExt d1 15 else (lit0, d1)
        let d2 := r.2
        let litLen := if r.1 > d2.length then d2.length else r.1
        let out := out ++ (d2.take litLen).toArray
        let d3 := d2.drop litLen
        if d3 = [] ∨ out.size ≥ raw then pure (some out)
        else match d3 with
          | o0 :: o1 :: d4 =>
            let offset := o0.toNat ||| (o1.toNat <<< 8)
            if offset = 0 then pure none
            else
              let ml0 := (token.toNat &&& 0x0F) + 4
              let r2 := if ml0 = 19 then readExt d4 19 else (ml0, d4)
              if offset > out.size then pure none
              else do
                let out ← copyLoopMA (out.size - offset) offset raw r2.1 0 out
                loopA raw f r2.2 out
          | _ => pure (some out)

theorem loopA_eq (raw f : Nat) (data : Bytes) (out : Array UInt8) :
    (loopA raw f data out).map (fun r => r.map Array.toList) = loop raw f data out.toList := by
  induction f generalizing data out with
  | zero => rfl
  | succ f ih =>
    rcases data with _ | ⟨token, d1⟩
    · rfl
    · unfold loopA loop
      rw [Array.length_toList]
      split
      · rfl
      · dsimp only
        generalize (if token.toNat >>> 4 = 15 then readExt d1 15 else (token.toNat >>> 4, d1)) = r
        generalize (if r.1 > r.2.length then r.2.length else r.1) = litLen
        have ho : (out ++ (List.take litLen r.2).toArray).toList = out.toList ++ List.take litLen r.2 := by simp
        rw [← ho, Array.length_toList]
        split
        · rfl
        · rcases List.drop litLen r.2 with _ | ⟨o0, _ | ⟨o1, d4⟩⟩
          · rfl
          · rfl
          · dsimp only
            split
            · rfl
            · split
              · rfl
              · exact map_bind_copy _ _ _ _ _ _ _ _ _ (fun o => ih ..)

def loopFast (raw f : Nat) (data out : Bytes) : M (Option Bytes) :=
  (loopA raw f data out.toArray).map (fun r => r.map Array.toList)

@[csimp] theorem loop_eq_fast : @loop = @loopFast := by
  funext raw f data out
  simp [loopFast, loopA_eq]


/-- decompressLZ4; every iteration consumes the token byte, so `len(data)+1` iterations are enough -/
def decompressLZ4 (data : Bytes) (rawSize : Nat) : M (Option Bytes) :=
  if data.length < 1 then pure none
  else loop rawSize (data.length + 1) data []

end PgVerif.Model.Lz4
