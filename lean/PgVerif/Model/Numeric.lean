/-
  Model of pgdump/jsonb.go:191-297 (decodeJNumeric, DecodeNumeric, decodeNumericShort,
  decodeNumericLong, computeNumeric) as repaired by fixes/numjson/01..03 and 09.

  The Go code returns a `float64` obtained as `strconv.ParseFloat(text, 64)` where `text` is the exact decimal
  text `[-]dddd…e<4·(weight−k+1)>` that computeNumeric builds from the base-10000 digits.  The model builds that
  text, byte for byte (`numericText`), and returns it inside `NumRes.num`: the value of the result is
  `ParseFloat(text)`.  `strconv.ParseFloat` itself is a PARAMETER (`pf : Bytes → Nat`, text ↦ IEEE-754 bits),
  applied by `NumRes.toGo pf` (Model/JsonbView.lean); its documented contract (correct rounding of the decimal the
  text denotes) is stated in Spec/Numeric.lean (`ParseFloatOK`) and checked against the real strconv on every
  generated case (the driver instantiates `pf` with the executable reference `Spec.parseFloatRef`, the harness prints
  `math.Float64bits` of what pgread returns: bit-for-bit comparison, ±0 and int-vs-float kinds included).
  (Before fix 09: `result*10000 + d` per digit, then one multiplication or division by `math.Pow(10000, |e|)`, up to
  8 ulp off.)
-/
import PgVerif.Basic.Bytes
import PgVerif.Types.Text
namespace PgVerif.Model
open PgVerif

inductive Special where
  | nan | pinf | ninf
deriving Repr, DecidableEq, Inhabited

/-- what `DecodeNumeric` returns (a Go `interface{}`) -/
inductive NumRes where
  | none                                        -- Go `nil`
  | int0                                        -- Go `int(0)`: the `ndigits == 0` paths
  | fzero                                       -- Go `float64(0)`: computeNumeric's `len(digits) == 0` (unreachable)
  | special (s : Special)                       -- `math.NaN()`, `math.Inf(±1)`
  | num (text : Bytes)                          -- the float64 `strconv.ParseFloat(text, 64)` (error discarded)
deriving Repr, DecidableEq, Inhabited

/-- `byte('0'+d/1000), byte('0'+d/100%10), byte('0'+d/10%10), byte('0'+d%10)` (Go `byte(…)` truncates to 8 bits) -/
def digit4 (d : Nat) : Bytes :=
  [UInt8.ofNat (48 + d / 1000), UInt8.ofNat (48 + d / 100 % 10), UInt8.ofNat (48 + d / 10 % 10), UInt8.ofNat (48 + d % 10)]

/-- the text computeNumeric hands to strconv.ParseFloat: `-` if negative, four characters per base-10000 digit,
`e`, then `strconv.AppendInt(buf, int64(4*(weight-len(digits)+1)), 10)` -/
def numericText (digits : List Nat) (weight : Int) (neg : Bool) : Bytes :=
  (if neg then [45] else []) ++ digits.flatMap digit4 ++ [101] ++ Txt.decInt (4 * (weight - digits.length + 1))

/-- jsonb.go:computeNumeric.  `len(digits) == 0` returns `float64(0)`; a word that is not a base-10000 digit makes
the value corrupt: nil (fix 09; the loop returns at the first such word, whatever was appended before).  Otherwise
the decimal text is handed to strconv.ParseFloat and its value returned. -/
def computeNumeric (digits : List Nat) (weight : Int) (neg : Bool) : NumRes :=
  if digits.length == 0 then .fzero
  else if digits.any (fun d => decide (d ≥ 10000)) then .none
  else .num (numericText digits weight neg)

/-- `for i := 0; i < ndigits; i++ { digits[i] = int(u16(raw, base+i*2)) }`; `n` iterations left -/
def readDigits (raw : Bytes) (base : Nat) : Nat → Nat → M (List Nat)
  | 0, _ => pure []
  | n+1, i => do
    let d ← uN 2 raw (base + i * 2)
    let rest ← readDigits raw base n (i + 1)
    pure (d :: rest)

/-- the two fields `decodeNumericShort` takes from the header word -/
structure ShortFields where
  neg : Bool
  weight : Int
deriving Repr, DecidableEq

def shortHeaderFields (header : Nat) : ShortFields :=
  let w : Int := (header &&& 0x003F : Nat)
  ⟨header &&& 0x2000 != 0, if header &&& 0x0040 != 0 then w - 64 else w⟩

/-- jsonb.go:decodeNumericShort (caller guarantees `len(raw) ≥ 2`) -/
def decodeNumericShort (raw : Bytes) (header : Nat) : M NumRes := do
  let f := shortHeaderFields header
  let ndigits := (raw.length - 2) / 2
  if ndigits == 0 then return .int0
  let digits ← readDigits raw 2 ndigits 0
  return computeNumeric digits f.weight f.neg

/-- jsonb.go:decodeNumericLong — on-disk layout: n_sign_dscale u16, n_weight i16, digits from +4 -/
def decodeNumericLong (raw : Bytes) : M NumRes := do
  if raw.length < 4 then return .none
  let weight := toSigned 16 (← uN 2 raw 2)
  let h ← uN 2 raw 0
  let neg := (h &&& 0xC000) == 0x4000
  let ndigits := (raw.length - 4) / 2
  if ndigits == 0 then return .int0
  let digits ← readDigits raw 4 ndigits 0
  return computeNumeric digits weight neg

/-- classification of the special header words (as PostgreSQL's numeric_out) -/
def specialOf (header : Nat) : Special :=
  if header == 0xD000 then .pinf else if header == 0xF000 then .ninf else .nan

/-- jsonb.go:DecodeNumeric -/
def decodeNumeric (raw : Bytes) : M NumRes := do
  if raw.length < 2 then return .none
  let header ← uN 2 raw 0
  if (header &&& 0xC000) == 0xC000 then return .special (specialOf header)
  if header &&& 0x8000 != 0 then decodeNumericShort raw header
  else decodeNumericLong raw

/-- jsonb.go:decodeJNumeric — strips the varlena header (4-byte or 1-byte form) of a numeric
stored inside a JSONB document; a header that does not fit yields `DecodeNumeric(nil)` = nil -/
def decodeJNumeric (data : Bytes) : M NumRes := do
  if data.length < 4 then return .none
  let hdr ← uN 4 data 0
  if hdr &&& 3 == 0 then
    let n := hdr >>> 2
    if n > 4 ∧ data.length ≥ n then
      let content ← slice data 4 n
      decodeNumeric content
    else decodeNumeric []
  else
    let n := (hdr &&& 0xFF) >>> 1
    if n > 1 ∧ data.length ≥ n then
      let content ← slice data 1 n
      decodeNumeric content
    else decodeNumeric []

/-! ### the Go value: ParseFloat applied -/

/-- `strconv.ParseFloat(text, 64)` as a function from the text to the bits of the returned float64 (the error value
is discarded by computeNumeric).  A parameter of the model. -/
abbrev ParseFloat := Bytes → Nat

/-- bits of Go's `math.NaN()`, `math.Inf(1)`, `math.Inf(-1)` -/
def Special.bits : Special → Nat
  | .nan => 0x7FF8000000000001
  | .pinf => 0x7FF0000000000000
  | .ninf => 0xFFF0000000000000

end PgVerif.Model
