/-
  Model of pgdump/heap.go (ReadRows, DecodeTuple, alignFromChar, typeAlign, readValue, emptyVarlena),
  types.go:ReadVarlena, deleted.go (ReadDeletedRows, ReadRowsWithDeleted) and passwords.go (ParsePGAuthID,
  ExtractPasswordsFromFiles) — the tree after fixes/rows/01..06, 08 and 09 (06 and 08 through the generated `typeAlignSwitch`).
  One Lean function per Go function, same guards, same order of evaluation; slices and indexes through the
  fault-aware primitives.  The scalar decoder `DecodeType` is a parameter `dec` (area `scalars` models it):
  everything here is about WHICH BYTES each column gets.  `Debug` printing is not modelled.
-/
import PgVerif.Basic.Canon
import PgVerif.Model.Heap
import PgVerif.Generated.Rows
import PgVerif.Model.InlineComp
namespace PgVerif.Model
open PgVerif

/-- catalog.go:Column (Go ints may be negative in a hostile schema → `Int`; `Align` is a byte) -/
structure Column where
  name : Bytes
  typid : Int
  len : Int
  num : Int
  align : Nat
deriving Repr, DecidableEq, Inhabited

/-- the scalar decoder `DecodeType(data, oid)`; a fault is a Go panic inside it -/
abbrev Dec := Bytes → Int → M GoVal

/-- a decoded row: Go `map[string]interface{}` as an association list with unique keys -/
abbrev Row := List (Bytes × GoVal)

/-- heap.go:alignFromChar ('c' 99, 's' 115, 'i' 105, 'd' 100) -/
def alignFromChar (c : Nat) : Nat :=
  if c = 99 then 1 else if c = 115 then 2 else if c = 105 then 4 else if c = 100 then 8 else 0

def lookupOid (tbl : List (Nat × Nat)) (oid : Int) : Option Nat :=
  if oid < 0 then none else tbl.lookup oid.toNat

/-- heap.go:typeAlign — the switch is the generated table (obtained by executing the code), the
default branch by length is transcribed -/
def typeAlign (typid len : Int) : Nat :=
  match lookupOid Generated.Rows.typeAlignSwitch typid with
  | some a => a
  | none =>
    if len = -1 then 4 else if len ≥ 8 then 8 else if len ≥ 4 then 4 else if len ≥ 2 then 2 else 1

/-- alignment DecodeTuple starts from for a column: `alignFromChar`, else the `typeAlign` fallback -/
def colAlign (c : Column) : Nat :=
  if alignFromChar c.align = 0 then typeAlign c.typid c.len else alignFromChar c.align

/-- heap.go:emptyVarlena (fix 05): `none` = nil, i.e. fall through to `DecodeType`.  The graph is generated by
executing the code (kind 0 nil, 1 the string `\\x`, 2 the empty string). -/
def emptyVarlena (typid : Int) : Option GoVal :=
  let kind := (lookupOid Generated.Rows.emptyVarlenaKind typid).getD Generated.Rows.emptyVarlenaDefault
  if kind = 1 then some (.str [0x5c, 0x78]) else if kind = 2 then some (.str []) else none

/-- types.go:ReadVarlena — (payload or nil, bytes consumed) -/
def readVarlena (data : Bytes) : M (Option Bytes × Nat) :=
  if data.length = 0 then pure (none, 0)
  else do
    let first := (← idx data 0).toNat
    if first % 2 = 1 ∧ first ≠ 1 then
      let total := first / 2
      if total < 1 ∨ data.length < total then pure (none, 1)
      else do
        let v ← slice data 1 total
        pure (some v, total)
    else if first = 1 then
      if data.length ≥ 18 then do
        let tag ← idx data 1
        if tag.toNat = 18 then pure (none, 18) else pure (none, 1)
      else pure (none, 1)
    else if data.length < 4 then pure (none, 0)
    else do
      let header ← uN 4 data 0
      let total := header / 4
      if total < 4 ∨ data.length < total then pure (none, 4)
      else if header % 4 = 2 ∧ 8 ≤ total then do
        -- fix 09: compressed in line — the decompressed value, or nil; the stored length is consumed either way
        let v ← inlineDecompress data total
        pure (v, total)
      else do
        let v ← slice data 4 total
        pure (some v, total)

/-- the C-string branch of readValue: up to the first NUL (consumed with it), or everything -/
def readCString (remaining : Bytes) : GoVal × Nat :=
  let p := remaining.takeWhile (· != 0)
  if p.length < remaining.length then (.str p, p.length + 1) else (.str remaining, remaining.length)

/-- the value of a non-nil varlena payload (fix 05): an empty payload of a text-like type is a value of its
own, everything else goes to `DecodeType` -/
def varlenaVal (dec : Dec) (val : Bytes) (typid : Int) : M GoVal :=
  match (if val.length = 0 then emptyVarlena typid else none) with
  | some g => pure g
  | none => dec val typid

/-- heap.go:readValue — (value, bytes consumed) -/
def readValue (dec : Dec) (data : Bytes) (offset : Nat) (typid len : Int) : M (GoVal × Nat) :=
  if offset ≥ data.length then pure (.nil, 0)
  else do
    let remaining ← sliceFrom data offset
    if len > 0 then
      if (remaining.length : Int) < len then pure (.nil, 0)
      else do
        let raw ← sliceTo remaining len.toNat
        let v ← dec raw typid
        pure (v, len.toNat)
    else if len = -1 then do
      let r ← readVarlena remaining
      match r.1 with
      | none => pure (.nil, max r.2 1)
      | some val => do
        let v ← varlenaVal dec val typid
        pure (v, r.2)
    else pure (readCString remaining)

/-- the alignment DecodeTuple applies at `offset`: a varlena column whose next byte is non-zero is not aligned
(fix 03: PostgreSQL's att_align_pointer) -/
def chooseAlign (col : Column) (data : Bytes) (offset : Nat) : M Nat :=
  if col.len = -1 ∧ offset < data.length then do
    let b ← idx data offset
    pure (if b != 0 then 1 else colAlign col)
  else pure (colAlign col)

/-- the column loop of DecodeTuple: (name, value) per column in column order; `i` = index of the column,
`offset` = the running data offset -/
def decodeCols (dec : Dec) (t : HeapTuple) : List Column → Nat → Nat → M (List (Bytes × GoVal))
  | [], _, _ => pure []
  | col :: cs, i, offset =>
    let num : Int := if col.num = 0 then (i : Int) + 1 else col.num
    if t.isNull num then do
      let rest ← decodeCols dec t cs (i + 1) offset
      pure ((col.name, GoVal.nil) :: rest)
    else do
      let a ← chooseAlign col t.data offset
      let off := align offset a
      let r ← readValue dec t.data off col.typid col.len
      let rest ← decodeCols dec t cs (i + 1) (off + r.2)
      pure ((col.name, r.1) :: rest)

/-- Go map built by successive `result[name] = v` -/
def toRow (ps : List (Bytes × GoVal)) : Row := ps.foldl (fun m p => mapInsert m p.1 p.2) []

/-- heap.go:DecodeTuple (`none` = nil map; fix 04: only a tuple without data *and* without columns gives nil) -/
def decodeTuple (dec : Dec) (t : HeapTuple) (cols : List Column) : M (Option Row) :=
  if t.data.length = 0 ∧ cols.length = 0 then pure none
  else do
    let ps ← decodeCols dec t cols 0 0
    pure (some (toRow ps))

/-- heap.go:ReadRows -/
def readRows (dec : Dec) (data : Bytes) (cols : List Column) (visibleOnly : Bool) : M (List Row) := do
  let es ← readTuples data visibleOnly
  collectM (fun e => decodeTuple dec e.tuple cols) es

/-! ### deleted.go -/

/-- deleted.go:DeletedRow.  The Go struct also declares `ItemOffset int` (JSON `item_offset`); no line of pgread ever
assigns it, so it is 0 in every value the package returns.  It is a dead field: not modelled, not part of the compared
text of the families, and no property speaks about it (C02/C09 name the page offset only). -/
structure DeletedRow where
  pageOffset : Nat
  data : Option Row
  rawSize : Nat

def deletedStep (dec : Dec) (cols : List Column) (e : TupleEntry) : M (Option DeletedRow) :=
  if e.tuple.isDeleted then do
    let d ← if cols.length > 0 then decodeTuple dec e.tuple cols else pure none
    pure (some ⟨e.pageOffset, d, e.tuple.data.length⟩)
  else pure none

/-- deleted.go:ReadDeletedRows -/
def readDeletedRows (dec : Dec) (data : Bytes) (cols : List Column) : M (List DeletedRow) := do
  let es ← readTuples data false
  collectM (deletedStep dec cols) es

/-- decoded rows of all tuples, each with its tuple (rows that decode to nil are skipped) -/
def decodedEntries (dec : Dec) (cols : List Column) (es : List TupleEntry) : M (List (HeapTuple × Row)) :=
  collectM (fun e => do
    let r ← decodeTuple dec e.tuple cols
    pure (r.map fun row => (e.tuple, row))) es

/-- deleted.go:ReadRowsWithDeleted — (visible, deleted) -/
def readRowsWithDeleted (dec : Dec) (data : Bytes) (cols : List Column) : M (List Row × List Row) := do
  let es ← readTuples data false
  let rs ← decodedEntries dec cols es
  pure ((rs.filter fun p => p.1.isVisible).map (·.2),
        (rs.filter fun p => !p.1.isVisible && p.1.isDeleted).map (·.2))

/-! ### passwords.go -/

structure AuthInfo where
  oid : Nat
  roleName : Bytes
  password : Bytes
  rolSuper : Bool
  rolLogin : Bool
deriving Repr, DecidableEq

/-- binary.go:cstring -/
def cstring (data : Bytes) (maxLen : Nat) : Bytes := (data.take maxLen).takeWhile (· != 0)

/-- the rolpassword part of ParsePGAuthID's loop body, `offset` = where the walk has arrived (80) -/
def authPassword (t : HeapTuple) (offset : Nat) : M Bytes :=
  if !t.isNull 11 ∧ offset < t.data.length then
    if align offset 4 < t.data.length then do
      let rem ← sliceFrom t.data (align offset 4)
      let r ← readVarlena rem
      pure (r.1.getD [])
    else pure []
  else pure []

/-- the body of ParsePGAuthID's loop for one tuple; `none` = skipped.  The walk's first three guards
(`offset+4 <= len` at 0, `offset+64 <= len` at 4, `offset+1 <= len` at 68) are implied by `len(Data) >= 70`,
so the offsets up to 72 are the constants the code arrives at; the guard at 72 is live (it decides 73 or 72,
both of which align to 76). -/
def authOne (t : HeapTuple) : M (Option AuthInfo) :=
  if t.data.length < 70 then pure none
  else do
    let oid ← if 0 + 4 ≤ t.data.length then uN 4 t.data 0 else pure 0
    let rest ← if 4 + 64 ≤ t.data.length then sliceFrom t.data 4 else pure []
    let name := cstring rest 64
    let sup ← if 68 + 1 ≤ t.data.length then idx t.data 68 else pure 0
    let login ← if 72 + 1 ≤ t.data.length then idx t.data 72 else pure 0
    let off := if 72 + 1 ≤ t.data.length then 73 else 72
    let pw ← authPassword t (align (off + 2) 4 + 4)
    if name.length = 0 then pure none
    else pure (some ⟨oid, name, pw, sup != 0, login != 0⟩)

/-- passwords.go:ParsePGAuthID — every tuple, live or dead -/
def parsePGAuthID (data : Bytes) : M (List AuthInfo) := do
  let es ← readTuples data false
  collectM (fun e => authOne e.tuple) es

/-- passwords.go:ExtractPasswordsFromFiles: `reader "global/1260"`, error passed through (`none`) -/
def extractPasswordsFromFiles (reader : Bytes → Option Bytes) : M (Option (List AuthInfo)) :=
  match reader (strBytes "global/1260") with
  | none => pure none
  | some data => do pure (some (← parsePGAuthID data))

end PgVerif.Model
