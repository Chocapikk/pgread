/-
  Model of pgdump/search.go (after fix search/01: rows are walked in `rowKeys` order instead of Go's random
  map order; the original loops are in Model/SearchOrig.lean).  Core Lean only.

  Library calls:
    * `regexp.Compile` / `MatchString` / `Match` — the parameter `R : Regex` (Spec/Search.lean); a `[]byte` value is
      matched exactly like a `string` (`re.Match` = `re.MatchString` on the same bytes), so both are `GoVal.str`.
    * the text of a scalar in matchValue's `default:` branch — the parameter `sh`.  In the code that is `scalarText`
      (fix search/06): `floatText(f, bitSize)` for a float64 / float32 (NaN / Infinity / -Infinity, else
      `strconv.FormatFloat(f, 'f', -1, 64)` resp. `(f, 'g', -1, 32)`), `fmt.Sprintf("%v", v)` for everything else; the
      executable instance is `Model.SearchShow.searchScalar`.
    * `sort.Strings` — `List.mergeSort bytesLe` (bytewise order of Go strings).
  A Go map is an association list; ranging over it visits the list in *some* order.  Where the result could depend
  on that order the order is explicit (SearchOrig); `matchMap` only computes an "exists", which is the same for
  every order (`Props.C15.C15_matchMap_order_independent`), so its loop walks the list as given.
  Early `return` from nested loops = the `stop` flag threaded through `loopM`.
-/
import PgVerif.Spec.Search
namespace PgVerif.Model.Search
open PgVerif PgVerif.Spec.Search

/-- Go: SearchResult (Row = nil unless IncludeRow) -/
structure SearchResult where
  database : Bytes
  table : Bytes
  column : Bytes
  rowNum : Nat
  value : GoVal
  row : Option Row
deriving Inhabited

mutual
/-- Go: matchValue -/
def matchValue (re : Bytes → Bool) (sh : GoVal → Bytes) : GoVal → Bool
  | .nil => false                                   -- if value == nil { return false }
  | .str s => re s                                  -- case string / case []byte
  | .obj kvs => matchMap re sh kvs                  -- case map[string]interface{}
  | .arr xs => matchElems re sh xs                  -- case []interface{}: loop, then `return false`
  | .bool b => re (sh (.bool b))                    -- default: scalarText(v)
  | .int i => re (sh (.int i))
  | .f64 b => re (sh (.f64 b))
  | .f32 b => re (sh (.f32 b))
def matchElems (re : Bytes → Bool) (sh : GoVal → Bytes) : List GoVal → Bool
  | [] => false
  | x :: xs => if matchValue re sh x then true else matchElems re sh xs
/-- Go: matchMap (`for key, val := range m`) -/
def matchMap (re : Bytes → Bool) (sh : GoVal → Bytes) : List (Bytes × GoVal) → Bool
  | [] => false
  | (k, v) :: rest =>
    if re k then true
    else if matchValue re sh v then true
    else matchMap re sh rest
end

/-- Go: rowKeys, first loop (`seen` map as a list) -/
def declaredKeys (row : Row) : List Bytes → List Bytes → List Bytes
  | _, [] => []
  | seen, c :: cs =>
    if (lookup c row).isSome && !seen.contains c then c :: declaredKeys row (c :: seen) cs
    else declaredKeys row seen cs

/-- Go: rowKeys (fix search/01).  `row` is given in the order in which `for k := range row` visits it;
`!seen[k]` = "k is not among the keys collected so far". -/
def rowKeys (columns : List Bytes) (row : Row) : List Bytes :=
  let keys := declaredKeys row [] columns
  let rest := (row.map (·.1)).filter fun k => !keys.contains k
  keys ++ rest.mergeSort bytesLe

/-- a loop whose body may `return` from the function: the body gets the matches so far and yields the new
matches and whether it returned -/
def loopM {α β : Type} (body : α → List β → List β × Bool) : List α → List β → List β × Bool
  | [], acc => (acc, false)
  | x :: xs, acc =>
    match body x acc with
    | (acc', true) => (acc', true)
    | (acc', false) => loopM body xs acc'

/-- body of the innermost loop of SearchInDump -/
def colBody (re : Bytes → Bool) (sh : GoVal → Bytes) (o : Opts) (db tbl : Bytes) (rowNum : Nat) (row : Row)
    (colName : Bytes) (ms : List SearchResult) : List SearchResult × Bool :=
  let value := (lookup colName row).getD .nil          -- value := row[colName]
  if matchValue re sh value then
    let m : SearchResult := { database := db, table := tbl, column := colName, rowNum := rowNum, value := value,
                              row := if o.includeRow then some row else none }
    let ms := ms ++ [m]
    if o.maxResults > 0 && (ms.length : Int) ≥ o.maxResults then (ms, true) else (ms, false)
  else (ms, false)

def rowBody (re : Bytes → Bool) (sh : GoVal → Bytes) (o : Opts) (db tbl : Bytes) (cols : List Bytes)
    (ri : Row × Nat) : List SearchResult → List SearchResult × Bool :=
  loopM (colBody re sh o db tbl ri.2 ri.1) (rowKeys cols ri.1)

def tableBody (re : Bytes → Bool) (sh : GoVal → Bytes) (o : Opts) (db : Bytes) (t : Table) :
    List SearchResult → List SearchResult × Bool :=
  loopM (rowBody re sh o db t.name t.columns) t.rows.zipIdx

def dbBody (re : Bytes → Bool) (sh : GoVal → Bytes) (o : Opts) (db : Database) :
    List SearchResult → List SearchResult × Bool :=
  loopM (tableBody re sh o db.name) db.tables

/-- Go: SearchInDump (and the identical loops of Search).  `none` = the error return. -/
def searchInDump (R : Regex) (sh : GoVal → Bytes) (d : Dump) (o : Opts) : Option (List SearchResult) :=
  let pattern := if !o.caseSensitive then ciPrefix ++ o.pattern else o.pattern
  match R.compile pattern with
  | none => none                                     -- "invalid pattern: …"
  | some re => some (loopM (dbBody re sh o) d []).1

/-- Go: Search.  Its loops are the same four loops as SearchInDump's (textually duplicated in search.go; both patched
by fix search/01).  `opts = none` is the nil pointer; `dumped` is the result of `DumpDataDir(dataDir,
&Options{SkipSystemTables: true})` — the directory walk is out of scope here (area cluster), `none` = its error.
The pattern is compiled first, so an invalid pattern is reported without touching the directory. -/
def search (R : Regex) (sh : GoVal → Bytes) (dumped : Option Dump) (opts : Option Opts) : Option (List SearchResult) :=
  match opts with
  | none => none                                     -- "search options required"
  | some o =>
    let pattern := if !o.caseSensitive then ciPrefix ++ o.pattern else o.pattern
    match R.compile pattern with
    | none => none                                   -- "invalid pattern: …"
    | some re =>
      match dumped with
      | none => none                                 -- DumpDataDir failed
      | some d => some (loopM (dbBody re sh o) d []).1

def toHit (r : SearchResult) : Hit :=
  { db := r.database, table := r.table, row := r.rowNum, col := r.column, value := r.value, fullRow := r.row }

/-- the hits of SearchInDump as abstract hits (`none` = the error return) -/
def hits (R : Regex) (sh : GoVal → Bytes) (d : Dump) (o : Opts) : Option (List Hit) :=
  (searchInDump R sh d o).map (·.map toHit)

end PgVerif.Model.Search
