/-
  Model of pgdump/search.go and pgdump/secrets.go on dumps that may hold Go `[]byte` values (Spec/SearchBytes.lean):
  the same functions as Model/Search.lean and Model/Secrets.lean, with the value type extended by `[]byte`, i.e. with
  `matchValue`'s `case []byte: return re.Match(v)` and — after fix search/04 — `cellText`, which turns every `[]byte`
  into the string of the same bytes (`bytesAsText`) before `fmt`'s `%v` renders the cell.  Core Lean only.

  Library calls as in Model/Search.lean: `regexp` = the parameter `R`; `re.Match(b)` and `re.MatchString(string(b))` are
  the same predicate on the same bytes; `%v` of a value WITHOUT `[]byte` = `Spec.Search.fmtV`.
-/
import PgVerif.Spec.SearchBytes
import PgVerif.Model.Secrets
namespace PgVerif.Model.SearchB
open PgVerif PgVerif.Spec.Search PgVerif.Spec.SearchB PgVerif.Model.Search

/-- Go: SearchResult (Value and Row are the dump's own values, `[]byte`s included) -/
structure SearchResultS where
  database : Bytes
  table : Bytes
  column : Bytes
  rowNum : Nat
  value : SVal
  row : Option SRow
deriving Inhabited

mutual
/-- Go: matchValue, all cases of its type switch -/
def matchValueS (re : Bytes → Bool) (sh : GoVal → Bytes) : SVal → Bool
  | .nil => false                                   -- if value == nil { return false }
  | .str s => re s                                  -- case string: re.MatchString(v)
  | .bytes b => re b                                -- case []byte: re.Match(v)
  | .obj kvs => matchMapS re sh kvs                 -- case map[string]interface{}
  | .arr xs => matchElemsS re sh xs                 -- case []interface{}: loop, then `return false`
  | .bool b => re (sh (.bool b))                    -- default: scalarText(v)
  | .int i => re (sh (.int i))
  | .f64 b => re (sh (.f64 b))
  | .f32 b => re (sh (.f32 b))
def matchElemsS (re : Bytes → Bool) (sh : GoVal → Bytes) : List SVal → Bool
  | [] => false
  | x :: xs => if matchValueS re sh x then true else matchElemsS re sh xs
/-- Go: matchMap -/
def matchMapS (re : Bytes → Bool) (sh : GoVal → Bytes) : List (Bytes × SVal) → Bool
  | [] => false
  | (k, v) :: rest =>
    if re k then true
    else if matchValueS re sh v then true
    else matchMapS re sh rest
end

/-- Go: rowKeys, first loop -/
def declaredKeysS (row : SRow) : List Bytes → List Bytes → List Bytes
  | _, [] => []
  | seen, c :: cs =>
    if (lookupS c row).isSome && !seen.contains c then c :: declaredKeysS row (c :: seen) cs
    else declaredKeysS row seen cs

/-- Go: rowKeys -/
def rowKeysS (columns : List Bytes) (row : SRow) : List Bytes :=
  let keys := declaredKeysS row [] columns
  let rest := (row.map (·.1)).filter fun k => !keys.contains k
  keys ++ rest.mergeSort bytesLe

/-- body of the innermost loop of SearchInDump -/
def colBodyS (re : Bytes → Bool) (sh : GoVal → Bytes) (o : Opts) (db tbl : Bytes) (rowNum : Nat) (row : SRow)
    (colName : Bytes) (ms : List SearchResultS) : List SearchResultS × Bool :=
  let value := (lookupS colName row).getD .nil          -- value := row[colName]
  if matchValueS re sh value then
    let m : SearchResultS := { database := db, table := tbl, column := colName, rowNum := rowNum, value := value,
                               row := if o.includeRow then some row else none }
    let ms := ms ++ [m]
    if o.maxResults > 0 && (ms.length : Int) ≥ o.maxResults then (ms, true) else (ms, false)
  else (ms, false)

def rowBodyS (re : Bytes → Bool) (sh : GoVal → Bytes) (o : Opts) (db tbl : Bytes) (cols : List Bytes)
    (ri : SRow × Nat) : List SearchResultS → List SearchResultS × Bool :=
  loopM (colBodyS re sh o db tbl ri.2 ri.1) (rowKeysS cols ri.1)

def tableBodyS (re : Bytes → Bool) (sh : GoVal → Bytes) (o : Opts) (db : Bytes) (t : STable) :
    List SearchResultS → List SearchResultS × Bool :=
  loopM (rowBodyS re sh o db t.name t.columns) t.rows.zipIdx

def dbBodyS (re : Bytes → Bool) (sh : GoVal → Bytes) (o : Opts) (db : SDatabase) :
    List SearchResultS → List SearchResultS × Bool :=
  loopM (tableBodyS re sh o db.name) db.tables

/-- Go: SearchInDump on any `*DumpResult`.  `none` = the error return. -/
def searchInDumpS (R : Regex) (sh : GoVal → Bytes) (d : SDump) (o : Opts) : Option (List SearchResultS) :=
  let pattern := if !o.caseSensitive then ciPrefix ++ o.pattern else o.pattern
  match R.compile pattern with
  | none => none
  | some re => some (loopM (dbBodyS re sh o) d []).1

def toHitS (r : SearchResultS) : HitS :=
  { db := r.database, table := r.table, row := r.rowNum, col := r.column, value := r.value, fullRow := r.row }

def hitsS (R : Regex) (sh : GoVal → Bytes) (d : SDump) (o : Opts) : Option (List HitS) :=
  (searchInDumpS R sh d o).map (·.map toHitS)

/-! ### secret scan (after fix search/04) -/

/-- Go: cellText = `fmt.Sprintf("%v", bytesAsText(value))`.  `bytesAsText` rebuilds the value with every `[]byte`
replaced by `string(v)` — that is `Spec.SearchB.asText`, whose codomain records that no `[]byte` is left — and `%v` of
such a value is `fmtV`. -/
def cellText (sh : GoVal → Bytes) (v : SVal) : Bytes := fmtV sh (asText v)

/-- Go: scanTable, body of the loop over the columns of one row -/
def scanCellS (dets : List Detector) (sh : GoVal → Bytes) (db tbl : Bytes) (rowIdx : Nat) (row : SRow) (colName : Bytes) :
    List Finding :=
  let strVal := cellText sh ((lookupS colName row).getD .nil)
  if strVal.length < 8 then []                             -- too short to be a secret
  else (Secrets.scanString dets strVal).map fun res =>
    { detector := res.detector, db := db, table := tbl, col := colName, row := rowIdx, raw := res.raw }

/-- Go: scanTable -/
def scanTableS (dets : List Detector) (sh : GoVal → Bytes) (db : Bytes) (t : STable) : List Finding :=
  t.rows.zipIdx.flatMap fun ri => (rowKeysS t.columns ri.1).flatMap (scanCellS dets sh db t.name ri.2 ri.1)

/-- Go: ScanDatabaseDump -/
def scanDatabaseDumpS (dets : List Detector) (sh : GoVal → Bytes) (db : SDatabase) : List Finding :=
  db.tables.flatMap (scanTableS dets sh db.name)

/-- Go: ScanDumpResult on any `*DumpResult` -/
def scanDumpResultS (dets : List Detector) (sh : GoVal → Bytes) (d : SDump) : List Finding :=
  d.flatMap (scanDatabaseDumpS dets sh)

/-! ### the text the scan looked at BEFORE fix search/04: plain `%v`, which prints a `[]byte` as decimal numbers -/

mutual
def fmtVOrig (sh : GoVal → Bytes) : SVal → Bytes
  | .nil => [60, 110, 105, 108, 62]
  | .str s => s
  | .bytes b => fmtDecimal b
  | .arr xs => [91] ++ joinSp (fmtListOrig sh xs) ++ [93]
  | .obj kvs => [109, 97, 112, 91] ++ joinSp ((fmtKvsOrig sh kvs).mergeSort (fun a b => bytesLe a.1 b.1) |>.map fun kv => kv.1 ++ 58 :: kv.2) ++ [93]
  | .bool b => sh (.bool b)
  | .int i => sh (.int i)
  | .f64 b => sh (.f64 b)
  | .f32 b => sh (.f32 b)
def fmtListOrig (sh : GoVal → Bytes) : List SVal → List Bytes
  | [] => []
  | x :: xs => fmtVOrig sh x :: fmtListOrig sh xs
def fmtKvsOrig (sh : GoVal → Bytes) : List (Bytes × SVal) → List (Bytes × Bytes)
  | [] => []
  | (k, v) :: rest => (k, fmtVOrig sh v) :: fmtKvsOrig sh rest
end

end PgVerif.Model.SearchB
