/-
  Model of pgdump/secrets.go: ScanString (keyword pre-filter, then the detector), scanTable (stringification,
  8-character minimum, coordinates), ScanDatabaseDump / ScanDumpResult, containsIgnoreCase / bytesContains / bytesEqual.
  Core Lean only.

  Parameters: the detectors (trufflehog's `Keywords()` / `FromData`, `none` = FromData returned an error) and the
  scalar text `sh` (`%v`); `fmt.Sprintf("%v", cell)` for whole cells is `Spec.Search.fmtV` (documented fmt behaviour:
  `<nil>`, `[a b]`, `map[k:v …]` with sorted keys).  `strings.Contains` = `bytesContains` (same specification).
  After fix search/04 the cell text is `cellText(value)` = `%v` of the value with every `[]byte` replaced by the string
  of the same bytes; on the values of this file (`GoVal`: no `[]byte`) that is `%v` itself, i.e. `fmtV` — the model with
  `[]byte` values is Model/SearchBytes.lean.
  Rows are walked in `rowKeys` order (fix search/02; before it: Go's random map order — only the order of the
  findings depended on it, not the set).  After fix search/03 ScanString lower-cases `data` once and tests
  `bytesContains(dataLower, lowerASCII(kw))`; that is `containsIgnoreCase data kw` unfolded (sharing the lower-cased
  copy is not observable in a pure model; the allocation it saves is checked by family `secretbig`).
-/
import PgVerif.Model.Search
namespace PgVerif.Model.Secrets
open PgVerif PgVerif.Spec.Search PgVerif.Model.Search

/-- Go: bytesEqual -/
def bytesEqual : Bytes → Bytes → Bool
  | [], [] => true
  | a :: as, b :: bs => if a != b then false else bytesEqual as bs
  | _, _ => false                                   -- len(a) != len(b)

/-- the loop `for i := 0; i <= len(s)-len(substr); i++` with `n` iterations left, `s` = s[i:] -/
def containsLoop (substr : Bytes) : Nat → Bytes → Bool
  | 0, _ => false
  | n+1, s => if bytesEqual (s.take substr.length) substr then true else containsLoop substr n (s.drop 1)

/-- Go: bytesContains -/
def bytesContains (s substr : Bytes) : Bool :=
  if substr.length = 0 then true
  else if substr.length > s.length then false
  else containsLoop substr (s.length - substr.length + 1) s

/-- Go: lowerASCII -/
def toLowerAscii (s : Bytes) : Bytes := s.map fun c => if c ≥ 65 && c ≤ 90 then c + 32 else c

/-- Go: containsIgnoreCase -/
def containsIgnoreCase (s substr : Bytes) : Bool := bytesContains (toLowerAscii s) (toLowerAscii substr)

/-- Go: ScanString, body of the loop over detectors -/
def scanWith (data : Bytes) (det : Detector) : List DetResult :=
  let hasKeyword := det.keywords.any fun kw => bytesContains data kw || containsIgnoreCase data kw
  if !hasKeyword && det.keywords.length > 0 then []        -- continue
  else match det.fromData data with
    | none => []                                            -- err != nil: continue
    | some found => found

/-- Go: ScanString -/
def scanString (dets : List Detector) (data : Bytes) : List DetResult := dets.flatMap (scanWith data)

/-- Go: scanTable, body of the loop over the columns of one row -/
def scanCell (dets : List Detector) (sh : GoVal → Bytes) (db tbl : Bytes) (rowIdx : Nat) (row : Row) (colName : Bytes) :
    List Finding :=
  let strVal := fmtV sh ((lookup colName row).getD .nil)
  if strVal.length < 8 then []                             -- too short to be a secret
  else (scanString dets strVal).map fun res =>
    { detector := res.detector, db := db, table := tbl, col := colName, row := rowIdx, raw := res.raw }

/-- Go: scanTable -/
def scanTable (dets : List Detector) (sh : GoVal → Bytes) (db : Bytes) (t : Table) : List Finding :=
  t.rows.zipIdx.flatMap fun ri => (rowKeys t.columns ri.1).flatMap (scanCell dets sh db t.name ri.2 ri.1)

/-- Go: ScanDatabaseDump -/
def scanDatabaseDump (dets : List Detector) (sh : GoVal → Bytes) (db : Database) : List Finding :=
  db.tables.flatMap (scanTable dets sh db.name)

/-- Go: ScanDumpResult -/
def scanDumpResult (dets : List Detector) (sh : GoVal → Bytes) (d : Dump) : List Finding :=
  d.flatMap (scanDatabaseDump dets sh)

end PgVerif.Model.Secrets
