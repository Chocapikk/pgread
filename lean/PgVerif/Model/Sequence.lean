/-
  Model of pgdump/sequence.go (with the repairs of /verif/fixes/control applied: PostgreSQL ≥ 10 tuple
  layout last_value@0 / log_cnt@8 / is_called@16 without the "modern format" guess, magic compared as
  u32, bounds check after the default t_hoff).  The code as written is in Model/SequenceOrig.lean.
  FindSequences / ScanAllSequences: the `os` calls are a file-system parameter; the pg_database and
  pg_class parsers (other areas) are parameters too; so is the iteration order of the `range` over the
  pg_class map (fixes/control/08 sorts the filenodes, which makes the result independent of it: Props/C11Maps).
-/
import PgVerif.Basic.Bytes
import PgVerif.Model.KeySort
namespace PgVerif.Model
open PgVerif

structure SequenceData where
  name : Bytes := []
  oid : Nat := 0
  filenode : Nat := 0
  lastValue : Int := 0
  startValue : Int := 0
  incrementBy : Int := 0
  maxValue : Int := 0
  minValue : Int := 0
  cacheValue : Int := 0
  isCycled : Bool := false
  isCalled : Bool := false
deriving Repr, DecidableEq, Inhabited

def i64At (data : Bytes) (off : Nat) : M Int := do return toSigned 64 (← uN 8 data off)

/-- parseSequenceTuple (repaired); `none` = error return -/
def parseSequenceTuple (data : Bytes) : M (Option SequenceData) := do
  if data.length < 8 then return none
  if data.length < 57 then
    -- FormData_pg_sequence_data: last_value int8 @0, log_cnt int8 @8, is_called bool @16
    let lastValue ← i64At data 0
    let isCalled ← (if data.length ≥ 17 then do return (← uN 1 data 16) != 0 else pure false : M Bool)
    return some { lastValue, isCalled }
  -- "old format" branch, unchanged
  let lastValue ← i64At data 0
  let startValue ← i64At data 8
  let incrementBy ← i64At data 16
  let maxValue ← i64At data 24
  let minValue ← i64At data 32
  let cacheValue ← i64At data 40
  -- log_cnt skipped: offset = 56
  let (isCycled, off) ← (if data.length > 56 then do return ((← uN 1 data 56) != 0, 57) else pure (false, 56) : M (Bool × Nat))
  let isCalled ← (if data.length > off then do return (← uN 1 data off) != 0 else pure false : M Bool)
  return some { lastValue, startValue, incrementBy, maxValue, minValue, cacheValue, isCycled, isCalled }

/-- ParseSequenceFile (repaired); `none` = error return -/
def parseSequenceFile (data : Bytes) : M (Option SequenceData) := do
  if data.length < 8192 then return none
  let special ← uN 2 data 16
  if special = 0 ∨ special > 8192 - 4 then return none
  let magic ← uN 4 data special
  if magic ≠ 0x1717 then return none
  let lower ← uN 2 data 12
  if lower < 24 + 4 then return none
  let itemPtr ← uN 4 data 24
  let itemOffset := itemPtr &&& 0x7FFF
  let itemLen := (itemPtr >>> 17) &&& 0x7FFF
  if itemOffset = 0 ∨ itemLen = 0 ∨ itemOffset + itemLen > 8192 then return none
  let tupleData ← slice data itemOffset (itemOffset + itemLen)
  if tupleData.length < 23 then return none
  let hoff0 := (← idx tupleData 22).toNat
  let hoff := if hoff0 < 23 ∨ hoff0 > tupleData.length then 24 else hoff0
  if hoff > tupleData.length then return none
  let seqData ← sliceFrom tupleData hoff
  parseSequenceTuple seqData

/-- IsSequenceFile (repaired) -/
def isSequenceFile (data : Bytes) : M Bool := do
  if data.length < 8192 then return false
  let special ← uN 2 data 16
  if special = 0 ∨ special > 8192 - 4 then return false
  let magic ← uN 4 data special
  return magic == 0x1717

/-! ### FindSequences / ScanAllSequences -/

structure DbInfo where
  oid : Nat
  name : Bytes
deriving Repr, DecidableEq, Inhabited

structure ClassInfo where
  filenode : Nat
  oid : Nat
  name : Bytes
  kind : Bytes
deriving Repr, DecidableEq, Inhabited

/-- the environment of the cluster-level functions: file reads (`readRegularFile` since fixes/entry/02: `os.ReadFile` on a regular file; `none` = error, which now includes a path that is not a regular file), and the
results of the pg_database / pg_class parsers on a file's bytes.  `parseClass` returns the map as an
association list keyed by filenode (unique keys).  `order` is the order in which Go's `range tables` yields
the entries of that map: unspecified, different from call to call — any rearrangement (`id` by default). -/
structure SeqEnv where
  fs : String → Option Bytes
  parseDatabase : Bytes → List DbInfo
  parseClass : Bytes → List ClassInfo
  order : List ClassInfo → List ClassInfo := id

/-- the relations in the order FindSequences visits them (fixes/control/08): the filenodes are collected by ranging
over the map (`env.order`), sorted ascending, and each is looked up again — the entries sorted by filenode
(see Model/KeySort.lean) -/
def seqVisitOrder (env : SeqEnv) (tables : List ClassInfo) : List ClassInfo :=
  keySort (·.filenode) (env.order tables)

/-- the loop `for _, filenode := range filenodes { info := tables[filenode]; … }` of FindSequences over the relations in
the given order -/
def findSeqLoop (env : SeqEnv) (basePath : String) : List ClassInfo → M (List SequenceData)
  | [] => pure []
  | info :: rest => do
    if info.kind != [83] then findSeqLoop env basePath rest            -- relkind "S"
    else match env.fs (basePath ++ "/" ++ toString info.filenode) with
      | none => findSeqLoop env basePath rest
      | some seqData =>
        match ← parseSequenceFile seqData with
        | none => findSeqLoop env basePath rest
        | some seq =>
          let r ← findSeqLoop env basePath rest
          pure ({ seq with name := info.name, oid := info.oid, filenode := info.filenode } :: r)

def findSequences (env : SeqEnv) (dataDir : String) (dbName : Bytes) : M (Option (List SequenceData)) := do
  match env.fs (dataDir ++ "/global/1262") with
  | none => return none
  | some dbData =>
    let dbOID := match (env.parseDatabase dbData).find? (·.name == dbName) with
      | some d => d.oid | none => 0
    if dbOID = 0 then return none
    let basePath := dataDir ++ "/base/" ++ toString dbOID
    match env.fs (basePath ++ "/1259") with
    | none => return none
    | some classData => return some (← findSeqLoop env basePath (seqVisitOrder env (env.parseClass classData)))

def hasPrefix (s p : Bytes) : Bool := s.take p.length == p

/-- the loop of ScanAllSequences; `results[db.Name] = seqs` — a later database with the same name overwrites -/
def scanLoop (env : SeqEnv) (dataDir : String) : List DbInfo → M (List (Bytes × List SequenceData))
  | [] => pure []
  | db :: rest => do
    if hasPrefix db.name "template".toUTF8.toList then scanLoop env dataDir rest
    else match ← findSequences env dataDir db.name with
      | none => scanLoop env dataDir rest
      | some seqs =>
        let r ← scanLoop env dataDir rest
        pure (if seqs.isEmpty then r else if r.any (·.1 == db.name) then r else (db.name, seqs) :: r)

/-- ScanAllSequences: map from database name to its sequences (only non-empty lists), as an association list -/
def scanAllSequences (env : SeqEnv) (dataDir : String) : M (Option (List (Bytes × List SequenceData))) := do
  match env.fs (dataDir ++ "/global/1262") with
  | none => return none
  | some dbData => return some (← scanLoop env dataDir (env.parseDatabase dbData))

end PgVerif.Model
