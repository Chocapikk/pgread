/-
  Model of pgdump/toast.go (with fixes/toast/01..06, 20..22 applied) and of types.go:ReadVarlena as far as
  ReadTOASTTable uses it.  One Lean function per Go function, same guards, same order of evaluation.
  Parameters standing for the environment: `zlib data n` (compress/zlib NewReader + the first `n` bytes of the inflated
  stream through io.LimitReader on the fallback path, fixes toast/20 and /22: `none` = the stream is not zlib or is
  damaged), `readFile` (os.ReadFile of base/<dbOID>/<relid>).
  Not modelled: capacities.  `pglzOutputSize` / `lz4OutputSize` (fixes/toast/22) only choose the capacity of the result
  slice (append would grow it were they too small), so they do not influence any result; that they are exact is checked
  by the harness (family `lz4`/`pglz`/`toastmut` handlers compare cap and len) and the allocation by family `resource`.
  Core Lean only (driver path).
-/
import PgVerif.Model.Heap
import PgVerif.Model.Pglz
import PgVerif.Model.Lz4
import PgVerif.Model.InlineComp
import PgVerif.Model.KeySort
namespace PgVerif.Model.Toast
open PgVerif PgVerif.Model

structure Ptr where
  rawSize : Nat
  extSize : Nat
  valueID : Nat
  toastRelID : Nat
  isCompressed : Bool
  method : Nat
deriving Repr, DecidableEq, Inhabited

structure Chunk where
  id : Nat
  seq : Int
  data : Bytes
deriving Repr, DecidableEq, Inhabited

/-- Go: `binary.LittleEndian.Uint32(data[lo : lo+4])` -/
def le32 (data : Bytes) (lo : Nat) : M Nat := do
  let s ← slice data lo (lo + 4)
  uN 4 s 0

/-- toast.go:ParseTOASTPointer; `none` = nil -/
def parseTOASTPointer (data : Bytes) : M (Option Ptr) := do
  if data.length < 18 then return none
  let tag ← idx data 0
  if tag != 0x01 && tag != 0x02 && tag != 0x12 then return none
  let offset := 2
  if data.length < offset + 16 then return none
  let rawSize ← le32 data offset
  let extInfo ← le32 data (offset + 4)
  let extSize := extInfo &&& 0x3FFFFFFF
  let method := extInfo >>> 30
  let valueID ← le32 data (offset + 8)
  let relID ← le32 data (offset + 12)
  return some ⟨rawSize, extSize, valueID, relID, decide (extSize + 4 < rawSize), method⟩

/-- toast.go:IsTOASTPointer -/
def isTOASTPointer (data : Bytes) : M Bool := do
  if data.length < 2 then return false
  let first ← idx data 0
  return first == 0x01 || first == 0x02 || first == 0x12

/-- types.go:ReadVarlena (tree at /repo HEAD, i.e. with fixes/rows/02 — an on-disk external pointer occupies 18 bytes —
/05 — an empty short varlena `03` is the empty value, not nil — and /09 — a value compressed in line is decompressed).  `none` = nil. -/
def readVarlena (data : Bytes) : M (Option Bytes × Nat) := do
  if data.length = 0 then return (none, 0)
  let first ← idx data 0
  if first.toNat &&& 1 == 1 && first != 1 then
    let totalLen := first.toNat >>> 1
    if totalLen < 1 || data.length < totalLen then return (none, 1)
    let d ← slice data 1 totalLen
    return (some d, totalLen)
  if first == 1 then
    -- `if len(data) >= 18 && data[1] == 18 { return nil, 18 }; return nil, 1`
    if data.length ≥ 18 then
      let tag ← idx data 1
      return (none, if tag == 18 then 18 else 1)
    else return (none, 1)
  if data.length < 4 then return (none, 0)
  let header ← uN 4 data 0
  let totalLen := header >>> 2
  if totalLen < 4 || data.length < totalLen then return (none, 4)
  if header % 4 == 2 && totalLen ≥ 8 then
    -- fixes/rows/09: compressed in line (never the case for chunk_data PostgreSQL wrote)
    let v ← inlineDecompress data totalLen
    return (v, totalLen)
  let d ← slice data 4 totalLen
  return (some d, totalLen)

/-- body of the loop of ReadTOASTTable for one visible tuple; `none` = `continue` / not appended -/
def chunkOf (tdata : Bytes) : M (Option Chunk) := do
  if tdata.length < 8 then return none
  let id ← uN 4 tdata 0
  let seq := toSigned 32 (← uN 4 tdata 4)
  let offset := align 8 4
  let d ← if offset < tdata.length then do
            let r ← readVarlena (← sliceFrom tdata offset)
            pure (r.1.getD [])
          else pure []
  if d.length > 0 then return some ⟨id, seq, d⟩ else return none

/-- toast.go:toastVisible (fixes/toast/21) on a whole raw tuple: PostgreSQL's HeapTupleSatisfiesToast —
HEAP_XMIN_COMMITTED (0x0100) set: visible; else HEAP_XMIN_INVALID (0x0200) set: not; else visible iff t_xmin ≠ 0.
t_xmax and the XMAX bits are not read. -/
def toastVisible (raw : Bytes) : M Bool := do
  let infomask ← uN 2 raw 20
  if infomask &&& 0x0100 != 0 then pure true
  else if infomask &&& 0x0200 != 0 then pure false
  else do
    let xmin ← uN 4 raw 0
    pure (xmin != 0)

/-- body of the inner loop of toast.go:readTOASTTuples for one line pointer: the per-pointer checks of ParsePage (`pageItem`;
not its overlap guard `overlapsAny`, which readTOASTTuples does not have), then
`if tuple := ParseHeapTuple(raw); tuple != nil && toastVisible(raw)` -/
def toastPageItem (data : Bytes) (upper : Nat) (item : ItemID) : M (Option HeapTuple) := do
  if item.flags != 1 || item.length == 0 then return none
  if item.offset < upper || item.offset + item.length > 8192 then return none
  let s ← slice data item.offset (item.offset + item.length)
  match ← parseHeapTuple s with
  | none => pure none
  | some t => do
    let v ← toastVisible s
    pure (if v then some t else none)

/-- one page of readTOASTTuples (`data` = the 8192 bytes of the page): header checks as in ParsePage, `continue` on an
invalid header -/
def toastPageTuples (data : Bytes) : M (List HeapTuple) := do
  let h ← parseHeader data
  if !validHeader h then return []
  let items ← parseItems data h.lower
  collectM (toastPageItem data h.upper) items

/-- `for off := 0; off+PageSize <= len(data); off += PageSize`, `n` = iterations still allowed -/
def readTOASTTuplesFrom (data : Bytes) : Nat → Nat → M (List HeapTuple)
  | 0, _ => pure []
  | n+1, off => do
    if off + 8192 ≤ data.length then
      let pg ← slice data off (off + 8192)
      let ts ← toastPageTuples pg
      let rest ← readTOASTTuplesFrom data n (off + 8192)
      pure (ts ++ rest)
    else pure []

/-- toast.go:readTOASTTuples (fixes/toast/21): the tuples of a TOAST relation file that PostgreSQL's TOAST snapshot sees,
in physical order -/
def readTOASTTuples (data : Bytes) : M (List HeapTuple) :=
  readTOASTTuplesFrom data (data.length / 8192 + 1) 0

/-- toast.go:ReadTOASTTable -/
def readTOASTTable (data : Bytes) : M (List Chunk) := do
  let ts ← readTOASTTuples data
  collectM (fun t => chunkOf t.data) ts

/-- the decompression branch of ReassembleTOAST (`data` = concatenated chunks, longer than 4 bytes).
`zlib data n` stands for the first `n` bytes of `zlib.NewReader(data)` read through `io.LimitReader` (fix toast/20: the
fallback reads at most `rawSize` bytes, like the two decompressors; fix toast/22: and at most 255 bytes per stored byte,
the ratio of the densest format PostgreSQL does write — `rawSize` alone is the attacker's 32-bit field, no bound in the
input; the stream is inflated twice, counted first, so that the result is allocated once): `some z` = the bytes read without
error — at most `n` of them, which is io.LimitReader's contract and the hypothesis `ZlibBounded` of the size theorems —
`none` = an error. -/
def decompressStored (zlib : Bytes → Nat → Option Bytes) (p : Ptr) (data : Bytes) : M Bytes := do
  let rawSize := p.rawSize - 4
  let limit := min rawSize (255 * data.length)
  let stream ← sliceFrom data 4
  let viaLz4 ← if p.method == 1 then Lz4.decompressLZ4 stream rawSize else pure none
  match viaLz4 with
  | some d => return d
  | none =>
    let viaPglz ← Pglz.decompressPGLZ stream rawSize
    match viaPglz with
    | some d =>
      if d.length > 0 then return d
      match zlib data limit with
      | some z => return z
      | none => return data
    | none =>
      match zlib data limit with
      | some z => return z
      | none => return data

/-- io.LimitReader's contract for the zlib parameter: never more than `n` bytes -/
def ZlibBounded (zlib : Bytes → Nat → Option Bytes) : Prop := ∀ d n z, zlib d n = some z → z.length ≤ n

/-- toast.go:ReassembleTOAST; `none` = nil.  `sort.SliceStable` by ChunkSeq (fixes/toast/06; it was `sort.Slice`, whose
order among equal sequence numbers is unspecified and differed from any stable sort from 13 chunks on — REVIEW C2) is a
stable sort: chunks with equal sequence numbers keep their stored order.  A stable sort's result is determined by the
keys, so `List.mergeSort` (stable) is exact, duplicates included (family `toastties`). -/
def reassembleTOAST (zlib : Bytes → Nat → Option Bytes) (chunks : List Chunk) (valueID : Nat) (ptr : Option Ptr) :
    M (Option Bytes) := do
  let valueChunks := chunks.filter (·.id == valueID)
  if valueChunks.length = 0 then return none
  let sorted := valueChunks.mergeSort (fun a b => decide (a.seq ≤ b.seq))
  let data := sorted.flatMap (·.data)
  match ptr with
  | some p =>
    if p.isCompressed && data.length > 4 && p.rawSize ≥ 4 then
      return some (← decompressStored zlib p data)
    else return (if data.isEmpty then none else some data)
  | none => return (if data.isEmpty then none else some data)

/-- TOASTReader: the loaded tables (keyed by relation oid) and whether a data directory is set -/
structure Reader where
  tables : List (Nat × List Chunk)
  hasDir : Bool
deriving Repr

/-- toast.go:(*TOASTReader).ReadValue; the result for a non-pointer is the input itself.  Returns the reader as
well: a table loaded from the data directory stays loaded (`r.chunks[toastRelID] = …`). -/
def readValue (zlib : Bytes → Nat → Option Bytes) (readFile : Nat → Option Bytes) (r : Reader) (data : Bytes) :
    M (Option Bytes × Reader) := do
  match ← parseTOASTPointer data with
  | none => return (some data, r)
  | some p =>
    let tables ←
      if (r.tables.lookup p.toastRelID).isNone && r.hasDir then
        match readFile p.toastRelID with
        | some f => do pure ((p.toastRelID, ← readTOASTTable f) :: r.tables)
        | none => pure r.tables
      else pure r.tables
    let r' : Reader := { r with tables }
    match tables.lookup p.toastRelID with
    | none => return (none, r')
    | some cs => return (← reassembleTOAST zlib cs p.valueID (some p), r')

/-! ### GetTOASTVerboseInfo -/

structure ValueInfo where
  chunkID : Nat
  numChunks : Nat
  totalSize : Nat
deriving Repr, DecidableEq

structure VerboseInfo where
  toastRelID : Nat
  totalChunks : Nat
  uniqueValues : Nat
  totalSize : Nat
  /-- AverageChunkSize = float64(avgNum) / float64(avgDen) -/
  avgNum : Nat
  avgDen : Nat
  maxChunksPerValue : Nat
  /-- map[int]int as an association list (Go's iteration order is random: compare sorted) -/
  distribution : List (Nat × Nat)
  /-- one entry per value, in ascending value id order (fixes/toast/05; it was map iteration order) -/
  values : List ValueInfo
deriving Repr, DecidableEq

/-- `m[k] = append(m[k], c)` on an association list kept in first-insertion order -/
def groupInsert (m : List (Nat × List Chunk)) (c : Chunk) : List (Nat × List Chunk) :=
  if m.any (·.1 == c.id) then m.map fun kv => if kv.1 == c.id then (kv.1, kv.2 ++ [c]) else kv
  else m ++ [(c.id, [c])]

/-- `m[k]++` -/
def countInsert (m : List (Nat × Nat)) (k : Nat) : List (Nat × Nat) :=
  if m.any (·.1 == k) then m.map fun kv => if kv.1 == k then (kv.1, kv.2 + 1) else kv
  else m ++ [(k, 1)]

/-- the iteration order of Go's `range valueChunks`: some rearrangement of the entries of the map -/
abbrev GroupOrder := List (Nat × List Chunk) → List (Nat × List Chunk)

/-- the body of GetTOASTVerboseInfo after the `len(chunks) == 0` check (with fixes/toast/05): the value ids are
collected by ranging over the map (`π`: any order), sorted ascending, and each value is analysed in that order — the
entries of the map sorted by value id (Model/KeySort.lean) -/
def buildInfoWith (π : GroupOrder) (toastRelID : Nat) (chunks : List Chunk) : VerboseInfo :=
  let groups := chunks.foldl groupInsert []
  let visited := keySort (·.1) (π groups)
  let totalSize := (chunks.map (·.data.length)).sum
  let vals := visited.map fun g => (⟨g.1, g.2.length, (g.2.map (·.data.length)).sum⟩ : ValueInfo)
  { toastRelID, totalChunks := chunks.length, uniqueValues := groups.length, totalSize,
    avgNum := totalSize, avgDen := chunks.length,
    maxChunksPerValue := (vals.map (·.numChunks)).foldl max 0,
    distribution := (vals.map (·.numChunks)).foldl countInsert [],
    values := vals }

/-- the result for one fixed iteration order; `Props/C11Maps.C11_toastInfo_order_independent`: every order gives this -/
def buildInfo (toastRelID : Nat) (chunks : List Chunk) : VerboseInfo := buildInfoWith id toastRelID chunks

/-- toast.go:GetTOASTVerboseInfo; `none` = nil -/
def getTOASTVerboseInfoWith (π : GroupOrder) (toastRelID : Nat) (data : Bytes) : M (Option VerboseInfo) := do
  let chunks ← readTOASTTable data
  if chunks.length = 0 then return none
  return some (buildInfoWith π toastRelID chunks)

def getTOASTVerboseInfo (toastRelID : Nat) (data : Bytes) : M (Option VerboseInfo) :=
  getTOASTVerboseInfoWith id toastRelID data

end PgVerif.Model.Toast
