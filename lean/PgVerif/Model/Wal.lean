/-
  Model of pgdump/wal.go (with fixes/wal/01..13 and fixes/entry/01, 04 applied): ParseWALFile, parseWALPage, continuationData,
  parsePageHeader, parseXLogRecord, parseBlockRefs(For), rmgrName / operationName(For) (graphs generated by execution:
  Generated/Wal.lean), isWALSegmentName, ScanWALDirectory, GetRecentWALRecords.
  One Lean function per Go function, same guards, same order of evaluation; every slice expression and
  index goes through the fault-aware primitives.  Library calls modelled here by small definitions:
  `sort.Strings` (insertion sort on byte order), `strings.Contains`, `strings.HasSuffix`,
  `fmt.Sprintf("%X/%X" | "%d/%d" | "op_0x%02X" | "RM_%d")`, `sort.Slice` on distinct xids.
  `os.ReadDir` = the parameter `Entries` (every entry of pg_wal with its kind, in any order; names are distinct);
  the two directory functions keep the regular files only (fixes/entry/04: `e.Type().IsRegular()`), `regularFiles`,
  and everything below that filter is stated on `Dir` = `List (String × Bytes)`, the regular files with their
  content (`os.ReadFile`).
-/
import PgVerif.Basic.Bytes
import PgVerif.Generated.Wal
namespace PgVerif.Model.Wal
open PgVerif

/-! ### small helpers -/

/-- wal.go:align8 — `(n + 7) &^ 7` -/
def align8 (n : Nat) : Nat := andNot (n + 7) 7

/-- wal.go:isValidMagic — WAL_MAGIC_16, _15, _14, _13, _12 (fixes/wal/06: the values of 14, 13, 12 are PostgreSQL's) -/
def isValidMagic (m : Nat) : Bool :=
  m == 0xD113 || m == 0xD110 || m == 0xD10D || m == 0xD106 || m == 0xD101

def pgVersionFromMagic (m : Nat) : String :=
  if m == 0xD113 then "16" else if m == 0xD110 then "15" else if m == 0xD10D then "14"
  else if m == 0xD106 then "13" else if m == 0xD101 then "12" else "unknown"

/-- wal.go:isZeroPadding — the first (at most) 8 bytes are all zero -/
def isZeroPadding (data : Bytes) : Bool := (data.take 8).all (· == 0)

def upperHexDigit (n : Nat) : Char := if n < 10 then Char.ofNat (48 + n) else Char.ofNat (55 + n)

/-- `%X` -/
def hexUpperAux : Nat → Nat → List Char → List Char
  | 0, _, acc => acc
  | fuel+1, n, acc =>
    if n < 16 then upperHexDigit n :: acc else hexUpperAux fuel (n / 16) (upperHexDigit (n % 16) :: acc)

def hexUpper (n : Nat) : String := String.ofList (hexUpperAux 17 n [])

/-- `op_0x%02X` -/
def defaultOpName (info : Nat) : String :=
  String.ofList ['o', 'p', '_', '0', 'x', upperHexDigit (info / 16 % 16), upperHexDigit (info % 16)]

/-- wal.go:rmgrName — graph generated by executing the code; `RM_%d` for every other id -/
def rmgrName (rmid : Nat) : String :=
  match Generated.Wal.rmNames.find? (·.1 == rmid) with
  | some e => e.2
  | none => "RM_" ++ toString rmid

/-- the vocabulary a page magic selects in operationNameFor (fixes/wal/07): 0 = `magic < WAL_MAGIC_14` (Heap2 and
Database opcodes of PostgreSQL 12/13), 1 = `WAL_MAGIC_14 ≤ magic < WAL_MAGIC_15`, 2 = `magic ≥ WAL_MAGIC_15`
(Database opcodes of 15/16).  These two comparisons are the only uses of `magic` in the function. -/
def opClass (magic : Nat) : Nat := if magic < 0xD10D then 0 else if magic < 0xD110 then 1 else 2

/-- the graph of operationNameFor for one vocabulary, generated by executing the code on pages of PostgreSQL 13, 14
and 16 (the generator checks that the pages of 12 and 15 give the graphs of 13 and 16) -/
def opRunsOf : Nat → Nat → List (Nat × Nat × String)
  | 0 => Generated.Wal.opRuns13
  | 1 => Generated.Wal.opRuns14
  | _ => Generated.Wal.opRuns16

/-- the name of `info` in the runs (infoLo, infoHi, name) of one resource manager -/
def opNameIn (runs : List (Nat × Nat × String)) (info : Nat) : String :=
  match runs.find? (fun e => e.1 ≤ info && info ≤ e.2.1) with
  | some e => e.2.2
  | none => defaultOpName info

/-- wal.go:operationNameFor — graph generated by executing the code; `op_0x%02X` for every other pair -/
def operationNameFor (rmid info magic : Nat) : String := opNameIn (opRunsOf (opClass magic) rmid) info

/-- wal.go:operationName — the two-argument form the tests call: the vocabulary of PostgreSQL 16 -/
def operationName (rmid info : Nat) : String := operationNameFor rmid info 0xD113

/-- wal.go:FormatLSN — `%X/%X` of the high and low 32 bits -/
def formatLSN (lsn : Nat) : String := hexUpper (lsn / 2 ^ 32) ++ "/" ++ hexUpper (lsn % 2 ^ 32)

/-! ### records -/

structure RelFileNode where
  spc : Nat
  db : Nat
  rel : Nat
deriving Repr, DecidableEq, Inhabited

structure BlockRef where
  id : Nat
  forkNum : Nat
  flags : Nat
  rel : Option RelFileNode
  blockNum : Nat
deriving Repr, DecidableEq, Inhabited

structure Record where
  totalLen : Nat
  xid : Nat
  prev : Nat
  info : Nat
  rmid : Nat
  crc : Nat
  lsn : Nat
  rmName : String
  operation : String
  blocks : List BlockRef
deriving Repr, DecidableEq, Inhabited

/-- position after the image header that starts at `pos` (the caller has checked `pos + 5 ≤ len`) -/
def afterImage (data : Bytes) (pre15 : Bool) (pos : Nat) : M Nat := do
  let bimg := (← idx data (pos + 4)).toNat
  let compressed := if pre15 then bimg &&& 0x02 != 0 else bimg &&& 0x1C != 0
  pure (if bimg &&& 0x01 != 0 && compressed then pos + 7 else pos + 5)

/-- the optional image header of a block reference: `none` = `break` (truncated), otherwise the position
after it and the updated `dataTotal` -/
def imagePart (data : Bytes) (pre15 : Bool) (ff pos dataTotal : Nat) : M (Option (Nat × Nat)) :=
  if ff &&& 0x10 != 0 then
    if pos + 5 > data.length then pure none
    else do
      let l ← uN 2 data pos
      let p ← afterImage data pre15 pos
      pure (some (p, dataTotal + l))
  else pure (some (pos, dataTotal))

/-- the optional RelFileNode of a block reference (absent with BKPBLOCK_SAME_REL 0x80: the previous one is
reused): `none` = `break`, otherwise the relation in force and the position after it -/
def relPart (data : Bytes) (ff pos : Nat) (lastRel : Option RelFileNode) : M (Option (Option RelFileNode × Nat)) :=
  if ff &&& 0x80 == 0 then
    if pos + 12 > data.length then pure none
    else do
      let spc ← uN 4 data pos
      let db ← uN 4 data (pos + 4)
      let rel ← uN 4 data (pos + 8)
      pure (some (some ⟨spc, db, rel⟩, pos + 12))
  else pure (some (lastRel, pos))

structure BlockStep where
  block : BlockRef
  pos : Nat
  dataTotal : Nat
  lastRel : Option RelFileNode
deriving Repr, DecidableEq

/-- one iteration of the loop of parseBlockRefsFor (the loop condition `pos+4 <= len(data)` holds);
`none` = one of the `break`s -/
def blockStep (data : Bytes) (pre15 : Bool) (pos dataTotal : Nat) (lastRel : Option RelFileNode) : M (Option BlockStep) := do
  let blockID := (← idx data pos).toNat
  if blockID > 32 then pure none
  else do
    let ff := (← idx data (pos + 1)).toNat
    let dl ← uN 2 data (pos + 2)
    match ← imagePart data pre15 ff (pos + 4) (dataTotal + dl) with
    | none => pure none
    | some pd =>
      match ← relPart data ff pd.1 lastRel with
      | none => pure none
      | some rp =>
        if rp.2 + 4 > data.length then pure none
        else do
          let blk ← uN 4 data rp.2
          pure (some ⟨⟨blockID, ff &&& 0x0F, ff, rp.1, blk⟩, rp.2 + 4, pd.2, rp.1⟩)

/-- wal.go:parseBlockRefsFor loop (fixes/wal/02): `for pos+4 <= len(data) && len(data)-pos > dataTotal { … }`;
`fuel` iterations left.  `pre15` = `magic < WAL_MAGIC_15`; `dataTotal` = block data and image bytes announced so far. -/
def blockLoop (data : Bytes) (pre15 : Bool) : Nat → Nat → Nat → Option RelFileNode → M (List BlockRef)
  | 0, _, _, _ => pure []
  | fuel+1, pos, dataTotal, lastRel =>
    if pos + 4 ≤ data.length ∧ data.length - pos > dataTotal then do
      match ← blockStep data pre15 pos dataTotal lastRel with
      | none => pure []
      | some s => do
        let rest ← blockLoop data pre15 fuel s.pos s.dataTotal s.lastRel
        pure (s.block :: rest)
    else pure []

def parseBlockRefsFor (data : Bytes) (magic : Nat) : M (List BlockRef) :=
  blockLoop data (decide (magic < 0xD110)) data.length 0 0 none

/-- wal.go:parseBlockRefs — the test entry point -/
def parseBlockRefs (data : Bytes) : M (List BlockRef) := parseBlockRefsFor data 0xD113

/-- wal.go:XLogRecordMaxSize = 1020 * 1024 * 1024 (fixes/wal/11; tied to the source in Proofs/SrcTie/Wal.lean) -/
def xlogRecordMaxSize : Nat := 1069547520

/-- wal.go:parseXLogRecord — (record or nil, bytes consumed); fixes/wal/11: the only upper bound on xl_tot_len is
XLogRecordMaxSize -/
def parseXLogRecord (data : Bytes) (lsn magic : Nat) : M (Option Record × Nat) :=
  if data.length < 24 then pure (none, 0)
  else do
    let totalLen ← uN 4 data 0
    if totalLen < 24 || totalLen > xlogRecordMaxSize then pure (none, 0)
    else do
      let xid ← uN 4 data 4
      let prev ← uN 8 data 8
      let info := (← idx data 16).toNat
      let rmid := (← idx data 17).toNat
      let crc ← uN 4 data 20
      let blocks ← (if totalLen > 24 && totalLen ≤ data.length then do
          let body ← slice data 24 totalLen
          parseBlockRefsFor body magic
        else pure [] : M (List BlockRef))
      pure (some { totalLen, xid, prev, info, rmid, crc, lsn,
                   rmName := rmgrName rmid, operation := operationNameFor rmid info magic, blocks }, totalLen)

structure PageHeader where
  magic : Nat
  info : Nat
  tli : Nat
  pageAddr : Nat
  remLen : Nat
  sysid : Nat := 0
  segSize : Nat := 0
  blockSize : Nat := 0
deriving Repr, DecidableEq, Inhabited

def parsePageHeader (data : Bytes) : M PageHeader := do
  let magic ← uN 2 data 0
  let info ← uN 2 data 2
  let tli ← uN 4 data 4
  let pageAddr ← uN 8 data 8
  let remLen ← uN 4 data 16
  if info &&& 0x0002 != 0 && data.length ≥ 40 then do
    let sysid ← uN 8 data 24
    let segSize ← uN 4 data 32
    let blockSize ← uN 4 data 36
    pure { magic, info, tli, pageAddr, remLen, sysid, segSize, blockSize }
  else pure { magic, info, tli, pageAddr, remLen }

def headerSize (info : Nat) : Nat := if info &&& 0x0002 != 0 then 40 else 24

/-- wal.go:continuationData loop (fixes/wal/04): `for need > 0 { … }`, `fuel` iterations left (every iteration
takes at least one byte, so `need` iterations are enough).  `none` = the `return nil`s: a page is missing, is not
a valid page, is not flagged XLP_FIRST_IS_CONTRECORD, or its xlp_rem_len is not what is still missing.
`out = append(out, chunk...)` is returned as `chunk ++ (what the remaining iterations append)`. -/
def contLoop : Nat → Bytes → Nat → M (Option Bytes)
  | 0, _, _ => pure (some [])
  | fuel+1, following, need =>
    if need > 0 then
      if following.length < 8192 then pure none
      else do
        let page ← sliceTo following 8192
        let h ← parsePageHeader page
        if !isValidMagic h.magic || h.info &&& 0x0001 == 0 || h.remLen != need then pure none
        else do
          let hs := headerSize h.info
          let n := if 8192 - hs > need then need else 8192 - hs
          let chunk ← slice page hs (hs + n)
          let rest ← sliceFrom following 8192
          match ← contLoop fuel rest (need - n) with
          | some more => pure (some (chunk ++ more))
          | none => pure none
    else pure (some [])

/-- wal.go:continuationData — the first `need` bytes of the record continued on the pages in `following`;
`none` = nil (also for `need ≤ 0`: `var out []byte` is never appended to) -/
def continuationData (following : Bytes) (need : Nat) : M (Option Bytes) :=
  if need > 0 then contLoop need following need else pure none

/-- the bytes parseXLogRecord is given for the record that starts at `tail` = `data[pos:]` (at least 4 bytes):
the rest of the page, completed from the continuation data of the following pages when xl_tot_len says the
record is longer than that and they do continue it (fixes/wal/04), over as many pages as it takes; fixes/wal/11: attempted
whenever the bytes still missing are not more than the following pages hold
(`totalLen > len(recData) && totalLen-len(recData) <= len(following)`; both are Go ints, the difference is taken only
when it is positive) -/
def recordBytes (tail following : Bytes) : M Bytes := do
  let totalLen ← uN 4 tail 0
  if totalLen > tail.length && totalLen - tail.length ≤ following.length then do
    match ← continuationData following (totalLen - tail.length) with
    | some cont => pure (tail ++ cont)
    | none => pure tail
  else pure tail

/-- the record loop of parseWALPage: `for pos+8 <= len(data) { … }` (fixes/wal/05: xl_tot_len is on the page,
the rest of the header need not be), `fuel` iterations left; `following` = the pages after this one;
`pageAddr` is the header's xlp_pageaddr (fixes/wal/01), the LSN is computed in uint64 -/
def recordLoop (data following : Bytes) (pageAddr magic : Nat) : Nat → Nat → M (List Record)
  | 0, _ => pure []
  | fuel+1, pos =>
    if pos + 8 ≤ data.length then do
      let tail ← sliceFrom data pos
      if isZeroPadding tail then pure []
      else do
        let recData ← recordBytes tail following
        let rc ← parseXLogRecord recData ((pageAddr + pos) % 2 ^ 64) magic
        if rc.2 == 0 then pure []
        else do
          let rest ← recordLoop data following pageAddr magic fuel (align8 (pos + rc.2))
          pure (match rc.1 with
            | some r => r :: rest
            | none => rest)
    else pure []

/-- first record position: after the header and, on a continuation page, the rest of the previous record -/
def startPos (h : PageHeader) : Nat :=
  if h.info &&& 0x0001 != 0 && h.remLen > 0 then align8 (headerSize h.info + h.remLen) else headerSize h.info

/-- wal.go:parseWALPage — `none` = the error return (page skipped); `following` = the pages after this one.
The `baseOffset`/`pageNum` parameters of the Go function no longer influence the result and are dropped. -/
def parseWALPage (data following : Bytes) : M (Option (List Record)) :=
  if data.length < 24 then pure none
  else do
    let h ← parsePageHeader data
    if !isValidMagic h.magic then pure none
    else do
      let recs ← recordLoop data following h.pageAddr h.magic data.length (startPos h)
      pure (some recs)

/-- `for offset := 0; offset+WALPageSize <= len(data); offset += WALPageSize`, `fuel` iterations left -/
def pagesLoop (data : Bytes) : Nat → Nat → M (List Record)
  | 0, _ => pure []
  | fuel+1, off =>
    if off + 8192 ≤ data.length then do
      let pg ← slice data off (off + 8192)
      let following ← sliceFrom data (off + 8192)
      let r ← parseWALPage pg following
      let rest ← pagesLoop data fuel (off + 8192)
      pure (r.getD [] ++ rest)
    else pure []

/-- wal.go:ParseWALFile — `none` = error ("WAL file too small") -/
def parseWALFile (data : Bytes) : M (Option (List Record)) :=
  if data.length < 40 then pure none
  else do
    let rs ← pagesLoop data (data.length / 8192 + 1) 0
    pure (some rs)

/-! ### directory scan -/

/-- the regular files of a directory with their content -/
abbrev Dir := List (String × Bytes)

/-- `fs.DirEntry.Type()`: what kind of thing a directory entry is -/
inductive EntryKind where
  | regular | dir | symlink | fifo | socket | device
deriving Repr, DecidableEq, Inhabited

/-- one `os.ReadDir` entry of pg_wal: name, kind, and — for a regular file — what `os.ReadFile` returns for it
(for the other kinds: whatever reading would yield; never looked at) -/
structure DirEntry where
  name : String
  kind : EntryKind
  data : Bytes
deriving Repr, Inhabited

abbrev Entries := List DirEntry

/-- `e.Type().IsRegular()` -/
def DirEntry.isRegular (e : DirEntry) : Bool := e.kind == .regular

/-- fixes/entry/04: of the entries `os.ReadDir` returns, ScanWALDirectory and GetRecentWALRecords consider the regular
files only (before: everything but directories — a FIFO with a segment's name made them block for ever) -/
def regularFiles (es : Entries) : Dir := (es.filter (·.isRegular)).map fun e => (e.name, e.data)

def insertSorted (le : α → α → Bool) (x : α) : List α → List α
  | [] => [x]
  | y :: ys => if le x y then x :: y :: ys else y :: insertSorted le x ys

def sortBy (le : α → α → Bool) : List α → List α
  | [] => []
  | x :: xs => insertSorted le x (sortBy le xs)

def strLe (a b : String) : Bool := decide (a ≤ b)

/-- `strings.HasSuffix` -/
def hasSuffix (s suf : String) : Bool := suf.toList.isSuffixOf s.toList

def containsAux (sub : List Char) : List Char → Bool
  | [] => sub.isEmpty
  | c :: cs => sub.isPrefixOf (c :: cs) || containsAux sub cs

/-- `strings.Contains` -/
def containsSub (s sub : String) : Bool := containsAux sub.toList s.toList

/-- wal.go:isWALSegmentName (fixes/wal/10) — `len(name) == 24` and every byte is one of `0-9A-F`.
File names are byte strings; in `Dir` a name holds one `Char` per byte (that is how the driver builds them from the
case line), so the Go byte length is the number of characters. -/
def isWALSegmentName (n : String) : Bool :=
  n.length == 24 && n.toList.all fun c => ('0' ≤ c && c ≤ '9') || ('A' ≤ c && c ≤ 'F')

/-- the names the two directory functions read, in `sort.Strings` order -/
def walFiles (dir : Dir) : List String :=
  sortBy strLe ((dir.map (·.1)).filter isWALSegmentName)

def readFile (dir : Dir) (name : String) : Bytes :=
  match dir.find? (·.1 == name) with
  | some e => e.2
  | none => []

def bump [BEq κ] (m : List (κ × Nat)) (k : κ) : List (κ × Nat) :=
  if m.any (·.1 == k) then m.map fun kv => if kv.1 == k then (kv.1, kv.2 + 1) else kv else m ++ [(k, 1)]

def put [BEq κ] (m : List (κ × β)) (k : κ) (v : β) : List (κ × β) :=
  if m.any (·.1 == k) then m.map fun kv => if kv.1 == k then (kv.1, v) else kv else m ++ [(k, v)]

structure Tally where
  segmentCount : Nat := 0
  recordCount : Nat := 0
  firstLSN : Nat := 0
  lastLSN : Nat := 0
  pgVersion : String := ""
  tli : Nat := 0
  ops : List (String × Nat) := []
  txnOps : List (Nat × Nat) := []
  txnStatus : List (Nat × String) := []
  tables : List (String × Nat) := []
deriving Repr, Inhabited

def tableKey (r : RelFileNode) : String := toString r.db ++ "/" ++ toString r.rel

def tallyBlocks (tables : List (String × Nat)) : List BlockRef → List (String × Nat)
  | [] => tables
  | b :: bs =>
    match b.rel with
    | some r => if r.rel != 0 then tallyBlocks (bump tables (tableKey r)) bs else tallyBlocks tables bs
    | none => tallyBlocks tables bs

/-- the body of `for _, rec := range records` -/
def tallyRecord (t : Tally) (rec : Record) : Tally :=
  let t := { t with recordCount := t.recordCount + 1 }
  let t := if t.firstLSN == 0 || rec.lsn < t.firstLSN then { t with firstLSN := rec.lsn } else t
  let t := if rec.lsn > t.lastLSN then { t with lastLSN := rec.lsn } else t
  let t := { t with ops := bump t.ops rec.operation }
  let t :=
    if rec.xid != 0 then
      let t := { t with txnOps := bump t.txnOps rec.xid }
      if rec.rmid == 1 then
        if containsSub rec.operation "COMMIT" then { t with txnStatus := put t.txnStatus rec.xid "COMMIT" }
        else if containsSub rec.operation "ABORT" then { t with txnStatus := put t.txnStatus rec.xid "ABORT" }
        else t
      else t
    else t
  { t with tables := tallyBlocks t.tables rec.blocks }

/-- what a successfully parsed file contributes besides its records: the segment count, and — while still
unset — the version (from the first two bytes) and the timeline (bytes 4..8) -/
def noteFile (t : Tally) (data : Bytes) : Tally :=
  let t := { t with segmentCount := t.segmentCount + 1 }
  let t := if t.pgVersion == "" && data.length ≥ 2 then { t with pgVersion := pgVersionFromMagic (rd 2 data) } else t
  if t.tli == 0 && data.length ≥ 8 then { t with tli := rdAt 4 4 data } else t

/-- the body of `for _, name := range walFiles` -/
def tallyFile (dir : Dir) (t : Tally) (name : String) : M Tally := do
  match ← parseWALFile (readFile dir name) with
  | none => pure t
  | some records => pure (records.foldl tallyRecord (noteFile t (readFile dir name)))

def tallyFiles (dir : Dir) : Tally → List String → M Tally
  | t, [] => pure t
  | t, n :: ns => do
    let t ← tallyFile dir t n
    tallyFiles dir t ns

structure TxInfo where
  xid : Nat
  status : String
  operations : Nat
deriving Repr, DecidableEq, Inhabited

structure Summary where
  segmentCount : Nat
  recordCount : Nat
  firstLSN : String
  lastLSN : String
  pgVersion : String
  tli : Nat
  ops : List (String × Nat)        -- a Go map: order is irrelevant
  transactions : List TxInfo       -- sorted by xid
  tables : List (String × Nat)     -- a Go map
deriving Repr, Inhabited

def statusOf (st : List (Nat × String)) (xid : Nat) : String :=
  match st.find? (·.1 == xid) with
  | some e => e.2
  | none => "IN_PROGRESS"

/-- wal.go:ScanWALDirectory (the directory exists: the error return is not modelled) -/
def scanWALDirectory (dir : Dir) : M Summary := do
  let t ← tallyFiles dir {} (walFiles dir)
  let txs := (sortBy (fun a b => decide (a.1 ≤ b.1)) t.txnOps).map fun e => (⟨e.1, statusOf t.txnStatus e.1, e.2⟩ : TxInfo)
  pure { segmentCount := t.segmentCount, recordCount := t.recordCount, firstLSN := formatLSN t.firstLSN,
         lastLSN := formatLSN t.lastLSN, pgVersion := t.pgVersion, tli := t.tli, ops := t.ops,
         transactions := txs, tables := t.tables }

/-- `for i := len(walFiles)-1; i >= 0 && len(allRecords) < limit; i--` over the reversed name list -/
def recentLoop (dir : Dir) (limit : Int) : List String → List Record → M (List Record)
  | [], acc => pure acc
  | n :: ns, acc =>
    if (acc.length : Int) < limit then do
      match ← parseWALFile (readFile dir n) with
      | none => recentLoop dir limit ns acc
      | some rs => recentLoop dir limit ns (rs ++ acc)
    else pure acc

/-- the body of GetRecentWALRecords below the clamp of fixes/entry/01 (= the whole function before that fix):
`limit` is a Go int; a negative limit would make `allRecords[len-limit:]` panic -/
def recentFrom (dir : Dir) (limit : Int) : M (List Record) := do
  let all ← recentLoop dir limit (walFiles dir).reverse []
  if (all.length : Int) > limit then
    if limit < 0 then throw .slice else pure (all.drop (all.length - limit.toNat))
  else pure all

/-- wal.go:GetRecentWALRecords — fixes/entry/01: `if limit < 0 { limit = 0 }` first -/
def getRecentWALRecords (dir : Dir) (limit : Int) : M (List Record) :=
  recentFrom dir (if limit < 0 then 0 else limit)

/-- the selection loop of both directory functions as the code writes it:
`for _, e := range entries { if e.Type().IsRegular() && isWALSegmentName(e.Name()) { walFiles = append(walFiles, name) } }`
followed by `sort.Strings` (equal to `walFiles (regularFiles es)`: Proofs/WalDir.lean `walFilesOf_eq`) -/
def walFilesOf (es : Entries) : List String :=
  sortBy strLe ((es.filter fun e => e.isRegular && isWALSegmentName e.name).map (·.name))

/-- wal.go:ScanWALDirectory on the entries of pg_wal -/
def scanWALDirectoryOf (es : Entries) : M Summary := scanWALDirectory (regularFiles es)

/-- wal.go:GetRecentWALRecords on the entries of pg_wal -/
def getRecentWALRecordsOf (es : Entries) (limit : Int) : M (List Record) := getRecentWALRecords (regularFiles es) limit

end PgVerif.Model.Wal
