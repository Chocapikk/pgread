/-
  types.go `parseArrayElements` / `decodeArray` on any bytes: `readElem` is a function of the bytes up to its call of the
  element decoder (`elemSpan`), `decodeArray` one of three outcomes (`decodeArray_shape`); the rest is read off these two.
-/
import PgVerif.Model.Arrays
import PgVerif.Basic.Lemmas
namespace PgVerif.Proofs.Arrays
open PgVerif PgVerif.Model.Arrays

def DecTotal (dec : Dec) : Prop := ∀ bs oid, ∃ r, dec bs oid = .ok r

theorem i32At_ok (raw : Bytes) (off : Nat) (h : off + 4 ≤ raw.length) :
    i32At raw off = .ok (toSigned 32 (rd 4 (raw.drop off))) := by
  unfold i32At; rw [uN_ok 4 raw off h]; rfl

theorem dimsProduct_total (raw : Bytes) (n i : Nat) (total : Int) (h : 12 + (i + n) * 4 ≤ raw.length) :
    ∃ r, dimsProduct raw n i total = .ok r := by
  induction n generalizing i total with
  | zero => exact ⟨total, rfl⟩
  | succ n ih =>
    simp only [dimsProduct]
    rw [i32At_ok raw (12 + i * 4) (by omega)]
    exact ih (i + 1) _ (by omega)

theorem nullAt_none (i : Nat) : nullAt none i = .ok false := rfl

theorem nullAt_total (nulls : Option Bytes) (i : Nat) (h : ∀ bm, nulls = some bm → i / 8 < bm.length) :
    ∃ b, nullAt nulls i = .ok b := by
  cases nulls with
  | none => exact ⟨false, rfl⟩
  | some bm =>
    simp only [nullAt]
    rw [idx_ok bm (i / 8) (h bm rfl)]
    exact ⟨_, rfl⟩

theorem decodeVarlenaElem_total (dec : Dec) (hdec : DecTotal dec) : DecTotal (decodeVarlenaElem dec) := by
  intro data elemOid
  unfold decodeVarlenaElem
  exact tot_ite (fun _ => tot_ite (fun _ => ⟨_, rfl⟩) fun _ => tot_ite (fun _ => ⟨_, rfl⟩) fun _ => hdec data elemOid)
    fun _ => hdec data elemOid

/-- an element of `n` bytes at `off`, the first `k` of them header: its payload span, if it lies inside `raw` -/
def spanIf (raw : Bytes) (off k n : Nat) : Option (Nat × Nat) :=
  if n < k ∨ off + n > raw.length then none else some (off + k, off + n)

theorem spanIf_some {raw : Bytes} {off k n lo hi : Nat} (h : spanIf raw off k n = some (lo, hi)) :
    k ≤ n ∧ hi = off + n ∧ hi ≤ raw.length := by
  unfold spanIf at h
  by_cases hg : n < k ∨ off + n > raw.length
  · rw [if_pos hg] at h; cases h
  · rw [if_neg hg] at h; cases h; omega

theorem spanIf_pos {raw : Bytes} {off k n : Nat} (hk : k ≤ n) (hl : off + n ≤ raw.length) :
    spanIf raw off k n = some (off + k, off + n) := if_neg (by omega)

/-- where the element stored at `off` lies, as a function of the bytes: `none` = `break`, `some (lo, hi)` = payload
`raw[lo:hi]`, next offset `hi` -/
def elemSpan (raw : Bytes) (elemLen : Nat) (fixed : Bool) (off : Nat) : Option (Nat × Nat) :=
  let hdr := (raw[off]?.getD 0).toNat
  if fixed then spanIf raw off 0 elemLen
  else if off ≥ raw.length then none
  else if hdr % 2 = 1 then spanIf raw off 1 (hdr / 2)
  else if off + 4 > raw.length then none
  else spanIf raw off 4 (rdAt 4 off raw / 4)

def elemDec (dec : Dec) (fixed : Bool) : Dec := if fixed then dec else decodeVarlenaElem dec

def atSpan (d : Dec) (raw : Bytes) (elemOid : Nat) : Option (Nat × Nat) → M (Option (GoVal × Nat))
  | none => .ok none
  | some (lo, hi) => do let v ← d ((raw.take hi).drop lo) elemOid; pure (some (v, hi))

/-- the length guard, the slice and the call, which `readElem` writes out for each of the three forms -/
theorem guard_slice_eq (d : Dec) (raw : Bytes) (elemOid off k n : Nat) {c : Prop} [Decidable c]
    (hc : c ↔ n < k ∨ off + n > raw.length) :
    (if c then pure none else do let s ← slice raw (off + k) (off + n); let v ← d s elemOid; pure (some (v, off + n)))
      = atSpan d raw elemOid (spanIf raw off k n) := by
  unfold spanIf
  by_cases h : n < k ∨ off + n > raw.length
  · rw [if_pos (hc.2 h), if_pos h]; rfl
  · rw [if_neg (mt hc.1 h), if_neg h, slice_ok raw _ _ (by omega) (by omega)]; rfl

theorem readElem_eq (dec : Dec) (raw : Bytes) (elemOid elemLen : Nat) (fixed : Bool) (off : Nat) :
    readElem dec raw elemOid elemLen fixed off = atSpan (elemDec dec fixed) raw elemOid (elemSpan raw elemLen fixed off) := by
  unfold readElem elemSpan elemDec
  cases fixed with
  | true => exact guard_slice_eq dec raw elemOid off 0 elemLen ⟨Or.inr, fun h => h.resolve_left (Nat.not_lt_zero _)⟩
  | false =>
    simp only [Bool.false_eq_true, if_false]
    by_cases h : off ≥ raw.length
    · rw [if_pos h, if_pos h]; rfl
    rw [if_neg h, if_neg h, idx_getD raw off (by omega), ok_bind]
    by_cases h1 : (raw[off]?.getD 0).toNat % 2 = 1
    · rw [if_pos h1, if_pos h1]; exact guard_slice_eq _ raw elemOid off 1 _ Iff.rfl
    · rw [if_neg h1, if_neg h1]
      by_cases h4 : off + 4 > raw.length
      · rw [if_pos h4, if_pos h4]; rfl
      rw [if_neg h4, if_neg h4, uN_ok 4 raw off (by omega), ok_bind]
      exact guard_slice_eq _ raw elemOid off 4 _ Iff.rfl

theorem elemSpan_some {raw : Bytes} {elemLen : Nat} {fixed : Bool} {off lo hi : Nat}
    (h : elemSpan raw elemLen fixed off = some (lo, hi)) : off + (if fixed then elemLen else 1) ≤ hi ∧ hi ≤ raw.length := by
  unfold elemSpan at h
  cases fixed with
  | true => obtain ⟨_, h1, h2⟩ := spanIf_some h; exact ⟨Nat.le_of_eq h1.symm, h2⟩
  | false =>
    simp only [Bool.false_eq_true, if_false] at h ⊢
    split at h
    · cases h
    split at h
    · have := spanIf_some h; omega
    split at h
    · cases h
    · have := spanIf_some h; omega

theorem readElem_total (dec : Dec) (hdec : DecTotal dec) (raw : Bytes) (elemOid elemLen : Nat) (fixed : Bool) (off : Nat) :
    ∃ r, readElem dec raw elemOid elemLen fixed off = .ok r := by
  rw [readElem_eq]
  cases elemSpan raw elemLen fixed off with
  | none => exact ⟨_, rfl⟩
  | some p =>
    refine tot_bind (f := fun v => pure (some (v, p.2))) ?_ fun _ _ => ⟨_, rfl⟩
    unfold elemDec
    cases fixed
    · exact decodeVarlenaElem_total dec hdec _ _
    · exact hdec _ _

theorem readElem_progress (dec : Dec) (raw : Bytes) (elemOid elemLen : Nat) (fixed : Bool) (off : Nat) (v : GoVal) (off' : Nat)
    (hl : fixed = true → 1 ≤ elemLen)
    (h : readElem dec raw elemOid elemLen fixed off = .ok (some (v, off'))) : off < off' ∧ off' ≤ raw.length := by
  rw [readElem_eq] at h
  cases hs : elemSpan raw elemLen fixed off with
  | none => rw [hs] at h; cases h
  | some p =>
    rw [hs] at h
    obtain ⟨w, _, hw⟩ := bind_eq_ok h
    cases hw
    obtain ⟨h1, h2⟩ := elemSpan_some hs
    refine ⟨?_, h2⟩
    cases fixed
    · exact h1
    · exact Nat.lt_of_lt_of_le (Nat.lt_add_of_pos_right (hl rfl)) h1

theorem readElem_at (dec : Dec) {raw hdr p : Bytes} {off : Nat} (elemOid : Nat) {elemLen : Nat} {fixed : Bool}
    {hi : Nat} (h : At raw off (hdr ++ p)) (hs : elemSpan raw elemLen fixed off = some (off + hdr.length, hi))
    (hhi : hi = off + hdr.length + p.length) :
    readElem dec raw elemOid elemLen fixed off = (do let v ← elemDec dec fixed p elemOid; pure (some (v, hi))) := by
  subst hhi
  have hp := h.right.slice
  rw [slice_ok _ _ _ (by have := h.length_le; rw [List.length_append] at this; omega) (by omega)] at hp
  rw [readElem_eq, hs, atSpan, Except.ok.inj hp]

theorem elemSpan_fixed {raw : Bytes} {elemLen off : Nat} (h : off + elemLen ≤ raw.length) :
    elemSpan raw elemLen true off = some (off, off + elemLen) := by
  unfold elemSpan; rw [if_pos rfl]; exact spanIf_pos (Nat.zero_le _) h

/-- a 1-byte varlena header: odd, the total length `n` in the upper seven bits -/
theorem elemSpan_short {raw : Bytes} {b : UInt8} {elemLen off n : Nat} (h : At raw off [b]) (hb : b.toNat = n * 2 + 1)
    (hn : 1 ≤ n) (hl : off + n ≤ raw.length) : elemSpan raw elemLen false off = some (off + 1, off + n) := by
  unfold elemSpan
  simp only [Bool.false_eq_true, if_false, At.getD h, hb]
  rw [if_neg (by omega), if_pos (by omega), show (n * 2 + 1) / 2 = n by omega]; exact spanIf_pos hn hl

/-- a 4-byte varlena header: the total length `n` in the upper thirty bits, the lower two clear -/
theorem elemSpan_long {raw : Bytes} {elemLen off n : Nat} (h : At raw off (le 4 (n * 4))) (hn : 4 ≤ n) (hlt : n < 2 ^ 30)
    (hl : off + n ≤ raw.length) : elemSpan raw elemLen false off = some (off + 4, off + n) := by
  have hb : At raw off [UInt8.ofNat (n * 4 % 256)] := At.left (y := le 3 (n * 4 / 256)) h
  unfold elemSpan
  simp only [Bool.false_eq_true, if_false, At.getD hb, h.rd (show n * 4 < 256 ^ 4 by omega),
    u8_toNat _ (Nat.mod_lt (n * 4) (by decide : 0 < 256)), Nat.mul_div_cancel n (by decide : 0 < 4)]
  rw [if_neg (by omega), if_neg (by omega), if_neg (by omega)]; exact spanIf_pos hn hl

theorem parseElems_total (dec : Dec) (hdec : DecTotal dec) (raw : Bytes) (elemOid elemLen elemAlign : Nat) (fixed : Bool)
    (nulls : Option Bytes) (n i off : Nat) (h : ∀ bm, nulls = some bm → (i + n + 7) / 8 ≤ bm.length) :
    ∃ r, parseElems dec raw elemOid elemLen elemAlign fixed nulls n i off = .ok r := by
  induction n generalizing i off with
  | zero => exact ⟨[], rfl⟩
  | succ n ih =>
    have hnext : ∀ bm, nulls = some bm → (i + 1 + n + 7) / 8 ≤ bm.length := fun bm hbm => by
      have := h bm hbm; omega
    rw [parseElems]
    refine tot_bind (nullAt_total nulls i fun bm hbm => by have := h bm hbm; omega) fun b _ => ?_
    cases b
    · refine tot_bind (readElem_total dec hdec raw elemOid elemLen fixed _) fun r _ => ?_
      cases r with
      | none => exact ⟨[], rfl⟩
      | some p => exact tot_bind (ih (i + 1) p.2 hnext) fun _ _ => ⟨_, rfl⟩
    · exact tot_bind (ih (i + 1) off hnext) fun _ _ => ⟨_, rfl⟩

theorem alignRel_ge (off a : Nat) : off ≤ alignRel off a :=
  Nat.le_sub_of_add_le (goAlign_ge (off + 4) a)

/-- without a null bitmap every returned element was stored: hence the bound by the bytes after `off` -/
theorem parseElems_length (dec : Dec) (raw : Bytes) (elemOid elemLen elemAlign : Nat) (fixed : Bool)
    (nulls : Option Bytes) (n i off : Nat) (es : List GoVal)
    (h : parseElems dec raw elemOid elemLen elemAlign fixed nulls n i off = .ok es) :
    es.length ≤ n ∧ (nulls = none → (fixed = true → 1 ≤ elemLen) → es.length ≤ raw.length - off) := by
  induction n generalizing i off es with
  | zero => cases h; exact ⟨Nat.le_refl _, fun _ _ => Nat.zero_le _⟩
  | succ n ih =>
    simp only [parseElems] at h
    obtain ⟨b, hb, h⟩ := bind_eq_ok h
    cases b with
    | true =>
      obtain ⟨rest, hr, h⟩ := bind_eq_ok h
      cases h
      refine ⟨Nat.succ_le_succ (ih _ _ _ hr).1, fun hnone _ => ?_⟩
      rw [hnone, nullAt_none] at hb; cases hb
    | false =>
      obtain ⟨r, hr, h⟩ := bind_eq_ok h
      match r, hr, h with
      | none, _, h => cases h; exact ⟨Nat.zero_le _, fun _ _ => Nat.zero_le _⟩
      | some (v, off'), hr, h =>
        obtain ⟨rest, hr2, h⟩ := bind_eq_ok h
        cases h
        refine ⟨Nat.succ_le_succ (ih _ _ _ hr2).1, fun hnone hl => ?_⟩
        have hp := readElem_progress dec raw elemOid elemLen fixed _ v off' hl hr
        have hge := alignRel_ge off elemAlign
        have := (ih _ _ _ hr2).2 hnone hl
        simp only [List.length_cons]; omega

theorem elemLayout_fixed_pos (elemOid : Nat) (h : (elemLayout elemOid).2.1 = true) : 1 ≤ (elemLayout elemOid).1 := by
  unfold elemLayout at *
  cases hlk : fixedLengths.lookup elemOid with
  | none => simp [hlk] at h
  | some l =>
    have hall : ∀ p ∈ fixedLengths, 1 ≤ p.2 := by decide
    exact hall _ (AssocMap.lookup_mem fixedLengths elemOid l hlk)

theorem isEmptyArray_total (raw : Bytes) : ∃ b, isEmptyArray raw = .ok b := by
  unfold isEmptyArray
  split
  · rw [i32At_ok raw 0 (by omega)]; exact ⟨_, rfl⟩
  · exact ⟨false, rfl⟩

/-- `decodeArray` on any bytes: `[]`, nil, or the element loop with the claimed count and a bitmap that covers it and lies inside
the value (the guards of fix arrays/07).  Stated about any `r` equal to the call, so that the proof can rewrite that equation
guard by guard. -/
theorem decodeArray_shape (dec : Dec) (raw : Bytes) (elemOid : Nat) :
    ∀ r, decodeArray dec raw elemOid = r → r = .ok (.arr []) ∨ r = .ok .nil ∨
      ∃ nulls count off, (∀ bm, nulls = some bm → (count + 7) / 8 ≤ bm.length ∧ bm.length ≤ raw.length) ∧
        r = (do let es ← parseElems dec raw elemOid (elemLayout elemOid).1 (elemLayout elemOid).2.2 (elemLayout elemOid).2.1
                    nulls count 0 off
                pure (.arr es)) := by
  intro r hr
  unfold decodeArray at hr
  obtain ⟨b, hb⟩ := isEmptyArray_total raw
  rw [hb, ok_bind] at hr
  cases b
  case true => exact Or.inl hr.symm
  rw [if_neg Bool.false_ne_true] at hr
  by_cases h20 : raw.length < 20
  · rw [if_pos h20] at hr; exact Or.inr (Or.inl hr.symm)
  rw [if_neg h20, i32At_ok raw 0 (by omega), ok_bind] at hr
  generalize toSigned 32 (rd 4 (raw.drop 0)) = ndim at hr
  by_cases hnd : ndim ≤ 0 ∨ ndim > 6
  · rw [if_pos hnd] at hr; exact Or.inr (Or.inl hr.symm)
  rw [if_neg hnd] at hr
  unfold decodeDims at hr
  by_cases hlen : raw.length < 12 + ndim.toNat * 8
  · rw [if_pos hlen] at hr; exact Or.inr (Or.inl hr.symm)
  obtain ⟨total, ht⟩ := dimsProduct_total raw ndim.toNat 0 1 (by omega)
  rw [if_neg hlen, i32At_ok raw 4 (by omega), ok_bind, ht, ok_bind] at hr
  generalize toSigned 32 (rd 4 (raw.drop 4)) = dataoff at hr
  by_cases htot : total ≤ 0
  · rw [if_pos htot] at hr; exact Or.inr (Or.inl hr.symm)
  rw [if_neg htot] at hr
  dsimp only at hr
  by_cases hdo : dataoff > 0
  · rw [if_pos hdo] at hr
    by_cases hbm : 12 + ndim.toNat * 8 + (total.toNat + 7) / 8 > raw.length ∨
        dataoff - 4 < ((12 + ndim.toNat * 8 + (total.toNat + 7) / 8 : Nat) : Int)
    · rw [if_pos hbm] at hr; exact Or.inr (Or.inl hr.symm)
    · rw [if_neg hbm, slice_ok raw _ _ (by omega) (by omega), ok_bind] at hr
      refine Or.inr (Or.inr ⟨some _, _, _, fun bm hbm => ?_, hr.symm⟩)
      cases hbm
      simp only [List.length_drop, List.length_take]; omega
  · rw [if_neg hdo] at hr
    exact Or.inr (Or.inr ⟨none, _, _, fun _ => nofun, hr.symm⟩)

theorem decodeArray_total (dec : Dec) (hdec : DecTotal dec) (raw : Bytes) (elemOid : Nat) :
    ∃ r, decodeArray dec raw elemOid = .ok r := by
  rcases decodeArray_shape dec raw elemOid _ rfl with h | h | ⟨nulls, count, off, hbm, h⟩
  · exact ⟨_, h⟩
  · exact ⟨_, h⟩
  · rw [h]
    exact tot_map _ (parseElems_total dec hdec raw elemOid (elemLayout elemOid).1 (elemLayout elemOid).2.2
      (elemLayout elemOid).2.1 nulls count 0 off fun bm hb => by have := (hbm bm hb).1; omega)

end PgVerif.Proofs.Arrays
