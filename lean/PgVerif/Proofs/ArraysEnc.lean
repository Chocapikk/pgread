/-
  The array model on PostgreSQL's encoding (Spec/Arrays.lean); the loop invariant is in varlena-relative coordinates (`parseElems_enc`).
-/
import PgVerif.Proofs.Arrays
import PgVerif.Spec.Arrays
import PgVerif.Proofs.ArraysTables
namespace PgVerif.Proofs.Arrays
open PgVerif PgVerif.Model.Arrays PgVerif.Spec.Arrays

def Pow2Align (a : Nat) : Prop := a = 1 ∨ a = 2 ∨ a = 4 ∨ a = 8

theorem alignGo_eq (x a : Nat) (ha : Pow2Align a) : alignGo x a = alignUp x a := goAlign_eq x a ha

theorem Pow2Align.pos {a : Nat} (ha : Pow2Align a) : 0 < a := by
  rcases ha with h | h | h | h <;> omega

theorem alignUp_ge (x a : Nat) (ha : Pow2Align a) : x ≤ alignUp x a := roundUp_ge x a ha.pos

theorem alignUp_lt (x a : Nat) (ha : 0 < a) : alignUp x a < x + a := roundUp_lt x a ha

theorem alignUp_of_mod (x a : Nat) (ha : 0 < a) (h : x % a = 0) : alignUp x a = x := roundUp_of_mod x a ha h

theorem bitmapByte_eq (bits : List Bool) (j : Nat) : bitmapByte bits j = bitsByte bits j := by
  simp only [bitmapByte, bits8, bitsByte, ofBits, List.range, List.range.loop, List.map]; omega

@[simp] theorem encBitmap_length (bits : List Bool) : (encBitmap bits).length = (bits.length + 7) / 8 := by
  simp [encBitmap]

theorem nullAt_enc (bits : List Bool) (i : Nat) (hi : i < bits.length) :
    nullAt (some (encBitmap bits)) i = .ok (!(bits.getD i false)) := by
  simp only [nullAt]
  have hj : i / 8 < (bits.length + 7) / 8 := by omega
  have hget : (encBitmap bits)[i / 8]? = some (UInt8.ofNat (bitmapByte bits (i / 8))) := by
    unfold encBitmap
    rw [List.getElem?_map, List.getElem?_range hj]; rfl
  have hidx : idx (encBitmap bits) (i / 8) = .ok (UInt8.ofNat (bitmapByte bits (i / 8))) := by
    unfold idx; rw [hget]; rfl
  rw [hidx]
  simp only [ok_bind]
  rw [bitmapByte_eq, u8_toNat _ (bitsByte_lt bits (i / 8)), bitsByte_test bits (i / 8) (i % 8) (Nat.mod_lt _ (by decide))]
  have : 8 * (i / 8) + i % 8 = i := Nat.div_add_mod i 8
  rw [this]
  rfl

theorem wrap32_small (x : Nat) (h : x < 2 ^ 31) : wrap32 (x : Int) = (x : Int) :=
  toSigned_ofSigned 32 (by decide) x (by omega) (by omega)

theorem i32At_at {raw : Bytes} {k v : Nat} (h : At raw k (le 4 v)) (hv : v < 2 ^ 31) : i32At raw k = .ok (v : Int) := by
  unfold i32At; rw [h.uN (by omega)]; exact congrArg Except.ok (toSigned_small 32 v hv)

theorem prod_pos (ds : List Nat) (h : ∀ d ∈ ds, 1 ≤ d) : 1 ≤ prod ds := by
  induction ds with
  | nil => simp [prod]
  | cons d ds ih =>
    simp only [prod]
    have h1 := h d (by simp)
    have h2 := ih (fun x hx => h x (by simp [hx]))
    exact Nat.mul_le_mul h1 h2

theorem encDims_length (ds : List Nat) : (encDims ds).length = 4 * ds.length :=
  length_flatMap_const _ ds fun _ _ => le_length 4 _

theorem encLbounds_length (ls : List Int) : (encLbounds ls).length = 4 * ls.length :=
  length_flatMap_const _ ls fun _ _ => le_length 4 _

/-- no wrap-around: every partial product is bounded by the total element count -/
theorem dimsProduct_at (ds : List Nat) {raw : Bytes} (i total : Nat) (h : At raw (12 + i * 4) (encDims ds))
    (hds : ∀ d ∈ ds, 1 ≤ d) (ht : 1 ≤ total) (hb : total * prod ds < 2 ^ 31) :
    dimsProduct raw ds.length i (total : Int) = .ok ((total * prod ds : Nat) : Int) := by
  induction ds generalizing i total with
  | nil => simp [dimsProduct, prod]
  | cons d ds ih =>
    have hd : 1 ≤ d := hds d (by simp)
    have hp : 1 ≤ prod ds := prod_pos ds (fun x hx => hds x (by simp [hx]))
    simp only [prod] at hb
    have hdp : d ≤ d * prod ds := Nat.le_mul_of_pos_right d hp
    have htd : total * d ≤ total * (d * prod ds) := Nat.mul_le_mul_left total hdp
    have hdt : d ≤ total * d := Nat.le_mul_of_pos_left d ht
    have h' : At raw (12 + i * 4) (le 4 d ++ encDims ds) := h
    have hnext := h'.right
    rw [le_length, show 12 + i * 4 + 4 = 12 + (i + 1) * 4 by omega] at hnext
    simp only [List.length_cons, dimsProduct]
    rw [i32At_at h'.left (by omega)]
    simp only [ok_bind]
    have hw : wrap32 ((total : Int) * (d : Int)) = ((total * d : Nat) : Int) := by
      rw [← Int.natCast_mul]; exact wrap32_small (total * d) (by omega)
    rw [hw, ih (i + 1) (total * d) hnext (fun x hx => hds x (by simp [hx]))
      (Nat.le_trans ht (Nat.le_mul_of_pos_right total hd)) (by rw [Nat.mul_assoc]; exact hb), prod, Nat.mul_assoc]

/-- the code's rule for an empty varlena element is the Spec's but for xml (oid 142), which the code also maps to the empty
string and which is the element type of no array type of the table.  (`elemView dec eo (.long p)` is the same term as the
right-hand side.) -/
theorem decodeVarlenaElem_view (dec : Dec) (p : Bytes) (eo : Nat) (heo : eo ≠ 142) :
    decodeVarlenaElem dec p eo = elemView dec eo (.short p) := by
  show _ = if p.length = 0 then (match emptyValue eo with | some v => pure v | none => dec p eo) else dec p eo
  unfold decodeVarlenaElem emptyValue
  simp only [heo, or_false]
  split
  · split
    · rfl
    · split <;> rfl
  · rfl

theorem readElem_enc (dec : Dec) (t : ElemType) (d : Datum) (hd : d.WF t) {raw : Bytes} {p : Nat} (hat : At raw p d.enc)
    (eo : Nat) (heo : eo ≠ 142) :
    readElem dec raw eo (if t.typlen > 0 then t.typlen.toNat else 0) (decide (t.typlen > 0)) p
      = (do let v ← elemView dec eo d; pure (some (v, p + d.enc.length))) := by
  have hlen := hat.length_le
  cases d with
  | fixed bs =>
    obtain ⟨h1, h2⟩ := hd
    have hl : (if t.typlen > 0 then t.typlen.toNat else 0) = bs.length := by rw [if_pos h1]; omega
    rw [hl, decide_eq_true h1]
    exact readElem_at dec eo (hdr := []) hat (elemSpan_fixed hlen) rfl
  | short p =>
    obtain ⟨h1, h2⟩ := hd
    rw [show decide (t.typlen > 0) = false by rw [h1]; decide, ← decodeVarlenaElem_view dec p eo heo]
    exact readElem_at dec eo (hdr := [_]) hat (elemSpan_short (n := p.length + 1) hat.left (u8_toNat _ (by omega)) (by omega) hlen)
      (by simp only [Datum.enc, List.length_cons, List.length_nil]; omega)
  | long p =>
    obtain ⟨h1, h2⟩ := hd
    have hl : (Datum.long p).enc.length = p.length + 4 := by simp [Datum.enc]; omega
    rw [hl] at hlen ⊢
    rw [show decide (t.typlen > 0) = false by rw [h1]; decide, ← show _ = elemView dec eo (.long p) from decodeVarlenaElem_view dec p eo heo]
    exact readElem_at dec eo (hdr := le 4 _) hat (elemSpan_long hat.left (by omega) h2 hlen) (by rw [le_length]; omega)

/-- the offset invariant of the element loop, in varlena-relative coordinates (`abs = raw + 4`): `es` is encoded at `p`, and
the loop's offset aligns to `p` -/
theorem parseElems_enc (dec : Dec) (t : ElemType) (al : Nat) (hal : Pow2Align al) (eo : Nat) (heo : eo ≠ 142) (nulls : Option Bytes)
    (es : List (Option Datum)) (raw : Bytes) (i off p : Nat)
    (hwf : ∀ e ∈ es, ∀ d, e = some d → d.WF t)
    (hat : At raw p (encElems al es (p + 4)))
    (hoff : alignRel off al = p)
    (hnull : ∀ j e, es[j]? = some e → nullAt nulls (i + j) = .ok e.isNone) :
    parseElems dec raw eo (if t.typlen > 0 then t.typlen.toNat else 0) al (decide (t.typlen > 0)) nulls es.length i off
      = viewElems dec eo es := by
  induction es generalizing i off p with
  | nil => rfl
  | cons e es ih =>
    have hn0 := hnull 0 e (by simp)
    have hnext : ∀ j e', es[j]? = some e' → nullAt nulls (i + 1 + j) = .ok e'.isNone := fun j e' hj => by
      rw [Nat.add_right_comm]; exact hnull (j + 1) e' (by simpa using hj)
    have hwf' : ∀ e' ∈ es, ∀ d, e' = some d → d.WF t := fun e' he' d hd => hwf e' (by simp [he']) d hd
    simp only [List.length_cons, parseElems]
    rw [Nat.add_zero] at hn0
    rw [hn0]
    cases e with
    | none =>
      simp only [ok_bind, Option.isNone_none, if_true, viewElems]
      rw [ih (i + 1) off p hwf' hat hoff hnext]
    | some d =>
      have hd : d.WF t := hwf (some d) (by simp) d rfl
      simp only [encElems] at hat
      simp only [ok_bind, Option.isNone_some, Bool.false_eq_true, if_false, viewElems]
      rw [hoff, readElem_enc dec t d hd hat.left eo heo]
      cases hdec : elemView dec eo d with
      | error err => rfl
      | ok v =>
        simp only [ok_bind, pure_eq_ok]
        -- the next aligned position `nxt`; the loop variable lags behind it and is aligned up to it
        have hge := alignUp_ge (p + 4 + d.enc.length) al hal
        have hoff' : alignRel (p + d.enc.length) al = alignUp (p + 4 + d.enc.length) al - 4 := by
          unfold alignRel; rw [alignGo_eq _ _ hal]; congr 2; omega
        have hnx := hat.right.right
        rw [zeros_length] at hnx
        generalize alignUp (p + 4 + d.enc.length) al = nxt at hge hoff' hnx ⊢
        have h4 : nxt - 4 + 4 = nxt := by omega
        rw [show p + d.enc.length + (nxt - (p + 4 + d.enc.length)) = nxt - 4 by omega] at hnx
        rw [ih (i + 1) (p + d.enc.length) (nxt - 4) hwf' (by rw [h4]; exact hnx) hoff' hnext]

/-- the Spec's row is the observed one (`spec_gen`), and the observed one is what the model derives (`gen_layout`) -/
theorem spec_layout : ∀ t ∈ pgArrayTypes,
    arrayElemTypes.lookup t.arrayOid = some t.decodeAs ∧
    elemLayout t.decodeAs = ((if t.typlen > 0 then t.typlen.toNat else 0), decide (t.typlen > 0), t.typalign) := by
  intro t ht
  obtain ⟨_, hlay, _, hlook⟩ := spec_gen t ht
  have h := gen_layout _ (AssocMap.lookup_mem _ _ _ hlay)
  rw [hlook] at h
  injection h with h
  refine ⟨hlook, h.trans ?_⟩
  congr 2
  exact decide_eq_decide.2 (by dsimp only; split <;> omega)

theorem spec_not_xml : ∀ t ∈ pgArrayTypes, t.decodeAs ≠ 142 := by decide

instance (a : Nat) : Decidable (Pow2Align a) := by unfold Pow2Align; exact inferInstance

theorem spec_align : ∀ t ∈ pgArrayTypes, Pow2Align t.typalign := by decide

theorem encArray_length (a : PgArray) (hlb : a.lbounds.length = a.dims.length) :
    (encArray a).length = 12 + 8 * a.ndim + a.bitmapPart.length + (encElems a.et.typalign a.elems a.dataStart).length := by
  simp only [encArray, List.length_append, le_length, encDims_length, encLbounds_length, hlb, PgArray.ndim]
  omega

theorem dataStart_ge (a : PgArray) : 16 + 8 * a.ndim + (if a.hasNulls then (a.elems.length + 7) / 8 else 0) ≤ a.dataStart := by
  unfold PgArray.dataStart
  cases a.hasNulls
  · simp
  · simp only [if_true]; unfold alignUp; omega

theorem dataStart_mod8 (a : PgArray) : a.dataStart % 8 = 0 := by
  unfold PgArray.dataStart
  cases a.hasNulls
  · simp <;> omega
  · simp only [if_true]; unfold alignUp; omega

theorem dataoffset_lt (a : PgArray) (h6 : a.dims.length ≤ 6) (hmax : a.elems.length ≤ maxArraySize) :
    a.dataoffset < 2 ^ 31 := by
  have := alignUp_lt (16 + 8 * a.ndim + (a.elems.length + 7) / 8) 8 (by decide)
  unfold maxArraySize at hmax
  unfold PgArray.dataoffset PgArray.dataStart PgArray.ndim at *
  split <;> omega

theorem bitmapPart_length (a : PgArray) : 16 + 8 * a.ndim + a.bitmapPart.length = a.dataStart := by
  have hge := dataStart_ge a
  have hds : a.dataStart = if a.hasNulls then alignUp (16 + 8 * a.ndim + (a.elems.length + 7) / 8) 8 else 16 + 8 * a.ndim := rfl
  unfold PgArray.bitmapPart
  cases hN : a.hasNulls
  · rw [hN] at hds
    simp only [Bool.false_eq_true, if_false, List.length_nil] at *
    omega
  · rw [hN] at hge
    simp only [if_true, List.length_append, encBitmap_length, zeros_length, PgArray.present, List.length_map] at *
    omega

theorem encArray_at (a : PgArray) (hlb : a.lbounds.length = a.dims.length) :
    At (encArray a) 0 (le 4 a.dims.length) ∧ At (encArray a) 4 (le 4 a.dataoffset) ∧ At (encArray a) 12 (encDims a.dims) ∧
      At (encArray a) (12 + a.dims.length * 8) a.bitmapPart ∧
      At (encArray a) (a.dataStart - 4) (encElems a.et.typalign a.elems a.dataStart) := by
  generalize hr : encArray a = raw
  have h : At raw 0 (encArray a) := hr ▸ at_self _
  unfold encArray at h
  have h1 := h.right
  have h3 := h1.right.right
  have h5 := h3.right.right
  simp only [le_length, encDims_length, encLbounds_length, hlb] at h1 h3 h5
  rw [show 0 + 4 + 4 + 4 + 4 * a.dims.length + 4 * a.dims.length = 12 + a.dims.length * 8 by omega] at h5
  have h6 := h5.right
  rw [show 12 + a.dims.length * 8 + a.bitmapPart.length = a.dataStart - 4 by
    have := bitmapPart_length a; unfold PgArray.ndim at this; omega] at h6
  exact ⟨h.left, h1.left, h3.left, h5.left, h6⟩

theorem bitmap_slice (a : PgArray) (hlb : a.lbounds.length = a.dims.length) (hN : a.hasNulls = true) :
    slice (encArray a) (12 + a.dims.length * 8) (12 + a.dims.length * 8 + (a.elems.length + 7) / 8) = .ok (encBitmap a.present) := by
  have h := (encArray_at a hlb).2.2.2.1
  rw [PgArray.bitmapPart, if_pos hN] at h
  have := h.left.slice
  rwa [encBitmap_length, PgArray.present, List.length_map] at this

/-- the bitmap the code hands to the element loop, if any -/
def nullsOf (a : PgArray) : Option Bytes := if a.hasNulls then some (encBitmap a.present) else none

theorem nullAt_nullsOf (a : PgArray) (j : Nat) (e : Option Datum) (hj : a.elems[j]? = some e) :
    nullAt (nullsOf a) j = .ok e.isNone := by
  unfold nullsOf
  cases hN : a.hasNulls with
  | false =>
    have hany : ¬ a.elems.any Option.isNone = true := by
      unfold PgArray.hasNulls at hN; rw [Bool.or_eq_false_iff] at hN; simp [hN.2]
    cases he : e.isNone with
    | false => rfl
    | true => exact absurd (List.any_eq_true.2 ⟨e, List.mem_of_getElem? hj, he⟩) hany
  | true =>
    have hjl : j < a.present.length := by
      rw [PgArray.present, List.length_map]; exact (List.getElem?_eq_some_iff.1 hj).1
    rw [if_pos rfl, nullAt_enc a.present j hjl]
    simp [PgArray.present, List.getD, hj]

/-- the dimension count `nd` and the element count `n` as the `int32`s decodeArray's guards test -/
theorem counts_arith {nd n : Nat} (hnd : 1 ≤ nd) (h6 : nd ≤ 6) (hn : 1 ≤ n) :
    ((nd : Int) == 0) = false ∧ ¬ ((nd : Int) ≤ 0 ∨ (nd : Int) > 6) ∧ ¬ ((n : Nat) : Int) ≤ 0 :=
  ⟨by rw [beq_eq_false_iff_ne]; omega, by omega, by omega⟩

/-- what decodeArray's length guards compare: a value of `L` bytes whose data start at varlena offset `ds`, after the
12 + 8·nd header bytes and a bitmap of `b` bytes (0 without one) -/
theorem guards_arith {nd b ds L : Nat} (hnd : 1 ≤ nd) (hge : 16 + 8 * nd + b ≤ ds) (hL : ds ≤ L + 4) :
    20 ≤ L ∧ 12 + nd * 8 + b ≤ L ∧ (ds : Int) > 0 ∧ ¬ (ds : Int) - 4 < ((12 + nd * 8 + b : Nat) : Int) ∧
      ((ds : Int) - 4).toNat = ds - 4 :=
  ⟨by omega, by omega, by omega, by omega, by omega⟩

theorem decodeArray_header (dec : Dec) (a : PgArray) (eo : Nat) (h : a.WF) (hne : a.dims ≠ []) :
    decodeArray dec (encArray a) eo = (do
      let es ← parseElems dec (encArray a) eo (elemLayout eo).1 (elemLayout eo).2.2 (elemLayout eo).2.1
        (nullsOf a) a.elems.length 0 (a.dataStart - 4)
      pure (.arr es)) := by
  obtain ⟨_, h6, hlb, hds, _, hcount, hmax, _⟩ := h
  rw [if_neg hne] at hcount
  have hnd : 1 ≤ a.dims.length := List.length_pos_iff.2 hne
  obtain ⟨hnd0, hndim, htot⟩ := counts_arith hnd h6 (prod_pos a.dims hds)
  have hwrap : prod a.dims < 2 ^ 31 := by unfold maxArraySize at hmax; omega
  obtain ⟨hA0, hA4, hA12, _, hAel⟩ := encArray_at a hlb
  have hL : a.dataStart ≤ (encArray a).length + 4 := by have := hAel.length_le; omega
  obtain ⟨h20, hbm, hpos, hbefore, hoff⟩ := guards_arith hnd (dataStart_ge a) hL
  have hhdr : 12 + a.dims.length * 8 ≤ (encArray a).length := Nat.le_trans (Nat.le_add_right _ _) hbm
  unfold decodeArray isEmptyArray
  rw [if_pos (Nat.le_trans (by decide) h20), i32At_at hA0 (by omega)]
  simp only [ok_bind, pure_eq_ok, hnd0, Bool.false_eq_true, if_false]
  rw [if_neg (Nat.not_lt.2 h20), if_neg hndim, Int.toNat_natCast]
  unfold decodeDims
  have hprod : dimsProduct (encArray a) a.dims.length 0 1 = .ok ((prod a.dims : Nat) : Int) := by
    have := dimsProduct_at a.dims 0 1 hA12 hds (Nat.le_refl 1) (by omega); rwa [Nat.one_mul] at this
  rw [if_neg (Nat.not_lt.2 hhdr), i32At_at hA4 (dataoffset_lt a h6 hmax), hprod]
  simp only [ok_bind]
  rw [if_neg htot, Int.toNat_natCast, ← hcount]
  unfold nullsOf PgArray.dataoffset
  cases hN : a.hasNulls with
  | false =>
    have hst : a.dataStart = 16 + 8 * a.dims.length := by unfold PgArray.dataStart PgArray.ndim; rw [hN]; rfl
    rw [if_neg Bool.false_ne_true, if_neg Bool.false_ne_true, if_neg (by decide), hst]
    have : 16 + 8 * a.dims.length - 4 = 12 + a.dims.length * 8 := by omega
    rw [this]; rfl
  | true =>
    rw [hN, if_pos rfl] at hbm hbefore
    rw [if_pos rfl, if_pos rfl, if_pos hpos, if_neg (not_or.2 ⟨Nat.not_lt.2 hbm, hbefore⟩), bitmap_slice a hlb hN, hoff]
    rfl

theorem elems_of_dims_nil {a : PgArray} (h : a.WF) (hd : a.dims = []) : a.elems = [] := by
  have hcnt := h.2.2.2.2.2.1
  rw [if_pos hd] at hcnt
  exact hcnt.1

theorem decodeArray_enc (dec : Dec) (a : PgArray) (h : a.WF) : decodeArray dec (encArray a) a.et.decodeAs = view dec a := by
  have ⟨het, _, hlb, _, _, _, _, hwf⟩ := h
  rw [view]
  by_cases hd : a.dims = []
  · -- the empty array is answered from the dimension count
    obtain ⟨h0, _, h12, _, _⟩ := encArray_at a hlb
    have hnd := i32At_at h0 (by rw [hd]; decide)
    rw [hd] at hnd
    unfold decodeArray isEmptyArray
    rw [if_pos (Nat.le_trans (Nat.le_add_right ..) h12.length_le), hnd, elems_of_dims_nil h hd]
    rfl
  have hal := spec_align a.et het
  have h4 : a.dataStart - 4 + 4 = a.dataStart := by have := dataStart_ge a; omega
  -- the data start at a multiple of 8, hence of the element alignment, so the first element needs no padding
  have hmod : (a.dataStart - 4 + 4) % a.et.typalign = 0 := by
    have hd : a.et.typalign ∣ 8 := by rcases hal with h | h | h | h <;> rw [h] <;> decide
    rw [h4, ← Nat.mod_mod_of_dvd _ hd, dataStart_mod8 a, Nat.zero_mod]
  have hrel : alignRel (a.dataStart - 4) a.et.typalign = a.dataStart - 4 := by
    unfold alignRel; rw [alignGo_eq _ _ hal, alignUp_of_mod _ _ hal.pos hmod]; omega
  rw [decodeArray_header dec a _ h hd, (spec_layout a.et het).2,
    parseElems_enc dec a.et a.et.typalign hal _ (spec_not_xml a.et het) (nullsOf a) a.elems _ 0 _ (a.dataStart - 4) hwf
      (by rw [h4]; exact (encArray_at a hlb).2.2.2.2) hrel (fun j e hj => by rw [Nat.zero_add]; exact nullAt_nullsOf a j e hj)]

end PgVerif.Proofs.Arrays
