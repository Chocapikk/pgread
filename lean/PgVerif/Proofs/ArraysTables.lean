/-
  The tables of Model/Arrays.lean — `arrayElemTypes` (read from the Go source on every run), and the transcriptions of
  `fixedLengths` and `typeAlign` — against the graphs obtained by executing the code (Generated/Arrays.lean), and against
  the Spec's pg_type table, by kernel evaluation.  If the code's tables drift from the model, this module stops building.
-/
import PgVerif.Model.Arrays
import PgVerif.Spec.Arrays
namespace PgVerif.Proofs.Arrays
open PgVerif PgVerif.Model.Arrays

theorem keys_eq_arrayOids : arrayElemTypes.map (·.1) = Generated.Arrays.arrayOids := by decide +kernel

theorem gen_layout : ∀ r ∈ Generated.Arrays.layout,
    (arrayElemTypes.lookup r.1).map elemLayout = some (r.2.1, decide (0 < r.2.1), r.2.2) := by decide +kernel

/-- the recursion DecodeType → decodeArray → DecodeType is one level deep -/
theorem elem_not_array : ∀ p ∈ arrayElemTypes, arrayElemTypes.lookup p.2 = none := by decide +kernel

/-- every array type of the Spec's pg_type table: the code treats its oid as an array, reads elements of width typlen (varlenas
for −1) aligned to typalign and decodes them like `decodeAs`, which the source table names as its element -/
theorem spec_gen : ∀ t ∈ Spec.Arrays.pgArrayTypes,
    t.arrayOid ∈ Generated.Arrays.arrayOids ∧
    Generated.Arrays.layout.lookup t.arrayOid = some ((if t.typlen > 0 then t.typlen.toNat else 0), t.typalign) ∧
    t.decodeAs ∈ (Generated.Arrays.elemCands.lookup t.arrayOid).getD [] ∧
    arrayElemTypes.lookup t.arrayOid = some t.decodeAs := by decide +kernel

end PgVerif.Proofs.Arrays
