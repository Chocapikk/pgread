/-
  What the proofs about blockrange.go, segment.go and checksum.go share.
-/
import PgVerif.Basic.Lemmas
import PgVerif.Model.Block
import PgVerif.Model.Segment
import PgVerif.Model.Checksum
import PgVerif.Spec.Block
namespace PgVerif.Proofs.Block
open PgVerif PgVerif.Model PgVerif.Proofs

theorem takeM_eq_slice (data : Bytes) (off n : Nat) (h : off ≤ data.length) :
    takeM (data.drop off) n = slice data off (off + n) := by
  unfold takeM slice
  simp only [List.length_take, List.length_drop]
  by_cases hn : off + n ≤ data.length
  · rw [if_neg (by omega), if_neg (by omega), List.take_drop]
  · rw [if_pos (by omega), if_pos (by omega)]

theorem takeM_ok (rest : Bytes) (n : Nat) (h : n ≤ rest.length) : takeM rest n = .ok (rest.take n) := by
  unfold takeM
  simp only [List.length_take]
  rw [if_neg (by omega)]; rfl

theorem uNf_eq_uN (n : Nat) (data : Bytes) (off : Nat) : uNf n data off = uN n data off := by
  unfold uNf uN
  simp only [List.length_take, List.length_drop]
  by_cases h1 : off > data.length
  · have : (decide (off > 0) && (data.drop (off - 1)).isEmpty) = true := by
      have h0 : data.drop (off - 1) = [] := List.drop_eq_nil_iff.mpr (by omega)
      have h3 : off > 0 := by omega
      simp [h0, h3]
    rw [if_pos this, if_pos h1]
  · have : ¬ ((decide (off > 0) && (data.drop (off - 1)).isEmpty) = true) := by
      intro hc
      simp only [Bool.and_eq_true, decide_eq_true_eq, List.isEmpty_iff, List.drop_eq_nil_iff] at hc
      omega
    rw [if_neg this, if_neg h1]
    by_cases h2 : data.length - off < n
    · rw [if_pos (by omega), if_pos h2]
    · rw [if_neg (by omega), if_neg h2]

theorem uNf_ok (n : Nat) (data : Bytes) (off : Nat) (h : off + n ≤ data.length) :
    uNf n data off = .ok (rd n (data.drop off)) := by
  rw [uNf_eq_uN]; exact uN_ok n data off h

open PgVerif.Spec.BlockAddr

theorem pages_encFile (f : RelFile) (h : f.WF) : pages (encFile f) = f.blocks.map encBlock :=
  pages_flatMap encBlock f.blocks (fun b hb => encBlock_length b (h.1 b hb)) f.tail h.2

theorem encFile_length (f : RelFile) (h : f.WF) : (encFile f).length = 8192 * f.blocks.length + f.tail.length := by
  rw [encFile, List.length_append, length_flatMap_const encBlock f.blocks fun b hb => encBlock_length b (h.1 b hb)]

theorem encFile_blocks (f : RelFile) (h : f.WF) : (encFile f).length / 8192 = f.blocks.length := by
  rw [← length_pages, pages_encFile f h, List.length_map]

theorem numbered_eq_zipIdx {α} (first : Nat) (bs : List α) :
    numbered first bs = (bs.zipIdx first).map fun p => (p.2, p.1) := by
  induction bs generalizing first with
  | nil => rfl
  | cons b bs ih => rw [numbered, ih, List.zipIdx_cons, List.map_cons]

/-- `g`: what a loop computes from a page's bytes and 0-based index; `g'`: the Spec-side function of block number and block;
`hg` only at `k < bs.length`, so that a caller can bound `first + k` (`dumpBlocks_enc`) -/
theorem map_pages_encBlocks {β} (g : Bytes → Nat → β) (g' : Nat → RawBlock → β) (first : Nat) (bs : List RawBlock)
    (hwf : ∀ b ∈ bs, b.WF) (hg : ∀ b ∈ bs, ∀ k < bs.length, g (encBlock b) k = g' (first + k) b) :
    ((pages (bs.flatMap encBlock)).zipIdx.map fun p => g p.1 p.2) = (numbered first bs).map fun p => g' p.1 p.2 := by
  rw [← List.append_nil (bs.flatMap encBlock), pages_flatMap encBlock bs (fun b hb => encBlock_length b (hwf b hb)) []
    (by decide), numbered_eq_zipIdx, List.zipIdx_eq_map_add (i := first), List.zipIdx_map, List.map_map, List.map_map,
    List.map_map]
  refine List.map_congr_left fun p hp => ?_
  have := List.snd_lt_add_of_mem_zipIdx hp
  exact hg p.1 (List.fst_mem_of_mem_zipIdx hp) p.2 (by omega)

theorem allZero_append (a b : Bytes) : allZero (a ++ b) = (allZero a && allZero b) := List.all_append

theorem allZero_field (n v : Nat) (h : v < 256 ^ n) : allZero (le n v) = decide (v = 0) := by
  induction n generalizing v with
  | zero => simp only [Nat.pow_zero, Nat.lt_one_iff] at h; subst h; rfl
  | succ n ih =>
    have ih' := ih (v / 256) (by rw [Nat.pow_succ] at h; omega)
    have hb : (UInt8.ofNat (v % 256) == 0) = decide (v % 256 = 0) := by
      by_cases hz : v % 256 = 0
      · rw [hz]; rfl
      · have : UInt8.ofNat (v % 256) ≠ 0 := fun hc => hz (by
          have := congrArg UInt8.toNat hc
          rwa [UInt8.toNat_ofNat', Nat.mod_mod] at this)
        rw [decide_eq_false hz, beq_eq_false_iff_ne.mpr this]
    unfold allZero at ih' ⊢
    rw [le, List.all_cons, ih', hb, ← Bool.decide_and]
    exact decide_eq_decide.mpr (by omega)

theorem allZero_encHdr (h : PageHdr) (hwf : h.WF) : allZero (encHdr h) = decide (h = zeroHdr) := by
  obtain ⟨h1, h2, h3, h4, h5, h6, h7, h8, h9⟩ := hwf
  cases h with
  | mk a1 a2 a3 a4 a5 a6 a7 a8 a9 =>
    simp only [encHdr, allZero_append, zeroHdr, PageHdr.mk.injEq, Bool.decide_and]
    rw [allZero_field 4 _ (by omega), allZero_field 4 _ (by omega), allZero_field 2 _ (by omega), allZero_field 2 _ (by omega),
      allZero_field 2 _ (by omega), allZero_field 2 _ (by omega), allZero_field 2 _ (by omega), allZero_field 2 _ (by omega),
      allZero_field 4 _ (by omega)]

theorem allZero_encBlock (b : RawBlock) (h : b.WF) : allZero (encBlock b) = b.isZero := by
  unfold encBlock RawBlock.isZero
  rw [allZero_append, allZero_encHdr _ h.1]
  rfl

theorem encHdr_fields (h : PageHdr) : encHdr h = leFields [(4, h.xlogid), (4, h.xrecoff), (2, h.checksum), (2, h.flags),
    (2, h.lower), (2, h.upper), (2, h.special), (2, h.psv), (4, h.prune)] := by
  simp [encHdr, leFields]

/-- pd_prune_xid is not among them: no reader of the tool touches it -/
theorem encBlock_hdr (b : RawBlock) (h : b.hdr.WF) :
    rd 4 (encBlock b) = b.hdr.xlogid ∧ rd 4 ((encBlock b).drop 4) = b.hdr.xrecoff ∧
    rd 2 ((encBlock b).drop 8) = b.hdr.checksum ∧ rd 2 ((encBlock b).drop 10) = b.hdr.flags ∧
    rd 2 ((encBlock b).drop 12) = b.hdr.lower ∧ rd 2 ((encBlock b).drop 14) = b.hdr.upper ∧
    rd 2 ((encBlock b).drop 16) = b.hdr.special ∧ rd 2 ((encBlock b).drop 18) = b.hdr.psv := by
  have hf := fieldsAt_enc _ [] _ b.body (encHdr_fields b.hdr).symm (by
    obtain ⟨_, _, _, _, _, _, _, _, _⟩ := h
    simp only [List.forall_mem_cons, List.not_mem_nil, false_imp_iff, implies_true, and_true]; omega)
  simp only [FieldsAt, uN_eq_ok, rdAt, List.length_nil, Nat.zero_add, Nat.reduceAdd, List.drop_zero] at hf
  obtain ⟨⟨_, r0⟩, ⟨_, r4⟩, ⟨_, r8⟩, ⟨_, r10⟩, ⟨_, r12⟩, ⟨_, r14⟩, ⟨_, r16⟩, ⟨_, r18⟩, _⟩ := hf
  exact ⟨r0, r4, r8, r10, r12, r14, r16, r18⟩

theorem splice_take (p mid : Bytes) (i j : Nat) (h : i ≤ p.length) :
    (p.take i ++ mid ++ p.drop j).take i = p.take i := by
  rw [List.append_assoc, List.take_left' (List.length_take_of_le h)]

theorem splice_drop (p mid : Bytes) (i j : Nat) (h : i ≤ p.length) (hj : j = i + mid.length) :
    (p.take i ++ mid ++ p.drop j).drop j = p.drop j := by
  rw [List.drop_left' (by rw [List.length_append, List.length_take_of_le h, hj])]

theorem wrap64_id (v : Int) (h0 : 0 ≤ v) (h1 : v < 2 ^ 63) : wrap64 v = v :=
  toSigned_ofSigned 64 (by decide) v (by omega) (by omega)

theorem words32_length (bs : Bytes) : (words32 bs).length = bs.length / 4 := by
  induction bs using words32.induct with
  | case1 a b c d rest ih => simp only [words32, List.length_cons, ih]; omega
  | case2 bs h =>
    have : bs.length < 4 := by
      match bs, h with
      | [], _ => simp
      | [_], _ => simp
      | [_, _], _ => simp
      | [_, _, _], _ => simp
      | a :: b :: c :: d :: rest, h => exact absurd rfl (h a b c d rest)
    rw [words32]
    · simp; omega
    · exact h

theorem not_isNone_iff {α} (o : Option α) : (¬ o.isNone = true) ↔ o.isSome = true := by
  cases o <;> simp

theorem all_isDigit_eq (p : Bytes) : (p.all fun c => 48 ≤ c && c ≤ 57) = p.all isDigit := rfl

theorem digitsVal_eq_decimal (s : Bytes) : digitsVal s = decimal s := rfl

theorem ne_of_isDigit (c d : UInt8) (hc : isDigit c = true) (hd : isDigit d = false) : c ≠ d :=
  fun e => by rw [e, hd] at hc; cases hc

theorem atoi_digits (ds : Bytes) (hds : ds ≠ []) (hdig : ds.all isDigit = true) :
    atoi ds = if digitsVal ds < 2 ^ 63 then some (digitsVal ds : Int) else none := by
  cases ds with
  | nil => exact absurd rfl hds
  | cons c t =>
    have hc : isDigit c = true := by
      simp only [List.all_cons, Bool.and_eq_true] at hdig; exact hdig.1
    have e43 : ((some c : Option UInt8) == some 43) = false := by simpa using ne_of_isDigit c 43 hc rfl
    have e45 : ((some c : Option UInt8) == some 45) = false := by simpa using ne_of_isDigit c 45 hc rfl
    unfold atoi
    simp only [List.head?_cons, e43, e45, Bool.or_self, Bool.false_eq_true, if_false, hdig,
      List.isEmpty_cons, Bool.not_true]

end PgVerif.Proofs.Block
