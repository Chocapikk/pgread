/-
  ParseBlockRange against the independent grammar of the range option (`Spec/Block.lean: rangeSyntax`); `rangeSyntax_iff` is
  about the Spec alone.
-/
import PgVerif.Proofs.Block
namespace PgVerif.Proofs.BlockGrammar
open PgVerif PgVerif.Model
open PgVerif.Spec.BlockAddr (rangeSyntax number isDigits decimal splitFirstColon)

/-- the Spec's splitter against the model's `strings.Contains` / `strings.SplitN` -/
theorem splitFirstColon_spec (s : Bytes) :
    match splitFirstColon s with
    | none => s.contains 58 = false
    | some (l, r) => s.contains 58 = true ∧ splitColon2 s = [l, r] ∧ s = l ++ 58 :: r := by
  induction s with
  | nil => rfl
  | cons c rest ih =>
    unfold splitFirstColon splitColon2
    by_cases hc : c = 58
    · subst hc
      exact ⟨by simp, rfl, rfl⟩
    · have hc' : (c == 58) = false := by simpa using hc
      have hq : ((58 : UInt8) == c) = false := by simpa using fun e : (58 : UInt8) = c => hc e.symm
      rw [if_neg (by simp [hc']), if_neg (by simp [hc'])]
      cases hs : splitFirstColon rest with
      | none =>
        rw [hs] at ih
        simp only [Option.map_none, List.contains_cons, hq, ih, Bool.or_false]
      | some p =>
        obtain ⟨l, r⟩ := p
        rw [hs] at ih
        obtain ⟨i1, i2, i3⟩ := ih
        simp only [Option.map_some, List.contains_cons, i1, Bool.or_true, i2, true_and]
        rw [i3]; rfl

theorem parseBlockNumber_eq (p : Bytes) : parseBlockNumber p = (number p).map (fun (n : Nat) => (n : Int)) := by
  cases p with
  | nil => simp [parseBlockNumber, atoi, number, isDigits]
  | cons c t =>
    unfold parseBlockNumber number isDigits
    rw [Proofs.Block.all_isDigit_eq, ← Proofs.Block.digitsVal_eq_decimal]
    by_cases hall : (c :: t).all isDigit = true
    · rw [if_pos hall, Proofs.Block.atoi_digits _ (List.cons_ne_nil c t) hall, hall]
      by_cases hlt : digitsVal (c :: t) < 2 ^ 63 <;> simp [hlt]
    · have hall' : (c :: t).all isDigit = false := by simpa using hall
      rw [if_neg hall, hall']
      simp

theorem parseSide_nil : parseSide [] = .ok (-1) := rfl

theorem parseSide_cons (c : UInt8) (t : Bytes) :
    parseSide (c :: t) = match number (c :: t) with
      | some n => .ok (n : Int)
      | none => .error .syntax := by
  unfold parseSide
  rw [parseBlockNumber_eq]
  cases number (c :: t) with
  | none => rfl
  | some n =>
    simp only [List.isEmpty_cons, Bool.false_eq_true, if_false, Option.map_some]
    rw [if_neg (by omega)]

theorem validateRange_ok (a b : Int) (h : a < 0 ∨ b < 0 ∨ a ≤ b) :
    validateRange ⟨a, b⟩ = .ok (some ⟨a, b⟩) := by
  unfold validateRange
  rw [if_neg]
  simp only [ge_iff_le, gt_iff_lt, Bool.and_eq_true, decide_eq_true_eq]
  omega

theorem validateRange_gt (a b : Nat) (h : ¬ a ≤ b) :
    validateRange ⟨(a : Int), (b : Int)⟩ = .error .order := by
  unfold validateRange
  rw [if_pos]
  simp only [ge_iff_le, gt_iff_lt, Bool.and_eq_true, decide_eq_true_eq]
  omega

theorem parseBlockRange_nocolon (s : Bytes) (hs : s ≠ []) (h : splitFirstColon s = none) :
    parseBlockRange s = .ok (match number s with
      | some n => .ok (some ⟨(n : Int), (n : Int)⟩)
      | none => .error .syntax) := by
  have he : s.isEmpty = false := List.isEmpty_eq_false_iff.mpr hs
  unfold parseBlockRange
  have hc := splitFirstColon_spec s
  rw [h] at hc
  rw [he, hc, parseBlockNumber_eq]
  simp only [Bool.false_eq_true, if_false, pure_eq_ok]
  cases hn : number s with
  | none => simp
  | some n =>
    simp only [Option.map_some]
    rw [if_neg (by omega), validateRange_ok n n (by omega)]

theorem parseBlockRange_colon (s l r : Bytes) (h : splitFirstColon s = some (l, r)) :
    parseBlockRange s = .ok (
      if l.isEmpty && r.isEmpty then .error .emptyRange
      else match parseSide l with
        | .error e => .error e
        | .ok start =>
          match parseSide r with
          | .error e => .error e
          | .ok stop => validateRange ⟨start, stop⟩) := by
  have hc := splitFirstColon_spec s
  rw [h] at hc
  obtain ⟨h1, h2, h3⟩ := hc
  have he : s.isEmpty = false := by rw [h3]; cases l <;> rfl
  unfold parseBlockRange
  rw [he, h1, h2]
  simp only [Bool.false_eq_true, if_false, if_true, part, List.getElem?_cons_zero,
    List.getElem?_cons_succ, ok_bind, pure_eq_ok]
  rfl

theorem parseBlockRange_empty : parseBlockRange [] = .ok (.ok none) := rfl

/-- the model returns what the grammar reads, and an error where the grammar reads nothing -/
theorem parseBlockRange_grammar (s : Bytes) (hs : s ≠ []) :
    ∃ e, parseBlockRange s = .ok (match rangeSyntax s with
      | some (a, b) => .ok (some ⟨a, b⟩)
      | none => .error e) := by
  unfold rangeSyntax
  cases hsp : splitFirstColon s with
  | none =>
    rw [parseBlockRange_nocolon s hs hsp]
    cases number s <;> exact ⟨.syntax, rfl⟩
  | some p =>
    obtain ⟨l, r⟩ := p
    rw [parseBlockRange_colon s l r hsp]
    -- the four shapes `:`, `:b`, `a:`, `a:b`; in each the sides are read by `number`
    cases l with
    | nil =>
      cases r with
      | nil => exact ⟨.emptyRange, rfl⟩
      | cons d r' =>
        simp only [parseSide_nil, parseSide_cons, List.isEmpty_nil, List.isEmpty_cons, Bool.and_false,
          Bool.false_eq_true, if_false, if_true]
        cases number (d :: r') with
        | none => exact ⟨.syntax, rfl⟩
        | some m => exact ⟨.syntax, congrArg _ (validateRange_ok (-1) m (by omega))⟩
    | cons c l' =>
      cases r with
      | nil =>
        simp only [parseSide_nil, parseSide_cons, List.isEmpty_nil, List.isEmpty_cons, Bool.false_and,
          Bool.false_eq_true, if_false, if_true]
        cases number (c :: l') with
        | none => exact ⟨.syntax, rfl⟩
        | some n => exact ⟨.syntax, congrArg _ (validateRange_ok n (-1) (by omega))⟩
      | cons d r' =>
        simp only [parseSide_cons, List.isEmpty_cons, Bool.false_and, Bool.false_eq_true, if_false]
        cases number (c :: l') with
        | none => exact ⟨.syntax, rfl⟩
        | some n =>
          cases number (d :: r') with
          | none => exact ⟨.syntax, rfl⟩
          | some m =>
            by_cases hle : n ≤ m
            · exact ⟨.order, by simp only [hle, if_true]; exact congrArg _ (validateRange_ok n m (by omega))⟩
            · exact ⟨.order, by simp only [hle, if_false]; exact congrArg _ (validateRange_gt n m hle)⟩

theorem parseBlockRange_accepts (s : Bytes) (a b : Int) (h : rangeSyntax s = some (a, b)) :
    parseBlockRange s = .ok (.ok (some ⟨a, b⟩)) := by
  have hs : s ≠ [] := fun e => by subst e; cases h
  obtain ⟨e, he⟩ := parseBlockRange_grammar s hs
  rw [he, h]

theorem parseBlockRange_rejects (s : Bytes) (hs : s ≠ []) (h : rangeSyntax s = none) :
    ∃ e, parseBlockRange s = .ok (.error e) := by
  obtain ⟨e, he⟩ := parseBlockRange_grammar s hs
  exact ⟨e, by rw [he, h]⟩

theorem parseBlockRange_ok_iff (s : Bytes) (a b : Int) :
    parseBlockRange s = .ok (.ok (some ⟨a, b⟩)) ↔ rangeSyntax s = some (a, b) := by
  constructor
  · intro h
    by_cases hs : s = []
    · subst hs; rw [parseBlockRange_empty] at h; simp at h
    · cases hr : rangeSyntax s with
      | none =>
        obtain ⟨e, he⟩ := parseBlockRange_rejects s hs hr
        rw [he] at h; simp at h
      | some p =>
        obtain ⟨a', b'⟩ := p
        rw [parseBlockRange_accepts s a' b' hr] at h
        simp only [Except.ok.injEq, Option.some.injEq, BlockRange.mk.injEq] at h
        rw [h.1, h.2]
  · exact parseBlockRange_accepts s a b

/-- The arms of `Spec.rangeSyntax` that read one number are written `(number s).map fun a => ((a : Int), …)`, but elaborate to
`Option.map f (do let a ← number s; pure ↑a)`: Lean lifts `Option Nat` to `Option Int` before mapping, so the cast sits in a
hidden `do` (see `#print rangeSyntax`). -/
theorem map_number_eq_some {β} (o : Option Nat) (f : Int → β) (y : β) :
    Option.map f (do let a ← o; pure (a : Int)) = some y ↔ ∃ n, o = some n ∧ f n = y := by
  cases o <;> simp

theorem number_some (p : Bytes) (n : Nat) (h : number p = some n) :
    p ≠ [] ∧ p.all isDigit = true := by
  unfold number isDigits at h
  rw [Proofs.Block.all_isDigit_eq] at h
  cases p with
  | nil => simp at h
  | cons c t =>
    refine ⟨by simp, ?_⟩
    cases hall : (c :: t).all isDigit with
    | true => rfl
    | false => rw [hall] at h; simp at h

theorem splitFirstColon_digits (p : Bytes) (h : p.all isDigit = true) : splitFirstColon p = none := by
  induction p with
  | nil => rfl
  | cons c t ih =>
    simp only [List.all_cons, Bool.and_eq_true] at h
    unfold splitFirstColon
    rw [if_neg (by simpa using Proofs.Block.ne_of_isDigit c 58 h.1 rfl), ih h.2]
    rfl

theorem splitFirstColon_append (l r : Bytes) (h : l.all isDigit = true) :
    splitFirstColon (l ++ 58 :: r) = some (l, r) := by
  induction l with
  | nil => simp [splitFirstColon]
  | cons c t ih =>
    simp only [List.all_cons, Bool.and_eq_true] at h
    rw [List.cons_append]
    unfold splitFirstColon
    rw [if_neg (by simpa using Proofs.Block.ne_of_isDigit c 58 h.1 rfl), ih h.2]
    rfl

theorem rangeSyntax_iff (s : Bytes) (a b : Int) : rangeSyntax s = some (a, b) ↔
    (∃ n, number s = some n ∧ a = n ∧ b = n) ∨
    (∃ l r n m, s = l ++ 58 :: r ∧ number l = some n ∧ number r = some m ∧ n ≤ m ∧ a = n ∧ b = m) ∨
    (∃ l n, s = l ++ [58] ∧ number l = some n ∧ a = n ∧ b = -1) ∨
    (∃ r m, s = 58 :: r ∧ number r = some m ∧ a = -1 ∧ b = m) := by
  constructor
  · intro h
    unfold rangeSyntax at h
    have hsp := splitFirstColon_spec s
    cases hc : splitFirstColon s with
    | none =>
      rw [hc] at h
      obtain ⟨n, hn, hab⟩ := (map_number_eq_some _ _ _).mp h
      cases hab
      exact .inl ⟨n, hn, rfl, rfl⟩
    | some p =>
      obtain ⟨l, r⟩ := p
      rw [hc] at h hsp
      have hs := hsp.2.2
      cases l with
      | nil =>
        cases r with
        | nil => cases h
        | cons d r' =>
          obtain ⟨m, hm, hab⟩ := (map_number_eq_some _ _ _).mp h
          cases hab
          exact .inr (.inr (.inr ⟨d :: r', m, hs, hm, rfl, rfl⟩))
      | cons c l' =>
        cases r with
        | nil =>
          obtain ⟨n, hn, hab⟩ := (map_number_eq_some _ _ _).mp h
          cases hab
          exact .inr (.inr (.inl ⟨c :: l', n, hs, hn, rfl, rfl⟩))
        | cons d r' =>
          simp only [List.isEmpty_cons, Bool.false_and, Bool.false_eq_true, if_false] at h
          cases hn : number (c :: l') with
          | none => rw [hn] at h; cases h
          | some n =>
            cases hm : number (d :: r') with
            | none => rw [hn, hm] at h; cases h
            | some m =>
              rw [hn, hm] at h
              simp only at h
              by_cases hle : n ≤ m
              · rw [if_pos hle] at h
                cases h
                exact .inr (.inl ⟨c :: l', d :: r', n, m, hs, hn, hm, hle, rfl, rfl⟩)
              · rw [if_neg hle] at h
                cases h
  · have ne : ∀ (p : Bytes) (n : Nat), number p = some n → p.isEmpty = false := fun p n hp =>
      List.isEmpty_eq_false_iff.mpr (number_some p n hp).1
    rintro (⟨n, hn, rfl, rfl⟩ | ⟨l, r, n, m, rfl, hn, hm, hle, rfl, rfl⟩ | ⟨l, n, rfl, hn, rfl, rfl⟩ |
      ⟨r, m, rfl, hm, rfl, rfl⟩)
    · unfold rangeSyntax
      rw [splitFirstColon_digits s (number_some s n hn).2, hn]
      rfl
    · unfold rangeSyntax
      rw [splitFirstColon_append l r (number_some l n hn).2]
      simp only [ne l n hn, ne r m hm, Bool.false_and, Bool.false_eq_true, if_false, hn, hm]
      rw [if_pos hle]
    · unfold rangeSyntax
      rw [splitFirstColon_append l [] (number_some l n hn).2]
      simp only [ne l n hn, List.isEmpty_nil, Bool.false_and, Bool.false_eq_true, if_false, if_true, hn]
      rfl
    · unfold rangeSyntax
      have : splitFirstColon (58 :: r) = some ([], r) := by simp [splitFirstColon]
      rw [this]
      simp only [ne r m hm, List.isEmpty_nil, Bool.and_false, Bool.false_eq_true, if_false, if_true, hm]
      rfl

end PgVerif.Proofs.BlockGrammar
