/-
  blockrange.go.  The declarations continue the namespace of Proofs/Block.lean (`PgVerif.Proofs.Block`): the property
  statements name `toRange`, `rejectErr`, `infoOfView`, `statsOfView` under it.
-/
import PgVerif.Proofs.Block
namespace PgVerif.Proofs.Block
open PgVerif PgVerif.Model
open PgVerif.Spec.BlockAddr

/-- the model's view of a request: the `BlockRange` pointer -/
def toRange : Option (Int × Int) → Option BlockRange
  | none => none
  | some (a, b) => some ⟨a, b⟩

def rejectErr : Reject → Err
  | .beyond => .beyond
  | .invalid => .invalidRange

/-- the part of `resolve` after the defaults -/
def clampStop (total : Nat) : Option Nat → Nat
  | some e => min e (total - 1)
  | none => total - 1

theorem clampStop_lt (total : Nat) (b? : Option Nat) (h : 0 < total) : clampStop total b? < total := by
  cases b? with
  | none => exact Nat.sub_lt h Nat.one_pos
  | some e => exact Nat.lt_of_le_of_lt (Nat.min_le_right _ _) (Nat.sub_lt h Nat.one_pos)

def resolveCore (total a : Nat) (b? : Option Nat) : Except Reject (Nat × Nat) :=
  if a ≥ total then .error .beyond
  else if a > clampStop total b? then .error .invalid else .ok (a, clampStop total b?)

def reqStart : Option (Int × Int) → Nat
  | some (s, _) => if s < 0 then 0 else s.toNat
  | none => 0

def reqStop : Option (Int × Int) → Option Nat
  | some (_, e) => if e < 0 then none else some e.toNat
  | none => none

theorem resolve_core (r : Option (Int × Int)) (total : Nat) : resolve r total = resolveCore total (reqStart r) (reqStop r) := by
  cases r with
  | none => rfl
  | some p =>
    obtain ⟨s, e⟩ := p
    unfold resolve resolveCore
    simp only [reqStart, reqStop]
    by_cases h : e < 0
    · simp only [h, if_true, clampStop]
    · simp only [h, if_false, clampStop]

theorem rangeStart_toRange (r : Option (Int × Int)) : rangeStart (toRange r) = (reqStart r : Int) := by
  cases r with
  | none => rfl
  | some p =>
    obtain ⟨s, e⟩ := p
    simp only [toRange, rangeStart, reqStart]
    by_cases h : s < 0
    · rw [if_neg (by omega), if_pos h]; rfl
    · rw [if_pos (by omega), if_neg h]; omega

/-- the model's stop, defaulted and then clamped to the last block, is the Spec's -/
theorem rangeEnd_toRange (r : Option (Int × Int)) (t : Nat) (ht : 0 < t) :
    (if rangeEnd (toRange r) t ≥ (t : Int) then (t : Int) - 1 else rangeEnd (toRange r) t) =
      (clampStop t (reqStop r) : Int) := by
  have key : (reqStop r = none ∧ rangeEnd (toRange r) t = (t : Int) - 1) ∨
      ∃ e : Nat, reqStop r = some e ∧ rangeEnd (toRange r) t = (e : Int) := by
    cases r with
    | none => exact .inl ⟨rfl, rfl⟩
    | some p =>
      obtain ⟨s, e⟩ := p
      by_cases h : e < 0
      · exact .inl ⟨if_pos h, if_neg (show ¬ e ≥ 0 by omega)⟩
      · exact .inr ⟨e.toNat, if_neg h, (if_pos (show e ≥ 0 by omega)).trans (show e = (e.toNat : Int) by omega)⟩
  rcases key with ⟨h1, h2⟩ | ⟨e, h1, h2⟩
  · rw [h1, h2, if_neg (by omega)]
    simp only [clampStop]
    omega
  · rw [h1, h2]
    simp only [clampStop]
    split <;> omega

/-- the `match` on the resolved request in the statement of `C19_read_bytes`, as a function -/
def readResult (f : Bytes) : Except Reject (Nat × Nat) → R Bytes
  | .error e => .error (rejectErr e)
  | .ok (a, b) => .ok ((f.drop (a * 8192)).take ((b - a + 1) * 8192))

theorem fileReadFullAt_inside (f : Bytes) (x n : Nat) (h : x + n ≤ f.length) (hn : 0 < n) :
    fileReadFullAt f (x : Int) n = .ok ((f.drop x).take n) := by
  unfold fileReadFullAt
  rw [if_neg (by omega), if_neg (by omega), if_neg (by omega), Int.toNat_natCast]

/-- ReadBlockRange on ANY byte string: the documented resolution of the request against `len / 8192` blocks, then exactly the
bytes [8192·a, 8192·(b+1)) -/
theorem readBlockRange_bytes (f : Bytes) (hlen : f.length < 2 ^ 62) (r : Option (Int × Int)) :
    readBlockRange (some f) (toRange r) = .ok (readResult f (resolve r (f.length / 8192))) := by
  rw [resolve_core]
  unfold readBlockRange resolveCore
  simp only [rangeStart_toRange]
  have hft := Nat.div_mul_le_self f.length 8192
  generalize f.length / 8192 = t at hft
  by_cases h0 : reqStart r ≥ t
  · rw [if_pos (Int.ofNat_le.mpr h0), if_pos h0]; rfl
  · have ht : 0 < t := Nat.lt_of_le_of_lt (Nat.zero_le _) (Nat.lt_of_not_ge h0)
    rw [if_neg (fun h => h0 (Int.ofNat_le.mp h)), if_neg h0, rangeEnd_toRange r t ht]
    have hb := clampStop_lt t (reqStop r) ht
    generalize clampStop t (reqStop r) = b at hb
    generalize reqStart r = a at h0
    by_cases h1 : a > b
    · rw [if_pos (Int.ofNat_lt.mpr h1), if_pos h1]; rfl
    · rw [if_neg (fun h => h1 (Int.ofNat_lt.mp h)), if_neg h1,
        show (a : Int) * 8192 = ((a * 8192 : Nat) : Int) from (Int.natCast_mul a 8192).symm,
        show ((b : Int) - a + 1) * 8192 = (((b - a + 1) * 8192 : Nat) : Int) by omega]
      have hin : a * 8192 + (b - a + 1) * 8192 ≤ f.length := by
        rw [← Nat.add_mul]
        exact Nat.le_trans (Nat.mul_le_mul_right _ (by omega)) hft
      -- offset and byte count lie inside a file shorter than 2^62: neither `int` wraps around
      simp only [Nat.reducePow] at hlen
      rw [wrap64_id _ (by omega) (by omega), wrap64_id _ (by omega) (by omega), if_neg (by omega), Int.toNat_natCast,
        fileReadFullAt_inside f _ _ hin (by omega)]
      rfl

theorem resolve_none (total : Nat) (h : 0 < total) : resolve none total = .ok (0, total - 1) := by
  rw [resolve_core]
  show (if 0 ≥ total then _ else if 0 > total - 1 then _ else _) = _
  rw [if_neg (by omega), if_neg (by omega)]
  rfl

theorem resolve_ok (r : Option (Int × Int)) (total a b : Nat) (h : resolve r total = .ok (a, b)) :
    a = reqStart r ∧ a ≤ b ∧ b < total := by
  rw [resolve_core] at h
  unfold resolveCore at h
  split at h
  · cases h
  · split at h
    · cases h
    · injection h with h; injection h with h1 h2
      subst h1
      have := clampStop_lt total (reqStop r) (by omega)
      exact ⟨rfl, by omega, by omega⟩

/-- the `match` on the selected blocks in the statement of `C19_read`, as a function -/
def selectResult : Except Reject (Nat × List RawBlock) → R Bytes
  | .error e => .error (rejectErr e)
  | .ok (_, bs) => .ok (bs.flatMap encBlock)

theorem readBlockRange_enc (f : RelFile) (hwf : f.WF) (hlen : (encFile f).length < 2 ^ 62) (r : Option (Int × Int)) :
    readBlockRange (some (encFile f)) (toRange r) = .ok (selectResult (selectBlocks f r)) := by
  rw [readBlockRange_bytes _ hlen, encFile_blocks f hwf]
  unfold selectBlocks
  cases hr : resolve r f.blocks.length with
  | error e => rfl
  | ok p =>
    obtain ⟨a, b⟩ := p
    obtain ⟨_, hab, hb⟩ := resolve_ok r _ a b hr
    simp only [readResult, selectResult]
    congr 2
    rw [← flatten_slice_pages _ a _ (by rw [pages_encFile f hwf, List.length_map]; omega), pages_encFile f hwf,
      ← List.map_drop, ← List.map_take, List.flatMap_def]

theorem zeroPrefix_eq (n : Nat) (bs : Bytes) : zeroPrefix n bs = allZero (bs.take n) := by
  induction n generalizing bs with
  | zero => simp [zeroPrefix, allZero]
  | succ n ih =>
    cases bs with
    | nil => simp [zeroPrefix, allZero]
    | cons b bs =>
      simp only [zeroPrefix, List.take_succ_cons, allZero, List.all_cons]
      by_cases hb : b = 0
      · subst hb; simpa [allZero] using ih bs
      · simp [hb]

/-- what ParseBlockInfo reports for a buffer that holds a page -/
def blockInfoOf (data : Bytes) (bn : Nat) : BlockInfo :=
  if allZero (data.take 8192) then ⟨bn, "", 0, 0, 0, 0, 0, 0, 0, 0, 0, true⟩
  else
    let lower := rd 2 (data.drop 12)
    let upper := rd 2 (data.drop 14)
    let psv := rd 2 (data.drop 18)
    ⟨bn, formatLSN (rd 4 data * 2 ^ 32 + rd 4 (data.drop 4)), rd 2 (data.drop 8), rd 2 (data.drop 10), lower, upper,
     rd 2 (data.drop 16), psv &&& 0xFF00, psv &&& 0x00FF, if lower ≥ 24 then (lower - 24) / 4 else 0,
     if upper > lower then upper - lower else 0, false⟩

theorem parseBlockInfo_eq (data : Bytes) (bn : Nat) :
    parseBlockInfo data bn = .ok (if data.length < 8192 then none else some (blockInfoOf data bn)) := by
  unfold parseBlockInfo blockInfoOf
  by_cases h : data.length < 8192
  · rw [if_pos h, if_pos h]; rfl
  · rw [if_neg h, if_neg h, zeroPrefix_eq]
    split
    · rfl
    · have hu : ∀ n off, off + n ≤ 24 → uNf n data off = .ok (rd n (data.drop off)) :=
        fun n off hle => uNf_ok n data off (by omega)
      simp (disch := decide) only [pageLSN, hu, ok_bind, pure_eq_ok, List.drop_zero]

theorem parseBlockInfo_total (data : Bytes) (bn : Nat) : ∃ r, parseBlockInfo data bn = .ok r :=
  ⟨_, parseBlockInfo_eq data bn⟩

/-- the model's record for a spec view (`LSN` rendered by FormatLSN, empty for a zero block) -/
def infoOfView (v : InfoView) : BlockInfo :=
  ⟨v.number, if v.isEmpty then "" else formatLSN v.lsn, v.checksum, v.flags, v.lower, v.upper, v.special,
   v.pageSize, v.version, v.itemCount, v.freeSpace, v.isEmpty⟩

theorem blockInfoOf_enc (b : RawBlock) (hwf : b.WF) (num : Nat) :
    blockInfoOf (encBlock b) num = infoOfView (infoView num b) := by
  have hlen := encBlock_length b hwf
  obtain ⟨r0, r4, r8, r10, r12, r14, r16, r18⟩ := encBlock_hdr b hwf.1
  rw [blockInfoOf, List.take_of_length_le (by omega), allZero_encBlock b hwf, r0, r4, r8, r10,
    r12, r14, r16, r18, infoView]
  cases b.isZero with
  | true => rfl
  | false =>
    obtain ⟨_, _, _, _, _, _, _, hpsv, _⟩ := hwf.1
    have h8 : b.hdr.psv / 256 < 256 := Nat.div_lt_of_lt_mul hpsv
    -- truncated subtraction gives the guarded values: (lower − 24)/4 is 0 below 24, upper − lower is 0 when upper ≤ lower
    have e1 : (if b.hdr.lower ≥ 24 then (b.hdr.lower - 24) / 4 else 0) = (b.hdr.lower - 24) / 4 := by
      split
      · rfl
      · rename_i h; rw [Nat.sub_eq_zero_of_le (Nat.le_of_lt (Nat.lt_of_not_ge h))]
    have e2 : (if b.hdr.upper > b.hdr.lower then b.hdr.upper - b.hdr.lower else 0) = b.hdr.upper - b.hdr.lower := by
      split
      · rfl
      · rename_i h; exact (Nat.sub_eq_zero_of_le (Nat.le_of_not_gt h)).symm
    simp only [Bool.false_eq_true, if_false, infoOfView, land_FF00, land_FF, e1, e2, Nat.mod_eq_of_lt h8]

theorem ofSigned32_small (v : Nat) (h : v < 2 ^ 32) : ofSigned 32 (v : Int) = v := by
  unfold ofSigned
  simp only [Nat.reducePow] at *
  omega

theorem dumpBlocksLoop_eq (start : Int) (n i : Nat) (rest : Bytes) (h : n * 8192 ≤ rest.length) :
    dumpBlocksLoop start n i rest =
      .ok ((((pages rest).take n).zipIdx i).map fun p => blockInfoOf p.1 (ofSigned 32 (start + p.2))) := by
  induction n generalizing i rest with
  | zero => rfl
  | succ n ih =>
    obtain ⟨hl, hr⟩ := pages_fuel h
    rw [dumpBlocksLoop, takeM_ok rest 8192 hl, ok_bind,
      parseBlockInfo_eq, if_neg (Nat.not_lt.mpr (Nat.le_of_eq (List.length_take_of_le hl).symm)), ok_bind, ih (i + 1) _ hr, ok_bind, pages_step hl, List.take_succ_cons, List.zipIdx_cons,
      List.map_cons]
    rfl

theorem dumpBlocks_eq (data : Bytes) (start : Int) :
    dumpBlocks data start =
      .ok ((pages data).zipIdx.map fun p => blockInfoOf p.1 (ofSigned 32 (start + p.2))) := by
  rw [dumpBlocks, dumpBlocksLoop_eq start _ 0 data (Nat.div_mul_le_self _ _), ← length_pages, List.take_length]

theorem dumpBinaryLoop_eq {α} (hexDump : Bytes → α) (start : Int) (n i : Nat) (rest : Bytes) (h : n * 8192 ≤ rest.length) :
    dumpBinaryLoop hexDump start n i rest =
      .ok ((((pages rest).take n).zipIdx i).map fun p =>
        ⟨ofSigned 32 (start + p.2), wrap64 ((start + p.2) * 8192), hexDump p.1, 8192⟩) := by
  induction n generalizing i rest with
  | zero => rfl
  | succ n ih =>
    obtain ⟨hl, hr⟩ := pages_fuel h
    rw [dumpBinaryLoop, takeM_ok rest 8192 hl, ok_bind, ih (i + 1) _ hr, ok_bind,
      pages_step hl, List.take_succ_cons, List.zipIdx_cons, List.map_cons]
    rfl

theorem dumpBinaryBlocks_eq {α} (hexDump : Bytes → α) (data : Bytes) (start : Int) :
    dumpBinaryBlocks hexDump data start =
      .ok ((pages data).zipIdx.map fun p =>
        ⟨ofSigned 32 (start + p.2), wrap64 ((start + p.2) * 8192), hexDump p.1, 8192⟩) := by
  rw [dumpBinaryBlocks, dumpBinaryLoop_eq hexDump start _ 0 data (Nat.div_mul_le_self _ _), ← length_pages,
    List.take_length]

theorem dumpBlocks_enc (first : Nat) (bs : List RawBlock) (hwf : ∀ b ∈ bs, b.WF) (h : first + bs.length ≤ 2 ^ 32) :
    dumpBlocks (bs.flatMap encBlock) first = .ok ((infoViews first bs).map infoOfView) := by
  rw [dumpBlocks_eq, infoViews, List.map_map]
  refine congrArg Except.ok (map_pages_encBlocks (fun pg k => blockInfoOf pg (ofSigned 32 ((first : Int) + k)))
    (fun n b => infoOfView (infoView n b)) first bs hwf fun b hb k hk => ?_)
  show blockInfoOf (encBlock b) (ofSigned 32 ((first + k : Nat) : Int)) = _
  rw [ofSigned32_small _ (by omega), blockInfoOf_enc b (hwf b hb)]

theorem dumpBinaryBlocks_enc {α} (hexDump : Bytes → α) (first : Nat) (bs : List RawBlock) (hwf : ∀ b ∈ bs, b.WF)
    (h : first + bs.length ≤ 2 ^ 32) :
    dumpBinaryBlocks hexDump (bs.flatMap encBlock) first =
      .ok ((dumpViews first bs).map fun d => ⟨d.number, (d.offset : Int), hexDump d.bytes, 8192⟩) := by
  rw [dumpBinaryBlocks_eq, dumpViews, List.map_map]
  refine congrArg Except.ok (map_pages_encBlocks
    (fun pg k => (⟨ofSigned 32 ((first : Int) + k), wrap64 (((first : Int) + k) * 8192), hexDump pg, 8192⟩ : BinaryDump α))
    (fun n b => ⟨n, ((8192 * n : Nat) : Int), hexDump (encBlock b), 8192⟩) first bs hwf fun b hb k hk => ?_)
  show (⟨ofSigned 32 ((first + k : Nat) : Int), wrap64 (((first + k : Nat) : Int) * 8192), hexDump (encBlock b), 8192⟩ :
    BinaryDump α) = ⟨first + k, ((8192 * (first + k) : Nat) : Int), hexDump (encBlock b), 8192⟩
  rw [ofSigned32_small _ (by omega), wrap64_id _ (by omega) (by omega)]
  congr 1
  omega

theorem selectBlocks_ok (f : RelFile) (r : Option (Int × Int)) (first : Nat) (bs : List RawBlock)
    (h : selectBlocks f r = .ok (first, bs)) :
    first = reqStart r ∧ first + bs.length ≤ f.blocks.length ∧ (∀ b ∈ bs, b ∈ f.blocks) := by
  unfold selectBlocks at h
  cases hr : resolve r f.blocks.length with
  | error e => rw [hr] at h; cases h
  | ok p =>
    obtain ⟨a, b⟩ := p
    rw [hr] at h
    injection h with h; injection h with h1 h2
    obtain ⟨ha, hab, hb⟩ := resolve_ok r _ a b hr
    subst h1 h2
    refine ⟨ha, ?_, ?_⟩
    · simp only [List.length_take, List.length_drop]; omega
    · intro x hx; exact List.mem_of_mem_drop (List.mem_of_mem_take hx)

theorem encFile_small (f : RelFile) (hwf : f.WF) (hn : f.blocks.length ≤ 2 ^ 32) : (encFile f).length < 2 ^ 62 := by
  rw [encFile_length f hwf]
  have := hwf.2
  simp only [Nat.reducePow] at *
  omega

def statsOfView (s : StatsView) : BlockRangeStats :=
  ⟨s.totalBlocks, s.startBlock, s.endBlock, s.emptyBlocks, s.usedBlocks, s.totalItems, s.totalFree, s.fillNum, s.fillDen⟩

theorem foldl_statsStep (vs : List InfoView) (s : BlockRangeStats) :
    (vs.map infoOfView).foldl statsStep s =
      { s with emptyBlocks := s.emptyBlocks + (vs.filter (·.isEmpty)).length,
               usedBlocks := s.usedBlocks + (vs.filter (!·.isEmpty)).length,
               totalItems := s.totalItems + ((vs.filter (!·.isEmpty)).map (·.itemCount)).sum,
               totalFree := s.totalFree + ((vs.filter (!·.isEmpty)).map (·.freeSpace)).sum,
               fillNum := s.fillNum + (((vs.filter (!·.isEmpty)).filter (·.pageSize > 0)).map
                 fun v => (v.pageSize : Int) - (v.freeSpace : Int)).sum } := by
  induction vs generalizing s with
  | nil => simp
  | cons v vs ih =>
    simp only [List.map_cons, List.foldl_cons]
    rw [ih]
    by_cases hv : v.isEmpty = true
    · simp only [statsStep, infoOfView, hv, if_true, List.filter_cons, Bool.not_true, Bool.false_eq_true, if_false,
        List.length_cons]
      congr 1; omega
    · have hv' : v.isEmpty = false := by simpa using hv
      by_cases hp : v.pageSize > 0
      · simp only [statsStep, infoOfView, hv', Bool.false_eq_true, if_false, List.filter_cons, Bool.not_false, if_true,
          List.length_cons, List.map_cons, List.sum_cons, hp, decide_true]
        congr 1 <;> omega
      · simp only [statsStep, infoOfView, hv', Bool.false_eq_true, if_false, List.filter_cons, Bool.not_false, if_true,
          List.length_cons, List.map_cons, List.sum_cons, hp, decide_false]
        congr 1 <;> omega

theorem blockStats_views (vs : List InfoView) : blockStats (vs.map infoOfView) = statsOfView (statsView vs) := by
  cases vs with
  | nil => rfl
  | cons v vs =>
    unfold blockStats
    obtain ⟨l, hl⟩ : ∃ l, (v :: vs).getLast? = some l := by
      cases h : (v :: vs).getLast? with
      | none => simp at h
      | some l => exact ⟨l, rfl⟩
    rw [List.getLast?_map, hl]
    simp only [List.map_cons, List.head?_cons, Option.map_some]
    rw [← List.map_cons, foldl_statsStep]
    simp only [statsView, statsOfView, hl, List.head?_cons, Option.map_some, Option.getD_some, List.length_map,
      List.isEmpty_cons, Bool.false_eq_true, if_false, infoOfView, Nat.zero_add, Int.zero_add]

end PgVerif.Proofs.Block
