/-
  VerifyDataDirChecksums on a data directory built from the Spec's description (`Spec.BlockAddr.DataDir`): the files
  the scan visits, and their results, are exactly those of the Spec's view `ckDirFiles`.
-/
import PgVerif.Proofs.ChecksumScan
namespace PgVerif.Proofs.ChecksumDirSpec
open PgVerif PgVerif.Model PgVerif.Proofs.Block PgVerif.Proofs.ChecksumAcct
open PgVerif.Spec.BlockAddr

/-- a directory entry; not the `segEntry` of Proofs/SegmentMulti.lean, an entry of ListSegments -/
def segEntry (s : SegFile) : Bytes × DbEntry := (s.name, .file (encFile s.file))

/-- any order would do (`C19_cksum_dir`) -/
def dbEntriesOf (db : Database) : List (Bytes × DbEntry) :=
  db.segs.map segEntry ++ db.others.map (fun o => (o.1, DbEntry.file o.2)) ++ db.subdirs.map (fun d => (d, DbEntry.dir))

def baseEntriesOf (b : BaseDir) : List (Bytes × BaseEntry) :=
  b.dbs.map (fun db => (decimalName db.oid, BaseEntry.dir (dbEntriesOf db))) ++
  b.strayFiles.map (fun n => (n, BaseEntry.file)) ++
  b.strayDirs.map (fun d => (d.1, BaseEntry.dir (d.2.map fun f => (f.1, DbEntry.file f.2))))

/-- the model's file-system parameter for a Spec data directory -/
def fsOf (enabled : Bool) (d : DataDir) : DataDirFS :=
  { checksumsEnabled := enabled, base := some (baseEntriesOf d.base), global := d.globalDir.map dbEntriesOf,
    tblspc := d.tablespaces.map fun t => (decimalName t.oid, SpcEntry.dir [(t.verDir, VerEntry.dir (baseEntriesOf t.dbs))]) }

def toView (r : FileChecksumResult) : CkFileView :=
  ⟨r.totalBlocks, r.validBlocks, r.invalidBlocks, r.zeroBlocks, r.errors.map toCkError⟩

def toCkDirFile (sf : ScannedFile) : CkDirFile := ⟨sf.db, sf.name, toView sf.result⟩

theorem toView_fileResult (ck : Bytes → Nat → Nat) (f : RelFile) (seg : Nat) (hwf : f.WF)
    (hseg : seg * 131072 + f.blocks.length ≤ 2 ^ 32) :
    toView (fileResult ck (encFile f) seg) = ckFileView ck seg f.blocks := by
  have he := errors_encFile ck f seg hwf hseg
  have hl : (fileResult ck (encFile f) seg).errors.length = (ckFileView ck seg f.blocks).errors.length := by
    rw [← he, List.length_map]
  show (⟨(encFile f).length / 8192, (encFile f).length / 8192 - (fileResult ck (encFile f) seg).errors.length,
    (fileResult ck (encFile f) seg).errors.length, (fileResult ck (encFile f) seg).zeroBlocks,
    (fileResult ck (encFile f) seg).errors.map toCkError⟩ : CkFileView) = _
  rw [encFile_blocks f hwf, hl, he, zeroBlocks_encFile ck f seg hwf]
  rfl

theorem visit_seg (ck : Bytes → Nat → Nat) (dir : Bytes) (s : SegFile) (hf : s.file.WF)
    (hn : relSegNumber s.name = some s.seg) :
    visitFile ck dir (segEntry s) =
      if s.file.blocks.length ≥ 1 then some ⟨dir, s.name, fileResult ck (encFile s.file) s.seg⟩ else none := by
  unfold visitFile segEntry
  simp only [relFileSegment_eq_relSegNumber, hn]
  have := encFile_blocks s.file hf
  by_cases hb : s.file.blocks.length ≥ 1
  · have : ¬ (encFile s.file).length < 8192 := by omega
    simp only [this, if_false, hb, if_true]
  · have : (encFile s.file).length < 8192 := by omega
    simp only [this, if_true, hb, if_false]

theorem visit_segs (ck : Bytes → Nat → Nat) (dir : Bytes) (segs : List SegFile)
    (h : ∀ s ∈ segs, s.file.WF ∧ relSegNumber s.name = some s.seg) :
    (segs.map segEntry).filterMap (visitFile ck dir) =
      (segs.filter fun s => s.file.blocks.length ≥ 1).map fun s => ⟨dir, s.name, fileResult ck (encFile s.file) s.seg⟩ := by
  induction segs with
  | nil => rfl
  | cons s rest ih =>
    obtain ⟨hf, hn⟩ := h s (by simp)
    have ih' := ih fun x hx => h x (by simp [hx])
    simp only [List.map_cons, List.filterMap_cons, visit_seg ck dir s hf hn, List.filter_cons]
    by_cases hb : s.file.blocks.length ≥ 1
    · simp only [hb, if_true, decide_true, List.map_cons, ih']
    · simp only [hb, if_false, decide_false, ih', Bool.false_eq_true]

theorem visit_others (ck : Bytes → Nat → Nat) (dir : Bytes) (others : List (Bytes × Bytes))
    (h : ∀ o ∈ others, relSegNumber o.1 = none) :
    (others.map fun o => (o.1, DbEntry.file o.2)).filterMap (visitFile ck dir) = [] :=
  List.filterMap_eq_nil_iff.mpr <| List.forall_mem_map.mpr fun o ho => by
    simp only [visitFile, relFileSegment_eq_relSegNumber, h o ho]

theorem visit_subdirs (ck : Bytes → Nat → Nat) (dir : Bytes) (subdirs : List Bytes) :
    (subdirs.map fun d => (d, DbEntry.dir)).filterMap (visitFile ck dir) = [] :=
  List.filterMap_eq_nil_iff.mpr <| List.forall_mem_map.mpr fun _ _ => rfl

/-- in one Spec directory of relation files the scan finds exactly its segment files (every fork) that hold a block -/
theorem visit_db (ck : Bytes → Nat → Nat) (dir : Bytes) (db : Database) (h : db.WF) :
    ((dbEntriesOf db).filterMap (visitFile ck dir)).map toCkDirFile = ckFilesOf ck dir db := by
  obtain ⟨hs, ho⟩ := h
  unfold dbEntriesOf ckFilesOf
  rw [List.filterMap_append, List.filterMap_append, visit_segs ck dir db.segs (fun s hx => ⟨(hs s hx).1, (hs s hx).2.1⟩),
    visit_others ck dir db.others ho, visit_subdirs, List.append_nil, List.append_nil, List.map_map]
  apply List.map_congr_left
  intro s hsf
  have hmem : s ∈ db.segs := (List.mem_filter.mp hsf).1
  obtain ⟨hf, _, hb⟩ := hs s hmem
  simp only [Function.comp, toCkDirFile, toView_fileResult ck s.file s.seg hf hb]

theorem number32_isSome_parse (s : Bytes) (h : (number32 s).isSome = true) : ¬ (parseUint32 s).isNone = true := by
  rw [parseUint32_eq_number32]
  cases hn : number32 s with
  | none => rw [hn] at h; cases h
  | some _ => simp

theorem number32_none_parse (s : Bytes) (h : number32 s = none) : (parseUint32 s).isNone = true := by
  rw [parseUint32_eq_number32, h]; rfl

theorem slash_eq_joinPath (a b : Bytes) : slash a b = joinPath a b := rfl

theorem visit_base (ck : Bytes → Nat → Nat) (dir : Bytes) (b : BaseDir) (h : b.WF) :
    ((baseEntriesOf b).flatMap (visitDbU ck dir)).map toCkDirFile = ckBaseFiles ck dir b := by
  obtain ⟨hd, hs⟩ := h
  unfold baseEntriesOf ckBaseFiles
  have h2 : (b.strayFiles.map fun n => (n, BaseEntry.file)).flatMap (visitDbU ck dir) = [] :=
    List.flatMap_eq_nil_iff.mpr <| List.forall_mem_map.mpr fun _ _ => rfl
  have h3 : (b.strayDirs.map fun d => (d.1, BaseEntry.dir (d.2.map fun f => (f.1, DbEntry.file f.2)))).flatMap
      (visitDbU ck dir) = [] :=
    List.flatMap_eq_nil_iff.mpr <| List.forall_mem_map.mpr fun d hd => by
      simp only [visitDbU, number32_none_parse d.1 (hs d hd), if_true]
  rw [List.flatMap_append, List.flatMap_append, h2, h3, List.append_nil, List.append_nil]
  generalize b.dbs = dbs at hd
  induction dbs with
  | nil => rfl
  | cons db rest ih =>
    obtain ⟨hw, ho⟩ := hd db (by simp)
    have hn := number32_isSome_parse _ ho
    simp only [List.map_cons, List.flatMap_cons, List.map_append, visitDbU, hn, if_false, Bool.false_eq_true]
    rw [visit_db ck _ db hw, ih fun x hx => hd x (by simp [hx]), ← slash_eq_joinPath]

theorem listedFiles_spec (ck : Bytes → Nat → Nat) (enabled : Bool) (d : DataDir) (h : d.WF) :
    (listedFiles ck (fsOf enabled d) (baseEntriesOf d.base)).map toCkDirFile = ckDirFiles ck d := by
  obtain ⟨hg, hb, ht⟩ := h
  unfold listedFiles ckDirFiles fsOf
  simp only [List.map_append]
  congr 1
  · congr 1
    · cases hgd : d.globalDir with
      | none => rfl
      | some g => exact visit_db ck globalName g (hg g hgd)
    · exact visit_base ck baseName d.base hb
  · generalize d.tablespaces = ts at ht
    induction ts with
    | nil => rfl
    | cons t rest ih =>
      obtain ⟨ho, hv, hw⟩ := ht t (by simp)
      have hn := number32_isSome_parse _ ho
      have hp : ¬ (t.verDir.take 3 != pgPrefix) = true := by
        have : t.verDir.take 3 = pgPrefix := hv
        simp [this]
      simp only [List.map_cons, List.flatMap_cons, List.map_append, visitSpcU, visitVerU, hn, hp, if_false,
        Bool.false_eq_true, List.flatMap_nil, List.append_nil]
      rw [ih fun x hx => ht x (by simp [hx])]
      congr 1
      exact visit_base ck _ t.dbs hw

end PgVerif.Proofs.ChecksumDirSpec
