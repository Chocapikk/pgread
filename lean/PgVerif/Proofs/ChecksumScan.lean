/-
  checksum.go, the directory scan.  The declarations continue the namespace of Proofs/ChecksumAcct.lean
  (`PgVerif.Proofs.ChecksumAcct`): the property statements name `visitFile`, `listedFiles` under it.
-/
import PgVerif.Proofs.ChecksumAcct
namespace PgVerif.Proofs.ChecksumAcct
open PgVerif PgVerif.Model PgVerif.Proofs.Block
open PgVerif.LastSplit (last_split takeWhile_eq_span span_reverse_not_mem span_reverse_split)

/-- what the scan does with one entry of a database directory -/
def visitFile (ck : Bytes → Nat → Nat) (db : Bytes) (x : Bytes × DbEntry) : Option ScannedFile :=
  match x.2 with
  | .dir => none
  | .file data =>
    match relFileSegment x.1 with
    | none => none
    | some seg => if data.length < 8192 then none else some ⟨db, x.1, fileResult ck data seg⟩

theorem scanDbFiles_eq (ck : Bytes → Nat → Nat) (db : Bytes) (entries : List (Bytes × DbEntry)) :
    scanDbFiles ck db entries = .ok (entries.filterMap (visitFile ck db)) := by
  induction entries with
  | nil => rfl
  | cons x rest ih =>
    obtain ⟨name, e⟩ := x
    cases e with
    | dir => simp only [scanDbFiles, ih, List.filterMap_cons, visitFile]
    | file data =>
      cases hs : relFileSegment name with
      | none => simp only [scanDbFiles, hs, ih, List.filterMap_cons, visitFile]
      | some seg =>
        by_cases hl : data.length < 8192
        · simp only [scanDbFiles, hs, hl, if_true, ih, List.filterMap_cons, visitFile]
        · simp only [scanDbFiles, hs, hl, if_false, ih, List.filterMap_cons, visitFile,
            verifyFileChecksums_eq, ok_bind, pure_eq_ok]

theorem sortByName_eq {α} (xs : List (Bytes × α)) :
    sortByName xs = Sorting.insertionSort (fun x y => ¬ nameLt y.1 x.1 = true) xs :=
  Sorting.foldr_eq_insertionSort_not (f := insertByName) (fun _ => rfl) (fun _ _ _ => rfl) xs

theorem sortByName_perm {α} (xs : List (Bytes × α)) : (sortByName xs).Perm xs :=
  sortByName_eq xs ▸ Sorting.insertionSort_perm _ xs

/-- one entry of a directory of database directories (`base`, or a tablespace's version directory) at path `dir`; `U` for
unsorted: the entries of the database directory are taken in the order given, where the scan sorts them by name -/
def visitDbU (ck : Bytes → Nat → Nat) (dir : Bytes) (x : Bytes × BaseEntry) : List ScannedFile :=
  match x.2 with
  | .file => []
  | .dir entries =>
    if (parseUint32 x.1).isNone then [] else entries.filterMap (visitFile ck (joinPath dir x.1))

def visitVerU (ck : Bytes → Nat → Nat) (spcPath : Bytes) (x : Bytes × VerEntry) : List ScannedFile :=
  match x.2 with
  | .file => []
  | .dir dbs => if x.1.take 3 != pgPrefix then [] else dbs.flatMap (visitDbU ck (joinPath spcPath x.1))

def visitSpcU (ck : Bytes → Nat → Nat) (x : Bytes × SpcEntry) : List ScannedFile :=
  if (parseUint32 x.1).isNone then []
  else match x.2 with
    | .file => []
    | .dir vers => vers.flatMap (visitVerU ck (joinPath tblspcName x.1))

/-- the visited files straight from the directory contents as given (no sorting): those of `global/`, of every `base/<uint32>/`
and of every `pg_tblspc/<uint32>/PG_…/<uint32>/`; `entries` is the listing of `base/` (`fs.base = some entries`; `none`:
`verifyDataDirChecksums_noBase`) -/
def listedFiles (ck : Bytes → Nat → Nat) (fs : DataDirFS) (entries : List (Bytes × BaseEntry)) : List ScannedFile :=
  (match fs.global with | none => [] | some es => es.filterMap (visitFile ck globalName)) ++
    entries.flatMap (visitDbU ck baseName) ++ fs.tblspc.flatMap (visitSpcU ck)

theorem mem_flatMap_visitDbU (ck : Bytes → Nat → Nat) (sf : ScannedFile) (dir : Bytes) (l : List (Bytes × BaseEntry)) :
    sf ∈ l.flatMap (visitDbU ck dir) ↔
      ∃ name es x, (name, BaseEntry.dir es) ∈ l ∧ (parseUint32 name).isSome ∧ x ∈ es ∧
        visitFile ck (joinPath dir name) x = some sf := by
  rw [List.mem_flatMap]
  constructor
  · rintro ⟨⟨name, e⟩, hx, hm⟩
    cases e with
    | file => cases hm
    | dir es =>
      by_cases hn : (parseUint32 name).isNone = true
      · simp only [visitDbU, hn, if_true, List.not_mem_nil] at hm
      · simp only [visitDbU, hn, if_false, Bool.false_eq_true, List.mem_filterMap] at hm
        obtain ⟨x, hxe, hv⟩ := hm
        exact ⟨name, es, x, hx, (not_isNone_iff _).mp hn, hxe, hv⟩
  · rintro ⟨name, es, x, hx, hs, hxe, hv⟩
    refine ⟨(name, .dir es), hx, ?_⟩
    simp only [visitDbU, (not_isNone_iff _).mpr hs, if_false, Bool.false_eq_true, List.mem_filterMap]
    exact ⟨x, hxe, hv⟩

theorem mem_flatMap_visitVerU (ck : Bytes → Nat → Nat) (sf : ScannedFile) (p : Bytes) (l : List (Bytes × VerEntry)) :
    sf ∈ l.flatMap (visitVerU ck p) ↔
      ∃ ver dbs, (ver, VerEntry.dir dbs) ∈ l ∧ ver.take 3 = pgPrefix ∧ sf ∈ dbs.flatMap (visitDbU ck (joinPath p ver)) := by
  rw [List.mem_flatMap]
  constructor
  · rintro ⟨⟨ver, e⟩, hx, hm⟩
    cases e with
    | file => cases hm
    | dir dbs =>
      by_cases hn : (ver.take 3 != pgPrefix) = true
      · simp only [visitVerU, hn, if_true, List.not_mem_nil] at hm
      · simp only [visitVerU, hn, if_false, Bool.false_eq_true] at hm
        exact ⟨ver, dbs, hx, by simpa using hn, hm⟩
  · rintro ⟨ver, dbs, hx, hv, hm⟩
    refine ⟨(ver, .dir dbs), hx, ?_⟩
    have hn : ¬ (ver.take 3 != pgPrefix) = true := by simp [hv]
    simp only [visitVerU, hn, if_false, Bool.false_eq_true]
    exact hm

theorem mem_flatMap_visitSpcU (ck : Bytes → Nat → Nat) (sf : ScannedFile) (l : List (Bytes × SpcEntry)) :
    sf ∈ l.flatMap (visitSpcU ck) ↔
      ∃ spc vers, (spc, SpcEntry.dir vers) ∈ l ∧ (parseUint32 spc).isSome ∧
        sf ∈ vers.flatMap (visitVerU ck (joinPath tblspcName spc)) := by
  rw [List.mem_flatMap]
  constructor
  · rintro ⟨⟨spc, e⟩, hx, hm⟩
    by_cases hn : (parseUint32 spc).isNone = true
    · simp only [visitSpcU, hn, if_true, List.not_mem_nil] at hm
    · cases e with
      | file => simp only [visitSpcU, hn, if_false, Bool.false_eq_true, List.not_mem_nil] at hm
      | dir vers =>
        simp only [visitSpcU, hn, if_false, Bool.false_eq_true] at hm
        exact ⟨spc, vers, hx, (not_isNone_iff _).mp hn, hm⟩
  · rintro ⟨spc, vers, hx, hs, hm⟩
    refine ⟨(spc, .dir vers), hx, ?_⟩
    simp only [visitSpcU, (not_isNone_iff _).mpr hs, if_false, Bool.false_eq_true]
    exact hm

theorem scanBase_perm (ck : Bytes → Nat → Nat) (dir : Bytes) (base : List (Bytes × BaseEntry)) :
    ∃ l, scanBase ck dir base = .ok l ∧ l.Perm (base.flatMap (visitDbU ck dir)) := by
  induction base with
  | nil => exact ⟨[], rfl, .refl _⟩
  | cons x rest ih =>
    obtain ⟨l, hl, hp⟩ := ih
    obtain ⟨name, e⟩ := x
    cases e with
    | file => exact ⟨l, by simp only [scanBase, hl], hp⟩
    | dir entries =>
      by_cases hn : (parseUint32 name).isNone = true
      · exact ⟨l, by simp only [scanBase, hn, if_true, hl],
          by simpa only [List.flatMap_cons, visitDbU, hn, if_true, List.nil_append] using hp⟩
      · refine ⟨(sortByName entries).filterMap (visitFile ck (joinPath dir name)) ++ l,
          by simp only [scanBase, hn, if_false, scanDbFiles_eq, hl, ok_bind, pure_eq_ok, Bool.false_eq_true], ?_⟩
        simp only [List.flatMap_cons, visitDbU, hn, if_false, Bool.false_eq_true]
        exact ((sortByName_perm entries).filterMap _).append hp

theorem scanVers_perm (ck : Bytes → Nat → Nat) (spcPath : Bytes) (vers : List (Bytes × VerEntry)) :
    ∃ l, scanVers ck spcPath vers = .ok l ∧ l.Perm (vers.flatMap (visitVerU ck spcPath)) := by
  induction vers with
  | nil => exact ⟨[], rfl, .refl _⟩
  | cons x rest ih =>
    obtain ⟨l, hl, hp⟩ := ih
    obtain ⟨name, e⟩ := x
    cases e with
    | file => exact ⟨l, by simp only [scanVers, hl], hp⟩
    | dir dbs =>
      by_cases hn : (name.take 3 != pgPrefix) = true
      · exact ⟨l, by simp only [scanVers, hn, if_true, hl],
          by simpa only [List.flatMap_cons, visitVerU, hn, if_true, List.nil_append] using hp⟩
      · obtain ⟨m, hm, hmp⟩ := scanBase_perm ck (joinPath spcPath name) (sortByName dbs)
        refine ⟨m ++ l, by simp only [scanVers, hn, if_false, hm, hl, ok_bind, pure_eq_ok, Bool.false_eq_true], ?_⟩
        simp only [List.flatMap_cons, visitVerU, hn, if_false, Bool.false_eq_true]
        exact (hmp.trans ((sortByName_perm dbs).flatMap_right _)).append hp

theorem scanSpcs_perm (ck : Bytes → Nat → Nat) (spcs : List (Bytes × SpcEntry)) :
    ∃ l, scanSpcs ck spcs = .ok l ∧ l.Perm (spcs.flatMap (visitSpcU ck)) := by
  induction spcs with
  | nil => exact ⟨[], rfl, .refl _⟩
  | cons x rest ih =>
    obtain ⟨l, hl, hp⟩ := ih
    obtain ⟨name, e⟩ := x
    by_cases hn : (parseUint32 name).isNone = true
    · exact ⟨l, by simp only [scanSpcs, hn, if_true, hl],
        by simpa only [List.flatMap_cons, visitSpcU, hn, if_true, List.nil_append] using hp⟩
    · cases e with
      | file =>
        exact ⟨l, by simp only [scanSpcs, hn, if_false, hl, Bool.false_eq_true],
          by simpa only [List.flatMap_cons, visitSpcU, hn, if_false, Bool.false_eq_true, List.nil_append] using hp⟩
      | dir vers =>
        obtain ⟨m, hm, hmp⟩ := scanVers_perm ck (joinPath tblspcName name) (sortByName vers)
        refine ⟨m ++ l, by simp only [scanSpcs, hn, if_false, hm, hl, ok_bind, pure_eq_ok, Bool.false_eq_true], ?_⟩
        simp only [List.flatMap_cons, visitSpcU, hn, if_false, Bool.false_eq_true]
        exact (hmp.trans ((sortByName_perm vers).flatMap_right _)).append hp

/-- os.ReadDir's sort only fixes the order: the scanned files are a permutation of the listed ones -/
theorem verifyDataDirChecksums_perm (ck : Bytes → Nat → Nat) (fs : DataDirFS) (entries : List (Bytes × BaseEntry))
    (h : fs.base = some entries) :
    ∃ l, verifyDataDirChecksums ck fs = .ok (.ok (summarize fs.checksumsEnabled l)) ∧
      l.Perm (listedFiles ck fs entries) := by
  obtain ⟨b, hb, hbp⟩ := scanBase_perm ck baseName (sortByName entries)
  obtain ⟨t, ht, htp⟩ := scanSpcs_perm ck (sortByName fs.tblspc)
  have hbp' := hbp.trans ((sortByName_perm entries).flatMap_right _)
  have htp' := htp.trans ((sortByName_perm fs.tblspc).flatMap_right _)
  unfold verifyDataDirChecksums listedFiles
  rw [h]
  cases fs.global with
  | none => exact ⟨[] ++ b ++ t, by simp only [hb, ht, ok_bind, pure_eq_ok], ((List.Perm.refl []).append hbp').append htp'⟩
  | some es =>
    exact ⟨_, by simp only [scanDbFiles_eq, hb, ht, ok_bind, pure_eq_ok],
      (((sortByName_perm es).filterMap _).append hbp').append htp'⟩

theorem verifyDataDirChecksums_noBase (ck : Bytes → Nat → Nat) (fs : DataDirFS) (h : fs.base = none) :
    verifyDataDirChecksums ck fs = .ok (.error .noBase) := by
  unfold verifyDataDirChecksums
  rw [h]; rfl

theorem lastIndexByte_none (s : Bytes) (c : UInt8) (h : c ∉ s) : lastIndexByte s c = none := by
  unfold lastIndexByte
  have : s.reverse.contains c = false := by simpa using h
  simp only [this, Bool.false_eq_true, if_false]

theorem lastIndexByte_split (stem suffix : Bytes) (c : UInt8) (h : c ∉ suffix) :
    lastIndexByte (stem ++ c :: suffix) c = some stem.length := by
  have hc : (stem ++ c :: suffix).reverse.contains c = true := by simp
  unfold lastIndexByte
  simp only [hc, if_true, takeWhile_eq_span, span_reverse_split c stem suffix h, List.length_append, List.length_cons,
    List.length_reverse]
  congr 1
  omega

theorem relFileSegment_split (stem suffix : Bytes) (h : (46 : UInt8) ∉ suffix) :
    relFileSegment (stem ++ 46 :: suffix) =
      match parseUint32 suffix with
      | none => none
      | some seg => if (parseUint32 (stripFork stem)).isSome then some seg else none := by
  unfold relFileSegment
  rw [lastIndexByte_split stem suffix 46 h]
  have h1 : (stem ++ 46 :: suffix).drop (stem.length + 1) = suffix := by
    rw [← List.drop_drop, List.drop_left]; rfl
  have h2 : (stem ++ 46 :: suffix).take stem.length = stem := List.take_left
  simp only [h1, h2]
  cases parseUint32 suffix <;> rfl

theorem relFileSegment_nodot (name : Bytes) (h : (46 : UInt8) ∉ name) :
    relFileSegment name = if (parseUint32 (stripFork name)).isSome then some 0 else none := by
  unfold relFileSegment
  rw [lastIndexByte_none name 46 h]

/-- exactly `<number>[fork]` (segment 0) and `<number>[fork].<number>`, `[fork]` an optional `_fsm`, `_vm` or `_init` -/
theorem relFileSegment_iff (name : Bytes) (seg : Nat) : relFileSegment name = some seg ↔
    ((46 : UInt8) ∉ name ∧ (parseUint32 (stripFork name)).isSome ∧ seg = 0) ∨
    (∃ stem suffix, name = stem ++ 46 :: suffix ∧ (46 : UInt8) ∉ suffix ∧ (parseUint32 (stripFork stem)).isSome ∧
      parseUint32 suffix = some seg) := by
  -- with the last '.' at `stem ++ '.' :: suffix`
  have dot : ∀ stem suffix, (46 : UInt8) ∉ suffix → (relFileSegment (stem ++ 46 :: suffix) = some seg ↔
      (parseUint32 (stripFork stem)).isSome ∧ parseUint32 suffix = some seg) := by
    intro stem suffix hn
    rw [relFileSegment_split stem suffix hn]
    cases parseUint32 suffix with
    | none => exact Iff.intro (fun h => nomatch h) (fun h => nomatch h.2)
    | some s' =>
      simp only []
      rw [Option.ite_none_right_eq_some]
  constructor
  · intro h
    rcases last_split 46 name with hd | ⟨stem, suffix, rfl, hn⟩
    · rw [relFileSegment_nodot name hd, Option.ite_none_right_eq_some] at h
      exact .inl ⟨hd, h.1, (Option.some.inj h.2).symm⟩
    · exact .inr ⟨stem, suffix, rfl, hn, (dot stem suffix hn).mp h⟩
  · rintro (⟨hd, hs, rfl⟩ | ⟨stem, suffix, rfl, hn, hs, hp⟩)
    · rw [relFileSegment_nodot name hd, if_pos hs]
    · exact (dot stem suffix hn).mpr ⟨hs, hp⟩

section Names
open PgVerif.Spec.BlockAddr

theorem parseUint32_eq (s : Bytes) :
    parseUint32 s = if isDigits s = true ∧ decimal s < 2 ^ 32 then some (decimal s) else none := by
  unfold parseUint32 isDigits
  rw [digitsVal_eq_decimal, ← all_isDigit_eq]
  by_cases h1 : s.isEmpty = true
  · simp [h1]
  · by_cases h2 : s.all (fun c => 48 ≤ c && c ≤ 57) = true
    · by_cases h3 : decimal s < 2 ^ 32 <;> simp [h1, h2, h3]
    · simp [h1, h2]

theorem parseUint32_isSome (s : Bytes) (h : (parseUint32 s).isSome = true) : isDigits s = true := by
  rw [parseUint32_eq] at h
  by_cases hc : isDigits s = true ∧ decimal s < 2 ^ 32
  · exact hc.1
  · rw [if_neg hc] at h; cases h

/-- `strconv.ParseUint(s, 10, 32)` -/
theorem parseUint32_eq_number32 (s : Bytes) : parseUint32 s = number32 s := by
  rw [parseUint32_eq]
  unfold number32
  by_cases h1 : isDigits s = true
  · by_cases h2 : decimal s < 2 ^ 32 <;> simp [h1, h2]
  · simp [h1]

theorem stripFork_eq_beforeFork (s : Bytes) : stripFork s = beforeFork s := by
  unfold stripFork beforeFork forkSuffixes
  have e : ∀ suf, nameEndsIn s suf = endsIn s suf := fun _ => rfl
  simp only [List.find?, e, Fork.suffix]
  by_cases h1 : endsIn s [95, 102, 115, 109] = true
  · simp only [h1, if_true, List.length_cons, List.length_nil]
  · simp only [h1, Bool.false_eq_true, if_false]
    by_cases h2 : endsIn s [95, 118, 109] = true
    · simp only [h2, if_true, List.length_cons, List.length_nil]
    · simp only [h2, Bool.false_eq_true, if_false]
      by_cases h3 : endsIn s [95, 105, 110, 105, 116] = true
      · simp only [h3, if_true, List.length_cons, List.length_nil]
      · simp only [h3, Bool.false_eq_true, if_false]

theorem relSegNumber_nodot (name : Bytes) (h : (46 : UInt8) ∉ name) :
    relSegNumber name = if (number32 (beforeFork name)).isSome then some 0 else none := by
  rw [relSegNumber, span_reverse_not_mem 46 name h]

theorem relSegNumber_split (stem suffix : Bytes) (h : (46 : UInt8) ∉ suffix) :
    relSegNumber (stem ++ 46 :: suffix) =
      match number32 suffix with
      | none => none
      | some seg => if (number32 (beforeFork stem)).isSome then some seg else none := by
  rw [relSegNumber, span_reverse_split 46 stem suffix h]
  simp only [List.reverse_reverse]
  cases number32 suffix <;> rfl

/-- the scan accepts a name, with its segment number, exactly when PostgreSQL's grammar
`<relfilenode>[_fsm|_vm|_init][.<segno>]` (32-bit decimal numbers) does -/
theorem relFileSegment_eq_relSegNumber (name : Bytes) : relFileSegment name = relSegNumber name := by
  rcases last_split 46 name with hd | ⟨stem, suffix, rfl, hn⟩
  · rw [relFileSegment_nodot name hd, relSegNumber_nodot name hd, parseUint32_eq_number32, stripFork_eq_beforeFork]
  · rw [relFileSegment_split stem suffix hn, relSegNumber_split stem suffix hn, parseUint32_eq_number32,
      parseUint32_eq_number32, stripFork_eq_beforeFork]

end Names

end PgVerif.Proofs.ChecksumAcct
