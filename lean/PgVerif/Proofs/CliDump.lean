/-
  The dump modes: `Model.CliRender.dumpJV` (DumpResult → JSON value) determines the dump up to the key order of Go maps, and is
  defined exactly on the dumps without a float cell.
-/
import PgVerif.Proofs.CliRender
import PgVerif.Lib.Sorting
namespace PgVerif.Proofs.CliDump
open PgVerif PgVerif.Export PgVerif.Model PgVerif.Model.CliRender PgVerif.Proofs.CliRender

def normTable (t : Spec.TableDump) : Spec.TableDump := { t with rows := t.rows.map normRow }

def normDb (d : Spec.DatabaseDump) : Spec.DatabaseDump := { d with tables := d.tables.map normTable }

/-- every map (rows, and maps nested in cells) with its keys in byte-wise sorted order: all a reader of a Go map can tell -/
def normDump (r : Spec.DumpResult) : Spec.DumpResult := r.map normDb

mutual
def jvGo : JV → GoVal
  | .null => .nil
  | .bool b => .bool b
  | .int i => .int i
  | .str s => .str s
  | .arr xs => .arr (jvGoList xs)
  | .obj kvs => .obj (jvGoKvs kvs)
def jvGoList : List JV → List GoVal
  | [] => []
  | x :: xs => jvGo x :: jvGoList xs
def jvGoKvs : List (Bytes × JV) → List (Bytes × GoVal)
  | [] => []
  | (k, v) :: rest => (k, jvGo v) :: jvGoKvs rest
end

theorem jvGoKvs_eq_map : ∀ l : List (Bytes × JV), jvGoKvs l = l.map fun x => (x.1, jvGo x.2)
  | [] => rfl
  | (k, v) :: rest => by rw [jvGoKvs, jvGoKvs_eq_map rest]; rfl

theorem sortBy_eq {α} (le : α → α → Bool) (l : List α) : sortBy le l = Sorting.insertionSort (fun a b => le a b = true) l :=
  Sorting.foldr_eq_insertionSort (f := insertBy le) _ (fun _ => rfl) (fun _ _ _ => rfl) l

theorem jvGoKvs_sort (l : List (Bytes × JV)) : jvGoKvs (sortBy keyLe l) = sortBy goKeyLe (jvGoKvs l) := by
  rw [jvGoKvs_eq_map, jvGoKvs_eq_map, sortBy_eq, sortBy_eq]
  exact (Sorting.insertionSort_map (r := fun a b => keyLe a b = true) (r' := fun a b => goKeyLe a b = true) _
    (fun _ _ => Iff.rfl) l).symm

/-! The list renderers on a `cons`, in the form `ElemWise` (below) asks for. -/

theorem goValsJV_cons (x : GoVal) (xs : List GoVal) :
    goValsJV (x :: xs) = (goValJV x).bind fun a => (goValsJV xs).map fun b => a :: b := by
  rw [goValsJV]; cases goValJV x <;> cases goValsJV xs <;> rfl

theorem goKvsJV_cons (k : Bytes) (v : GoVal) (rest : List (Bytes × GoVal)) :
    goKvsJV ((k, v) :: rest) = (goValJV v).bind fun a => (goKvsJV rest).map fun b => (k, a) :: b := by
  rw [goKvsJV]; cases goValJV v <;> cases goKvsJV rest <;> rfl

theorem isSome_bind_map {α β γ} (a : Option α) (b : Option β) (f : α → β → γ) :
    (a.bind fun x => b.map (f x)).isSome = (a.isSome && b.isSome) := by
  cases a <;> cases b <;> rfl

mutual
theorem goValJV_inv : ∀ (v : GoVal) (j : JV), goValJV v = some j → jvGo j = normVal v
  | .nil, _, rfl => rfl
  | .bool _, _, rfl => rfl
  | .int _, _, rfl => rfl
  | .f64 _, _, h => nomatch h
  | .f32 _, _, h => nomatch h
  | .str _, _, rfl => rfl
  | .arr xs, j, h => by
    cases hx : goValsJV xs with
    | none => simp [goValJV, hx] at h
    | some l =>
      simp only [goValJV, hx, Option.some.injEq] at h
      subst h
      simp only [jvGo, normVal, goValsJV_inv xs l hx]
  | .obj kvs, j, h => by
    cases hx : goKvsJV kvs with
    | none => simp [goValJV, hx] at h
    | some l =>
      simp only [goValJV, hx, Option.some.injEq] at h
      subst h
      simp only [jvGo, normVal, jvGoKvs_sort, goKvsJV_inv kvs l hx]
theorem goValsJV_inv : ∀ (xs : List GoVal) (l : List JV), goValsJV xs = some l → jvGoList l = normVals xs
  | [], _, rfl => rfl
  | x :: xs, l, h => by
    simp only [goValsJV_cons, Option.bind_eq_some_iff, Option.map_eq_some_iff] at h
    obtain ⟨a, hx, b, hxs, rfl⟩ := h
    simp only [jvGoList, normVals, goValJV_inv x a hx, goValsJV_inv xs b hxs]
theorem goKvsJV_inv : ∀ (kvs : List (Bytes × GoVal)) (l : List (Bytes × JV)), goKvsJV kvs = some l → jvGoKvs l = normKvs kvs
  | [], _, rfl => rfl
  | (k, v) :: rest, l, h => by
    simp only [goKvsJV_cons, Option.bind_eq_some_iff, Option.map_eq_some_iff] at h
    obtain ⟨a, hx, b, hxs, rfl⟩ := h
    simp only [jvGoKvs, normKvs, goValJV_inv v a hx, goKvsJV_inv rest b hxs]
end

theorem rowJV_rel (a b : Spec.DRow) (j : JV) (ha : rowJV a = some j) (hb : rowJV b = some j) : normRow a = normRow b := by
  have h1 := goValJV_inv (.obj a) j ha
  have h2 := goValJV_inv (.obj b) j hb
  rw [h1] at h2
  simp only [normVal, GoVal.obj.injEq] at h2
  exact h2

/-- `F` renders a list element by element with `f`, failing when an element fails (`rowsJV`, `tablesJV`, `dbsJV`) -/
def ElemWise {α β} (f : α → Option β) (F : List α → Option (List β)) : Prop :=
  F [] = some [] ∧ ∀ x xs, F (x :: xs) = (f x).bind fun a => (F xs).map fun b => a :: b

theorem elemwise_nil {α β} (f : α → Option β) (F : List α → Option (List β)) (hF : ElemWise f F) (l : List α)
    (h : F l = some []) : l = [] := by
  cases l with
  | nil => rfl
  | cons x xs =>
    rw [hF.2] at h
    cases hx : f x <;> cases hxs : F xs <;> simp [hx, hxs] at h

theorem elemwise_rel {α β γ} (f : α → Option β) (F : List α → Option (List β)) (g : α → γ) (hF : ElemWise f F)
    (hrel : ∀ a b j, f a = some j → f b = some j → g a = g b) :
    ∀ (l₁ l₂ : List α) (js : List β), F l₁ = some js → F l₂ = some js → l₁.map g = l₂.map g
  | [], l₂, js, h1, h2 => by
    rw [hF.1] at h1
    cases h1
    rw [elemwise_nil f F hF l₂ h2]
  | x :: xs, [], js, h1, h2 => by
    rw [hF.1] at h2
    cases h2
    cases elemwise_nil f F hF _ h1
  | x :: xs, y :: ys, js, h1, h2 => by
    rw [hF.2] at h1 h2
    simp only [Option.bind_eq_some_iff, Option.map_eq_some_iff] at h1 h2
    obtain ⟨a, hx, as, hxs, e1⟩ := h1
    obtain ⟨b, hy, bs, hys, e2⟩ := h2
    subst e1
    cases e2
    simp only [List.map_cons, List.cons.injEq]
    exact ⟨hrel x y _ hx hy, elemwise_rel f F g hF hrel xs ys _ hxs hys⟩

theorem rowsJV_elemwise : ElemWise rowJV rowsJV :=
  ⟨rfl, fun x xs => by simp only [rowsJV]; cases rowJV x <;> cases rowsJV xs <;> rfl⟩
theorem tablesJV_elemwise : ElemWise tableJV tablesJV :=
  ⟨rfl, fun x xs => by simp only [tablesJV]; cases tableJV x <;> cases tablesJV xs <;> rfl⟩
theorem dbsJV_elemwise : ElemWise dbJV dbsJV :=
  ⟨rfl, fun x xs => by simp only [dbsJV]; cases dbJV x <;> cases dbsJV xs <;> rfl⟩

theorem columnJV_inj (a b : Spec.ColumnInfo) (h : columnJV a = columnJV b) : a = b := by
  cases a; cases b
  simp only [columnJV, JV.obj.injEq, List.cons.injEq, Prod.mk.injEq, true_and, and_true, JV.str.injEq, JV.int.injEq] at h
  simp [h.1, h.2.1, h.2.2]

theorem isEmpty_false_of_ne {α} (l : List α) (h : l ≠ []) : l.isEmpty = false := by
  cases l with
  | nil => exact absurd rfl h
  | cons _ _ => rfl

/-- `tableJV`, `dbJV`, `dumpJV` put an object around a list rendered before; that the two lists are equal is read off the objects
by the callers -/
theorem wrap_inv {F G : Option (List JV)} {f g : List JV → JV} {j : JV}
    (ha : (match F with | none => none | some l => some (f l)) = some j)
    (hb : (match G with | none => none | some l => some (g l)) = some j) :
    ∃ la lb, F = some la ∧ G = some lb ∧ f la = g lb := by
  cases F with
  | none => cases ha
  | some la =>
    cases G with
    | none => cases hb
    | some lb => exact ⟨la, lb, rfl, rfl, (Option.some.inj ha).trans (Option.some.inj hb).symm⟩

theorem tableJV_rel (a b : Spec.TableDump) (j : JV) (ha : tableJV a = some j) (hb : tableJV b = some j) :
    normTable a = normTable b := by
  obtain ⟨ra, rb, hra, hrb, ha⟩ := wrap_inv ha hb
  -- `row_count` at the end, the four leading members, then `columns` in front of `rows`
  obtain ⟨h, hcnt⟩ := List.append_inj' (JV.obj.inj ha) rfl
  simp only [List.cons_append, List.nil_append, List.cons.injEq, Prod.mk.injEq, true_and, jnat,
    JV.int.injEq, JV.str.injEq, Int.ofNat_inj, and_true] at h hcnt
  obtain ⟨e1, e2, e3, e4, h⟩ := h
  have hk : key "rows" ≠ key "columns" := by decide
  obtain ⟨ec, er⟩ := optField_inj (key "columns") (optField_ite' ..) (optField_ite' ..)
    ((optField_ite' ..).key_ne hk) ((optField_ite' ..).key_ne hk) h
  have hc := (List.map_inj_right columnJV_inj).mp
    (omitnil_inj _ (a.columns.map columnJV) (b.columns.map columnJV) (by simpa only [List.isEmpty_map] using ec))
  have hr := omitnil_inj _ ra rb er
  subst hr
  have hrows := elemwise_rel rowJV rowsJV normRow rowsJV_elemwise rowJV_rel a.rows b.rows ra hra hrb
  cases a; cases b
  simp only [normTable, Spec.TableDump.mk.injEq]
  exact ⟨e1, e2, e3, e4, hc, hrows, hcnt⟩

theorem dbJV_rel (a b : Spec.DatabaseDump) (j : JV) (ha : dbJV a = some j) (hb : dbJV b = some j) : normDb a = normDb b := by
  obtain ⟨ta, tb, hta, htb, h⟩ := wrap_inv ha hb
  simp only [JV.obj.injEq, List.cons.injEq, Prod.mk.injEq, true_and, and_true, jnat, JV.int.injEq, JV.str.injEq,
    Int.ofNat_inj] at h
  obtain ⟨e1, e2, e3⟩ := h
  have e := optList_inj ta tb e3
  subst e
  have ht := elemwise_rel tableJV tablesJV normTable tablesJV_elemwise tableJV_rel a.tables b.tables ta hta htb
  cases a; cases b
  simp only at e1 e2 ht
  simp only [normDb, Spec.DatabaseDump.mk.injEq]
  exact ⟨e1, e2, ht⟩

theorem dumpJV_rel (r₁ r₂ : Spec.DumpResult) (v : JV) (h₁ : dumpJV r₁ = some v) (h₂ : dumpJV r₂ = some v) :
    normDump r₁ = normDump r₂ := by
  obtain ⟨da, db, ha, hb, h⟩ := wrap_inv h₁ h₂
  simp only [JV.obj.injEq, List.cons.injEq, Prod.mk.injEq, true_and, and_true] at h
  have e := optList_inj da db h
  subst e
  exact elemwise_rel dbJV dbsJV normDb dbsJV_elemwise dbJV_rel r₁ r₂ da ha hb

mutual
def floatFree : GoVal → Bool
  | .f64 _ => false
  | .f32 _ => false
  | .arr xs => floatFreeList xs
  | .obj kvs => floatFreeKvs kvs
  | _ => true
def floatFreeList : List GoVal → Bool
  | [] => true
  | x :: xs => floatFree x && floatFreeList xs
def floatFreeKvs : List (Bytes × GoVal) → Bool
  | [] => true
  | (_, v) :: rest => floatFree v && floatFreeKvs rest
end

/-! A renderer that matches on one optional result is `some` exactly when that result is (both cases by `rfl`). -/

mutual
theorem goValJV_isSome : ∀ v : GoVal, (goValJV v).isSome = floatFree v
  | .nil => rfl
  | .bool _ => rfl
  | .int _ => rfl
  | .f64 _ => rfl
  | .f32 _ => rfl
  | .str _ => rfl
  | .arr xs => by rw [floatFree, ← goValsJV_isSome xs, goValJV]; cases goValsJV xs <;> rfl
  | .obj kvs => by rw [floatFree, ← goKvsJV_isSome kvs, goValJV]; cases goKvsJV kvs <;> rfl
theorem goValsJV_isSome : ∀ xs : List GoVal, (goValsJV xs).isSome = floatFreeList xs
  | [] => rfl
  | x :: xs => by rw [goValsJV_cons, isSome_bind_map, goValJV_isSome x, goValsJV_isSome xs, floatFreeList]
theorem goKvsJV_isSome : ∀ kvs : List (Bytes × GoVal), (goKvsJV kvs).isSome = floatFreeKvs kvs
  | [] => rfl
  | (k, v) :: rest => by rw [goKvsJV_cons, isSome_bind_map, goValJV_isSome v, goKvsJV_isSome rest, floatFreeKvs]
end

def dumpFloatFree (r : Spec.DumpResult) : Bool :=
  r.all fun d => d.tables.all fun t => t.rows.all fun row => floatFreeKvs row

theorem elemwise_isSome {α β} (f : α → Option β) (F : List α → Option (List β)) (hF : ElemWise f F) :
    ∀ l : List α, (F l).isSome = l.all fun x => (f x).isSome
  | [] => by rw [hF.1]; rfl
  | x :: xs => by rw [hF.2, isSome_bind_map, elemwise_isSome f F hF xs, List.all_cons]

theorem rowJV_isSome (r : Spec.DRow) : (rowJV r).isSome = floatFreeKvs r := by
  rw [rowJV, goValJV_isSome, floatFree]

theorem tableJV_isSome (t : Spec.TableDump) : (tableJV t).isSome = t.rows.all fun row => floatFreeKvs row := by
  have h := elemwise_isSome rowJV rowsJV rowsJV_elemwise t.rows
  simp only [rowJV_isSome] at h
  rw [← h, tableJV]; cases rowsJV t.rows <;> rfl

theorem dbJV_isSome (d : Spec.DatabaseDump) : (dbJV d).isSome = d.tables.all fun t => t.rows.all fun row => floatFreeKvs row := by
  have h := elemwise_isSome tableJV tablesJV tablesJV_elemwise d.tables
  simp only [tableJV_isSome] at h
  rw [← h, dbJV]; cases tablesJV d.tables <;> rfl

theorem dumpJV_isSome (r : Spec.DumpResult) : (dumpJV r).isSome = dumpFloatFree r := by
  have h := elemwise_isSome dbJV dbsJV dbsJV_elemwise r
  simp only [dbJV_isSome] at h
  rw [dumpFloatFree, ← h, dumpJV]; cases dbsJV r <;> rfl

end PgVerif.Proofs.CliDump
