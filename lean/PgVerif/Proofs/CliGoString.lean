/-
  Go's JSON string escaping (`Model.CliRender.goString`: encoding/json's `appendString`) read back by the RFC 8259 string scanner.
  Continues `Proofs.CliRender`; `uEsc_scan` stands in Proofs/ExportJson.lean, beside `esc2_scan`, in the same namespace.
-/
import PgVerif.Model.CliRender
import PgVerif.Proofs.ExportJson
import PgVerif.Lib.Lit
namespace PgVerif.Proofs.CliRender
open PgVerif PgVerif.Export PgVerif.Model.CliRender PgVerif.Spec.Json
open PgVerif.Proofs.ExportJson (scanStr_plain esc2_scan hexVal_hexLow)

theorem u00_hexCh_scan (c : UInt8) (hlt : c.toNat < 128) (tail : Bytes) (r : Bytes × Bytes) (h : scanStr tail = some r) :
    scanStr ([92, 117, 48, 48, Txt.hexCh false (c.toNat / 16), Txt.hexCh false (c.toNat % 16)] ++ tail) = some (c :: r.1, r.2) :=
  ExportJson.u00_scan c _ _ hlt (hexVal_hexLow ⟨c.toNat / 16, by omega⟩) (hexVal_hexLow ⟨c.toNat % 16, by omega⟩) tail r h

theorem goAsciiByte_scan (c : UInt8) (hc : c < 0x80) (tail : Bytes) (r : Bytes × Bytes) (h : scanStr tail = some r) :
    scanStr (goAsciiByte c ++ tail) = some (c :: r.1, r.2) := by
  have hlt : c.toNat < 128 := by simpa [UInt8.lt_iff_toNat_lt] using hc
  unfold goAsciiByte
  by_cases h1 : c = 34 ∨ c = 92
  · rw [if_pos h1]
    rcases h1 with h1 | h1 <;> subst h1
    · exact esc2_scan 34 34 (by decide) (by decide) tail r h
    · exact esc2_scan 92 92 (by decide) (by decide) tail r h
  rw [if_neg h1]
  by_cases h2 : c = 8
  · rw [if_pos h2]; subst h2; exact esc2_scan 8 98 (by decide) (by decide) tail r h
  rw [if_neg h2]
  by_cases h3 : c = 12
  · rw [if_pos h3]; subst h3; exact esc2_scan 12 102 (by decide) (by decide) tail r h
  rw [if_neg h3]
  by_cases h4 : c = 10
  · rw [if_pos h4]; subst h4; exact esc2_scan 10 110 (by decide) (by decide) tail r h
  rw [if_neg h4]
  by_cases h5 : c = 13
  · rw [if_pos h5]; subst h5; exact esc2_scan 13 114 (by decide) (by decide) tail r h
  rw [if_neg h5]
  by_cases h6 : c = 9
  · rw [if_pos h6]; subst h6; exact esc2_scan 9 116 (by decide) (by decide) tail r h
  rw [if_neg h6]
  by_cases h7 : c < 32 ∨ c = 60 ∨ c = 62 ∨ c = 38
  · rw [if_pos h7]; exact u00_hexCh_scan c hlt tail r h
  rw [if_neg h7]
  exact scanStr_plain c tail r (fun e => h1 (Or.inl e)) (fun e => h1 (Or.inr e)) (fun e => h7 (Or.inl e)) h

theorem scanStr_high (p tail : Bytes) (r : Bytes × Bytes) (hp : ∀ c ∈ p, (0x80 : UInt8) ≤ c) (h : scanStr tail = some r) :
    scanStr (p ++ tail) = some (p ++ r.1, r.2) := by
  induction p with
  | nil => simpa using h
  | cons c p ih =>
    have hc : c.toNat ≥ 128 := by
      have := hp c (by simp); simpa [UInt8.le_iff_toNat_le] using this
    have h34 : c ≠ 34 := by intro e; subst e; simp at hc
    have h92 : c ≠ 92 := by intro e; subst e; simp at hc
    have h32 : ¬ c < 32 := by simp only [UInt8.lt_iff_toNat_lt]; simp; omega
    exact scanStr_plain c _ _ h34 h92 h32 (ih (fun d hd => hp d (by simp [hd])))

theorem isCont_high (b : UInt8) (h : isCont b = true) : (0x80 : UInt8) ≤ b := by
  simp only [isCont, Bool.and_eq_true, decide_eq_true_eq] at h; exact h.1

/-- the `lo` / `hi` of `Model.CliRender.utf8Width` (Go's `acceptRanges`: the second byte's range, given the first) as functions -/
def loOf (b0 : UInt8) : UInt8 := if b0 = 0xE0 then 0xA0 else if b0 = 0xF0 then 0x90 else 0x80
def hiOf (b0 : UInt8) : UInt8 := if b0 = 0xED then 0x9F else if b0 = 0xF4 then 0x8F else 0xBF

theorem loOf_high (b0 b1 : UInt8) (h : loOf b0 ≤ b1) : (0x80 : UInt8) ≤ b1 := by
  unfold loOf at h
  simp only [UInt8.le_iff_toNat_le] at h ⊢
  split at h
  · have : (0xA0 : UInt8).toNat = 160 := rfl
    have e : (0x80 : UInt8).toNat = 128 := rfl
    omega
  · split at h
    · have : (0x90 : UInt8).toNat = 144 := rfl
      have e : (0x80 : UInt8).toNat = 128 := rfl
      omega
    · exact h

theorem utf8Width_cases (b0 b1 : UInt8) (rest : Bytes) :
    utf8Width (b0 :: b1 :: rest) =
      if 0xC2 ≤ b0 ∧ b0 ≤ 0xDF then (if isCont b1 then 2 else 0)
      else if 0xE0 ≤ b0 ∧ b0 ≤ 0xEF then
        (match rest with
         | b2 :: _ => if loOf b0 ≤ b1 ∧ b1 ≤ hiOf b0 ∧ isCont b2 then 3 else 0
         | [] => 0)
      else if 0xF0 ≤ b0 ∧ b0 ≤ 0xF4 then
        (match rest with
         | b2 :: b3 :: _ => if loOf b0 ≤ b1 ∧ b1 ≤ hiOf b0 ∧ isCont b2 ∧ isCont b3 then 4 else 0
         | _ => 0)
      else 0 := by
  simp only [utf8Width, loOf, hiOf]
  rfl

theorem utf8Width_spec (s : Bytes) (h : utf8Width s ≠ 0) :
    (∀ c ∈ s.take (utf8Width s), (0x80 : UInt8) ≤ c) ∧ utf8Width s ≤ s.length := by
  match s with
  | [] => exact absurd (by simp [utf8Width]) h
  | [_] => exact absurd (by simp [utf8Width]) h
  | b0 :: b1 :: rest =>
    rw [utf8Width_cases] at h ⊢
    by_cases c2 : 0xC2 ≤ b0 ∧ b0 ≤ 0xDF
    · rw [if_pos c2] at h ⊢
      by_cases hb1 : isCont b1 = true
      · rw [if_pos hb1]
        simp only [List.take_succ_cons, List.take_zero, List.forall_mem_cons]
        exact ⟨⟨UInt8.le_trans (by decide) c2.1, isCont_high _ hb1, nofun⟩, by simp⟩
      · rw [if_neg hb1] at h; exact absurd rfl h
    · rw [if_neg c2] at h ⊢
      by_cases c3 : 0xE0 ≤ b0 ∧ b0 ≤ 0xEF
      · rw [if_pos c3] at h ⊢
        cases rest with
        | nil => exact absurd rfl h
        | cons b2 rest' =>
          simp only at h ⊢
          by_cases hv : loOf b0 ≤ b1 ∧ b1 ≤ hiOf b0 ∧ isCont b2 = true
          · rw [if_pos hv]
            simp only [List.take_succ_cons, List.take_zero, List.forall_mem_cons]
            exact ⟨⟨UInt8.le_trans (by decide) c3.1, loOf_high b0 _ hv.1, isCont_high _ hv.2.2, nofun⟩, by simp⟩
          · rw [if_neg hv] at h; exact absurd rfl h
      · rw [if_neg c3] at h ⊢
        by_cases c4 : 0xF0 ≤ b0 ∧ b0 ≤ 0xF4
        · rw [if_pos c4] at h ⊢
          match rest with
          | [] => exact absurd rfl h
          | [_] => exact absurd rfl h
          | b2 :: b3 :: rest' =>
            simp only at h ⊢
            by_cases hv : loOf b0 ≤ b1 ∧ b1 ≤ hiOf b0 ∧ isCont b2 = true ∧ isCont b3 = true
            · rw [if_pos hv]
              simp only [List.take_succ_cons, List.take_zero, List.forall_mem_cons]
              exact ⟨⟨UInt8.le_trans (by decide) c4.1, loOf_high b0 _ hv.1, isCont_high _ hv.2.2.1,
                isCont_high _ hv.2.2.2, nofun⟩, by simp⟩
            · rw [if_neg hv] at h; exact absurd rfl h
        · rw [if_neg c4] at h; exact absurd rfl h

theorem lineSep_cases (s : Bytes) (d : UInt8) (h : lineSepDigit s = some d) :
    ∃ x t', s = 0xE2 :: 0x80 :: x :: t' ∧ (x = 0xA8 ∧ d = 56 ∨ x = 0xA9 ∧ d = 57) := by
  unfold lineSepDigit at h
  split at h
  · rename_i t'; exact ⟨_, t', rfl, Or.inl ⟨rfl, by simpa using h.symm⟩⟩
  · rename_i t'; exact ⟨_, t', rfl, Or.inr ⟨rfl, by simpa using h.symm⟩⟩
  · simp at h

theorem scanStr_quote (rest : Bytes) : scanStr (34 :: rest) = some ([], rest) := by
  rw [scanStr.eq_def]; simp

theorem goStrBody_scan : ∀ (f : Nat) (s rest : Bytes), s.length ≤ f → goStrClean f s = true →
    scanStr (goStrBody f s ++ 34 :: rest) = some (s, rest)
  | 0, s, rest, hl, _ => by
    have : s = [] := List.eq_nil_of_length_eq_zero (by omega)
    subst this
    simp only [goStrBody, List.nil_append]; exact scanStr_quote rest
  | f + 1, [], rest, _, _ => by
    simp only [goStrBody, List.nil_append]; exact scanStr_quote rest
  | f + 1, b :: t, rest, hl, hc => by
    have hl' : t.length ≤ f := by simp only [List.length_cons] at hl; omega
    by_cases hb : b < 0x80
    · simp only [goStrClean, hb, if_true] at hc
      simp only [goStrBody, hb, if_true, List.append_assoc]
      exact goAsciiByte_scan b hb _ (t, rest) (goStrBody_scan f t rest hl' hc)
    · simp only [goStrClean, hb, if_false] at hc
      simp only [goStrBody, hb, if_false]
      by_cases hw : utf8Width (b :: t) = 0
      · simp [hw] at hc
      · simp only [hw, if_false] at hc ⊢
        obtain ⟨hhigh, hwl⟩ := utf8Width_spec (b :: t) hw
        have hw1 : 1 ≤ utf8Width (b :: t) := Nat.pos_of_ne_zero hw
        cases hls : lineSepDigit (b :: t) with
        | some d =>
          -- U+2028 / U+2029 (E2 80 A8 / A9, width 3, hence `t.drop 2`) are written as `\u2028` / `\u2029`
          obtain ⟨x, t', hs, hxd⟩ := lineSep_cases (b :: t) d hls
          obtain ⟨hb0, ht⟩ : b = 0xE2 ∧ t = 0x80 :: x :: t' := by simpa using hs
          subst hb0; subst ht
          have hwv : utf8Width (0xE2 :: 0x80 :: x :: t') = 3 := by
            rcases hxd with ⟨rfl, _⟩ | ⟨rfl, _⟩ <;>
              (rw [utf8Width_cases, if_neg (by decide), if_pos (by decide)]; exact if_pos (by decide))
          rw [hwv] at hc
          have ih := goStrBody_scan f t' rest (by simp only [List.length_cons] at hl'; omega) (by simpa using hc)
          simp only [List.drop_succ_cons, List.drop_zero, List.append_assoc]
          rcases hxd with ⟨rfl, rfl⟩ | ⟨rfl, rfl⟩
          · exact uEsc_scan 50 48 50 56 0x2028 (by decide) (by omega) (by omega) _ (t', rest) ih
          · exact uEsc_scan 50 48 50 57 0x2029 (by decide) (by omega) (by omega) _ (t', rest) ih
        | none =>
          -- every other valid sequence is copied: its bytes are ≥ 0x80 and pass the scanner unchanged
          simp only []
          have hdl : (t.drop (utf8Width (b :: t) - 1)).length ≤ f := by simp only [List.length_drop]; omega
          have ih := goStrBody_scan f (t.drop (utf8Width (b :: t) - 1)) rest hdl hc
          have := scanStr_high ((b :: t).take (utf8Width (b :: t))) _ _ hhigh ih
          rw [List.append_assoc, this]
          have hsplit : (b :: t).take (utf8Width (b :: t)) ++ t.drop (utf8Width (b :: t) - 1) = b :: t := by
            obtain ⟨k, hk⟩ : ∃ k, utf8Width (b :: t) = k + 1 := ⟨utf8Width (b :: t) - 1, by omega⟩
            rw [hk]; simp
          simp only [hsplit]

theorem goString_scan (s rest : Bytes) (hc : utf8Clean s = true) :
    ∃ t, goString s ++ rest = 34 :: t ∧ scanStr t = some (s, rest) := by
  refine ⟨goStrBody s.length s ++ 34 :: rest, by simp [goString], goStrBody_scan s.length s rest (Nat.le_refl _) hc⟩

theorem asc_ne_nil (s : String) (h : s ≠ "") : Txt.asc s ≠ [] :=
  fun e => h (String.toList_eq_nil_iff.mp (List.map_eq_nil_iff.mp e))

theorem goStrClean_ascii : ∀ (f : Nat) (s : Bytes), s.length ≤ f → (∀ b ∈ s, b < 0x80) → goStrClean f s = true
  | 0, s, hl, _ => by
    have : s = [] := List.eq_nil_of_length_eq_zero (by omega)
    subst this; rfl
  | _ + 1, [], _, _ => rfl
  | f + 1, b :: t, hl, h => by
    have hb : b < 0x80 := h b (by simp)
    simp only [goStrClean, hb, if_true]
    exact goStrClean_ascii f t (by simp only [List.length_cons] at hl; omega) (fun c hc => h c (by simp [hc]))

theorem ascii_clean (s : Bytes) (h : ∀ b ∈ s, b < 0x80) : utf8Clean s = true := goStrClean_ascii _ s (Nat.le_refl _) h

/-- for closed checks on long ASCII literals, which go through the byte array (Lib/Lit.lean) -/
theorem asc_eq_utf8 (s : String) (h : (s.toUTF8.data.toList.all fun b => b < 0x80) = true) :
    Txt.asc s = s.toUTF8.data.toList := by
  rw [Lit.utf8_data] at h ⊢
  exact (Lit.flatMap_ascii s.toList h).1.symm

theorem asc_clean (s : String) (h : (s.toUTF8.data.toList.all fun b => b < 0x80) = true) : utf8Clean (Txt.asc s) = true := by
  rw [asc_eq_utf8 s h]
  exact ascii_clean _ fun b hb => of_decide_eq_true (List.all_eq_true.mp h b hb)

theorem digitCh_ascii (k : Nat) : Txt.digitCh (k % 10) < 0x80 := by
  have : k % 10 < 10 := Nat.mod_lt _ (by omega)
  simp only [Txt.digitCh, UInt8.lt_iff_toNat_lt, UInt8.toNat_ofNat']
  have e : (0x80 : UInt8).toNat = 128 := rfl
  omega

theorem rfc3339_clean (t : Int) : utf8Clean (rfc3339 t) = true := by
  apply ascii_clean
  simp only [rfc3339, d2, d4, List.forall_mem_append, List.forall_mem_cons, digitCh_ascii]
  decide

end PgVerif.Proofs.CliRender
