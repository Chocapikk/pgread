/-
  The text modes of `Model.CliRender` line by line (`-passwords`, `-list-db`, `-f …/1262`, `-f …/1259`); the splitting lemmas are
  those of Proofs/TxtNumerals.lean, section "`joinBytes` and the texts split at separators".
-/
import PgVerif.Model.CliRender
import PgVerif.Proofs.ExportDec
namespace PgVerif.Proofs.CliRender
open PgVerif PgVerif.Export PgVerif.Model.CliRender
open PgVerif.Proofs.TxtNumerals (joinBytes_inj split_at_sep_right fieldsR mem_joinBytes not_mem_snoc)

open PgVerif.Model (AuthInfo)

def tNo : Bytes := Txt.asc "(no"
def tPw : Bytes := Txt.asc "password)"
def tSu : Bytes := Txt.asc "[SUPERUSER]"
def tLo : Bytes := Txt.asc "[LOGIN]"

def pwTokens : Bytes → List Bytes
  | [] => [tNo, tPw]
  | c :: t => [c :: t]

def flagTokens (b : Bool) (x : Bytes) : List Bytes := if b then [x] else []

/-- the blank-separated words after `name:` -/
def authTokens (a : AuthInfo) : List Bytes := pwTokens a.password ++ flagTokens a.rolSuper tSu ++ flagTokens a.rolLogin tLo

theorem asc_nopw : Txt.asc ":(no password)" = 58 :: (tNo ++ 32 :: tPw) := by decide
theorem asc_su : Txt.asc " [SUPERUSER]" = 32 :: tSu := by decide
theorem asc_lo : Txt.asc " [LOGIN]" = 32 :: tLo := by decide

theorem authLine_eq (a : AuthInfo) : authLine a = (a.roleName ++ 58 :: Txt.joinBytes [32] (authTokens a)) ++ [10] := by
  unfold authLine authFlags authTokens flagTokens
  rw [asc_nopw, asc_su, asc_lo]
  rcases hp : a.password with _ | ⟨c, t⟩ <;> cases a.rolSuper <;> cases a.rolLogin <;> simp [pwTokens, Txt.joinBytes]

theorem consts_nosp : (32 : UInt8) ∉ tNo ∧ (32 : UInt8) ∉ tPw ∧ (32 : UInt8) ∉ tSu ∧ (32 : UInt8) ∉ tLo := by decide
theorem consts_nonl : (10 : UInt8) ∉ tNo ∧ (10 : UInt8) ∉ tPw ∧ (10 : UInt8) ∉ tSu ∧ (10 : UInt8) ∉ tLo := by decide
theorem consts_ne : tPw ≠ tSu ∧ tPw ≠ tLo ∧ tSu ≠ tLo := by decide

/-- true of every md5 and SCRAM verifier -/
def AuthPrintable (a : AuthInfo) : Prop :=
  (58 : UInt8) ∉ a.roleName ∧ (10 : UInt8) ∉ a.roleName ∧ (32 : UInt8) ∉ a.password ∧ (10 : UInt8) ∉ a.password

/-- what `-passwords` prints of a role: not the OID -/
def authView (a : AuthInfo) : Bytes × Bytes × Bool × Bool := (a.roleName, a.password, a.rolSuper, a.rolLogin)

theorem mem_flagTokens (b : Bool) (x t : Bytes) (h : t ∈ flagTokens b x) : t = x := by
  cases b
  · simp [flagTokens] at h
  · simpa [flagTokens] using h

theorem mem_pwTokens (p t : Bytes) (h : t ∈ pwTokens p) : t = p ∨ t = tNo ∨ t = tPw := by
  cases p with
  | nil => simp [pwTokens] at h; exact Or.inr h
  | cons c u => simp [pwTokens] at h; exact Or.inl h

theorem authTokens_ne (a : AuthInfo) : authTokens a ≠ [] := by
  unfold authTokens
  cases a.password <;> simp [pwTokens]

theorem authTokens_free (a : AuthInfo) (c : UInt8) (hp : c ∉ a.password)
    (hk : c ∉ tNo ∧ c ∉ tPw ∧ c ∉ tSu ∧ c ∉ tLo) : ∀ t ∈ authTokens a, c ∉ t := by
  intro t ht
  simp only [authTokens, List.mem_append] at ht
  rcases ht with (ht | ht) | ht
  · rcases mem_pwTokens _ _ ht with h | h | h <;> subst h
    · exact hp
    · exact hk.1
    · exact hk.2.1
  · rw [mem_flagTokens _ _ _ ht]; exact hk.2.2.1
  · rw [mem_flagTokens _ _ _ ht]; exact hk.2.2.2

theorem flagTokens_inj (s l s' l' : Bool)
    (h : flagTokens s tSu ++ flagTokens l tLo = flagTokens s' tSu ++ flagTokens l' tLo) : s = s' ∧ l = l' := by
  have e := consts_ne.2.2
  cases s <;> cases l <;> cases s' <;> cases l' <;> simp [flagTokens, e, Ne.symm e] at h ⊢

theorem flagTokens_head (s l : Bool) (t : Bytes) (r : List Bytes) (h : flagTokens s tSu ++ flagTokens l tLo = t :: r) :
    t = tSu ∨ t = tLo := by
  cases s <;> cases l <;> simp [flagTokens] at h <;> simp [h.1]

theorem authTokens_inj (a b : AuthInfo) (h : authTokens a = authTokens b) :
    a.password = b.password ∧ a.rolSuper = b.rolSuper ∧ a.rolLogin = b.rolLogin := by
  obtain ⟨e1, e2, _⟩ := consts_ne
  -- in the two mixed cases: a NULL password prints the two words `(no` `password)`, so the other line would have `password)`
  -- where only a flag word can stand (`flagTokens_head`, `consts_ne`)
  unfold authTokens at h
  rw [List.append_assoc, List.append_assoc] at h
  rcases hpa : a.password with _ | ⟨ca, ta⟩ <;> rcases hpb : b.password with _ | ⟨cb, tb⟩ <;>
    simp only [hpa, hpb, pwTokens, List.cons_append, List.nil_append, List.cons.injEq, true_and] at h
  · exact ⟨rfl, flagTokens_inj _ _ _ _ h⟩
  · rcases flagTokens_head _ _ _ _ h.2.symm with e | e
    · exact absurd e e1
    · exact absurd e e2
  · rcases flagTokens_head _ _ _ _ h.2 with e | e
    · exact absurd e e1
    · exact absurd e e2
  · exact ⟨by rw [h.1.1, h.1.2], flagTokens_inj _ _ _ _ h.2⟩

theorem authBody_nonl (a : AuthInfo) (h : AuthPrintable a) : (10 : UInt8) ∉ a.roleName ++ 58 :: Txt.joinBytes [32] (authTokens a) := by
  intro hm
  simp only [List.mem_append, List.mem_cons] at hm
  rcases hm with hm | hm | hm
  · exact h.2.1 hm
  · exact absurd hm (by decide)
  · rcases mem_joinBytes 10 _ _ hm with hm | ⟨t, ht, hc⟩
    · exact absurd hm (by decide)
    · exact authTokens_free a 10 h.2.2.2 consts_nonl t ht hc

theorem authLine_inj (a b : AuthInfo) (ha : AuthPrintable a) (hb : AuthPrintable b)
    (h : a.roleName ++ 58 :: Txt.joinBytes [32] (authTokens a) = b.roleName ++ 58 :: Txt.joinBytes [32] (authTokens b)) : authView a = authView b := by
  have h1 := append_cons_cancel _ _ _ _ ha.1 hb.1 h
  have h2 := joinBytes_inj 32 _ _ (authTokens_ne a) (authTokens_ne b) (authTokens_free a 32 ha.2.2.1 consts_nosp)
    (authTokens_free b 32 hb.2.2.1 consts_nosp) h1.2
  obtain ⟨p, s, l⟩ := authTokens_inj a b h2
  simp only [authView, h1.1, p, s, l]

open PgVerif.Model (DatabaseInfo)

theorem not_mem_dec (n : Nat) {c : UInt8} (hc : ¬ ExportDec.IsDig c) : c ∉ dec n :=
  fun hm => hc ((ExportDec.dec_props n).2.1 c hm)

theorem not_isDig_sp : ¬ ExportDec.IsDig 32 := by simp [ExportDec.IsDig]
theorem not_isDig_nl : ¬ ExportDec.IsDig 10 := by simp [ExportDec.IsDig]

def oidOpen : Bytes := Txt.asc " (OID "

def dbBody (db : DatabaseInfo) : Bytes := db.name ++ oidOpen ++ dec db.oid ++ [41]

theorem listDbLine_eq (db : DatabaseInfo) : listDbLine db = dbBody db ++ [10] := by
  simp [listDbLine, dbBody, oidOpen, show Txt.asc ")\n" = [41, 10] by decide]

/-- read from the right: the digits start at the last blank, whatever the name contains -/
theorem dbBody_inj (a b : DatabaseInfo) (h : dbBody a = dbBody b) : a = b := by
  have e : ∀ d : DatabaseInfo, dbBody d = (d.name ++ Txt.asc " (OID") ++ 32 :: (dec d.oid ++ [41]) := fun d => by
    simp [dbBody, oidOpen, show Txt.asc " (OID " = Txt.asc " (OID" ++ [32] by decide]
  rw [e, e] at h
  obtain ⟨hn, ho⟩ := split_at_sep_right 32 _ _ _ _ (not_mem_snoc (not_mem_dec a.oid not_isDig_sp) (by decide))
    (not_mem_snoc (not_mem_dec b.oid not_isDig_sp) (by decide)) h
  cases a; cases b
  simp only [DatabaseInfo.mk.injEq]
  exact ⟨dec_injective _ _ (List.append_cancel_right ho), List.append_cancel_right hn⟩

theorem dbBody_nonl (db : DatabaseInfo) (h : (10 : UInt8) ∉ db.name) : (10 : UInt8) ∉ dbBody db := by
  simp only [dbBody, List.mem_append, List.mem_singleton, not_or]
  exact ⟨⟨⟨h, by decide⟩, not_mem_dec _ not_isDig_nl⟩, by decide⟩

/-- the blank-opened fields after the name in a `pg_class` line -/
def classFields (oid filenode : Nat) (kind : Bytes) : List Bytes :=
  [Txt.asc "(OID", dec oid ++ [44], Txt.asc "filenode", dec filenode ++ [44], Txt.asc "kind", kind ++ [41]]

theorem classFields_eq (name kind : Bytes) (oid filenode : Nat) :
    name ++ oidOpen ++ dec oid ++ Txt.asc ", filenode " ++ dec filenode ++ Txt.asc ", kind " ++ kind ++ [41] =
      fieldsR 32 name (classFields oid filenode kind) := by
  simp [classFields, fieldsR, oidOpen, show Txt.asc " (OID " = 32 :: (Txt.asc "(OID" ++ [32]) by decide,
    show Txt.asc ", filenode " = 44 :: 32 :: (Txt.asc "filenode" ++ [32]) by decide,
    show Txt.asc ", kind " = 44 :: 32 :: (Txt.asc "kind" ++ [32]) by decide]

theorem classFields_free (c : UInt8) (hc : c = 32 ∨ c = 10) (oid filenode : Nat) (kind : Bytes) (hk : c ∉ kind) :
    ∀ f ∈ classFields oid filenode kind, c ∉ f := by
  have lit : c ∉ Txt.asc "(OID" ∧ c ∉ Txt.asc "filenode" ∧ c ∉ Txt.asc "kind" ∧ c ≠ 44 ∧ c ≠ 41 := by rcases hc with rfl | rfl <;> decide
  have nd : ¬ ExportDec.IsDig c := hc.elim (fun e => e ▸ not_isDig_sp) fun e => e ▸ not_isDig_nl
  simp only [classFields, List.forall_mem_cons, List.not_mem_nil, false_imp_iff, implies_true, and_true]
  exact ⟨lit.1, not_mem_snoc (not_mem_dec oid nd) lit.2.2.2.1, lit.2.1, not_mem_snoc (not_mem_dec filenode nd) lit.2.2.2.1, lit.2.2.1,
    not_mem_snoc hk lit.2.2.2.2⟩

end PgVerif.Proofs.CliRender
