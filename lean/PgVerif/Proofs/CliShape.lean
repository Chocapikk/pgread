/-
  Postconditions of a run of `cliRun` over `Post` (Lib/Fault.lean): `Verdict S` (the exit code) and `Tidy R` (stdout / stderr), each
  with one lemma per way of ending (`okOut` / `errOut` / `failOut` / `jsonOr` / `renderDump`).
-/
import PgVerif.Model.CliRender
import PgVerif.Basic.Lemmas
namespace PgVerif.Proofs.CliRender
open PgVerif PgVerif.Model PgVerif.Model.CliRender

/-- nothing is said of an unrendered run -/
def RunSat (P : Out → Prop) : Run → Prop
  | .out o => P o
  | .unrendered _ => True

theorem post_jsonOr {α} {P : Out → Prop} (pre : String) (m : M (Option α)) (f : α → Bytes)
    (hok : ∀ x, m = .ok (some x) → P (okOut (f x))) (herr : m = .ok none → P (errOut pre)) :
    Post (m >>= fun r => pure (jsonOr pre r f)) (RunSat P) :=
  post_bind fun r hr => post_pure (by
    cases r
    · exact herr hr
    · exact hok _ hr)

/-- the output switch at the end of main() as the flags select it -/
theorem renderDump_eq (L : Lib) (f : Flags) (r : Spec.DumpResult) :
    renderDump L (outFormat f) r =
      if f.sqlOutput then .out (okOut (Model.Export.toSQL L.floatFmt L.now (exportDump r)))
      else if f.csvOutput then .out (okOut (Model.Export.toCSV L.floatFmt (exportDump r)))
      else match dumpJV r with
        | some v => .out (okOut (encodeJSON v))
        | none => .unrendered .dump := by
  unfold renderDump outFormat
  cases f.sqlOutput <;> cases f.csvOutput <;> simp only [Bool.false_eq_true, if_true, if_false]
  cases dumpJV r <;> rfl

theorem cliRun_dump (L : Lib) (dir : Bytes) (opts : Spec.Options) (fmt : Format) :
    cliRun L (.dump dir opts fmt) = (L.dumpDataDir dir opts).map (finish L fmt) := by
  rw [cliRun]
  rcases L.dumpDataDir dir opts with _ | _ | _ <;> rfl

theorem runSat_renderDump {P : Out → Prop} (L : Lib) (fmt : Format) (r : Spec.DumpResult) (hok : ∀ s, P (okOut s)) :
    RunSat P (renderDump L fmt r) := by
  unfold renderDump
  cases fmt with
  | sql => exact hok _
  | csv => exact hok _
  | json =>
    cases dumpJV r with
    | none => exact True.intro
    | some v => exact hok _

def Verdict (S : Prop) (o : Out) : Prop := (o.exit = 0 ↔ S) ∧ o.exit ≤ 1

theorem Verdict.zero {S : Prop} {o : Out} (h : S) (ho : o.exit = 0) : Verdict S o :=
  ⟨⟨fun _ => h, fun _ => ho⟩, ho ▸ Nat.zero_le 1⟩

theorem Verdict.one {S : Prop} {o : Out} (h : ¬ S) (ho : o.exit = 1) : Verdict S o :=
  ⟨⟨fun e => absurd (ho ▸ e : 1 = 0) Nat.one_ne_zero, fun s => absurd s h⟩, ho ▸ Nat.le_refl 1⟩

theorem verdict_okOut {S : Prop} (h : S) (s : Bytes) : Verdict S (okOut s) := .zero h rfl

theorem verdict_errOut {S : Prop} (h : ¬ S) (pre : String) : Verdict S (errOut pre) := .one h rfl

theorem verdict_failOut {S : Prop} (h : ¬ S) (msg : Bytes) : Verdict S (failOut msg) := .one h rfl

theorem verdict_jsonOr {α} {S : Prop} (pre : String) (m : M (Option α)) (f : α → Bytes) (hS : S ↔ ∃ x, m = .ok (some x)) :
    Post (m >>= fun r => pure (jsonOr pre r f)) (RunSat (Verdict S)) :=
  post_jsonOr pre m f (fun x hx => verdict_okOut (hS.mpr ⟨x, hx⟩) _)
    fun hx => verdict_errOut (fun s => let ⟨_, e⟩ := hS.mp s; nomatch hx.symm.trans e) _

/-- a library call whose error ends the run, else the rest: the shape of the clauses of `CliSuccess` (Props/C12Cli.lean) -/
theorem verdict_call {α} {S : Prop} {T : α → Prop} (m : M (Option α)) (k : Option α → M Run) (pre : String)
    (hS : S ↔ ∃ x, m = .ok (some x) ∧ T x) (hn : k none = pure (.out (errOut pre)))
    (hk : ∀ x, m = .ok (some x) → Post (k (some x)) (RunSat (Verdict (T x)))) : Post (m >>= k) (RunSat (Verdict S)) :=
  post_bind fun r hr => by
    subst hr
    cases r with
    | none => exact hn ▸ post_pure (verdict_errOut (by simp [hS]) _)
    | some x =>
      have e : S = T x := by simp [hS]
      exact e ▸ hk x rfl

/-- stdout on success, stderr on failure, except the reports `R` that go to stdout with exit code 1 -/
def Tidy (R : Prop) (o : Out) : Prop :=
  (o.exit = 0 → o.stderr = [] ∧ o.stderrMore = false) ∧ (o.exit = 1 → (o.stdout = [] ∧ (o.stderrMore = true ∨ o.stderr ≠ [])) ∨ R)

theorem tidy_okOut (R : Prop) (s : Bytes) : Tidy R (okOut s) := ⟨fun _ => ⟨rfl, rfl⟩, fun h => absurd h Nat.zero_ne_one⟩

theorem tidy_errOut (R : Prop) (pre : String) : Tidy R (errOut pre) := ⟨fun h => absurd h Nat.one_ne_zero, fun _ => Or.inl ⟨rfl, Or.inl rfl⟩⟩

theorem tidy_jsonOr {α} (R : Prop) (pre : String) (m : M (Option α)) (f : α → Bytes) :
    Post (m >>= fun r => pure (jsonOr pre r f)) (RunSat (Tidy R)) :=
  post_jsonOr pre m f (fun _ _ => tidy_okOut _ _) fun _ => tidy_errOut _ _

theorem tidy_failOut (R : Prop) {msg : Bytes} (h : msg ≠ []) : Tidy R (failOut msg) :=
  ⟨fun e => absurd e Nat.one_ne_zero, fun _ => Or.inl ⟨rfl, Or.inr h⟩⟩

theorem tidy_report {R : Prop} (hR : R) (s : Bytes) (e : Nat) : Tidy R { stdout := s, exit := e } := ⟨fun _ => ⟨rfl, rfl⟩, fun _ => Or.inr hR⟩

end PgVerif.Proofs.CliRender
