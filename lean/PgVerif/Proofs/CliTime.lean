/-
  `time.Time.MarshalJSON` on whole seconds in UTC (`Model.CliRender.rfc3339`): what `C16_cli_control_time` (Props/C12Cli.lean) is
  put together from.
-/
import PgVerif.Model.CliRender
import PgVerif.Proofs.TxtNumerals
namespace PgVerif.Proofs.CliRender
open PgVerif PgVerif.Export PgVerif.Model.CliRender

theorem civilN_spec (n : Nat) : ∃ c400 c100 c4 c1 doy mp : Nat,
    civilN n = (400 * c400 + 100 * c100 + 4 * c4 + c1 + (if (if mp < 10 then mp + 3 else mp - 9) ≤ 2 then 1 else 0),
              (if mp < 10 then mp + 3 else mp - 9), doy - (153 * mp + 2) / 5 + 1) ∧
    n = 146097 * c400 + 36524 * c100 + 1461 * c4 + 365 * c1 + doy ∧ c100 ≤ 3 ∧ c4 ≤ 24 ∧ c1 ≤ 3 ∧ doy ≤ 365 ∧
    mp = (5 * doy + 2) / 153 := by
  refine ⟨n / 146097, min (n % 146097 / 36524) 3, (n % 146097 - min (n % 146097 / 36524) 3 * 36524) / 1461,
    min ((n % 146097 - min (n % 146097 / 36524) 3 * 36524) % 1461 / 365) 3,
    (n % 146097 - min (n % 146097 / 36524) 3 * 36524) % 1461 - min ((n % 146097 - min (n % 146097 / 36524) 3 * 36524) % 1461 / 365) 3 * 365,
    _, rfl, ?_⟩
  omega

theorem monthOf_inj (a b : Nat) (ha : a ≤ 11) (hb : b ≤ 11)
    (h : (if a < 10 then a + 3 else a - 9) = (if b < 10 then b + 3 else b - 9)) : a = b := by
  split at h <;> split at h <;> omega

theorem civilN_inj (a b : Nat) (h : civilN a = civilN b) : a = b := by
  obtain ⟨a400, a100, a4, a1, adoy, amp, ea, na, ha100, ha4, ha1, hadoy, hamp⟩ := civilN_spec a
  obtain ⟨b400, b100, b4, b1, bdoy, bmp, eb, nb, hb100, hb4, hb1, hbdoy, hbmp⟩ := civilN_spec b
  rw [ea, eb] at h
  simp only [Prod.mk.injEq] at h
  obtain ⟨hy, hm, hd⟩ := h
  -- month, then day of the year, then the year digit by digit in the mixed radix 400 / 100 / 4 / 1
  have hmp : amp = bmp := monthOf_inj amp bmp (by omega) (by omega) hm
  subst hmp
  have hdoy : adoy = bdoy := by omega
  subst hdoy
  omega

/-- 146037 .. 3798461 are the day numbers of the years 0..9999 (`dayNumber_range`); `civilN` gives the year shifted by 400 -/
theorem civilN_bounds (n : Nat) (lo : 146037 ≤ n) (hi : n ≤ 3798461) :
    400 ≤ (civilN n).1 ∧ (civilN n).1 ≤ 10399 ∧ (civilN n).2.1 ≤ 12 ∧ (civilN n).2.2 ≤ 31 := by
  obtain ⟨c400, c100, c4, c1, doy, mp, e, hn, h100, h4, h1, hdoy, hmp⟩ := civilN_spec n
  rw [e]
  subst hn
  clear e
  have ha : c400 ≤ 25 := by omega
  -- only the last year of a 400-year cycle needs a look: there c100 = 3, c4 = 24, c1 = 3
  have top : 100 * c100 + 4 * c4 + c1 = 399 → c100 = 3 ∧ c4 = 24 ∧ c1 = 3 := by omega
  by_cases hm : mp < 10
  · have h2 : ¬ (mp + 3 ≤ 2) := by omega
    simp only [hm, if_true, h2, if_false]
    have h0 : c400 = 0 → ¬ (100 * c100 + 4 * c4 + c1 = 399) := fun z e => by subst z; have := top e; omega
    omega
  · have h2 : mp - 9 ≤ 2 := by omega
    simp only [hm, if_false, h2, if_true]
    have h25 : c400 = 25 → ¬ (100 * c100 + 4 * c4 + c1 = 399) := fun z e => by subst z; have := top e; omega
    omega

theorem digitCh_inj (a b : Nat) (ha : a < 10) (hb : b < 10) (h : Txt.digitCh a = Txt.digitCh b) : a = b :=
  Option.some.inj ((TxtNumerals.decSys.val_ch a ha).symm.trans (h ▸ TxtNumerals.decSys.val_ch b hb))

theorem d2_field (a b : Nat) (ha : a < 100) (hb : b < 100) (x y : Bytes) (h : d2 a ++ x = d2 b ++ y) : a = b ∧ x = y := by
  obtain ⟨hd, hxy⟩ := List.append_inj h rfl
  simp only [d2, List.cons.injEq, and_true] at hd
  have h1 := digitCh_inj _ _ (Nat.mod_lt _ (by omega)) (Nat.mod_lt _ (by omega)) hd.1
  have h2 := digitCh_inj _ _ (Nat.mod_lt _ (by omega)) (Nat.mod_lt _ (by omega)) hd.2
  exact ⟨by omega, hxy⟩

theorem d4_field (a b : Nat) (ha : a < 10000) (hb : b < 10000) (x y : Bytes) (h : d4 a ++ x = d4 b ++ y) : a = b ∧ x = y := by
  obtain ⟨hd, hxy⟩ := List.append_inj h rfl
  simp only [d4, List.cons.injEq, and_true] at hd
  have h1 := digitCh_inj _ _ (Nat.mod_lt _ (by omega)) (Nat.mod_lt _ (by omega)) hd.1
  have h2 := digitCh_inj _ _ (Nat.mod_lt _ (by omega)) (Nat.mod_lt _ (by omega)) hd.2.1
  have h3 := digitCh_inj _ _ (Nat.mod_lt _ (by omega)) (Nat.mod_lt _ (by omega)) hd.2.2.1
  have h4 := digitCh_inj _ _ (Nat.mod_lt _ (by omega)) (Nat.mod_lt _ (by omega)) hd.2.2.2
  exact ⟨by omega, hxy⟩

theorem hms_lt (a : Nat) (ha : a < 86400) : a / 3600 < 100 ∧ a / 60 % 60 < 100 ∧ a % 60 < 100 := by omega

theorem hms_inj (a b : Nat) (hH : a / 3600 = b / 3600) (hM : a / 60 % 60 = b / 60 % 60) (hS : a % 60 = b % 60) : a = b := by
  omega

theorem stamp_inj (y mo d a y' mo' d' a' : Nat) (hy : y < 10000) (hy' : y' < 10000) (hmo : mo < 100) (hmo' : mo' < 100)
    (hd : d < 100) (hd' : d' < 100) (ha : a < 86400) (ha' : a' < 86400)
    (h : d4 y ++ 45 :: (d2 mo ++ 45 :: (d2 d ++ 84 :: (d2 (a / 3600) ++ 58 :: (d2 (a / 60 % 60) ++ 58 :: (d2 (a % 60) ++ [90]))))) =
         d4 y' ++ 45 :: (d2 mo' ++ 45 :: (d2 d' ++ 84 :: (d2 (a' / 3600) ++ 58 :: (d2 (a' / 60 % 60) ++ 58 :: (d2 (a' % 60) ++ [90])))))) :
    y = y' ∧ mo = mo' ∧ d = d' ∧ a = a' := by
  have la := hms_lt a ha
  have la' := hms_lt a' ha'
  obtain ⟨ey, h⟩ := d4_field _ _ hy hy' _ _ h
  obtain ⟨em, h⟩ := d2_field _ _ hmo hmo' _ _ (List.cons.inj h).2
  obtain ⟨ed, h⟩ := d2_field _ _ hd hd' _ _ (List.cons.inj h).2
  obtain ⟨eH, h⟩ := d2_field _ _ la.1 la'.1 _ _ (List.cons.inj h).2
  obtain ⟨eM, h⟩ := d2_field _ _ la.2.1 la'.2.1 _ _ (List.cons.inj h).2
  obtain ⟨eS, _⟩ := d2_field _ _ la.2.2 la'.2.2 _ _ (List.cons.inj h).2
  exact ⟨ey, em, ed, hms_inj a a' eH eM eS⟩

theorem secOfDay_lt (s : Int) : (s - s / 86400 * 86400).toNat < 86400 := by omega

/-- day numbers count from −0400-03-01 (865565 days before 1970-01-01) -/
theorem dayNumber_range (s : Int) (hs : timeInRange s = true) :
    146037 ≤ (s / 86400 + 865565).toNat ∧ (s / 86400 + 865565).toNat ≤ 3798461 := by
  simp only [timeInRange, Bool.and_eq_true, decide_eq_true_eq] at hs
  omega

theorem day_sod_inj (s t : Int) (hs : 0 < (s / 86400 + 865565).toNat)
    (hd : (s / 86400 + 865565).toNat = (t / 86400 + 865565).toNat)
    (ha : (s - s / 86400 * 86400).toNat = (t - t / 86400 * 86400).toNat) : s = t := by
  omega

end PgVerif.Proofs.CliRender
