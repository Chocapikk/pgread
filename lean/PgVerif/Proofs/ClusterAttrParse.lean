/-
  ParsePGAttribute (catalog.go) on an encoded pg_attribute against the specification's `userAttrs`, for the hinted layout and for the
  automatic choice between the three layouts (catalog.go:readAttrRows, fixes/cluster/08).
-/
import PgVerif.Proofs.ClusterAttrRows
import PgVerif.Proofs.ClusterMap
import PgVerif.Proofs.SpecSort
namespace PgVerif.Proofs.Cluster
open PgVerif PgVerif.Model PgVerif.Spec PgVerif.Proofs PgVerif.Proofs.Rows PgVerif.Sorting List

theorem mapGet_map_snd {β} (f : List β → List β) (hf : f [] = []) (m : List (Nat × List β)) (k : Nat) :
    (mapGet (m.map fun (p : Nat × List β) => (p.1, f p.2)) k).getD [] = f ((mapGet m k).getD []) := by
  induction m with
  | nil => simp [mapGet, hf]
  | cons e rest ih =>
    obtain ⟨k', vs⟩ := e
    unfold mapGet at ih ⊢
    by_cases h : k = k'
    · subst h; simp
    · have : (k == k') = false := by simpa using h
      simp only [map_cons, lookup_cons, this]
      exact ih

/-- `Align` is the row's attalign character -/
def attrInfoOf (a : AttrRow) : AttrInfo := ⟨a.name, (a.typid : Int), a.num, a.len, (alignByte a).toNat⟩

theorem attrStep_fields (m : List (Nat × List AttrInfo)) (row : Row) (a : AttrRow)
    (h : AttrFields row a) :
    attrStep m row = if a.relid = 0 ∨ a.num ≤ 0 then m else mapAppend m a.relid (attrInfoOf a) := by
  unfold attrStep
  simp only [h.relid, h.num, h.name, h.typid, h.len, h.align]
  rfl

theorem foldl_attrStep_get (row : AttrRow → Row) (as : List AttrRow)
    (hf : ∀ a ∈ as, AttrFields (row a) a) (m : List (Nat × List AttrInfo)) (k : Nat) (hk : 0 < k) :
    (mapGet ((as.map row).foldl attrStep m) k).getD [] =
      (mapGet m k).getD [] ++ (as.filter fun a => a.relid = k ∧ a.num > 0).map attrInfoOf := by
  induction as generalizing m with
  | nil => simp
  | cons a as ih =>
    rw [map_cons, foldl_cons, ih (fun x hx => hf x (by simp [hx])), attrStep_fields m _ a (hf a (by simp))]
    by_cases hskip : a.relid = 0 ∨ a.num ≤ 0
    · rw [if_pos hskip]
      have : ¬ (a.relid = k ∧ a.num > 0) := by
        intro ⟨h1, h2⟩
        rcases hskip with h | h <;> omega
      rw [filter_cons, if_neg (by simpa using this)]
    · rw [if_neg hskip, mapGet_mapAppend]
      by_cases hr : a.relid = k
      · have : a.relid = k ∧ a.num > 0 := ⟨hr, by omega⟩
        rw [if_pos hr, filter_cons, if_pos (by simpa using this)]
        simp
      · have : ¬ (a.relid = k ∧ a.num > 0) := fun h => hr h.1
        rw [if_neg hr, filter_cons, if_neg (by simpa using this)]
        simp

theorem sortByNum_eq (l : List AttrInfo) : sortByNum l = insertionSort (byKey (·.num)) l :=
  foldr_eq_insertionSort (f := insertByNum) _ (fun _ => rfl) (fun _ _ _ => rfl) l

theorem sortByNum_map (f : AttrRow → AttrInfo) (hf : ∀ a, (f a).num = a.num) (l : List AttrRow)
    (hnd : (l.map (·.num)).Nodup) : sortByNum (l.map f) = (sortAttrs l).map f := by
  rw [sortByNum_eq, sortAttrs_eq_byKey hnd]
  exact insertionSort_map f (fun x y => by simp only [byKey, hf]) l

structure AttHeapWF (l : Layout) (att : HeapOf AttrRow) : Prop where
  rows : ∀ s ∈ att.versions, AttrWF s.val ∧ s.infomask < 65536
  fit : pagesFit (att.map fun pg => pg.map fun s => formRow (pgAttributeCols l) (attrVals l s.val) s.infomask)

theorem attrWF_name {a : AttrRow} (h : AttrWF a) : a.name.length ≤ 64 := by have := h.name.2.1; omega

theorem AttHeapWF.rowWF {l : Layout} {att : HeapOf AttrRow} (hw : AttHeapWF l att) :
    ∀ s ∈ att.versions, RowV.WF (pgAttributeCols l) ⟨attrVals l s.val, (pgAttributeCols l).length, s.infomask⟩ :=
  fun s hs => attr_WF l s.val s.infomask (attrWF_name (hw.rows s hs).1) (hw.rows s hs).2

theorem readRows_attr_own (dec : Dec) (hd : CatDec dec) (l : Layout) (att : HeapOf AttrRow) (hw : AttHeapWF l att) :
    readRows dec (encHeapOf (pgAttributeCols l) (attrVals l) att) (schemaOf l) true = .ok (att.live.map (attrRowOf dec l)) :=
  readRows_catalog dec _ _ att (schemaOf l) (attrRowOf dec l) hw.rowWF hw.fit fun s hs =>
    attr_decode_own dec hd l s.val s.infomask (attrWF_name (hw.rows s hs).1) (hw.rows s hs).2

/-- the 16 schema on a 12–15 pg_attribute (reading D) -/
theorem readRows_attr_D (dec : Dec) (hd : CatDec dec) (l : Layout) (hl : l ≠ .v16) (att : HeapOf AttrRow) (hw : AttHeapWF l att) :
    readRows dec (encHeapOf (pgAttributeCols l) (attrVals l) att) catSchemaAttr16 true =
      .ok (att.live.map fun a => toRow (attrRowD dec l a)) :=
  readRows_catalog dec _ _ att catSchemaAttr16 (fun a => toRow (attrRowD dec l a)) hw.rowWF hw.fit
    (fun s hs => attr_decode_D dec hd l hl s.val s.infomask (attrWF_name (hw.rows s hs).1) (hw.rows s hs).2)

/-- the 14–15 schema on a 12–13 pg_attribute (reading E) -/
theorem readRows_attr_E (dec : Dec) (hd : CatDec dec) (att : HeapOf AttrRow) (hw : AttHeapWF .v12 att) :
    readRows dec (encHeapOf (pgAttributeCols .v12) (attrVals .v12) att) catSchemaAttr14 true =
      .ok (att.live.map fun a => toRow (attrRowE dec a)) :=
  readRows_catalog dec _ _ att catSchemaAttr14 (fun a => toRow (attrRowE dec a)) hw.rowWF hw.fit
    (fun s hs => attr_decode_E dec hd s.val s.infomask (attrWF_name (hw.rows s hs).1) (hw.rows s hs).2)

/-- any of the three schemas on any layout returns one row per live version (what the rows hold is the business of the readings) -/
theorem readRows_attr_any (dec : Dec) (hd : CatDec dec) (l : Layout) (att : HeapOf AttrRow) (hw : AttHeapWF l att)
    {s : List (String × Nat × Int)} (hs : CatSchema s) :
    ∃ rows, readRows dec (encHeapOf (pgAttributeCols l) (attrVals l) att) (mkSchema s) true = .ok rows ∧
      rows.length = att.live.length := by
  rw [readRows_encHeapOf dec _ _ att _ hw.rowWF hw.fit]
  obtain ⟨ys, hys, hlen⟩ := collectM_length_of_some _ _
    (fun (x : Stored AttrRow) _ => decodeTuple_catSchema dec hd (mtuple (formRow (pgAttributeCols l) (attrVals l x.val) x.infomask))
      (mkSchema s) (mkSchema_ne hs.ne) (mkSchema_kinds s hs.kinds))
  exact ⟨ys, hys, by rw [hlen]; unfold HeapOf.live; rw [length_map]⟩

/-! ### the choice of the layout (dropped.go:readAttrRowsWithDropped) -/

/-- PostgreSQL's four storage strategies: 'p', 'e', 'm', 'x' -/
def StorageOK (a : AttrRow) : Prop := a.storage = 112 ∨ a.storage = 101 ∨ a.storage = 109 ∨ a.storage = 120
instance (a : AttrRow) : Decidable (StorageOK a) := by unfold StorageOK; infer_instance

/-- c, s, i, d — and none of p, e, m, x -/
theorem alignByte_csid (a : AttrRow) :
    catOneOfBytes [99, 115, 105, 100] [alignByte a] = true ∧ catOneOfBytes [112, 101, 109, 120] [alignByte a] = false := by
  unfold alignByte alignCh
  split
  · decide
  · split
    · decide
    · split <;> decide

theorem storage_pemx (a : AttrRow) (h : StorageOK a) : catOneOfBytes [112, 101, 109, 120] [UInt8.ofNat a.storage] = true := by
  rcases h with h | h | h | h <;> rw [h] <;> decide

theorem plausible_own (row : Row) (a : AttrRow) (h : AttrFields row a) (hs : StorageOK a) : catPlausibleAttrRow row = true := by
  unfold catPlausibleAttrRow
  rw [h.align, h.storage, (alignByte_csid a).1, storage_pemx a hs]
  rfl

theorem score_all (f : AttrRow → Row) (as : List AttrRow) (h : ∀ a ∈ as, catPlausibleAttrRow (f a) = true) :
    catAttrScore (as.map f) = (as.map f).length := by
  unfold catAttrScore
  rw [filter_eq_self.mpr]
  intro r hr
  obtain ⟨a, ha, rfl⟩ := mem_map.mp hr
  exact h a ha

theorem score_none (f : AttrRow → Row) (as : List AttrRow) (h : ∀ a, catPlausibleAttrRow (f a) = false) :
    catAttrScore (as.map f) = 0 := by
  unfold catAttrScore
  rw [filter_eq_nil_iff.mpr]
  · rfl
  · intro r hr
    obtain ⟨a, _, rfl⟩ := mem_map.mp hr
    simp [h a]

theorem score_le_of_length {r : List Row} {n : Nat} (h : r.length = n) : catAttrScore r ≤ n := h ▸ length_filter_le _ _

/-- the version hint names the layout (16+, 14–15, 12–13), or there is none and every live row's attstorage is one of PostgreSQL's four
characters (true of every real pg_attribute; not stated by `Spec.Cluster.WF`): what the automatic choice looks at, besides attalign -/
def SchemaOK (l : Layout) (att : HeapOf AttrRow) (ver : Nat) : Prop :=
  (16 ≤ ver ∧ l = .v16) ∨ (14 ≤ ver ∧ ver < 16 ∧ l = .v14) ∨ (12 ≤ ver ∧ ver < 14 ∧ l = .v12) ∨
  (ver < 12 ∧ ∀ a ∈ att.live, StorageOK a)

/-- the automatic choice picks the layout the file is in: under its own layout every live row is plausible; a 12–15 file read as 16 has
no plausible row (attalign = 0xFF), a 12–13 file read as 14–15 none either (attstorage = the attalign character); a layout tried
later never beats one under which every row is plausible -/
theorem auto_enc (dec : Dec) (hd : CatDec dec) (l : Layout) (att : HeapOf AttrRow) (hw : AttHeapWF l att)
    (hst : ∀ a ∈ att.live, StorageOK a) :
    catReadAttrRowsAuto (readRows dec) (encHeapOf (pgAttributeCols l) (attrVals l) att) = .ok (att.live.map (attrRowOf dec l)) := by
  have hown : catAttrScore (att.live.map (attrRowOf dec l)) = (att.live.map (attrRowOf dec l)).length :=
    score_all _ _ fun a ha => by
      obtain ⟨s, hs, rfl⟩ := live_mem_versions att a ha
      exact plausible_own _ _ (fields_own dec hd l s.val (hw.rows s hs).1) (hst _ ha)
  have sD : ∀ l', catAttrScore (att.live.map fun a => toRow (attrRowD dec l' a)) = 0 := fun l' =>
    score_none _ _ fun a => by unfold catPlausibleAttrRow; rw [align_D dec hd l' a]; rfl
  have sE : catAttrScore (att.live.map fun a => toRow (attrRowE dec a)) = 0 :=
    score_none _ _ fun a => by unfold catPlausibleAttrRow; rw [storage_E dec hd a, (alignByte_csid a).2]; simp
  have hO := readRows_attr_own dec hd l att hw
  unfold catReadAttrRowsAuto
  cases l
  · rw [readRows_attr_D dec hd .v12 (by decide) att hw, readRows_attr_E dec hd att hw,
      show catSchemaAttr12 = schemaOf .v12 from rfl, hO]
    exact congrArg Except.ok (better_pick catAttrScore catBetterRows (fun _ _ => rfl) _ hown [_, _] [] (by simp [sD, sE]) (by simp))
  · obtain ⟨r12, h12, hl12⟩ := readRows_attr_any dec hd .v14 att hw catSchema12
    rw [readRows_attr_D dec hd .v14 (by decide) att hw, show catSchemaAttr14 = schemaOf .v14 from rfl, hO,
      show catSchemaAttr12 = mkSchema _ from rfl, h12]
    exact congrArg Except.ok (better_pick catAttrScore catBetterRows (fun _ _ => rfl) _ hown [_] [r12] (by simp [sD])
      (forall_mem_singleton.mpr (score_le_of_length (by simp [hl12]))))
  · obtain ⟨r15, h15, hl15⟩ := readRows_attr_any dec hd .v16 att hw catSchema14
    obtain ⟨r12, h12, hl12⟩ := readRows_attr_any dec hd .v16 att hw catSchema12
    rw [show catSchemaAttr16 = schemaOf .v16 from rfl, hO, show catSchemaAttr14 = mkSchema _ from rfl, h15,
      show catSchemaAttr12 = mkSchema _ from rfl, h12]
    exact congrArg Except.ok (better_pick catAttrScore catBetterRows (fun _ _ => rfl) _ hown [] [r15, r12] (by simp)
      (forall_mem_cons.mpr ⟨score_le_of_length (by simp [hl15]), forall_mem_singleton.mpr (score_le_of_length (by simp [hl12]))⟩))

theorem readAttrRows_enc (dec : Dec) (hd : CatDec dec) (l : Layout) (att : HeapOf AttrRow) (ver : Nat) (hw : AttHeapWF l att)
    (hs : SchemaOK l att ver) :
    readAttrRows (readRows dec) (encHeapOf (pgAttributeCols l) (attrVals l) att) (ver : Int) = .ok (att.live.map (attrRowOf dec l)) := by
  unfold readAttrRows
  rcases hs with ⟨h1, h2⟩ | ⟨h1, h2, h3⟩ | ⟨h1, h2, h3⟩ | ⟨h1, h2⟩
  · subst h2
    rw [if_pos (by omega)]
    exact readRows_attr_own dec hd .v16 att hw
  · subst h3
    rw [if_neg (by omega), if_pos (by omega)]
    exact readRows_attr_own dec hd .v14 att hw
  · subst h3
    rw [if_neg (by omega), if_neg (by omega), if_pos (by omega)]
    exact readRows_attr_own dec hd .v12 att hw
  · rw [if_neg (by omega), if_neg (by omega), if_neg (by omega)]
    exact auto_enc dec hd l att hw h2

/-- the statement of `C01_attributes` -/
theorem parsePGAttribute_enc (dec : Dec) (hd : CatDec dec) (l : Layout) (att : HeapOf AttrRow) (ver : Nat) (hw : AttHeapWF l att)
    (hs : SchemaOK l att ver) (hnd : (att.live.map fun a => (a.relid, a.num)).Nodup) :
    ∃ m, parsePGAttribute (readRows dec) (encHeapOf (pgAttributeCols l) (attrVals l) att) (ver : Int) = .ok m ∧
      ∀ k, 0 < k → (mapGet m k).getD [] = (userAttrs att k).map attrInfoOf := by
  unfold parsePGAttribute
  rw [readAttrRows_enc dec hd l att ver hw hs]
  simp only [ok_bind]
  refine ⟨_, rfl, ?_⟩
  intro k hk
  rw [mapGet_map_snd sortByNum rfl, foldl_attrStep_get (attrRowOf dec l) att.live ?_ [] k hk]
  · simp only [mapGet, lookup_nil, Option.getD_none, nil_append]
    exact sortByNum_map attrInfoOf (fun _ => rfl) _ (nums_nodup_of_rel att.live k hnd)
  · intro a ha
    obtain ⟨s, hs, rfl⟩ := live_mem_versions att a ha
    exact fields_own dec hd l s.val (hw.rows s hs).1

end PgVerif.Proofs.Cluster
