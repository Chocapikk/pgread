/-
  pg_attribute in PostgreSQL's three real layouts (12–13, 14–15, 16) read with the tool's three schemas (dropped.go:
  schemaPGAttrDropped / …V15 / …V12, which catalog.go:readAttrRows uses: fixes/cluster/08): each under its own schema, and what a
  schema sees in a row of ANOTHER layout as far as the automatic choice needs it (readings D and E).
-/
import PgVerif.Proofs.ClusterAttrs
namespace PgVerif.Proofs.Cluster
open PgVerif PgVerif.Model PgVerif.Spec PgVerif.Proofs PgVerif.Proofs.Rows List

theorem ofSigned32_lt (v : Int) : ofSigned 32 v < 4294967296 := ofSigned_lt 32 v

theorem attrVals_OK (l : Layout) (a : AttrRow) (hn : a.name.length ≤ 64) : AllOK (pgAttributeCols l) (attrVals l a) := by
  cases l <;>
  simp only [AllOK, pgAttributeCols, attrVals, cons_append, nil_append, pairOK_oid, pairOK_name _ _ hn, pairOK_i4, pairOK_i2, pairOK_bool,
    pairOK_char, pairOK_none, cArr, true_or, or_true, and_self]

theorem attr_WF (l : Layout) (a : AttrRow) (im : Nat) (hn : a.name.length ≤ 64) (him : im < 65536) :
    RowV.WF (pgAttributeCols l) ⟨attrVals l a, (pgAttributeCols l).length, im⟩ :=
  catalog_WF _ _ _ (attrVals_OK l a hn) (by cases l <;> decide) him

-- Written as prefixes of the real layouts, so that "the schema knows the first attributes of the row" (`hcols` of
-- `decodeTuple_prefix`) is `rfl`; each evaluates to the tool's table under `schemaCol` (`Generated.Cluster.schemaPGAttrDropped…`),
-- which is the form `attrFields_at` and `catalogRow_toRow` speak of: `attr_decode_own`, `fields_own` rely on that evaluation.
def attrCols16 : List Col := (pgAttributeCols .v16).take 18
def attrCols14 : List Col := (pgAttributeCols .v14).take 19
def attrCols12 : List Col := (pgAttributeCols .v12).take 18

theorem catSchema16 : CatSchema Generated.Cluster.schemaPGAttrDropped :=
  ⟨by decide +kernel, by decide +kernel, by simp [Generated.Cluster.schemaPGAttrDropped], by decide⟩
theorem catSchema14 : CatSchema Generated.Cluster.schemaPGAttrDroppedV15 :=
  ⟨by decide +kernel, by decide +kernel, by simp [Generated.Cluster.schemaPGAttrDroppedV15], by decide⟩
theorem catSchema12 : CatSchema Generated.Cluster.schemaPGAttrDroppedV12 :=
  ⟨by decide +kernel, by decide +kernel, by simp [Generated.Cluster.schemaPGAttrDroppedV12], by decide⟩

/-- the first 18 attributes of a 16 row (up to attisdropped), as fixed-width byte strings -/
def realBss16 (a : AttrRow) : List Bytes :=
  [le 4 a.relid, nameField a.name, le 4 a.typid, le 2 (ofSigned 16 a.len), le 2 (ofSigned 16 a.num),
   le 4 (ofSigned 32 (-1)), le 4 (ofSigned 32 a.typmod), le 2 (ofSigned 16 a.ndims), bBool a.byval, bByte (alignCh a.align),
   bByte a.storage, bByte 0, bBool a.notnull, bBool false, bBool false, bByte 0, bByte 0, bBool a.dropped]

/-- the first 19 attributes of a 14–15 row (up to attisdropped) -/
def realBss14 (a : AttrRow) : List Bytes :=
  [le 4 a.relid, nameField a.name, le 4 a.typid, le 4 (ofSigned 32 a.stattarget), le 2 (ofSigned 16 a.len),
   le 2 (ofSigned 16 a.num), le 4 (ofSigned 32 a.ndims), le 4 (ofSigned 32 (-1)), le 4 (ofSigned 32 a.typmod), bBool a.byval,
   bByte (alignCh a.align), bByte a.storage, bByte 0, bBool a.notnull, bBool false, bBool false, bByte 0, bByte 0, bBool a.dropped]

/-- the first 19 attributes of a 12–13 row (up to attislocal; attisdropped is the 18th) -/
def realBss12 (a : AttrRow) : List Bytes :=
  [le 4 a.relid, nameField a.name, le 4 a.typid, le 4 (ofSigned 32 a.stattarget), le 2 (ofSigned 16 a.len),
   le 2 (ofSigned 16 a.num), le 4 (ofSigned 32 a.ndims), le 4 (ofSigned 32 (-1)), le 4 (ofSigned 32 a.typmod), bBool a.byval,
   bByte a.storage, bByte (alignCh a.align), bBool a.notnull, bBool false, bBool false, bByte 0, bByte 0, bBool a.dropped, bBool true]

theorem realBss16_widths (a : AttrRow) (hn : a.name.length ≤ 64) :
    (realBss16 a).map length = Generated.Cluster.schemaPGAttrDropped.map (·.2.2.toNat) := by
  simp only [realBss16, bBool, bByte, map_cons, map_nil, le_length, nameField_length a.name hn, length_cons, length_nil]
  rfl

theorem realBss14_widths (a : AttrRow) (hn : a.name.length ≤ 64) :
    (realBss14 a).map length = Generated.Cluster.schemaPGAttrDroppedV15.map (·.2.2.toNat) := by
  simp only [realBss14, bBool, bByte, map_cons, map_nil, le_length, nameField_length a.name hn, length_cons, length_nil]
  rfl

/-- the first 19 attributes of a 12–13 row have the widths of the 14–15 schema's 19 columns (under other names) -/
theorem realBss12_widths (a : AttrRow) (hn : a.name.length ≤ 64) :
    (realBss12 a).map length = Generated.Cluster.schemaPGAttrDroppedV15.map (·.2.2.toNat) := by
  simp only [realBss12, bBool, bByte, map_cons, map_nil, le_length, nameField_length a.name hn, length_cons, length_nil]
  rfl

def attrRow16 (dec : Dec) (a : AttrRow) : Row := catalogRow dec attrCols16 (realBss16 a)
def attrRow14 (dec : Dec) (a : AttrRow) : Row := catalogRow dec attrCols14 (realBss14 a)
def attrRow12 (dec : Dec) (a : AttrRow) : Row := catalogRow dec attrCols12 ((realBss12 a).take 18)

def attrRowOf (dec : Dec) (l : Layout) (a : AttrRow) : Row :=
  match l with
  | .v16 => toRow (attrRow16 dec a)
  | .v14 => toRow (attrRow14 dec a)
  | .v12 => toRow (attrRow12 dec a)

def schemaOf (l : Layout) : List Column :=
  match l with
  | .v16 => catSchemaAttr16
  | .v14 => catSchemaAttr14
  | .v12 => catSchemaAttr12

/-- every column is read from the row's own bytes: the `rfl`s for `hcols`, `hv` say that each schema is a prefix of the real layout -/
theorem attr_decode_own (dec : Dec) (hd : CatDec dec) (l : Layout) (a : AttrRow) (im : Nat) (hn : a.name.length ≤ 64)
    (him : im < 65536) :
    decodeTuple dec (mtuple (formRow (pgAttributeCols l) (attrVals l a) im)) (schemaOf l) = .ok (some (attrRowOf dec l a)) := by
  cases l
  · exact decodeTuple_prefix dec hd _ _ im catSchema12 ((realBss12 a).take 18) (attrVals_OK .v12 a hn) (by decide) him rfl rfl
      (by rw [map_take, realBss12_widths a hn]; rfl)
  · exact decodeTuple_prefix dec hd _ _ im catSchema14 (realBss14 a) (attrVals_OK .v14 a hn) (by decide) him rfl rfl
      (realBss14_widths a hn)
  · exact decodeTuple_prefix dec hd _ _ im catSchema16 (realBss16 a) (attrVals_OK .v16 a hn) (by decide) him rfl rfl
      (realBss16_widths a hn)

/-! ### reading E: the 14–15 schema over a 12–13 row -/

def attrRowE (dec : Dec) (a : AttrRow) : Row := catalogRow dec (Generated.Cluster.schemaPGAttrDroppedV15.map schemaCol) (realBss12 a)

theorem attr_decode_E (dec : Dec) (hd : CatDec dec) (a : AttrRow) (im : Nat) (hn : a.name.length ≤ 64) (him : im < 65536) :
    decodeTuple dec (mtuple (formRow (pgAttributeCols .v12) (attrVals .v12 a) im)) catSchemaAttr14 = .ok (some (toRow (attrRowE dec a))) := by
  obtain ⟨rest, hdata⟩ := form_prefix (pgAttributeCols .v12) (attrVals .v12 a) 19 (realBss12 a) rfl rfl
    ((realBss12_widths a hn).trans rfl)
  exact decodeTuple_catalog dec hd _ _ im _ (realBss12 a) rest (attr_WF .v12 a im hn him) catSchema14 (realBss12_widths a hn)
    (isSome_of_take _ (realBss12 a) 19 rfl rfl) (by decide) hdata

/-! ### reading D: the 16 schema over a 12–15 row -/

def b0 (x : Nat) : UInt8 := UInt8.ofNat (x % 256)
def b1 (x : Nat) : UInt8 := UInt8.ofNat (x / 256 % 256)
def b2 (x : Nat) : UInt8 := UInt8.ofNat (x / 256 / 256 % 256)
def b3 (x : Nat) : UInt8 := UInt8.ofNat (x / 256 / 256 / 256 % 256)
theorem le4_split (x : Nat) : le 4 x = le 2 x ++ ([b2 x] ++ [b3 x]) := rfl
theorem le4_split2 (x : Nat) : le 4 x = le 2 x ++ le 2 (x / 256 / 256) := rfl
theorem le4_bytes (x : Nat) : le 4 x = [b0 x] ++ ([b1 x] ++ ([b2 x] ++ [b3 x])) := rfl

/-- the first 19 attributes of a 12–13 or 14–15 row -/
def realBssOld : Layout → AttrRow → List Bytes
  | .v12, a => realBss12 a
  | _, a => realBss14 a

/-- what the 16 schema sees in their first nine (92 bytes): `attlen`/`attnum` are the halves of attstattarget, `attcacheoff`
is attlen+attnum, `atttypmod` is attndims, `attndims`/`attbyval`/`attalign` are the bytes of attcacheoff (= −1, so
`attalign` = 0xFF), `attstorage` … `atthasdef` the bytes of atttypmod -/
def headD (a : AttrRow) : List Bytes :=
  [le 4 a.relid, nameField a.name, le 4 a.typid, le 2 (ofSigned 32 a.stattarget), le 2 (ofSigned 32 a.stattarget / 256 / 256),
   le 2 (ofSigned 16 a.len) ++ le 2 (ofSigned 16 a.num), le 4 (ofSigned 32 a.ndims),
   le 2 (ofSigned 32 (-1)), [b2 (ofSigned 32 (-1))], [b3 (ofSigned 32 (-1))],
   [b0 (ofSigned 32 a.typmod)], [b1 (ofSigned 32 a.typmod)], [b2 (ofSigned 32 a.typmod)], [b3 (ofSigned 32 a.typmod)]]

/-- … and in the first 13 (96 bytes): its last four columns are the row's four one-byte attributes after atttypmod -/
def attrBssD (l : Layout) (a : AttrRow) : List Bytes := headD a ++ ((realBssOld l a).take 13).drop 9

def attrRowD (dec : Dec) (l : Layout) (a : AttrRow) : Row :=
  catalogRow dec (Generated.Cluster.schemaPGAttrDropped.map schemaCol) (attrBssD l a)

theorem attrBssD_widths (l : Layout) (a : AttrRow) (hn : a.name.length ≤ 64) :
    (attrBssD l a).map length = Generated.Cluster.schemaPGAttrDropped.map (·.2.2.toNat) := by
  have ht : (((realBssOld l a).take 13).drop 9).map length = [1, 1, 1, 1] := by cases l <;> rfl
  simp only [attrBssD, headD, map_append, ht, map_cons, map_nil, le_length, nameField_length a.name hn, length_cons, length_nil,
    length_append]
  rfl

/-- the same 92 bytes, cut at other places -/
theorem flat_headD (a : AttrRow) : ((realBss14 a).take 9).flatten = (headD a).flatten := by
  simp only [realBss14, headD, List.take, flatten_cons, flatten_nil, append_nil]
  rw [le4_split2 (ofSigned 32 a.stattarget), le4_split (ofSigned 32 (-1)), le4_bytes (ofSigned 32 a.typmod)]
  simp only [append_assoc, cons_append, nil_append]

theorem flat_D (l : Layout) (a : AttrRow) :
    (realBssOld l a).flatten = (attrBssD l a).flatten ++ ((realBssOld l a).drop 13).flatten := by
  have h : realBssOld l a = (realBss14 a).take 9 ++ (((realBssOld l a).take 13).drop 9 ++ (realBssOld l a).drop 13) := by
    cases l <;> rfl
  conv => lhs; rw [h]
  rw [flatten_append, flatten_append, flat_headD, attrBssD, flatten_append, append_assoc]

theorem attr_decode_D (dec : Dec) (hd : CatDec dec) (l : Layout) (hl : l ≠ .v16) (a : AttrRow) (im : Nat) (hn : a.name.length ≤ 64)
    (him : im < 65536) :
    decodeTuple dec (mtuple (formRow (pgAttributeCols l) (attrVals l a) im)) catSchemaAttr16 = .ok (some (toRow (attrRowD dec l a))) := by
  have hreal : (attrVals l a).take 19 = (realBssOld l a).map (fun bs => some (Datum.fixed bs)) ∧
      packedFrom 0 ((pgAttributeCols l).take 19) = true ∧
      (realBssOld l a).map length = ((pgAttributeCols l).take 19).map (·.len.toNat) := by
    cases l
    · exact ⟨rfl, rfl, (realBss12_widths a hn).trans rfl⟩
    · exact ⟨rfl, rfl, (realBss14_widths a hn).trans rfl⟩
    · exact absurd rfl hl
  obtain ⟨rest, hdata⟩ := form_prefix _ _ 19 _ hreal.1 hreal.2.1 hreal.2.2
  rw [flat_D, append_assoc] at hdata
  exact decodeTuple_catalog dec hd _ _ im _ (attrBssD l a) _ (attr_WF l a im hn him) catSchema16 (attrBssD_widths l a hn)
    (fun j hj => isSome_of_take _ _ 19 hreal.1 (by cases l <;> rfl) j (Nat.lt_succ_of_lt hj))
    (by cases l <;> decide) hdata

/-! ### every schema decodes every tuple (what the automatic choice needs of the layouts it does not pick) -/

def catKindM (c : Column) : Prop := (c.typid, c.len) ∈ catKinds
instance (c : Column) : Decidable (catKindM c) := by unfold catKindM; infer_instance

theorem catKindM_pos (c : Column) (h : catKindM c) : 0 < c.len ∧ c.len ≠ -1 :=
  (by decide : ∀ p ∈ catKinds, 0 < p.2 ∧ p.2 ≠ -1) (c.typid, c.len) h

theorem readValue_cat (dec : Dec) (hd : CatDec dec) (data : Bytes) (off : Nat) (c : Column) (hk : catKindM c) :
    ∃ r, readValue dec data off c.typid c.len = .ok r := by
  rw [readValue_eq]
  refine tot_ite (fun _ => ⟨_, rfl⟩) fun _ => ?_
  rw [if_pos (catKindM_pos c hk).1]
  refine tot_ite (fun _ => ⟨_, rfl⟩) fun hshort => tot_bind ?_ fun _ _ => ⟨_, rfl⟩
  have := (catKindM_pos c hk).1
  exact catDec_total dec hd c.typid c.len hk _ (by rw [length_take]; omega)

theorem decodeCols_cat (dec : Dec) (hd : CatDec dec) (t : HeapTuple) : ∀ (S : List Column) (i off : Nat), (∀ c ∈ S, catKindM c) →
    ∃ ps, decodeCols dec t S i off = .ok ps
  | [], _, _, _ => ⟨_, rfl⟩
  | c :: cs, i, off, h => by
    rw [decodeCols_cons]
    refine tot_bind ?_ fun s _ => tot_bind (decodeCols_cat dec hd t cs (i + 1) s.2 fun x hx => h x (by simp [hx])) fun _ _ => ⟨_, rfl⟩
    exact colStep_total (fun o => readValue_cat dec hd t.data o c (h c (by simp))) _ off

theorem decodeTuple_catSchema (dec : Dec) (hd : CatDec dec) (t : HeapTuple) (S : List Column) (hne : S ≠ [])
    (hS : ∀ c ∈ S, catKindM c) : ∃ row, decodeTuple dec t S = .ok (some row) := by
  unfold decodeTuple
  have : ¬ (t.data.length = 0 ∧ S.length = 0) := by
    intro ⟨_, h⟩; exact hne (length_eq_zero_iff.mp h)
  rw [if_neg this]
  obtain ⟨ps, hps⟩ := decodeCols_cat dec hd t S 0 0 hS
  rw [hps]
  exact ⟨_, rfl⟩

theorem schema16_cat : ∀ c ∈ catSchemaAttr16, catKindM c := mkSchema_kinds _ catSchema16.kinds

def alignByte (a : AttrRow) : UInt8 := UInt8.ofNat (alignCh a.align)

/-- the keys ParsePGAttribute and the layout choice look up -/
structure AttrFields (row : Row) (a : AttrRow) : Prop where
  relid : getOID row "attrelid" = a.relid
  name : getString row "attname" = a.name
  typid : getOID row "atttypid" = a.typid
  len : getInt row "attlen" = a.len
  num : getInt row "attnum" = a.num
  align : getString row "attalign" = [alignByte a]
  storage : getString row "attstorage" = [UInt8.ofNat a.storage]

/-- the ranges PostgreSQL guarantees for a pg_attribute row (what `DbContent.WF` asks of each) -/
structure AttrWF (a : AttrRow) : Prop where
  name : nameOK a.name
  relid : a.relid < 2 ^ 32
  typid : a.typid < 2 ^ 32
  num : -32768 ≤ a.num ∧ a.num < 32768
  len : -32768 ≤ a.len ∧ a.len < 32768
  align : a.align = 1 ∨ a.align = 2 ∨ a.align = 4 ∨ a.align = 8

theorem attrFields_at (dec : Dec) (hd : CatDec dec) {s : List (String × Nat × Int)} (hs : CatSchema s) (bss : List Bytes)
    (hl : bss.length = s.length) (a : AttrRow) (hw : AttrWF a) (iLen iNum iAlign iStorage : Nat)
    (sRel : s[0]? = some ("attrelid", 26, 4)) (bRel : bss[0]? = some (le 4 a.relid))
    (sName : s[1]? = some ("attname", 19, 64)) (bName : bss[1]? = some (nameField a.name))
    (sTyp : s[2]? = some ("atttypid", 26, 4)) (bTyp : bss[2]? = some (le 4 a.typid))
    (sLen : s[iLen]? = some ("attlen", 21, 2)) (bLen : bss[iLen]? = some (le 2 (ofSigned 16 a.len)))
    (sNum : s[iNum]? = some ("attnum", 21, 2)) (bNum : bss[iNum]? = some (le 2 (ofSigned 16 a.num)))
    (sAlign : s[iAlign]? = some ("attalign", 18, 1)) (bAlign : bss[iAlign]? = some [alignByte a])
    (sStorage : s[iStorage]? = some ("attstorage", 18, 1)) (bStorage : bss[iStorage]? = some [UInt8.ofNat a.storage]) :
    AttrFields (toRow (catalogRow dec (s.map schemaCol) bss)) a := by
  rw [catalogRow_toRow dec hs _ hl]
  exact ⟨cat_oid dec hd hs _ "attrelid" 0 a.relid sRel bRel hw.relid, cat_name dec hd hs _ "attname" 1 a.name sName bName hw.name,
    cat_oid dec hd hs _ "atttypid" 2 a.typid sTyp bTyp hw.typid, cat_int2 dec hd hs _ "attlen" iLen a.len sLen bLen hw.len,
    cat_int2 dec hd hs _ "attnum" iNum a.num sNum bNum hw.num, cat_char dec hd hs _ "attalign" iAlign (alignByte a) sAlign bAlign,
    cat_char dec hd hs _ "attstorage" iStorage (UInt8.ofNat a.storage) sStorage bStorage⟩

/-- attlen, attnum, attalign, attstorage stand at columns 3, 4, 9, 10 of the 16 schema, 4, 5, 10, 11 of the 14–15 schema, 4, 5, 11, 10
of the 12–13 schema (attstorage before attalign there) -/
theorem fields_own (dec : Dec) (hd : CatDec dec) (l : Layout) (a : AttrRow) (hw : AttrWF a) : AttrFields (attrRowOf dec l a) a := by
  cases l
  · exact attrFields_at dec hd catSchema12 ((realBss12 a).take 18) rfl a hw 4 5 11 10 rfl rfl rfl rfl rfl rfl rfl rfl rfl rfl rfl rfl
      rfl rfl
  · exact attrFields_at dec hd catSchema14 (realBss14 a) rfl a hw 4 5 10 11 rfl rfl rfl rfl rfl rfl rfl rfl rfl rfl rfl rfl rfl rfl
  · exact attrFields_at dec hd catSchema16 (realBss16 a) rfl a hw 3 4 9 10 rfl rfl rfl rfl rfl rfl rfl rfl rfl rfl rfl rfl rfl rfl

/-- a 12–15 row under the 16 schema: `attalign` is the high byte of attcacheoff (−1), 0xFF -/
theorem align_D (dec : Dec) (hd : CatDec dec) (l : Layout) (a : AttrRow) :
    getString (toRow (attrRowD dec l a)) "attalign" = [255] := by
  rw [attrRowD, catalogRow_toRow dec catSchema16 _ (by cases l <;> rfl)]
  exact cat_char dec hd catSchema16 _ "attalign" 9 255 rfl rfl

/-- a 12–13 row under the 14–15 schema: `attstorage` is the row's attalign (and `attalign` its attstorage) -/
theorem storage_E (dec : Dec) (hd : CatDec dec) (a : AttrRow) :
    getString (toRow (attrRowE dec a)) "attstorage" = [alignByte a] := by
  rw [attrRowE, catalogRow_toRow dec catSchema14 _ rfl]
  exact cat_char dec hd catSchema14 _ "attstorage" 11 (alignByte a) rfl rfl

end PgVerif.Proofs.Cluster
