/-
  Catalog rows in PostgreSQL's real layouts read with the tool's catalog schemas: what getOID / getString / toInt read from a decoded
  row per column type, and with these pg_class and pg_database.
-/
import PgVerif.Proofs.ClusterCat
import PgVerif.Proofs.RowWF
namespace PgVerif.Proofs.Cluster
open PgVerif PgVerif.Model PgVerif.Spec PgVerif.Proofs PgVerif.Proofs.Rows List

theorem pairOK_oid (n : String) (v : Nat) : PairOK (cOid n) (dU32 v) := pairOK_fixed _ _ (by simp [cOid]) (by simp [cOid]) (by simp [cOid])
theorem pairOK_xid (n : String) (v : Nat) : PairOK (cXid n) (dU32 v) := pairOK_fixed _ _ (by simp [cXid]) (by simp [cXid]) (by simp [cXid])
theorem pairOK_f4 (n : String) (v : Nat) : PairOK (cFloat4 n) (dU32 v) := pairOK_fixed _ _ (by simp [cFloat4]) (by simp [cFloat4]) (by simp [cFloat4])
theorem pairOK_i4 (n : String) (v : Int) : PairOK (cInt4 n) (dI32 v) := pairOK_fixed _ _ (by simp [cInt4]) (by simp [cInt4]) (by simp [cInt4])
theorem pairOK_i2 (n : String) (v : Int) : PairOK (cInt2 n) (dI16 v) := pairOK_fixed _ _ (by simp [cInt2]) (by simp [cInt2]) (by simp [cInt2])
theorem pairOK_bool (n : String) (b : Bool) : PairOK (cBool n) (dBool b) := pairOK_fixed _ _ (by simp [cBool]) (by simp [cBool]) (by simp [cBool])
theorem pairOK_char (n : String) (v : Nat) : PairOK (cChar n) (dByte v) := pairOK_fixed _ _ (by simp [cChar]) (by simp [cChar]) (by simp [cChar])
theorem pairOK_name (n : String) (v : Bytes) (h : v.length ≤ 64) : PairOK (cName n) (dName v) :=
  pairOK_fixed _ _ (by simp [cName]) (by simp [cName]) (by simp [cName]; omega)
theorem pairOK_text (n : String) (p : Bytes) (h : p.length + 4 < 2 ^ 30) : PairOK (cText n) (dText p) := by
  refine ⟨by simp [cText], ?_⟩
  intro d hd
  simp only [dText, textDatum, Option.some.injEq] at hd
  subst hd
  split
  · rename_i h1; exact ⟨rfl, h1⟩
  · exact ⟨rfl, h⟩

theorem isSome_of_take (vals : List (Option Datum)) (bss : List Bytes) (m : Nat)
    (h : vals.take m = bss.map fun bs => some (Datum.fixed bs)) (hm : bss.length = m) :
    ∀ j, j < m → (vals.getD j none).isSome = true := by
  intro j hj
  have h1 : (vals.take m)[j]? = vals[j]? := getElem?_take_of_lt hj
  rw [h, getElem?_map] at h1
  have hj' : j < bss.length := by omega
  rw [getElem?_eq_getElem hj'] at h1
  simp only [Option.map_some] at h1
  simp [List.getD, ← h1]

theorem form_prefix (cols : List Col) (vals : List (Option Datum)) (n : Nat) (bss : List Bytes)
    (hv : vals.take n = bss.map fun bs => some (Datum.fixed bs)) (hp : packedFrom 0 (cols.take n) = true)
    (hw : bss.map length = (cols.take n).map (·.len.toNat)) : ∃ rest, form cols vals 0 = bss.flatten ++ rest :=
  ⟨_, by rw [form_split n cols vals 0, hv, form_flat 0 _ bss hp hw]⟩

/-- the first attributes of the row are the schema's columns `s`, `bss` their byte strings -/
theorem decodeTuple_prefix (dec : Dec) (hd : CatDec dec) (cols : List Col) (vals : List (Option Datum)) (infomask : Nat)
    {s : List (String × Nat × Int)} (hs : CatSchema s) (bss : List Bytes) (hok : AllOK cols vals) (hc : cols.length ≤ 1600)
    (him : infomask < 65536) (hcols : cols.take s.length = s.map schemaCol)
    (hv : vals.take s.length = bss.map fun bs => some (Datum.fixed bs)) (hw : bss.map length = s.map (·.2.2.toNat)) :
    decodeTuple dec (mtuple (formRow cols vals infomask)) (mkSchema s) = .ok (some (toRow (catalogRow dec (s.map schemaCol) bss))) := by
  have hl : bss.length = s.length := by simpa using congrArg length hw
  have hle : s.length ≤ cols.length := by
    have := congrArg length hcols
    rw [length_take, length_map] at this
    omega
  obtain ⟨rest, hdata⟩ := form_prefix cols vals s.length bss hv (by rw [hcols]; exact hs.packed) (by rw [hcols, hw, map_map]; rfl)
  exact decodeTuple_catalog dec hd cols vals infomask s bss rest (catalog_WF cols vals infomask hok hc him) hs hw
    (isSome_of_take vals bss s.length hv hl) hle hdata

def nameField (n : Bytes) : Bytes := n ++ zeros (64 - n.length)
theorem nameField_length (n : Bytes) (h : n.length ≤ 64) : (nameField n).length = 64 := by simp [nameField]; omega

def bBool (b : Bool) : Bytes := [if b then 1 else 0]
def bByte (v : Nat) : Bytes := [UInt8.ofNat v]

theorem catalogRow_lookup (dec : Dec) : ∀ (cols : List Col) (bss : List Bytes) (k : Bytes) (i : Nat) (c : Col) (bs : Bytes),
    (cols.map (·.name)).idxOf k = i → cols[i]? = some c → bss[i]? = some bs →
    (catalogRow dec cols bss).lookup k = some (okVal (dec bs c.typid))
  | [], _, _, _, _, _, _, hc, _ => by simp at hc
  | _ :: _, [], _, _, _, _, _, _, hb => by simp at hb
  | c' :: cs, bs' :: bss, k, i, c, bs, hidx, hc, hb => by
    simp only [catalogRow, lookup_cons, map_cons, idxOf_cons] at hidx ⊢
    by_cases hk : c'.name = k
    · rw [beq_iff_eq.mpr hk, cond_true] at hidx
      subst hidx
      simp only [getElem?_cons_zero, Option.some.injEq] at hc hb
      rw [beq_iff_eq.mpr hk.symm, hc, hb]
    · rw [beq_eq_false_iff_ne.mpr hk, cond_false] at hidx
      rw [beq_eq_false_iff_ne.mpr fun h : k = c'.name => hk h.symm]
      subst hidx
      exact catalogRow_lookup dec cs bss k _ c bs rfl (by simpa using hc) (by simpa using hb)

/-- found by its name, because the names are distinct -/
theorem schemaRow_lookup (dec : Dec) {s : List (String × Nat × Int)} (hs : CatSchema s) (bss : List Bytes) (key : String)
    (t : Nat) (l : Int) (i : Nat) (bs : Bytes) (he : s[i]? = some (key, t, l)) (hb : bss[i]? = some bs) :
    (catalogRow dec (s.map schemaCol) bss).lookup (strBytes key) = some (okVal (dec bs t)) := by
  obtain ⟨hi, hei⟩ := List.getElem?_eq_some_iff.mp he
  refine catalogRow_lookup dec _ bss _ i (schemaCol (key, t, l)) bs ?_ (by rw [getElem?_map, he]; rfl) hb
  have hk : (s.map (·.1))[i]'(by rw [length_map]; exact hi) = key := by rw [getElem_map, hei]
  rw [schemaCol_names, idxOf_strBytes, ← hk]
  exact hs.names.idxOf_getElem i _

theorem okVal_ok (v : GoVal) : okVal (.ok v) = v := rfl

theorem cstring_name' (name : Bytes) (h0 : (0 : UInt8) ∉ name) (hl : name.length ≤ 63) :
    cstring (name ++ zeros (64 - name.length)) 64 = name := by
  have := cstring_name name [] h0 hl
  simpa using this

theorem cat_oid (dec : Dec) (hd : CatDec dec) {s : List (String × Nat × Int)} (hs : CatSchema s) (bss : List Bytes) (key : String) (i : Nat)
    (v : Nat) (he : s[i]? = some (key, 26, 4)) (hb : bss[i]? = some (le 4 v)) (hv : v < 2 ^ 32) :
    getOID (catalogRow dec (s.map schemaCol) bss) key = v := by
  have := rd_le 4 v [] (by omega)
  rw [append_nil] at this
  have h : (catalogRow dec (s.map schemaCol) bss).lookup (strBytes key) = some (okVal (dec (le 4 v) 26)) :=
    schemaRow_lookup dec hs bss key 26 4 i _ he hb
  unfold getOID
  rw [h, hd.oid _ (le_length 4 v), okVal_ok, this]
  simp only
  rw [if_pos ⟨by omega, by omega⟩]
  simp

/-- getString gives the name without its NUL padding -/
theorem cat_name (dec : Dec) (hd : CatDec dec) {s : List (String × Nat × Int)} (hs : CatSchema s) (bss : List Bytes) (key : String) (i : Nat)
    (n : Bytes) (he : s[i]? = some (key, 19, 64)) (hb : bss[i]? = some (nameField n)) (hn : nameOK n) :
    getString (catalogRow dec (s.map schemaCol) bss) key = n := by
  have h : (catalogRow dec (s.map schemaCol) bss).lookup (strBytes key) = some (okVal (dec (n ++ zeros (64 - n.length)) 19)) :=
    schemaRow_lookup dec hs bss key 19 64 i _ he hb
  unfold getString
  rw [h, hd.name _ (by have := hn.2.1; simp; omega), okVal_ok, cstring_name' n hn.2.2 hn.2.1]

theorem cat_int2 (dec : Dec) (hd : CatDec dec) {s : List (String × Nat × Int)} (hs : CatSchema s) (bss : List Bytes) (key : String) (i : Nat)
    (v : Int) (he : s[i]? = some (key, 21, 2)) (hb : bss[i]? = some (le 2 (ofSigned 16 v)))
    (hv : -32768 ≤ v ∧ v < 32768) : getInt (catalogRow dec (s.map schemaCol) bss) key = v := by
  have h2 : toSigned 16 (ofSigned 16 v) = v := toSigned_ofSigned 16 (by decide) v hv.1 hv.2
  have := rd_le 2 (ofSigned 16 v) [] (ofSigned_lt 16 v)
  rw [append_nil] at this
  have h : (catalogRow dec (s.map schemaCol) bss).lookup (strBytes key) = some (okVal (dec (le 2 (ofSigned 16 v)) 21)) :=
    schemaRow_lookup dec hs bss key 21 2 i _ he hb
  unfold getInt
  rw [h, hd.int2 _ (le_length 2 _), okVal_ok, this, h2]

theorem cat_char (dec : Dec) (hd : CatDec dec) {s : List (String × Nat × Int)} (hs : CatSchema s) (bss : List Bytes) (key : String) (i : Nat)
    (b : UInt8) (he : s[i]? = some (key, 18, 1)) (hb : bss[i]? = some [b]) :
    getString (catalogRow dec (s.map schemaCol) bss) key = [b] := by
  have h : (catalogRow dec (s.map schemaCol) bss).lookup (strBytes key) = some (okVal (dec [b] 18)) :=
    schemaRow_lookup dec hs bss key 18 1 i _ he hb
  unfold getString
  rw [h, hd.char _ rfl, okVal_ok]

theorem classVals_OK (r : ClassRow) (hn : r.name.length ≤ 64) : AllOK pgClassCols (classVals r) := by
  simp only [AllOK, pgClassCols, classVals, pairOK_oid, pairOK_name _ _ hn, pairOK_i4, pairOK_i2, pairOK_bool, pairOK_f4, pairOK_xid,
    pairOK_char, pairOK_none, cArr, cText, true_or, or_true, and_self]

/-- the 17 attributes of pg_class the tool's schema knows: the bytes of `Spec.classVals`, datum by datum, so that the two agree by `rfl` -/
def classBss (r : ClassRow) : List Bytes :=
  [le 4 r.oid, nameField r.name, le 4 r.nsp, le 4 (if r.kind = 114 then r.oid + 2 else 0), le 4 0, le 4 10,
   le 4 (if r.kind = 114 ∨ r.kind = 116 ∨ r.kind = 109 then 2 else if r.kind = 105 then 403 else 0),
   le 4 r.filenode, le 4 r.tblspc, le 4 (ofSigned 32 r.pages), le 4 r.tuples, le 4 (ofSigned 32 0),
   le 4 r.toast, bBool r.hasIndex, bBool false, bByte r.persistence, bByte r.kind]

theorem catSchemaClass : CatSchema Generated.Cluster.schemaPGClass :=
  ⟨by decide +kernel, by decide +kernel, by simp [Generated.Cluster.schemaPGClass], by decide⟩

theorem classBss_widths (r : ClassRow) (hn : r.name.length ≤ 64) :
    (classBss r).map length = Generated.Cluster.schemaPGClass.map (·.2.2.toNat) := by
  simp only [classBss, bBool, bByte, map_cons, map_nil, le_length, nameField_length r.name hn, length_cons, length_nil]
  rfl

def classRow (dec : Dec) (r : ClassRow) : Row := catalogRow dec (Generated.Cluster.schemaPGClass.map schemaCol) (classBss r)

theorem class_decode (dec : Dec) (hd : CatDec dec) (r : ClassRow) (im : Nat) (hn : r.name.length ≤ 64) (him : im < 65536) :
    decodeTuple dec (mtuple (formRow pgClassCols (classVals r) im)) schemaPGClass = .ok (some (toRow (classRow dec r))) :=
  decodeTuple_prefix dec hd pgClassCols (classVals r) im catSchemaClass (classBss r) (classVals_OK r hn) (by decide) him rfl rfl
    (classBss_widths r hn)

theorem classRow_info (dec : Dec) (hd : CatDec dec) (r : ClassRow) (hn : nameOK r.name) (ho : r.oid < 2 ^ 32)
    (hf : r.filenode < 2 ^ 32) : infoOfRow (toRow (classRow dec r)) = infoOfRel r := by
  unfold classRow infoOfRow infoOfRel
  rw [catalogRow_toRow dec catSchemaClass _ rfl, cat_oid dec hd catSchemaClass _ "oid" 0 r.oid rfl rfl ho,
    cat_oid dec hd catSchemaClass _ "relfilenode" 7 r.filenode rfl rfl hf,
    cat_name dec hd catSchemaClass _ "relname" 1 r.name rfl rfl hn,
    cat_char dec hd catSchemaClass _ "relkind" 16 (UInt8.ofNat r.kind) rfl rfl]

/-- the statement of `C01_class_reader`: the reader hypothesis of `C01_dump_partial` -/
theorem readRows_class (dec : Dec) (hd : CatDec dec) (cls : HeapOf ClassRow)
    (hv : ∀ s ∈ cls.versions, nameOK s.val.name ∧ s.val.oid < 2 ^ 32 ∧ s.val.filenode < 2 ^ 32 ∧ s.infomask < 65536)
    (hfit : pagesFit (cls.map fun pg => pg.map fun s => formRow pgClassCols (classVals s.val) s.infomask)) :
    ∃ rows, readRows dec (encHeapOf pgClassCols classVals cls) schemaPGClass true = .ok rows ∧
      rows.map infoOfRow = cls.live.map infoOfRel := by
  refine ⟨_, readRows_catalog dec pgClassCols classVals cls schemaPGClass (fun r => toRow (classRow dec r)) ?_ hfit ?_, ?_⟩
  · intro s hs
    obtain ⟨hn, _, _, him⟩ := hv s hs
    exact catalog_WF pgClassCols (classVals s.val) s.infomask (classVals_OK s.val (by have := hn.2.1; omega)) (by decide) him
  · intro s hs
    obtain ⟨hn, _, _, him⟩ := hv s hs
    exact class_decode dec hd s.val s.infomask (by have := hn.2.1; omega) him
  · rw [map_map]
    apply map_congr_left
    intro r hr
    obtain ⟨s, hs, rfl⟩ := live_mem_versions cls r hr
    obtain ⟨hn, ho, hf, _⟩ := hv s hs
    exact classRow_info dec hd s.val hn ho hf

theorem locale_eq : locale = [101, 110, 95, 85, 83, 46, 85, 84, 70, 45, 56] := by decide +kernel

theorem dbVals_OK (v : Nat) (d : DbRow) (hn : d.name.length ≤ 64) : AllOK (pgDatabaseCols v) (dbVals v d) := by
  have hl : locale.length ≤ 64 ∧ locale.length + 4 < 2 ^ 30 := by rw [locale_eq]; decide
  unfold pgDatabaseCols dbVals
  split <;>
  simp only [AllOK, pgDatabaseColsNew, pgDatabaseColsOld, pairOK_oid, pairOK_name _ _ hn, pairOK_name _ _ hl.1, pairOK_text _ _ hl.2,
    pairOK_i4, pairOK_bool, pairOK_xid, pairOK_char, pairOK_none (cText _) (Or.inr (Or.inr (Or.inl rfl))), pairOK_none, cArr,
    true_or, or_true, and_self]

def dbBss (d : DbRow) : List Bytes := [le 4 d.oid, nameField d.name]

theorem catSchemaDb : CatSchema Generated.Cluster.schemaPGDatabase :=
  ⟨by decide +kernel, by decide +kernel, by simp [Generated.Cluster.schemaPGDatabase], by decide⟩

theorem dbCols_length (v : Nat) : (pgDatabaseCols v).length ≤ 1600 := by
  unfold pgDatabaseCols; split <;> decide

def dbRow (dec : Dec) (d : DbRow) : Row := catalogRow dec (Generated.Cluster.schemaPGDatabase.map schemaCol) (dbBss d)

theorem db_decode (dec : Dec) (hd : CatDec dec) (v : Nat) (d : DbRow) (im : Nat) (hn : d.name.length ≤ 64) (him : im < 65536) :
    decodeTuple dec (mtuple (formRow (pgDatabaseCols v) (dbVals v d) im)) schemaPGDatabase = .ok (some (toRow (dbRow dec d))) := by
  refine decodeTuple_prefix dec hd (pgDatabaseCols v) (dbVals v d) im catSchemaDb (dbBss d) (dbVals_OK v d hn) (dbCols_length v) him
    ?_ ?_ (by simp only [dbBss, map_cons, map_nil, le_length, nameField_length d.name hn]; rfl)
  · unfold pgDatabaseCols; split <;> rfl
  · unfold dbVals; split <;> rfl

theorem dbRow_fields (dec : Dec) (hd : CatDec dec) (d : DbRow) (hn : nameOK d.name) (ho : d.oid < 2 ^ 32) :
    getOID (toRow (dbRow dec d)) "oid" = d.oid ∧ getString (toRow (dbRow dec d)) "datname" = d.name := by
  unfold dbRow
  rw [catalogRow_toRow dec catSchemaDb _ rfl]
  exact ⟨cat_oid dec hd catSchemaDb _ "oid" 0 d.oid rfl rfl ho, cat_name dec hd catSchemaDb _ "datname" 1 d.name rfl rfl hn⟩

/-- either layout, any number of pages, live and dead versions: the live databases, in heap order -/
theorem parsePGDatabase_enc (dec : Dec) (hd : CatDec dec) (v : Nat) (dbs : HeapOf DbRow)
    (hv : ∀ s ∈ dbs.versions, nameOK s.val.name ∧ 0 < s.val.oid ∧ s.val.oid < 2 ^ 32 ∧ s.infomask < 65536)
    (hfit : pagesFit (dbs.map fun pg => pg.map fun s => formRow (pgDatabaseCols v) (dbVals v s.val) s.infomask)) :
    parsePGDatabase (readRows dec) (encHeapOf (pgDatabaseCols v) (dbVals v) dbs) =
      .ok (dbs.live.map fun d => ⟨d.oid, d.name⟩) := by
  unfold parsePGDatabase
  rw [readRows_catalog dec (pgDatabaseCols v) (dbVals v) dbs schemaPGDatabase (fun d => toRow (dbRow dec d)) ?_ hfit ?_]
  · simp only [ok_bind, pure_eq_ok]
    congr 1
    rw [filterMap_map]
    have : ∀ d ∈ dbs.live, ((fun row : Row =>
        if getOID row "oid" > 0 ∧ getString row "datname" ≠ [] then some (⟨getOID row "oid", getString row "datname"⟩ : DatabaseInfo) else none) ∘
        fun d => toRow (dbRow dec d)) d = some ⟨d.oid, d.name⟩ := by
      intro d hdm
      obtain ⟨s, hs, rfl⟩ := live_mem_versions dbs d hdm
      obtain ⟨hn, hpos, ho, _⟩ := hv s hs
      obtain ⟨f1, f2⟩ := dbRow_fields dec hd s.val hn ho
      simp only [Function.comp, f1, f2]
      rw [if_pos ⟨hpos, by intro h; have := hn.1; rw [h] at this; simp at this⟩]
    rw [filterMap_congr _ _ _ this]
    simp
  · intro s hs
    obtain ⟨hn, _, _, him⟩ := hv s hs
    exact catalog_WF _ _ _ (dbVals_OK v s.val (by have := hn.2.1; omega)) (dbCols_length v) him
  · intro s hs
    obtain ⟨hn, _, _, him⟩ := hv s hs
    exact db_decode dec hd v s.val s.infomask (by have := hn.2.1; omega) him

end PgVerif.Proofs.Cluster
