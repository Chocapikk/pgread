/-
  Reading a catalog heap (PostgreSQL's real layout, `Spec.encHeapOf`) with one of the tool's fixed catalog schemas (catalog.go), which
  know only a prefix of the attributes.
-/
import PgVerif.Proofs.ClusterPages
import PgVerif.Proofs.RowsTuple
import PgVerif.Model.Cluster
import PgVerif.Model.RowsDec
namespace PgVerif.Proofs.Cluster
open PgVerif PgVerif.Model PgVerif.Spec PgVerif.Proofs PgVerif.Proofs.Rows List

/-- what the catalog logic needs of the scalar decoder (`DecodeType`, area scalars) on the column types of the tool's catalog
schemas; `int4`, `float4` and `bool` columns are never looked at and need only decode -/
structure CatDec (dec : Dec) : Prop where
  oid : ∀ bs : Bytes, bs.length = 4 → dec bs 26 = .ok (.int (rd 4 bs))
  name : ∀ bs : Bytes, bs.length = 64 → dec bs 19 = .ok (.str (cstring bs 64))
  char : ∀ bs : Bytes, bs.length = 1 → dec bs 18 = .ok (.str bs)
  int2 : ∀ bs : Bytes, bs.length = 2 → dec bs 21 = .ok (.int (toSigned 16 (rd 2 bs)))
  int4 : ∀ bs : Bytes, bs.length = 4 → ∃ g, dec bs 23 = .ok g
  float4 : ∀ bs : Bytes, bs.length = 4 → ∃ g, dec bs 700 = .ok g
  bool : ∀ bs : Bytes, bs.length = 1 → ∃ g, dec bs 16 = .ok g

def okVal (x : M GoVal) : GoVal := match x with | .ok v => v | .error _ => .nil

theorem okVal_of_ok (x : M GoVal) (h : ∃ v, x = .ok v) : x = .ok (okVal x) := by
  obtain ⟨v, rfl⟩ := h; rfl

/-- (type oid, attlen) of the columns of the tool's catalog schemas -/
def catKinds : List (Int × Int) := [(26, 4), (19, 64), (18, 1), (21, 2), (23, 4), (700, 4), (16, 1)]

theorem catDec_total (dec : Dec) (hd : CatDec dec) (t l : Int) (hk : (t, l) ∈ catKinds) (bs : Bytes) (hl : (bs.length : Int) = l) :
    ∃ v, dec bs t = .ok v := by
  unfold catKinds at hk
  simp only [mem_cons, Prod.mk.injEq, not_mem_nil, or_false] at hk
  rcases hk with ⟨h1, h2⟩ | ⟨h1, h2⟩ | ⟨h1, h2⟩ | ⟨h1, h2⟩ | ⟨h1, h2⟩ | ⟨h1, h2⟩ | ⟨h1, h2⟩ <;> rw [h1] <;> rw [h2] at hl
  · exact ⟨_, hd.oid bs (by omega)⟩
  · exact ⟨_, hd.name bs (by omega)⟩
  · exact ⟨_, hd.char bs (by omega)⟩
  · exact ⟨_, hd.int2 bs (by omega)⟩
  · exact hd.int4 bs (by omega)
  · exact hd.float4 bs (by omega)
  · exact hd.bool bs (by omega)

/-! A schema literal of catalog.go / dropped.go is a generated table of (Name, TypID, Len); Num and Align are left zero there,
so DecodeTuple aligns each column by `typeAlign`.  The `Col`s a table describes are therefore a function of the table. -/

def schemaCol (e : String × Nat × Int) : Col := ⟨strBytes e.1, e.2.1, e.2.2, typeAlign e.2.1 e.2.2⟩

theorem colsMatch_mkSchema : ∀ (i : Nat) (s : List (String × Nat × Int)), ColsMatch i (mkSchema s) (s.map schemaCol)
  | _, [] => trivial
  | i, (_, _, _) :: s => ⟨⟨rfl, rfl, rfl, Or.inl rfl, rfl⟩, colsMatch_mkSchema (i + 1) s⟩

theorem schemaCol_names (s : List (String × Nat × Int)) : (s.map schemaCol).map (·.name) = (s.map (·.1)).map strBytes := by
  rw [map_map, map_map]; rfl

/-- fixed-width columns that follow each other without padding, from offset `o` on -/
def packedFrom : Nat → List Col → Bool
  | _, [] => true
  | o, c :: cs => alignUp o c.align == o && packedFrom (o + c.len.toNat) cs

theorem form_flat : ∀ (o : Nat) (cols : List Col) (bss : List Bytes), packedFrom o cols = true →
    bss.map length = cols.map (·.len.toNat) → form cols (bss.map fun bs => some (Datum.fixed bs)) o = bss.flatten
  | _, [], [], _, _ => rfl
  | _, [], _ :: _, _, h => by simp at h
  | _, _ :: _, [], _, h => by simp at h
  | o, c :: cs, bs :: bss, hp, hw => by
    simp only [packedFrom, Bool.and_eq_true, beq_iff_eq] at hp
    simp only [map_cons, cons.injEq] at hw
    have hpad : pad o c.align = [] := by simp [pad, hp.1, zeros]
    simp only [map_cons, form, formDatum, hpad, nil_append, flatten_cons]
    rw [form_flat (o + bs.length) cs bss (by rw [hw.1]; exact hp.2) hw.2]

/-- for a generated table all four are closed facts (`names` is about string literals, which `simp` tells apart by their first
differing character) -/
structure CatSchema (s : List (String × Nat × Int)) : Prop where
  kinds : ∀ e ∈ s, ((e.2.1 : Int), e.2.2) ∈ catKinds
  packed : packedFrom 0 (s.map schemaCol) = true
  names : (s.map (·.1)).Nodup
  ne : s ≠ []

theorem mkSchema_ne {s : List (String × Nat × Int)} (h : s ≠ []) : mkSchema s ≠ [] :=
  fun e => h (map_eq_nil_iff.mp e)

theorem mkSchema_kinds (s : List (String × Nat × Int)) (h : ∀ e ∈ s, ((e.2.1 : Int), e.2.2) ∈ catKinds) :
    ∀ c ∈ mkSchema s, (c.typid, c.len) ∈ catKinds := by
  intro c hc
  obtain ⟨⟨n, t, l⟩, he, rfl⟩ := mem_map.mp hc
  exact h _ he

def FixedOK (c : Col) (bs : Bytes) : Prop := Pow2Align c.align ∧ 0 < c.len ∧ (bs.length : Int) = c.len ∧ (c.typid, c.len) ∈ catKinds

/-- the decoded row of a tuple that starts with the fixed-width attributes `bss` of the columns `cols`.  `okVal` keeps the row a
plain list; under `CatDec` the decoder returns on exactly these widths (`catDec_total`, used in `expectedCols_fixed`), so no error
is hidden -/
def catalogRow (dec : Dec) : List Col → List Bytes → Row
  | c :: cs, bs :: bss => (c.name, okVal (dec bs c.typid)) :: catalogRow dec cs bss
  | _, _ => []

/-- of the fixed-width START of a row, under the columns of a tool schema, what the column loop and the scalar decoder need: a catalog
column type and exactly its width (`AllOK` of Proofs/RowWF.lean is about a WHOLE catalog row, NULLs and variable widths included) -/
def AllFixed : List Col → List Bytes → Prop
  | [], [] => True
  | c :: cs, bs :: bss => FixedOK c bs ∧ AllFixed cs bss
  | _, _ => False

theorem catKinds_align (t l : Int) (h : (t, l) ∈ catKinds) : Pow2Align (typeAlign t l) ∧ 0 < l := by
  have := (by unfold Pow2Align; decide : ∀ p ∈ catKinds, Pow2Align (typeAlign p.1 p.2) ∧ 0 < p.2) (t, l) h
  exact this

theorem allFixed_schema : ∀ (s : List (String × Nat × Int)) (bss : List Bytes), (∀ e ∈ s, ((e.2.1 : Int), e.2.2) ∈ catKinds) →
    bss.map length = s.map (·.2.2.toNat) → AllFixed (s.map schemaCol) bss
  | [], [], _, _ => trivial
  | [], _ :: _, _, h => by simp at h
  | _ :: _, [], _, h => by simp at h
  | e :: s, bs :: bss, hk, hw => by
    simp only [map_cons, cons.injEq] at hw
    have hke := hk e (by simp)
    obtain ⟨ha, hpos⟩ := catKinds_align _ _ hke
    exact ⟨⟨ha, hpos, by show (bs.length : Int) = e.2.2; omega, hke⟩, allFixed_schema s bss (fun x hx => hk x (by simp [hx])) hw.2⟩

theorem expectedCols_fixed (dec : Dec) (hd : CatDec dec) :
    ∀ (cols : List Col) (bss : List Bytes) (k : Nat), cols.length ≤ k → AllFixed cols bss →
      expectedCols (varlenaVal dec) cols (bss.map fun bs => some (.fixed bs)) k = .ok (catalogRow dec cols bss)
  | [], [], _, _, _ => rfl
  | [], _ :: _, _, _, h => h.elim
  | _ :: _, [], _, _, h => h.elim
  | c :: cs, bs :: bss, k, hk, h => by
    obtain ⟨⟨_, hpos, hlen, hkind⟩, hrest⟩ := h
    cases k with
    | zero => simp at hk
    | succ k =>
      simp only [map_cons, expectedCols, expectedVal, Nat.succ_sub_one]
      rw [varlenaVal_nonempty dec bs c.typid (by omega), okVal_of_ok _ (catDec_total dec hd _ _ hkind bs hlen)]
      simp only [ok_bind]
      rw [expectedCols_fixed dec hd cs bss k (by simp at hk; omega) hrest]
      rfl

theorem catalogRow_names (dec : Dec) : ∀ (cols : List Col) (bss : List Bytes), bss.length = cols.length →
    (catalogRow dec cols bss).map (·.1) = cols.map (·.name)
  | [], [], _ => rfl
  | c :: cs, bs :: bss, h => by
    simp only [catalogRow, map_cons]
    rw [catalogRow_names dec cs bss (by simpa using h)]
  | [], _ :: _, h => by simp at h
  | _ :: _, [], h => by simp at h

/-- Go's map of the decoded row has one entry per column: the names of a schema are distinct -/
theorem catalogRow_toRow (dec : Dec) {s : List (String × Nat × Int)} (hs : CatSchema s) (bss : List Bytes)
    (hl : bss.length = s.length) : toRow (catalogRow dec (s.map schemaCol) bss) = catalogRow dec (s.map schemaCol) bss := by
  apply toRow_of_nodup
  rw [catalogRow_names dec _ _ (by rw [hl, length_map]), schemaCol_names]
  exact strBytes_nodup hs.names

theorem fixedOK_zip : ∀ (cols : List Col) (bss : List Bytes), AllFixed cols bss →
    ∀ p ∈ cols.zip (bss.map fun bs => some (Datum.fixed bs)), Pow2Align p.1.align ∧ ∀ d, p.2 = some d → d.WF p.1
  | [], [], _ => by intro p hp; simp at hp
  | [], _ :: _, h => h.elim
  | _ :: _, [], h => h.elim
  | c :: cs, bs :: bss, h => by
    intro p hp
    simp only [map_cons, zip_cons_cons, mem_cons] at hp
    rcases hp with rfl | hp
    · exact ⟨h.1.1, fun d hd => by cases hd; exact ⟨h.1.2.1, h.1.2.2.1⟩⟩
    · exact fixedOK_zip cs bss h.2 p hp

theorem liveBits_formTuple (cols : List Col) (r : RowV) : liveBits (formTuple cols r).infomask = liveBits r.infomask :=
  formTupleH_infomask_live {} cols r

/-- `bss` need not be the row's own attributes: a schema laid over another layout cuts the same bytes differently -/
theorem decodeTuple_catalog (dec : Dec) (hd : CatDec dec) (cols : List Col) (vals : List (Option Datum)) (infomask : Nat)
    (s : List (String × Nat × Int)) (bss : List Bytes) (rest : Bytes)
    (hwf : RowV.WF cols ⟨vals, cols.length, infomask⟩) (hs : CatSchema s) (hw : bss.map length = s.map (·.2.2.toNat))
    (hsome : ∀ j, j < s.length → (vals.getD j none).isSome = true) (hle : s.length ≤ cols.length)
    (hdata : form cols vals 0 = bss.flatten ++ rest) :
    decodeTuple dec (mtuple (formRow cols vals infomask)) (mkSchema s) = .ok (some (toRow (catalogRow dec (s.map schemaCol) bss))) := by
  have hok := allFixed_schema s bss hs.kinds hw
  have hw' : bss.map length = (s.map schemaCol).map (·.len.toNat) := by rw [hw, map_map]; rfl
  have hvl : vals.length = cols.length := hwf.1
  unfold formRow
  rw [formTuple_eq_H, mtuple_formTupleH {} cols _ hwf]
  generalize (mtuple (formTupleH {} cols ⟨vals, cols.length, infomask⟩)).header = hdr
  unfold decodeTuple
  have : ¬ ((rowTuple hdr cols ⟨vals, cols.length, infomask⟩).data.length = 0 ∧ (mkSchema s).length = 0) := by
    intro ⟨_, h⟩; exact mkSchema_ne hs.ne (length_eq_zero_iff.mp h)
  rw [if_neg this]
  have hl : bss.length = s.length := by simpa using congrArg length hw
  -- the first `s.length` attributes of the row are stored and not NULL, like the `some` values standing for `bss`
  have hnull : ∀ j, j < (s.map schemaCol).length → j < (bss.map fun bs => some (Datum.fixed bs)).length →
      (rowTuple hdr cols ⟨vals, cols.length, infomask⟩).isNull (((0 + j : Nat) : Int) + 1) =
        ((bss.map fun bs => some (Datum.fixed bs)).getD j none).isNone := by
    intro j hj hj'
    rw [length_map] at hj hj'
    rw [Nat.zero_add, rowTuple_isNull hdr cols ⟨vals, cols.length, infomask⟩ j (show j < cols.length by omega)
      (show j < vals.length by omega)]
    have := hsome j hj
    cases h : vals.getD j none with
    | none => rw [h] at this; cases this
    | some _ => simp [List.getD, getElem?_eq_getElem hj']
  have hdata' : (rowTuple hdr cols ⟨vals, cols.length, infomask⟩).data =
      [] ++ (form ((s.map schemaCol).take (s.map schemaCol).length)
        ((bss.map fun bs => some (Datum.fixed bs)).take (s.map schemaCol).length) ([] : Bytes).length ++ rest) := by
    simp only [rowTuple, nil_append, length_nil]
    rw [take_of_length_le (Nat.le_refl _), take_of_length_le (by omega), hdata, take_of_length_le (Nat.le_refl _),
      take_of_length_le (by rw [length_map, length_map, hl]; exact Nat.le_refl _), form_flat 0 _ bss hs.packed hw']
  have := decodeCols_form dec _ (s.map schemaCol) (mkSchema s) (bss.map fun bs => some (Datum.fixed bs)) 0 (s.map schemaCol).length
    [] rest (colsMatch_mkSchema 0 s) (by rw [length_map, length_map, hl]) (fixedOK_zip _ bss hok) hnull (Or.inr (Nat.le_refl _)) hdata'
  simp only [length_nil] at this
  rw [this, expectedCols_fixed dec hd (s.map schemaCol) bss (s.map schemaCol).length (Nat.le_refl _) hok]
  rfl

theorem encHeapOf_tuples_WF {α} (cols : List Col) (vals : α → List (Option Datum)) (h : HeapOf α)
    (hwf : ∀ s ∈ h.versions, RowV.WF cols ⟨vals s.val, cols.length, s.infomask⟩) :
    ∀ ts ∈ h.map (fun pg => pg.map fun s => formRow cols (vals s.val) s.infomask), ∀ t ∈ ts, t.WF := by
  intro ts hts t ht
  obtain ⟨pg, hpg, rfl⟩ := mem_map.mp hts
  obtain ⟨s, hs, rfl⟩ := mem_map.mp ht
  exact formTupleH_WF {} (by decide) cols _ (hwf s (mem_flatten.mpr ⟨pg, hpg, hs⟩))

theorem live_mem_versions {α} (h : HeapOf α) (a : α) (ha : a ∈ h.live) : ∃ s ∈ h.versions, s.val = a := by
  unfold HeapOf.live at ha
  obtain ⟨s, hs, rfl⟩ := mem_map.mp ha
  exact ⟨s, (mem_filter.mp hs).1, rfl⟩

theorem readRows_encHeapOf {α} (dec : Dec) (cols : List Col) (vals : α → List (Option Datum)) (h : HeapOf α) (S : List Column)
    (hwf : ∀ s ∈ h.versions, RowV.WF cols ⟨vals s.val, cols.length, s.infomask⟩)
    (hfit : pagesFit (h.map fun pg => pg.map fun s => formRow cols (vals s.val) s.infomask)) :
    readRows dec (encHeapOf cols vals h) S true =
      collectM (fun s : Stored α => decodeTuple dec (mtuple (formRow cols (vals s.val) s.infomask)) S)
        (h.versions.filter fun s => liveBits s.infomask) := by
  unfold encHeapOf
  rw [readRows_pages dec _ S true (encHeapOf_tuples_WF cols vals h hwf) hfit, ← map_flatten, filter_map,
    PgVerif.Proofs.collectM_map]
  congr 2
  funext s
  simp only [Function.comp, Bool.not_true, Bool.false_or, formRow]
  exact liveBits_formTuple _ _

/-- every stored row version, live or dead, must decode to `row` of its abstract value -/
theorem readRows_catalog {α} (dec : Dec) (cols : List Col) (vals : α → List (Option Datum)) (h : HeapOf α) (S : List Column)
    (row : α → Row)
    (hwf : ∀ s ∈ h.versions, RowV.WF cols ⟨vals s.val, cols.length, s.infomask⟩)
    (hfit : pagesFit (h.map fun pg => pg.map fun s => formRow cols (vals s.val) s.infomask))
    (hrow : ∀ s ∈ h.versions, decodeTuple dec (mtuple (formRow cols (vals s.val) s.infomask)) S = .ok (some (row s.val))) :
    readRows dec (encHeapOf cols vals h) S true = .ok (h.live.map row) := by
  rw [readRows_encHeapOf dec cols vals h S hwf hfit]
  unfold HeapOf.live
  rw [map_map]
  exact collectM_eq_map _ _ _ fun s hs => hrow s (mem_filter.mp hs).1

/-- area rows' local model of DecodeType is the decoder the C01 families run -/
theorem catDec_local : CatDec LocalDec.dec := by
  constructor
  -- every case: the data has the fixed length of its type, so both length guards are passed and the type switch is decided
  all_goals
    intro bs h
    unfold LocalDec.dec
    simp only [LocalDec.localFixedLen]
    rw [if_neg (by omega)]
    simp (config := { decide := true }) only [h, if_false, if_true, gt_iff_lt]
  case oid =>
    rw [uN_ok 4 bs 0 (by omega)]
    rfl
  case name => rfl
  case char =>
    rw [sliceTo_ok bs 1 (by omega)]
    simp only [ok_bind, pure_eq_ok]
    rw [take_of_length_le (by omega)]
  case int2 =>
    rw [uN_ok 2 bs 0 (by omega)]
    rfl
  case int4 =>
    rw [uN_ok 4 bs 0 (by omega)]
    exact ⟨_, rfl⟩
  case float4 => exact ⟨_, rfl⟩
  case bool =>
    rw [idx_ok bs 0 (by omega)]
    exact ⟨_, rfl⟩

end PgVerif.Proofs.Cluster
