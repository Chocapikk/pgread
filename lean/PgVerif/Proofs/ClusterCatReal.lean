/-
  `CatDec` (Proofs/ClusterCat.lean) for the closed model of types.go:DecodeType, `Props.C10.Entry.rowsDec X`, for every renderer `X`.
  The seven catalog column types (oid 26, name 19, "char" 18, int2 21, int4 23, float4 700, bool 16) are neither array nor range
  oids and the input has the type's fixed length, so `Scalars.decodeType_ok` takes DecodeType to the case of the type and on to
  its closed form in Proofs/ScalarsClosed.lean.
-/
import PgVerif.Proofs.ClusterCat
import PgVerif.Props.C10.Entry
namespace PgVerif.Proofs.Cluster
open PgVerif PgVerif.Model PgVerif.Proofs.Entry

theorem decodeTypeC_oid (X : Render) (bs : Bytes) (h : bs.length = 4) : decodeTypeC X bs 26 = .ok (.int (rd 4 bs)) :=
  Scalars.decodeType_ok _ bs 26 4 (Scalars.decU32_ok bs) (by decide) (by omega) rfl

theorem decodeTypeC_name (X : Render) (bs : Bytes) (h : bs.length = 64) :
    decodeTypeC X bs 19 = .ok (.str (Scalars.cstring bs 64)) :=
  Scalars.decodeType_case _ bs 19 64 _ (by decide) (by omega) rfl

theorem decodeTypeC_char (X : Render) (bs : Bytes) (h : bs.length = 1) : decodeTypeC X bs 18 = .ok (.str bs) :=
  (Scalars.decodeType_ok _ bs 18 1 (Scalars.decChar_ok bs) (by decide) (by omega) rfl).trans
    (by rw [List.take_of_length_le (by omega)])

theorem decodeTypeC_int2 (X : Render) (bs : Bytes) (h : bs.length = 2) :
    decodeTypeC X bs 21 = .ok (.int (toSigned 16 (rd 2 bs))) :=
  Scalars.decodeType_ok _ bs 21 2 (Scalars.decInt2_ok bs) (by decide) (by omega) rfl

theorem decodeTypeC_int4 (X : Render) (bs : Bytes) (h : bs.length = 4) :
    decodeTypeC X bs 23 = .ok (.int (toSigned 32 (rd 4 bs))) :=
  Scalars.decodeType_ok _ bs 23 4 (Scalars.decInt4_ok bs) (by decide) (by omega) rfl

theorem decodeTypeC_float4 (X : Render) (bs : Bytes) (h : bs.length = 4) : decodeTypeC X bs 700 = .ok (.f32 (rd 4 bs)) :=
  Scalars.decodeType_ok _ bs 700 4 (Scalars.decFloat4_ok bs) (by decide) (by omega) rfl

theorem decodeTypeC_bool (X : Render) (bs : Bytes) (h : bs.length = 1) :
    decodeTypeC X bs 16 = .ok (.bool (bs[0]'(by omega) != 0)) :=
  Scalars.decodeType_ok _ bs 16 1 (Scalars.decBool_ok bs) (by decide) (by omega) rfl

/-- area scalars' `cstring` (binary.go) is the same function as area rows' (the one `CatDec` is stated with) -/
theorem scalars_cstring_eq (bs : Bytes) (n : Nat) : Scalars.cstring bs n = Model.cstring bs n := rfl

/-- the closed DecodeType decodes the column types of the tool's catalog schemas as the catalog logic of C01 needs -/
theorem catDec_rowsDec (X : PgVerif.Proofs.Entry.Render) : CatDec (PgVerif.Props.C10.Entry.rowsDec X) where
  oid bs h := decodeTypeC_oid X bs h
  name bs h := decodeTypeC_name X bs h
  char bs h := decodeTypeC_char X bs h
  int2 bs h := decodeTypeC_int2 X bs h
  int4 bs h := ⟨_, decodeTypeC_int4 X bs h⟩
  float4 bs h := ⟨_, decodeTypeC_float4 X bs h⟩
  bool bs h := ⟨_, decodeTypeC_bool X bs h⟩

/-- non-vacuity / sanity on concrete inputs: the real model on an oid, a "char" and an int2 value -/
example : PgVerif.Props.C10.Entry.rowsDec PgVerif.Props.C10.Entry.trivialRender [0x3b, 0x0a, 0, 0] 26 = .ok (.int 2619) := by rfl
example : PgVerif.Props.C10.Entry.rowsDec PgVerif.Props.C10.Entry.trivialRender [114] 18 = .ok (.str [114]) := by rfl
example : PgVerif.Props.C10.Entry.rowsDec PgVerif.Props.C10.Entry.trivialRender [0xff, 0xff] 21 = .ok (.int (-1)) := by rfl

#print axioms catDec_rowsDec

end PgVerif.Proofs.Cluster
