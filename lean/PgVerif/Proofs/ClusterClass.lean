/-
  pgdump.go's model (dumpTable, DumpDatabaseFromFiles, DumpDataDir) over ANY row reader: what C01's statements about every file
  system, C11 and C12 are read off.
-/
import PgVerif.Proofs.ClusterMap
import PgVerif.Proofs.SpecSort
namespace PgVerif.Proofs.Cluster
open PgVerif PgVerif.Model PgVerif.Sorting List
open PgVerif.Spec (TableDump DatabaseDump Options ClassRow)

def stripRows (t : TableDump) : TableDump := { t with rows := [], rowCount := 0 }

theorem dumpTable_shape (rr : RowReader) (fn : Nat) (info : TableInfo) (attrs : List AttrInfo)
    (reader : Option FileReader) (o : Options) (t : TableDump) (h : dumpTable rr fn info attrs reader o = .ok t) :
    t.oid = info.oid ∧ t.name = info.name ∧ t.filenode = fn ∧ t.kind = info.kind ∧
    t.columns = attrs.map (fun a => ⟨a.name, typeName a.typid, a.typid⟩) ∧
    t.rowCount = t.rows.length ∧ (o.listOnly = true → t.rows = []) := by
  unfold dumpTable at h
  simp only at h
  split at h
  · cases h; exact ⟨rfl, rfl, rfl, rfl, rfl, rfl, fun _ => rfl⟩
  · rename_i rd heq
    split at h
    · cases h; exact ⟨rfl, rfl, rfl, rfl, rfl, rfl, fun _ => rfl⟩
    · split at h
      · cases h; exact ⟨rfl, rfl, rfl, rfl, rfl, rfl, fun _ => rfl⟩
      · obtain ⟨rows, _, h⟩ := bind_eq_ok h
        cases h
        exact ⟨rfl, rfl, rfl, rfl, rfl, rfl, fun hl => by rw [hl] at heq; cases heq⟩

theorem dumpTable_listOnly (rr : RowReader) (fn : Nat) (info : TableInfo) (attrs : List AttrInfo)
    (reader : Option FileReader) (o : Options) (t : TableDump) (h : dumpTable rr fn info attrs reader o = .ok t) :
    dumpTable rr fn info attrs reader { o with listOnly := true } = .ok (stripRows t) := by
  obtain ⟨h1, h2, h3, h4, h5, _, _⟩ := dumpTable_shape rr fn info attrs reader o t h
  unfold dumpTable
  simp only [if_true]
  congr 1
  cases t
  simp only [stripRows] at *
  subst h1 h2 h3 h4 h5
  rfl

theorem keepTable_listOnly (o : Options) (info : TableInfo) :
    keepTable { o with listOnly := true } info = keepTable o info := rfl

/-- in the shape of DumpDataDir's two `continue`s (with `datistemplate` for the name test) -/
theorem selectedDb_eq (o : Options) (db : Spec.DbRow) :
    Spec.selectedDb o db = (!db.isTemplate && !(o.dbFilter != [] && db.name != o.dbFilter)) := by
  unfold Spec.selectedDb
  cases o.dbFilter <;> simp [bne]

/-- a database is skipped when its name starts with `template`, fails the database filter or has no (or an empty) pg_class file -/
theorem dumpDb_eq (rr : RowReader) (π : MapOrder TableInfo) (fs : Bytes → Option Bytes) (o : Options) (db : DatabaseInfo) :
    dumpDb rr π fs o db =
      if Spec.isPrefixB (strBytes "template") db.name = true ∨ (o.dbFilter != [] && db.name != o.dbFilter) = true ∨
          ((fs (basePath db.oid 1259)).getD []).length = 0 then pure none
      else
        dumpDatabaseFromFiles rr π ((fs (basePath db.oid 1259)).getD []) ((fs (basePath db.oid 1249)).getD [])
          (some fun fn => fs (basePath db.oid fn)) o >>= fun tables =>
        pure (some { oid := db.oid, name := db.name, tables := tables }) := by
  unfold dumpDb
  by_cases h1 : Spec.isPrefixB (strBytes "template") db.name = true
  · rw [if_pos h1, if_pos (Or.inl h1)]
  · by_cases h2 : (o.dbFilter != [] && db.name != o.dbFilter) = true
    · rw [if_neg h1, if_pos h2, if_pos (Or.inr (Or.inl h2))]
    · by_cases h3 : ((fs (basePath db.oid 1259)).getD []).length = 0
      · rw [if_neg h1, if_neg h2, if_pos (Or.inr (Or.inr h3))]
        exact if_pos h3
      · have hn : ¬ (Spec.isPrefixB (strBytes "template") db.name = true ∨ (o.dbFilter != [] && db.name != o.dbFilter) = true ∨
            ((fs (basePath db.oid 1259)).getD []).length = 0) := fun h => h.elim h1 fun h => h.elim h2 h3
        rw [if_neg h1, if_neg h2, if_neg hn]
        exact if_neg h3

/-- `none` only without global/1262; a result is the loop over the parsed databases -/
theorem dumpDataDir_ok {rr : RowReader} {π : MapOrder TableInfo} {fs : Bytes → Option Bytes} {o : Options}
    {r : Option Spec.DumpResult} (h : dumpDataDir rr π fs o = .ok r) :
    match r with
    | none => fs pathGlobal1262 = none
    | some r => ∃ data dbs, fs pathGlobal1262 = some data ∧ parsePGDatabase rr data = .ok dbs ∧
        collectM (dumpDb rr π fs o) dbs = .ok r := by
  unfold dumpDataDir at h
  cases hf : fs pathGlobal1262 with
  | none => rw [hf] at h; cases h; rfl
  | some data =>
    rw [hf] at h
    obtain ⟨dbs, hp, h⟩ := bind_eq_ok h
    obtain ⟨r', hc, h⟩ := bind_eq_ok h
    cases h
    exact ⟨data, dbs, rfl, hp, hc⟩

theorem dbs_from_files (rr : RowReader) (π : MapOrder TableInfo) (fs : Bytes → Option Bytes) (o : Options)
    (r : Spec.DumpResult) (h : dumpDataDir rr π fs o = .ok (some r)) :
    ∀ d ∈ r, ∃ cd ad reader, dumpDatabaseFromFiles rr π cd ad reader o = .ok d.tables := by
  obtain ⟨_, dbs, _, _, hc⟩ := dumpDataDir_ok h
  intro d hd
  obtain ⟨db, _, hdb⟩ := collectM_ok _ _ _ hc d hd
  rw [dumpDb_eq] at hdb
  split at hdb
  · cases hdb
  · obtain ⟨ts, hf, hdb⟩ := bind_eq_ok hdb
    cases hdb
    exact ⟨_, _, _, hf⟩

theorem sorted_lookup (m : List (Nat × TableInfo)) (hk : KeysOK m) (keys : List Nat) (hp : keys ~ m.map (·.1)) :
    (sortNat keys).filterMap (fun k => mapGet m k) = sortByFilenode (m.map (·.2)) := by
  rw [sortNat_perm_invariant _ _ hp, ← keysOK_filenodes hk, sortNat_eq, sortByFilenode_eq,
    insertionSort_map (r := byKey TableInfo.filenode) (r' := byKey id) TableInfo.filenode (fun _ _ => Iff.rfl), filterMap_map]
  refine (PgVerif.filterMap_congr _ some _ fun v hv => ?_).trans filterMap_some
  obtain ⟨e, he, rfl⟩ := mem_map.mp ((mem_insertionSort _).mp hv)
  exact (congrArg _ (hk.2 e he)).trans (AssocMap.lookup_of_mem hk.1 he)

def infoKey (i : TableInfo) : Nat × Bytes × Nat × Bytes := (i.oid, i.name, i.filenode, i.kind)
def tableKey (t : TableDump) : Nat × Bytes × Nat × Bytes := (t.oid, t.name, t.filenode, t.kind)

def dumpInfo (rr : RowReader) (attrs : List (Nat × List AttrInfo)) (reader : Option FileReader) (o : Options) (info : TableInfo) :
    M (Option TableDump) := do
  let t ← dumpTable rr info.filenode info ((mapGet attrs info.oid).getD []) reader o
  pure (some t)

theorem dumpLoop_eq (rr : RowReader) (tables : List (Nat × TableInfo)) (attrs : List (Nat × List AttrInfo))
    (reader : Option FileReader) (o : Options) (hk : ∀ e ∈ tables, e.2.filenode = e.1) (keys : List Nat) :
    collectM (dumpOne rr tables attrs reader o) keys =
      collectM (dumpInfo rr attrs reader o) ((keys.filterMap fun k => mapGet tables k).filter (keepTable o)) := by
  rw [← collectM_filter, ← collectM_filterMap]
  refine Isolation.collectM_congr _ _ _ fun k _ => ?_
  unfold dumpOne dumpInfo
  cases hg : mapGet tables k with
  | none => rfl
  | some info => simp only [show info.filenode = k from hk _ (AssocMap.lookup_mem tables k info hg)]

/-- for any order parameter whatsoever -/
theorem dumpDatabaseFromFiles_loop (rr : RowReader) (π : MapOrder TableInfo) (cd ad : Bytes) (reader : Option FileReader) (o : Options) :
    dumpDatabaseFromFiles rr π cd ad reader o =
      parsePGClass rr cd >>= fun tables => parsePGAttribute rr ad o.pgVersion >>= fun attrs =>
        collectM (dumpInfo rr attrs reader o)
          (((sortNat ((π tables).map (·.1))).filterMap fun k => mapGet tables k).filter (keepTable o)) :=
  bind_congr_ok fun tables ht => bind_congr fun attrs =>
    dumpLoop_eq rr tables attrs reader o (parsePGClass_keysOK rr cd tables ht).2 _

theorem tables_from_dumpTable (rr : RowReader) (π : MapOrder TableInfo) (cd ad : Bytes) (reader : Option FileReader)
    (o : Options) (ts : List TableDump) (h : dumpDatabaseFromFiles rr π cd ad reader o = .ok ts) :
    ∀ t ∈ ts, ∃ fn info attrs, dumpTable rr fn info attrs reader o = .ok t := by
  rw [dumpDatabaseFromFiles_loop] at h
  obtain ⟨tables, _, h⟩ := bind_eq_ok h
  obtain ⟨attrs, _, h⟩ := bind_eq_ok h
  intro t ht
  obtain ⟨info, _, hi⟩ := collectM_ok _ _ _ h t ht
  obtain ⟨t', hd, hi⟩ := bind_eq_ok hi
  cases hi
  exact ⟨_, info, _, hd⟩

/-- the closed form: dumpTable over the relations `Tables()` lists (`tablesOf_eq_sort`) that pass the three filters.  The right side
does not mention the iteration order of the map (C11) and lists the tables of the remote listing (C12). -/
theorem dumpDatabaseFromFiles_eq (rr : RowReader) (π : MapOrder TableInfo) (hπ : ∀ l, π l ~ l) (cd ad : Bytes)
    (reader : Option FileReader) (o : Options) :
    dumpDatabaseFromFiles rr π cd ad reader o =
      parsePGClass rr cd >>= fun tables => parsePGAttribute rr ad o.pgVersion >>= fun attrs =>
        collectM (dumpInfo rr attrs reader o) ((sortByFilenode (tables.map (·.2))).filter (keepTable o)) := by
  rw [dumpDatabaseFromFiles_loop]
  exact bind_congr_ok fun tables ht => by
    rw [sorted_lookup tables (parsePGClass_keysOK rr cd tables ht) _ ((hπ tables).map _)]

theorem dump_tables (rr : RowReader) (π : MapOrder TableInfo) (hπ : ∀ l, π l ~ l) (cd ad : Bytes)
    (reader : Option FileReader) (o : Options) (tables : List (Nat × TableInfo)) (ht : parsePGClass rr cd = .ok tables)
    (ts : List TableDump) (h : dumpDatabaseFromFiles rr π cd ad reader o = .ok ts) :
    ts.map tableKey = ((sortByFilenode (tables.map (·.2))).filter (keepTable o)).map infoKey := by
  rw [dumpDatabaseFromFiles_eq rr π hπ, ht, ok_bind] at h
  obtain ⟨attrs, _, h⟩ := bind_eq_ok h
  refine collectM_map_spec _ tableKey infoKey _ ts h fun info _ t ht' => ?_
  obtain ⟨s1, s2, s3, s4, _⟩ := dumpTable_shape rr _ info _ reader o t ht'
  simp only [tableKey, infoKey, s1, s2, s3, s4]

def nzInfos (l : List TableInfo) : List TableInfo := l.filter fun i => decide (i.filenode > 0)

theorem nzInfos_cons_pos (i : TableInfo) (l : List TableInfo) (h : i.filenode > 0) : nzInfos (i :: l) = i :: nzInfos l := by
  unfold nzInfos; rw [filter_cons]; simp [h]

theorem nzInfos_cons_neg (i : TableInfo) (l : List TableInfo) (h : ¬ i.filenode > 0) : nzInfos (i :: l) = nzInfos l := by
  unfold nzInfos; rw [filter_cons]; simp [h]

/-- with pairwise distinct non-zero filenodes the map is just the list of entries, in row order -/
theorem foldl_classStep_distinct (rows : List Row) (acc : List (Nat × TableInfo))
    (h : (acc.map (·.1) ++ (nzInfos (rows.map infoOfRow)).map (·.filenode)).Nodup) :
    rows.foldl classStep acc = acc ++ (nzInfos (rows.map infoOfRow)).map (fun i => (i.filenode, i)) := by
  induction rows generalizing acc with
  | nil => simp [nzInfos]
  | cons row rows ih =>
    have hstep : classStep acc row =
        if (infoOfRow row).filenode > 0 then mapPut acc (infoOfRow row).filenode (infoOfRow row) else acc := rfl
    rw [foldl_cons, hstep, map_cons]
    by_cases hfn : (infoOfRow row).filenode > 0
    · rw [map_cons, nzInfos_cons_pos _ _ hfn] at h
      rw [nzInfos_cons_pos _ _ hfn, if_pos hfn]
      have habs : (infoOfRow row).filenode ∉ acc.map (·.1) := by
        intro hm
        exact (nodup_append.mp h).2.2 _ hm _ (by simp) rfl
      rw [mapPut_absent _ _ _ habs, ih]
      · simp
      · simpa [List.append_assoc] using h
    · rw [map_cons, nzInfos_cons_neg _ _ hfn] at h
      rw [nzInfos_cons_neg _ _ hfn, if_neg hfn]
      exact ih acc h

theorem parsePGClass_live (rr : RowReader) (cd : Bytes) (rows : List Row) (live : List ClassRow)
    (hr : rr cd schemaPGClass true = .ok rows) (hrows : rows.map infoOfRow = live.map infoOfRel)
    (hnd : ((live.filter (·.filenode != 0)).map (·.filenode)).Nodup) :
    ∃ tables, parsePGClass rr cd = .ok tables ∧
      tables.map (·.2) = (live.filter (·.filenode != 0)).map infoOfRel := by
  refine ⟨_, by simp only [parsePGClass, hr, ok_bind, pure_eq_ok]; rfl, ?_⟩
  have hfilter : nzInfos (rows.map infoOfRow) = (live.filter (·.filenode != 0)).map infoOfRel := by
    unfold nzInfos
    rw [hrows, filter_map]
    congr 1
    apply filter_congr
    intro r _
    simp only [Function.comp, infoOfRel]
    by_cases hz : r.filenode = 0
    · simp [hz]
    · simp [hz, Nat.pos_iff_ne_zero]
  rw [foldl_classStep_distinct rows [] (by
    simp only [map_nil, nil_append, hfilter, map_map]
    exact hnd)]
  simp only [nil_append, hfilter, map_map]
  apply map_congr_left
  intro r _
  rfl

/-- the tool's three `continue` filters are the property's "ordinary user table passing the system-table and name filters" -/
theorem keepTable_selected (o : Options) (r : ClassRow) (hk : r.kind < 256) (hf : r.filenode ≠ 0)
    (ha : o.tableFilter = [] ∨ (GoCase.lowerStable o.tableFilter = true ∧ GoCase.lowerStable r.name = true)) :
    keepTable o (infoOfRel r) = Spec.selectedRel o r := by
  unfold keepTable Spec.selectedRel infoOfRel
  have hlow : (o.tableFilter != [] && !Spec.containsB (GoCase.goToLower r.name) (GoCase.goToLower o.tableFilter)) =
      (o.tableFilter != [] && !Spec.containsB (Spec.lowerB r.name) (Spec.lowerB o.tableFilter)) := by
    rcases ha with h0 | ⟨h1, h2⟩
    · rw [h0]; rfl
    · rw [GoCase.lowerStable_eq h1, GoCase.lowerStable_eq h2]
  simp only [hlow]
  have hkind : (([UInt8.ofNat r.kind] : Bytes) != [114] && ([UInt8.ofNat r.kind] : Bytes) != []) = !(r.kind == 114) := by
    by_cases h114 : r.kind = 114
    · rw [h114]; decide
    · have hne : UInt8.ofNat r.kind ≠ 114 := fun he => h114 (by
        have := congrArg UInt8.toNat he
        rwa [u8_toNat _ hk] at this)
      rw [bne_iff_ne.mpr fun h => hne (cons.inj h).1, bne_iff_ne.mpr (cons_ne_nil _ _), beq_false_of_ne h114]
      rfl
  have hfn : (r.filenode != 0) = true := by simpa using hf
  have hte : (!(o.tableFilter != [])) = o.tableFilter.isEmpty := by
    cases o.tableFilter <;> rfl
  simp only [hkind, hfn, Bool.not_not, Bool.and_true, Bool.not_and, hte]


open PgVerif.Model.GoCase (FilterStable)

theorem filterStable_at {o : Options} {live : List ClassRow} (h : FilterStable o live) (r : ClassRow) (hr : r ∈ live) :
    o.tableFilter = [] ∨ (GoCase.lowerStable o.tableFilter = true ∧ GoCase.lowerStable r.name = true) := by
  rcases h with h | ⟨h1, h2⟩
  · exact Or.inl h
  · exact Or.inr ⟨h1, h2 r hr⟩

theorem selected_of_storage (o : Options) (live : List ClassRow) (hnd : ((live.filter (·.filenode != 0)).map (·.filenode)).Nodup) :
    (insertionSort (byKey ClassRow.filenode) (live.filter (·.filenode != 0))).filter (Spec.selectedRel o) =
      insertionSort (byKey ClassRow.filenode) (live.filter (Spec.selectedRel o)) := by
  rw [byKey_filter ClassRow.filenode (Spec.selectedRel o) (antisymmOn_key _ hnd), filter_filter]
  congr 1
  apply filter_congr
  intro r _
  unfold Spec.selectedRel
  cases (r.filenode != 0) <;> simp

theorem kept_of_live (o : Options) (live : List ClassRow) (hnd : ((live.filter (·.filenode != 0)).map (·.filenode)).Nodup)
    (hkind : ∀ r ∈ live, r.kind < 256) (hfs : FilterStable o live) :
    (sortByFilenode ((live.filter (·.filenode != 0)).map infoOfRel)).filter (keepTable o) =
      (insertionSort (byKey ClassRow.filenode) (live.filter (Spec.selectedRel o))).map infoOfRel := by
  rw [sortByFilenode_eq, insertionSort_map (r := byKey ClassRow.filenode) infoOfRel (fun _ _ => Iff.rfl), filter_map,
    ← selected_of_storage o live hnd]
  refine congrArg _ (filter_congr fun r hr' => ?_)
  have hm := mem_filter.mp ((mem_insertionSort _).mp hr')
  exact keepTable_selected o r (hkind r hm.1) (by simpa using hm.2) (filterStable_at hfs r hm.1)

theorem selectedRel_kind (o : Options) (r : ClassRow) (h : Spec.selectedRel o r = true) : r.kind = 114 ∧ r.filenode ≠ 0 := by
  unfold Spec.selectedRel at h
  simp only [Bool.and_eq_true, beq_iff_eq, bne_iff_ne] at h
  exact ⟨h.1.1.1, h.1.1.2⟩

def relKey (r : ClassRow) : Nat × Bytes × Nat × Bytes := (r.oid, r.name, r.filenode, [114])

/-- the statement of `C01_dump_partial`: from the live pg_class rows to the dump's table list -/
theorem dump_tables_of_live (rr : RowReader) (π : MapOrder TableInfo) (hπ : ∀ l, π l ~ l) (cd ad : Bytes)
    (reader : Option FileReader) (o : Options) (rows : List Row) (live : List ClassRow)
    (hr : rr cd schemaPGClass true = .ok rows) (hrows : rows.map infoOfRow = live.map infoOfRel)
    (hnd : ((live.filter (·.filenode != 0)).map (·.filenode)).Nodup) (hkind : ∀ r ∈ live, r.kind < 256)
    (hfs : FilterStable o live)
    (ts : List TableDump) (h : dumpDatabaseFromFiles rr π cd ad reader o = .ok ts) :
    ts.map tableKey = (insertionSort (byKey ClassRow.filenode) (live.filter (Spec.selectedRel o))).map relKey := by
  obtain ⟨tables, ht, hvals⟩ := parsePGClass_live rr cd rows live hr hrows hnd
  rw [dump_tables rr π hπ cd ad reader o tables ht ts h, hvals, kept_of_live o live hnd hkind hfs, map_map]
  apply map_congr_left
  intro r hr'
  have h114 := (selectedRel_kind o r (mem_filter.mp ((mem_insertionSort _).mp hr')).2).1
  simp only [Function.comp, infoKey, infoOfRel, relKey, h114]
  rfl

theorem expectedDb_tables (val : Spec.Val) (o : Options) (db : Spec.DbRow) (d : Spec.DbContent) :
    (Spec.expectedDb val o db d).tables =
      (insertionSort (byKey ClassRow.filenode) (d.cls.live.filter (Spec.selectedRel o))).map (Spec.expectedTable val d o) := by
  unfold Spec.expectedDb
  simp only
  rw [Spec.sortTables_eq, insertionSort_map (r := byKey ClassRow.filenode) (Spec.expectedTable val d o) (fun _ _ => Iff.rfl)]

theorem expectedDb_keys (val : Spec.Val) (o : Options) (db : Spec.DbRow) (d : Spec.DbContent) :
    (Spec.expectedDb val o db d).tables.map tableKey =
      (insertionSort (byKey ClassRow.filenode) (d.cls.live.filter (Spec.selectedRel o))).map relKey := by
  rw [expectedDb_tables, map_map]
  rfl

end PgVerif.Proofs.Cluster
