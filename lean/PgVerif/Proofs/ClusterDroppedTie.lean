/-
  catalog.go:readAttrRows (fixes/cluster/08) calls dropped.go's schema tables and readAttrRowsWithDropped.  Model/Catalog.lean and
  Model/Dropped.lean each carry their own transcription (Model/Dropped.lean imports Model/Catalog.lean, not the other way round),
  each over its own generated table; here the two are tied.
-/
import PgVerif.Model.Dropped
namespace PgVerif.Proofs.Cluster
open PgVerif PgVerif.Model

theorem catSchemas_eq_dropped :
    catSchemaAttr16 = schemaPGAttrDropped ∧ catSchemaAttr14 = schemaPGAttrDroppedV15 ∧ catSchemaAttr12 = schemaPGAttrDroppedV12 :=
  ⟨rfl, rfl, rfl⟩

theorem catPlausible_eq_dropped (row : Row) : catPlausibleAttrRow row = drPlausibleAttrRow row := rfl

/-- hence `Props/Dropped.lean` speaks about the rows ParsePGAttribute sees -/
theorem catReadAttrRowsAuto_eq_dropped (rr : RowReader) (data : Bytes) :
    catReadAttrRowsAuto rr data = readAttrRowsWithDropped rr data := rfl

end PgVerif.Proofs.Cluster
