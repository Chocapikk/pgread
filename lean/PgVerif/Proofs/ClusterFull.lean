/-
  Helper lemmas for the full C01 theorem: DumpDatabaseFromFiles / DumpDataDir (pgdump.go) with the real row reader
  `Model.readRows` on the files of a `Spec.Cluster`, against `Spec.expectedDump`.
-/
import PgVerif.Proofs.ClusterAttrParse
import PgVerif.Proofs.ClusterClass
import PgVerif.Proofs.SpecSort
namespace PgVerif.Proofs.Cluster
open PgVerif PgVerif.Model PgVerif.Spec PgVerif.Proofs PgVerif.Proofs.Rows PgVerif.Sorting List
open PgVerif.Spec (TableDump DatabaseDump DumpResult Options ClassRow)

/-- the specification's table is part of the table generated from types.go:TypeName (string literals are compared; no name is
turned into bytes) -/
theorem typeNames_agree : ∀ p ∈ Spec.typeNames, Model.typeName (p.1 : Int) = strBytes p.2 := by
  have h : ∀ p ∈ Spec.typeNames, Generated.Cluster.typeNames.lookup p.1 = some p.2 := by decide +kernel
  intro p hp
  unfold Model.typeName Model.typeName.lookupOid'
  rw [if_neg (by omega), Int.toNat_natCast, h p hp]

/-- does the specification name this type oid?  (for the others `Spec.expectedTable` leaves the type name empty and
the comparison ignores the tool's text) -/
def specKnows (typid : Int) : Bool := decide (typid ≥ 0) && (Spec.typeName typid.toNat).isSome

def normCol (c : ColumnInfo) : ColumnInfo := { c with typ := if specKnows c.typid then c.typ else [] }
def normTable (t : TableDump) : TableDump := { t with columns := t.columns.map normCol }
def normDb (d : DatabaseDump) : DatabaseDump := { d with tables := d.tables.map normTable }

theorem normCol_attr (a : AttrRow) :
    normCol ⟨(attrInfoOf a).name, Model.typeName (attrInfoOf a).typid, (attrInfoOf a).typid⟩ =
      ⟨a.name, (Spec.typeName a.typid).getD [], a.typid⟩ := by
  unfold normCol specKnows attrInfoOf Spec.typeName
  simp only [Int.toNat_natCast]
  have h0 : decide ((a.typid : Int) ≥ 0) = true := by simp
  rw [h0, Bool.true_and]
  cases hl : Spec.typeNames.lookup a.typid with
  | none => simp
  | some s => simp [typeNames_agree (a.typid, s) (AssocMap.lookup_mem _ _ s hl)]

theorem expectedCols_cons (val : Bytes → Int → M GoVal) (c : Col) (cs : List Col) (v : Option Datum) (vs : List (Option Datum)) (k : Nat) :
    expectedCols val (c :: cs) (v :: vs) k =
      ((match k, v with | _ + 1, some d => expectedVal val c d | _, _ => pure GoVal.nil) >>= fun x =>
        expectedCols val cs vs (k - 1) >>= fun rest => pure ((c.name, x) :: rest)) := by
  cases k <;> cases v <;> rfl

theorem expectedCols_names (val : Bytes → Int → M GoVal) : ∀ (cols : List Col) (vals : List (Option Datum)) (k : Nat)
    (ps : List (Bytes × GoVal)), vals.length = cols.length → expectedCols val cols vals k = .ok ps →
    ps.map (·.1) = cols.map (·.name)
  | [], [], _, ps, _, h => by simp [expectedCols] at h; subst h; rfl
  | [], _ :: _, _, _, hl, _ => by simp at hl
  | _ :: _, [], _, _, hl, _ => by simp at hl
  | c :: cs, v :: vs, k, ps, hl, h => by
    rw [expectedCols_cons] at h
    obtain ⟨x, _, h⟩ := bind_eq_ok h
    obtain ⟨rest, hr, h⟩ := bind_eq_ok h
    cases h
    rw [map_cons, map_cons, expectedCols_names val cs vs (k - 1) rest (by simpa using hl) hr]

theorem storedCols_cons (val : Bytes → Int → M GoVal) (tbl : List (Datum × Bytes)) (c : Col) (cs : List Col) (v : Option Datum)
    (vs : List (Option Datum)) (k : Nat) :
    storedCols val tbl (c :: cs) (v :: vs) k =
      ((match k, v with | _ + 1, some d => storedVal val tbl c d | _, _ => pure GoVal.nil) >>= fun x =>
        storedCols val tbl cs vs (k - 1) >>= fun rest => pure ((c.name, x) :: rest)) := by
  cases k <;> cases v <;> rfl

/-- inline-compressed values count as stored in line: ReadVarlena decompresses them (fixes/rows/09) -/
theorem storedCols_inline (val : Bytes → Int → M GoVal) (tbl : List (Datum × Bytes)) : ∀ (cols : List Col)
    (vals : List (Option Datum)) (k : Nat), vals.all inlineDatum = true → storedCols val tbl cols vals k = expectedCols val cols vals k
  | [], _, _, _ => by simp [storedCols, expectedCols]
  | _ :: _, [], _, _ => by simp [storedCols, expectedCols]
  | c :: cs, v :: vs, k, h => by
    simp only [all_cons, Bool.and_eq_true] at h
    have ih := storedCols_inline val tbl cs vs (k - 1) h.2
    rw [storedCols_cons, expectedCols_cons, ih]
    have h1 := h.1
    clear ih h
    cases k with
    | zero => rfl
    | succ k =>
      cases v with
      | none => rfl
      | some d => cases d <;> first | rfl | (simp [inlineDatum] at h1)

theorem storedRow_inline (val : Bytes → Int → M GoVal) (tbl : List (Datum × Bytes)) (cols : List Col) (r : RowV)
    (h : r.vals.all inlineDatum = true) : storedRow val tbl cols r = rowOf val cols r := by
  unfold storedRow rowOf rowView
  rw [storedCols_inline val tbl cols r.vals r.natts h]

theorem heap_tuples_WF (cols : List Col) (pages : List (List RowV)) (hwf : ∀ pg ∈ pages, ∀ r ∈ pg, r.WF cols) :
    ∀ ts ∈ (pages.map fun pg => pg.map (formTuple cols)), ∀ t ∈ ts, t.WF := by
  intro ts hts t ht
  obtain ⟨pg, hpg, rfl⟩ := mem_map.mp hts
  obtain ⟨r, hr, rfl⟩ := mem_map.mp ht
  exact formTupleH_WF {} (by decide) cols r (hwf pg hpg r hr)

theorem readRows_encRowPages (dec : Dec) (cols : List Col) (mcols : List Column) (pages : List (List RowV))
    (hwf : ∀ pg ∈ pages, ∀ r ∈ pg, r.WF cols) (hfit : pagesFit (pages.map fun pg => pg.map (formTuple cols))) :
    readRows dec (encRowPages cols pages) mcols true =
      collectM (fun r => decodeTuple dec (mtuple (formTuple cols r)) mcols) (liveRows pages cols) := by
  unfold encRowPages liveRows
  rw [readRows_pages dec _ mcols true (heap_tuples_WF cols pages hwf) hfit, ← map_flatten, filter_map,
    PgVerif.Proofs.collectM_map]
  rfl

theorem readRows_heap (dec : Dec) (cols : List Col) (mcols : List Column) (pages : List (List RowV))
    (hm : ColsMatch 0 mcols cols) (hne : mcols ≠ []) (hwf : ∀ pg ∈ pages, ∀ r ∈ pg, r.WF cols)
    (hfit : pagesFit (pages.map fun pg => pg.map (formTuple cols))) (hnd : (cols.map (·.name)).Nodup)
    (rows : List Row) (h : readRows dec (encRowPages cols pages) mcols true = .ok rows) :
    rows = (liveRows pages cols).map (rowOf (varlenaVal dec) cols) := by
  rw [readRows_encRowPages dec cols mcols pages hwf hfit] at h
  have := collectM_filterMap_spec _ id (fun r => some (rowOf (varlenaVal dec) cols r)) _ rows h ?_
  · simpa using this
  · intro r hr y hy
    have hw : r.WF cols := by
      obtain ⟨pg, hpg, hrp⟩ := mem_flatten.mp (mem_filter.mp hr).1
      exact hwf pg hpg r hrp
    rw [formTuple_eq_H, mtuple_formTupleH {} cols r hw, decodeTuple_rowTuple dec cols mcols r _ hm hw hne] at hy
    obtain ⟨ps, he, hy⟩ := bind_eq_ok hy
    cases hy
    have hn := expectedCols_names _ cols r.vals r.natts ps hw.1 he
    rw [toRow_of_nodup ps (by rw [hn]; exact hnd)]
    simp [rowOf, rowView, he]

theorem readRows_nolive (dec : Dec) (cols : List Col) (mcols : List Column) (pages : List (List RowV))
    (hwf : ∀ pg ∈ pages, ∀ r ∈ pg, r.WF cols) (hfit : pagesFit (pages.map fun pg => pg.map (formTuple cols)))
    (hlive : liveRows pages cols = []) : readRows dec (encRowPages cols pages) mcols true = .ok [] := by
  rw [readRows_encRowPages dec cols mcols pages hwf hfit, hlive]
  rfl

theorem encRowPages_length (cols : List Col) (pages : List (List RowV)) (hwf : ∀ pg ∈ pages, ∀ r ∈ pg, r.WF cols)
    (hfit : pagesFit (pages.map fun pg => pg.map (formTuple cols))) : (encRowPages cols pages).length = 8192 * pages.length := by
  unfold encRowPages
  rw [encTuplePages_length _ (heap_tuples_WF cols pages hwf) hfit, length_map]

/-- attnums 1, 2, 3, … without gaps (every real relation: dropped columns keep their pg_attribute row) -/
def DenseFrom : Nat → List AttrRow → Prop
  | _, [] => True
  | i, a :: as => a.num = (i : Int) + 1 ∧ DenseFrom (i + 1) as

/-- the `Column` dumpTable builds for an attribute: `Align` is the attalign character ParsePGAttribute read -/
def toolColumn (a : AttrRow) : Column := ⟨a.name, a.typid, a.len, a.num, (alignByte a).toNat⟩

/-- fixes/cluster/08: the attalign character ParsePGAttribute read, turned back by `alignFromChar`, is the attribute's alignment,
for every type, known to `typeAlign` or not -/
theorem toolColumn_align (a : AttrRow) (h : a.align = 1 ∨ a.align = 2 ∨ a.align = 4 ∨ a.align = 8) :
    colAlign (toolColumn a) = a.align := by
  have hc : alignFromChar (UInt8.ofNat (alignCh a.align)).toNat = a.align := by
    rcases h with h | h | h | h <;> rw [h] <;> decide
  unfold colAlign toolColumn alignByte
  simp only [hc]
  rw [if_neg (by omega)]

theorem colsMatch_attrs : ∀ (i : Nat) (as : List AttrRow), DenseFrom i as →
    (∀ a ∈ as, a.align = 1 ∨ a.align = 2 ∨ a.align = 4 ∨ a.align = 8) → ColsMatch i (as.map toolColumn) (as.map attrCol)
  | _, [], _, _ => trivial
  | i, a :: as, hd, ha => by
    refine ⟨⟨rfl, rfl, rfl, Or.inr hd.1, toolColumn_align a (ha a (by simp))⟩, colsMatch_attrs (i + 1) as hd.2 (fun x hx => ha x (by simp [hx]))⟩

theorem relOfFilenode_eq (cls : HeapOf ClassRow) (r : ClassRow) (hr : r ∈ cls.live) (hf : r.filenode ≠ 0)
    (hnd : ((cls.live.filter (·.filenode != 0)).map (·.filenode)).Nodup) : relOfFilenode cls r.filenode = some r := by
  unfold relOfFilenode
  cases hfind : cls.live.find? (fun x => decide (x.filenode = r.filenode)) with
  | none =>
    have := find?_eq_none.mp hfind r hr
    simp at this
  | some r' =>
    have hp : r'.filenode = r.filenode := by simpa using find?_some hfind
    have hm : r' ∈ cls.live := mem_of_find?_eq_some hfind
    have hinj := inj_of_nodup_map (f := ClassRow.filenode) hnd
    have h1 : r' ∈ cls.live.filter (·.filenode != 0) := mem_filter.mpr ⟨hm, by simpa [hp] using hf⟩
    have h2 : r ∈ cls.live.filter (·.filenode != 0) := mem_filter.mpr ⟨hr, by simpa using hf⟩
    rw [hinj r' h1 r h2 hp]

structure RelReadable (d : DbContent) (r : ClassRow) : Prop where
  dense : DenseFrom 0 (userAttrs d.att r.oid)

/-- fixes/cluster/09: a table without columns has one empty row per live row version -/
theorem readTableRows_nocols (dec : Dec) (pages : List (List RowV)) (hwf : ∀ pg ∈ pages, ∀ r ∈ pg, r.WF [])
    (hfit : pagesFit (pages.map fun pg => pg.map (formTuple []))) :
    readTableRows (readRows dec) (encRowPages [] pages) [] = .ok ((liveRows pages []).map (fun _ => ([] : DRow))) := by
  unfold readTableRows
  rw [if_neg (by simp)]
  unfold encRowPages
  rw [encTuplePages_eq]
  have hmap := scan_tuples (blocksOf (pages.map fun pg => pg.map (formTuple []))) [] true
    (blocksOf_WF _ (heap_tuples_WF [] pages hwf) hfit) (by simp)
  rw [readTuples_eq]
  generalize scan true _ = es at hmap ⊢
  simp only [ok_bind, pure_eq_ok]
  have hlen : es.length = (liveRows pages []).length := by
    have h1 := congrArg List.length hmap
    rw [length_map, length_map, fileTuples_blocksOf, ← map_flatten, filter_map, length_map] at h1
    rw [h1]
    unfold liveRows
    congr 1
  congr 1
  rw [map_const', map_const', hlen]

theorem fillMissing_nil (val : Spec.Val) : ∀ (attrs : List AttrRow) (n : Nat) (row : DRow), fillMissing val [] attrs n row = row
  | [], _, _ => by simp [fillMissing]
  | _ :: _, _, [] => by simp [fillMissing]
  | a :: as, n, kv :: row => by
    simp only [fillMissing, List.lookup_nil]
    rw [fillMissing_nil val as (n - 1) row]

def specRows (val : Spec.Val) (d : DbContent) (o : Options) (r : ClassRow) : List DRow :=
  if o.listOnly then []
  else match d.heaps.lookup r.filenode with
    | some pages => (liveRows pages ((userAttrs d.att r.oid).map attrCol)).map fun row =>
        fillMissing val d.missing (userAttrs d.att r.oid) row.natts (storedRow val d.detoast ((userAttrs d.att r.oid).map attrCol) row)
    | none => []

def specCols (d : DbContent) (r : ClassRow) : List ColumnInfo :=
  (userAttrs d.att r.oid).map fun a => ⟨a.name, (Spec.typeName a.typid).getD [], a.typid⟩

theorem expectedTable_eq (val : Spec.Val) (d : DbContent) (o : Options) (r : ClassRow) :
    expectedTable val d o r =
      { oid := r.oid, name := r.name, filenode := r.filenode, kind := [114], columns := specCols d r,
        rows := specRows val d o r, rowCount := (specRows val d o r).length } := rfl

theorem normTable_rel (r : ClassRow) (hk : r.kind = 114) (colsM : List ColumnInfo) (sc : List ColumnInfo) (R R' : List DRow)
    (hc : colsM.map normCol = sc) (hR : R = R') :
    normTable { oid := (infoOfRel r).oid, name := (infoOfRel r).name, filenode := r.filenode, kind := (infoOfRel r).kind,
                columns := colsM, rows := R, rowCount := R.length } =
      { oid := r.oid, name := r.name, filenode := r.filenode, kind := [114], columns := sc, rows := R', rowCount := R'.length } := by
  subst hR hc
  simp only [normTable, infoOfRel, hk]
  rfl

theorem modelCols_norm (as : List AttrRow) :
    (((as.map attrInfoOf).map fun a => (⟨a.name, Model.typeName a.typid, a.typid⟩ : ColumnInfo)).map normCol) =
      as.map fun a => ⟨a.name, (Spec.typeName a.typid).getD [], a.typid⟩ := by
  rw [map_map, map_map]
  apply map_congr_left
  intro a _
  exact normCol_attr a

theorem _root_.PgVerif.Spec.DbContent.WF.clsNe {l : Layout} {d : DbContent} (h : d.WF l) : d.cls ≠ [] := h.1

theorem _root_.PgVerif.Spec.DbContent.WF.fnNodup {l : Layout} {d : DbContent} (h : d.WF l) :
    ((d.cls.live.filter (·.filenode != 0)).map (·.filenode)).Nodup := h.2.2.1

theorem _root_.PgVerif.Spec.DbContent.WF.attNodup {l : Layout} {d : DbContent} (h : d.WF l) :
    (d.att.live.map fun a => (a.relid, a.num)).Nodup := h.2.2.2.2.1

theorem _root_.PgVerif.Spec.DbContent.WF.fitCls {l : Layout} {d : DbContent} (h : d.WF l) :
    pagesFit (d.cls.map fun pg => pg.map fun s => formRow pgClassCols (classVals s.val) s.infomask) := h.2.2.2.2.2.2.1

theorem _root_.PgVerif.Spec.DbContent.WF.heap {l : Layout} {d : DbContent} (h : d.WF l) (fn : Nat) (pages : List (List RowV))
    (hlk : d.heaps.lookup fn = some pages) :
    ((colsOfFilenode d fn).map (·.name)).Nodup ∧ (∀ pg ∈ pages, ∀ r ∈ pg, r.WF (colsOfFilenode d fn)) ∧
      pagesFit (pages.map fun pg => pg.map (formTuple (colsOfFilenode d fn))) := by
  obtain ⟨_, hn, hr, hf⟩ := h.2.2.2.2.2.2.2.2.2 (fn, pages) (AssocMap.lookup_mem _ _ _ hlk)
  exact ⟨hn, fun pg hpg r hr' => (hr pg hpg r hr').1, hf⟩

theorem _root_.PgVerif.Spec.Cluster.WF.dbs {c : Cluster} (h : c.WF) :
    ∀ s ∈ c.dbs.versions, nameOK s.val.name ∧ 0 < s.val.oid ∧ s.val.oid < 2 ^ 32 ∧ s.infomask < 65536 := h.2.2.2.1

theorem _root_.PgVerif.Spec.Cluster.WF.fitDbs {c : Cluster} (h : c.WF) :
    pagesFit (c.dbs.map fun pg => pg.map fun s => formRow (pgDatabaseCols c.pgVersion) (dbVals c.pgVersion s.val) s.infomask) :=
  h.2.2.2.2.1

theorem _root_.PgVerif.Spec.Cluster.WF.contentNodup {c : Cluster} (h : c.WF) : (c.content.map (·.1)).Nodup := h.2.2.2.2.2.1

theorem _root_.PgVerif.Spec.Cluster.WF.content {c : Cluster} (h : c.WF) (oid : Nat) (d : DbContent)
    (hlk : c.content.lookup oid = some d) : d.WF c.layout := h.2.2.2.2.2.2 (oid, d) (AssocMap.lookup_mem _ _ _ hlk)

theorem dbWF_parts (l : Layout) (d : DbContent) (hwf : d.WF l) :
    (∀ s ∈ d.cls.versions, nameOK s.val.name ∧ s.val.oid < 2 ^ 32 ∧ s.val.filenode < 2 ^ 32 ∧ s.infomask < 65536) ∧
    AttHeapWF l d.att ∧ (∀ r ∈ d.cls.live, r.kind < 256) ∧ (∀ r ∈ d.cls.live, 0 < r.oid) := by
  obtain ⟨_, _, _, hcls, _, hatt, _, hfita, _, _⟩ := hwf
  refine ⟨fun s hs => ?_, ⟨fun s hs => ?_, hfita⟩, fun r hr => ?_, fun r hr => ?_⟩
  · obtain ⟨hname, hoid, _, hfn, _, him, _⟩ := hcls s hs
    exact ⟨hname, hoid, hfn, him⟩
  · obtain ⟨hname, _, hrel, htyp, hnum, hnum', hlen, hlen', him, halign⟩ := hatt s hs
    exact ⟨⟨hname, hrel, htyp, ⟨hnum, hnum'⟩, ⟨hlen, hlen'⟩, halign⟩, him⟩
  · obtain ⟨s, hs, rfl⟩ := live_mem_versions d.cls r hr
    obtain ⟨_, _, _, _, hkind, _⟩ := hcls s hs
    exact hkind
  · obtain ⟨s, hs, rfl⟩ := live_mem_versions d.cls r hr
    obtain ⟨_, _, hpos, _⟩ := hcls s hs
    exact hpos

theorem readTableRows_spec (dec : Dec) (tbl : List (Datum × Bytes)) (as : List AttrRow) (pages : List (List RowV))
    (hdense : DenseFrom 0 as) (halign : ∀ a ∈ as, a.align = 1 ∨ a.align = 2 ∨ a.align = 4 ∨ a.align = 8)
    (hnames : ((as.map attrCol).map (·.name)).Nodup) (hwf : ∀ pg ∈ pages, ∀ r ∈ pg, r.WF (as.map attrCol))
    (hfit : pagesFit (pages.map fun pg => pg.map (formTuple (as.map attrCol))))
    (hinl : ∀ pg ∈ pages, ∀ row ∈ pg, row.vals.all inlineDatum = true) (rows : List Row)
    (h : readTableRows (readRows dec) (encRowPages (as.map attrCol) pages) (as.map toolColumn) = .ok rows) :
    rows = (liveRows pages (as.map attrCol)).map (storedRow (varlenaVal dec) tbl (as.map attrCol)) := by
  cases as with
  | nil =>
    rw [map_nil] at hwf hfit
    rw [map_nil, map_nil, readTableRows_nocols dec pages hwf hfit] at h
    cases h
    exact map_congr_left fun r' _ => by unfold storedRow; cases r'.vals <;> rfl
  | cons a as =>
    unfold readTableRows at h
    rw [if_pos (by simp)] at h
    rw [readRows_heap dec _ _ pages (colsMatch_attrs 0 _ hdense halign) (by simp) hwf hfit hnames rows h]
    exact map_congr_left fun r' hr' => by
      obtain ⟨pg, hpg, hrp⟩ := mem_flatten.mp (mem_filter.mp hr').1
      exact (storedRow_inline _ _ _ r' (hinl pg hpg r' hrp)).symm

/-- one table in full: the statement of `C01_rows` -/
theorem dumpTable_spec (dec : Dec) (l : Layout) (d : DbContent) (o : Options) (r : ClassRow) (rd : FileReader)
    (hr : r ∈ d.cls.live) (hkind : r.kind = 114) (hfn : r.filenode ≠ 0) (hwf : d.WF l)
    (hreader : o.listOnly = false →
      rd r.filenode = (d.heaps.lookup r.filenode).map (encRowPages (colsOfFilenode d r.filenode)))
    (hok : ∀ pages, d.heaps.lookup r.filenode = some pages → o.listOnly = false → pages ≠ [] → RelReadable d r)
    (hinl : ∀ pages, d.heaps.lookup r.filenode = some pages → o.listOnly = false →
      ∀ pg ∈ pages, ∀ row ∈ pg, row.vals.all inlineDatum = true)
    (hmiss : d.missing = [])
    (t : TableDump)
    (h : dumpTable (readRows dec) r.filenode (infoOfRel r) ((userAttrs d.att r.oid).map attrInfoOf) (some rd) o = .ok t) :
    normTable t = expectedTable (varlenaVal dec) d o r := by
  have halign : ∀ a ∈ userAttrs d.att r.oid, a.align = 1 ∨ a.align = 2 ∨ a.align = 4 ∨ a.align = 8 := by
    intro a ha
    obtain ⟨s, hs, rfl⟩ := live_mem_versions d.att a (mem_filter.mp ((mem_sortAttrs a _).mp ha)).1
    exact ((dbWF_parts l d hwf).2.1.rows s hs).1.align
  have hcols := modelCols_norm (userAttrs d.att r.oid)
  have hcf : colsOfFilenode d r.filenode = (userAttrs d.att r.oid).map attrCol := by
    unfold colsOfFilenode
    rw [relOfFilenode_eq d.cls r hr hfn hwf.fnNodup]
  rw [expectedTable_eq]
  unfold dumpTable at h
  simp only at h
  -- schema-only, no heap file, an empty heap file: no rows; otherwise the rows of the heap file
  cases hl : o.listOnly with
  | true =>
    rw [hl, if_pos rfl] at h
    cases h
    exact normTable_rel r hkind _ _ [] _ hcols (by simp [specRows, hl])
  | false =>
    rw [hl, if_neg (by simp)] at h
    simp only [hreader hl] at h
    cases hlk : d.heaps.lookup r.filenode with
    | none =>
      simp only [hlk, Option.map_none] at h
      cases h
      exact normTable_rel r hkind _ _ [] _ hcols (by simp [specRows, hl, hlk])
    | some pages =>
      obtain ⟨hnames, hrows, hfit⟩ := hwf.heap r.filenode pages hlk
      rw [hcf] at hnames hrows hfit
      simp only [hlk, Option.map_some, hcf] at h
      have hlen := encRowPages_length _ pages hrows hfit
      by_cases hd0 : (encRowPages ((userAttrs d.att r.oid).map attrCol) pages).length = 0
      · rw [if_pos hd0] at h
        cases h
        have hp : pages = [] := length_eq_zero_iff.mp (by omega)
        exact normTable_rel r hkind _ _ [] _ hcols (by simp [specRows, hl, hlk, hp, liveRows])
      · rw [if_neg hd0] at h
        obtain ⟨rows, hrr, h⟩ := bind_eq_ok h
        cases h
        refine normTable_rel r hkind _ _ rows _ hcols ?_
        rw [map_map] at hrr
        simp only [specRows, hl, hlk, Bool.false_eq_true, if_false, hmiss, fillMissing_nil]
        exact readTableRows_spec dec d.detoast _ pages
          (hok pages hlk hl (by rintro rfl; exact hd0 (by rw [hlen]; rfl))).dense halign hnames
          hrows hfit (hinl pages hlk hl) rows hrr

/-- what the two catalog parsers hold for a database: the values of the table map are the live pg_class rows with storage (an
equation on the list of values; that each sits under its own filenode is `KeysOK`), and under every relation oid stand its live
user attributes in attnum order.  The directory dump's table loop and the client's `Tables()` / `Columns()` both answer from it. -/
structure Loaded (d : DbContent) (tables : List (Nat × TableInfo)) (attrs : List (Nat × List AttrInfo)) : Prop where
  rels : tables.map (·.2) = (d.cls.live.filter (·.filenode != 0)).map infoOfRel
  cols : ∀ k, 0 < k → (mapGet attrs k).getD [] = (userAttrs d.att k).map attrInfoOf

theorem loaded_enc (dec : Dec) (hd : CatDec dec) (l : Layout) (d : DbContent) (ver : Nat) (hwf : d.WF l)
    (hs : SchemaOK l d.att ver) :
    ∃ tables attrs, parsePGClass (readRows dec) (encHeapOf pgClassCols classVals d.cls) = .ok tables ∧
      parsePGAttribute (readRows dec) (encHeapOf (pgAttributeCols l) (attrVals l) d.att) ver = .ok attrs ∧
      Loaded d tables attrs := by
  obtain ⟨hcls, haw, _, _⟩ := dbWF_parts l d hwf
  obtain ⟨rows, hrows_ok, hrows⟩ := readRows_class dec hd d.cls hcls hwf.fitCls
  obtain ⟨tables, ht, hvals⟩ := parsePGClass_live (readRows dec) _ rows d.cls.live hrows_ok hrows hwf.fnNodup
  obtain ⟨attrs, ha, hattrs⟩ := parsePGAttribute_enc dec hd l d.att ver haw hs hwf.attNodup
  exact ⟨tables, attrs, ht, ha, hvals, hattrs⟩

/-- the catalog pass: DumpDatabaseFromFiles is the loop of dumpTable over the selected relations in filenode order, each with its
user attributes in attnum order -/
theorem dumpDatabase_tables (dec : Dec) (hd : CatDec dec) (π : MapOrder TableInfo) (hπ : ∀ l, π l ~ l) (l : Layout)
    (d : DbContent) (o : Options) (reader : Option FileReader) (hwf : d.WF l) (hs : SchemaOK l d.att o.pgVersion)
    (hasc : GoCase.FilterStable o d.cls.live) :
    dumpDatabaseFromFiles (readRows dec) π (encHeapOf pgClassCols classVals d.cls)
        (encHeapOf (pgAttributeCols l) (attrVals l) d.att) reader o =
      collectM (fun r : ClassRow => do
          let t ← dumpTable (readRows dec) r.filenode (infoOfRel r)
            ((userAttrs d.att r.oid).map attrInfoOf) reader o
          pure (some t))
        (insertionSort (byKey ClassRow.filenode) (d.cls.live.filter (selectedRel o))) := by
  obtain ⟨_, _, hkind, hoid⟩ := dbWF_parts l d hwf
  obtain ⟨tables, attrs, ht, ha, hL⟩ := loaded_enc dec hd l d o.pgVersion hwf hs
  rw [dumpDatabaseFromFiles_eq _ π hπ, ht, ok_bind, ha, ok_bind, hL.rels, kept_of_live o d.cls.live hwf.fnNodup hkind hasc,
    PgVerif.Proofs.collectM_map _ infoOfRel]
  refine Isolation.collectM_congr _ _ _ fun r hr => ?_
  rw [dumpInfo, show (infoOfRel r).oid = r.oid from rfl, hL.cols _ (hoid r (mem_filter.mp ((mem_insertionSort _).mp hr)).1)]
  rfl

theorem dumpDatabase_spec (dec : Dec) (hd : CatDec dec) (π : MapOrder TableInfo) (hπ : ∀ l, π l ~ l) (l : Layout)
    (d : DbContent) (o : Options) (db : DbRow) (rd : FileReader) (hwf : d.WF l) (hs : SchemaOK l d.att o.pgVersion)
    (hasc : GoCase.FilterStable o d.cls.live) (hA02 : A02Free d o) (hmiss : d.missing = [])
    (hreader : ∀ r ∈ d.cls.live, selectedRel o r = true → o.listOnly = false →
      rd r.filenode = (d.heaps.lookup r.filenode).map (encRowPages (colsOfFilenode d r.filenode)))
    (hok : ∀ r ∈ d.cls.live, selectedRel o r = true → ∀ pages, d.heaps.lookup r.filenode = some pages →
      o.listOnly = false → pages ≠ [] → RelReadable d r)
    (ts : List TableDump)
    (h : dumpDatabaseFromFiles (readRows dec) π (encHeapOf pgClassCols classVals d.cls)
          (encHeapOf (pgAttributeCols l) (attrVals l) d.att) (some rd) o = .ok ts) :
    ts.map normTable = (expectedDb (varlenaVal dec) o db d).tables := by
  rw [dumpDatabase_tables dec hd π hπ l d o (some rd) hwf hs hasc] at h
  rw [expectedDb_tables]
  refine collectM_map_spec _ normTable (expectedTable (varlenaVal dec) d o) _ ts h ?_
  intro r hr t ht'
  have hmem := mem_filter.mp ((mem_insertionSort _).mp hr)
  obtain ⟨hk114, hfn0⟩ := selectedRel_kind o r hmem.2
  exact dumpTable_spec dec l d o r rd hmem.1 hk114 hfn0 hwf (hreader r hmem.1 hmem.2) (hok r hmem.1 hmem.2)
    (fun pages hlk hl => hA02 hl r hmem.1 hmem.2 pages hlk) hmiss t ht'

def tableCols (t : TableDump) : (Nat × Bytes × Nat × Bytes) × List ColumnInfo := (tableKey t, t.columns.map normCol)

/-- the file tree a reader sees is the one the cluster is encoded into (`Spec.fsOf c` is one, see `treeOf_fsOf`) -/
structure TreeOf (c : Cluster) (fs : Bytes → Option Bytes) : Prop where
  global : fs pathGlobal1262 = some (encHeapOf (pgDatabaseCols c.pgVersion) (dbVals c.pgVersion) c.dbs)
  cls : ∀ oid d, c.content.lookup oid = some d → fs (basePath oid 1259) = some (encHeapOf pgClassCols classVals d.cls)
  att : ∀ oid d, c.content.lookup oid = some d →
    fs (basePath oid 1249) = some (encHeapOf (pgAttributeCols c.layout) (attrVals c.layout) d.att)
  heap : ∀ oid d, c.content.lookup oid = some d → ∀ fn, fn ≠ 1259 → fn ≠ 1249 → d.raws.lookup fn = none →
    fs (basePath oid fn) = (d.heaps.lookup fn).map (encRowPages (colsOfFilenode d fn))
  /-- a database without a directory has no pg_class file (nothing to do with `DbContent.missing`, the fast defaults) -/
  missing : ∀ oid, c.content.lookup oid = none → fs (basePath oid 1259) = none

/-- what every real cluster meets and `DbContent.WF` does not state: the version hint, if any, names the layout and the attstorage
characters are legal (`SchemaOK`); a dumped table shares its file name with no catalog or non-heap relation; its attnums have no
gaps; table filter and relation names are strings on which Go's `ToLower` is the Spec's ASCII lower-casing (`GoCase.FilterStable`) -/
structure DbDumpable (l : Layout) (d : DbContent) (o : Options) : Prop where
  schema : SchemaOK l d.att o.pgVersion
  ascii : GoCase.FilterStable o d.cls.live
  files : ∀ r ∈ d.cls.live, selectedRel o r = true → r.filenode ≠ 1259 ∧ r.filenode ≠ 1249 ∧ d.raws.lookup r.filenode = none
  readable : ∀ r ∈ d.cls.live, selectedRel o r = true → ∀ pages, d.heaps.lookup r.filenode = some pages →
    o.listOnly = false → pages ≠ [] → RelReadable d r

theorem classFile_length (l : Layout) (d : DbContent) (hwf : d.WF l) :
    (encHeapOf pgClassCols classVals d.cls).length ≠ 0 := by
  have hcls := (dbWF_parts l d hwf).1
  unfold encHeapOf
  rw [encTuplePages_length _ (encHeapOf_tuples_WF pgClassCols classVals d.cls fun s hs =>
    catalog_WF pgClassCols (classVals s.val) s.infomask (classVals_OK s.val (by have := (hcls s hs).1.2.1; omega))
      (by decide) (hcls s hs).2.2.2) hwf.fitCls, length_map]
  have := length_pos_iff.mpr hwf.clsNe
  omega

def dbKey (d : DatabaseDump) : Nat × Bytes := (d.oid, d.name)

/-- the content of `db` if the dump lists it: it is selected and has a directory -/
def dumpedDb (c : Cluster) (o : Options) (db : DbRow) : Option DbContent :=
  if selectedDb o db = true then c.content.lookup db.oid else none

theorem dumpedDb_some {c : Cluster} {o : Options} {db : DbRow} {d : DbContent} (h : dumpedDb c o db = some d) :
    selectedDb o db = true ∧ c.content.lookup db.oid = some d := by
  unfold dumpedDb at h
  split at h
  · exact ⟨‹_›, h⟩
  · cases h

theorem dumpDb_tree (dec : Dec) (π : MapOrder TableInfo) (c : Cluster) (o : Options) (fs : Bytes → Option Bytes) (hwf : c.WF)
    (htree : TreeOf c fs) (db : DbRow) (htpl : isTemplateName db.name = db.isTemplate) :
    dumpDb (readRows dec) π fs o ⟨db.oid, db.name⟩ =
      match dumpedDb c o db with
      | some d =>
        dumpDatabaseFromFiles (readRows dec) π (encHeapOf pgClassCols classVals d.cls)
          (encHeapOf (pgAttributeCols c.layout) (attrVals c.layout) d.att) (some fun fn => fs (basePath db.oid fn)) o >>= fun ts =>
        pure (some ⟨db.oid, db.name, ts⟩)
      | none => pure none := by
  -- DumpDataDir's two name tests are the Spec's selection; its third test fires only without a directory: an encoded
  -- pg_class is never empty
  have hskip : (isPrefixB (strBytes "template") db.name = true ∨ (o.dbFilter != [] && db.name != o.dbFilter) = true) ↔
      ¬ selectedDb o db = true := by
    rw [selectedDb_eq, ← htpl, isTemplateName]
    cases isPrefixB (strBytes "template") db.name <;> cases (o.dbFilter != [] && db.name != o.dbFilter) <;> simp
  rw [dumpDb_eq, dumpedDb]
  dsimp only
  cases hlk : c.content.lookup db.oid with
  | none =>
    rw [htree.missing db.oid hlk, ite_self]
    exact if_pos (Or.inr (Or.inr rfl))
  | some d =>
    have hlen := classFile_length c.layout d (hwf.content db.oid d hlk)
    rw [htree.cls db.oid d hlk, htree.att db.oid d hlk]
    simp only [Option.getD_some]
    by_cases hs : selectedDb o db = true
    · rw [if_pos hs]
      exact if_neg fun h => (or_assoc.mpr h).elim (fun h' => hskip.mp h' hs) hlen
    · rw [if_neg hs]
      exact if_pos (or_assoc.mp (Or.inl (hskip.mpr hs)))

theorem expectedDump_eq (val : Spec.Val) (c : Cluster) (o : Options) :
    expectedDump val c o = c.dbs.live.filterMap fun db => (dumpedDb c o db).map (expectedDb val o db) := by
  unfold expectedDump dumpedDb
  induction c.dbs.live with
  | nil => rfl
  | cons db rest ih =>
    rw [filter_cons, filterMap_cons]
    by_cases hs : selectedDb o db = true
    · rw [if_pos hs, if_pos hs, filterMap_cons, ih]
    · rw [if_neg hs, if_neg hs, ih]; rfl

/-- DumpDataDir on the tree of a cluster, seen through any view `G` of a database entry (`C01_dump`, `C01_databases` are two views) -/
theorem dumpDataDir_tree {γ} (dec : Dec) (hd : CatDec dec) (π : MapOrder TableInfo) (c : Cluster) (o : Options)
    (fs : Bytes → Option Bytes) (hwf : c.WF) (htree : TreeOf c fs) (htpl : TemplatesByName c) (G : DatabaseDump → γ)
    (E : DbRow → DbContent → γ)
    (hE : ∀ db ∈ c.dbs.live, ∀ d, dumpedDb c o db = some d → ∀ ts,
      dumpDatabaseFromFiles (readRows dec) π (encHeapOf pgClassCols classVals d.cls)
        (encHeapOf (pgAttributeCols c.layout) (attrVals c.layout) d.att) (some fun fn => fs (basePath db.oid fn)) o = .ok ts →
      G ⟨db.oid, db.name, ts⟩ = E db d)
    (r : DumpResult) (h : dumpDataDir (readRows dec) π fs o = .ok (some r)) :
    r.map G = c.dbs.live.filterMap fun db => (dumpedDb c o db).map (E db) := by
  obtain ⟨data, dbs, hf, hp, hc⟩ := dumpDataDir_ok h
  cases htree.global.symm.trans hf
  cases (parsePGDatabase_enc dec hd c.pgVersion c.dbs hwf.dbs hwf.fitDbs).symm.trans hp
  rw [PgVerif.Proofs.collectM_map _ (fun d : DbRow => (⟨d.oid, d.name⟩ : DatabaseInfo))] at hc
  refine collectM_filterMap_spec _ G _ c.dbs.live _ hc fun db hdb y hy => ?_
  rw [dumpDb_tree dec π c o fs hwf htree db (htpl db hdb)] at hy
  cases hx : dumpedDb c o db with
  | none => rw [hx] at hy; cases hy; rfl
  | some d =>
    rw [hx] at hy
    obtain ⟨ts, hdf, hy⟩ := bind_eq_ok hy
    cases hy
    exact congrArg some (hE db hdb d hx ts hdf)

/-- the statement of `C01_dump`, on any `TreeOf` tree -/
theorem dumpDataDir_spec (dec : Dec) (hd : CatDec dec) (π : MapOrder TableInfo) (hπ : ∀ l, π l ~ l) (c : Cluster) (o : Options)
    (fs : Bytes → Option Bytes) (hwf : c.WF) (htree : TreeOf c fs) (htpl : TemplatesByName c)
    (hdump : ∀ db ∈ c.dbs.live, selectedDb o db = true → ∀ d, c.content.lookup db.oid = some d →
      DbDumpable c.layout d o ∧ A02Free d o)
    (hnm : c.NoFastDefaults)
    (r : DumpResult) (h : dumpDataDir (readRows dec) π fs o = .ok (some r)) :
    r.map normDb = expectedDump (varlenaVal dec) c o := by
  rw [expectedDump_eq]
  refine dumpDataDir_tree dec hd π c o fs hwf htree htpl normDb _ (fun db hdb d hx ts hdf => ?_) r h
  obtain ⟨hsel, hlk⟩ := dumpedDb_some hx
  obtain ⟨hdd, hA02⟩ := hdump db hdb hsel d hlk
  have := dumpDatabase_spec dec hd π hπ c.layout d o db (fun fn => fs (basePath db.oid fn)) (hwf.content db.oid d hlk)
    hdd.schema hdd.ascii hA02 (hnm (db.oid, d) (AssocMap.lookup_mem _ _ _ hlk))
    (fun r hr hs _ => by
      obtain ⟨h1, h2, h3⟩ := hdd.files r hr hs
      exact htree.heap db.oid d hlk r.filenode h1 h2 h3)
    hdd.readable ts hdf
  simp only [normDb, this]
  rfl

/-- the statement of `C01_databases`, on any `TreeOf` tree: nothing is assumed about the table-level content.  `val` is arbitrary (the
keys do not depend on it): pass any, e.g. `varlenaVal dec` -/
theorem dumpDataDir_databases (dec : Dec) (hd : CatDec dec) (π : MapOrder TableInfo) (c : Cluster) (o : Options) (val : Spec.Val)
    (fs : Bytes → Option Bytes) (hwf : c.WF) (htree : TreeOf c fs) (htpl : TemplatesByName c)
    (r : DumpResult) (h : dumpDataDir (readRows dec) π fs o = .ok (some r)) :
    r.map dbKey = (expectedDump val c o).map dbKey := by
  rw [expectedDump_eq, map_filterMap]
  refine (dumpDataDir_tree dec hd π c o fs hwf htree htpl dbKey (fun db _ => (db.oid, db.name)) (fun _ _ _ _ _ _ => rfl) r h).trans ?_
  exact congrArg (filterMap · c.dbs.live) (funext fun db => by cases dumpedDb c o db <;> rfl)

end PgVerif.Proofs.Cluster
