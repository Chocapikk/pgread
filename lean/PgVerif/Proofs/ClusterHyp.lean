/-
  The executable hypothesis check of the full dump theorem (Model/ClusterHyp.lean, tag `hyp:dump=ok` of family `cluster_dump`) implies
  those hypotheses of `C01_dump` that speak of the cluster and the options.
-/
import PgVerif.Proofs.ClusterFull
import PgVerif.Model.ClusterHyp
namespace PgVerif.Proofs.Cluster
open PgVerif PgVerif.Model PgVerif.Model.ClusterHyp PgVerif.Spec PgVerif.Proofs List

def dbWF_decidable (l : Layout) (d : DbContent) : Decidable (d.WF l) := by unfold DbContent.WF; infer_instance

def clusterWF_decidable (c : Cluster) : Decidable c.WF := by
  unfold Cluster.WF
  have := fun (p : Nat × DbContent) => dbWF_decidable c.layout p.2
  infer_instance

theorem denseB_sound : ∀ (i : Nat) (as : List AttrRow), denseB i as = true → DenseFrom i as
  | _, [], _ => trivial
  | i, a :: as, h => by
    simp only [denseB, Bool.and_eq_true, beq_iff_eq] at h
    exact ⟨h.1, denseB_sound (i + 1) as h.2⟩

theorem relReadableB_sound (d : DbContent) (r : ClassRow) (h : relReadableB d r = true) : RelReadable d r :=
  ⟨denseB_sound 0 _ h⟩

theorem storageOKB_sound (a : AttrRow) (h : storageOKB a = true) : StorageOK a := by
  simp only [storageOKB, Bool.or_eq_true, beq_iff_eq] at h
  rcases h with ((h | h) | h) | h
  · exact Or.inl h
  · exact Or.inr (Or.inl h)
  · exact Or.inr (Or.inr (Or.inl h))
  · exact Or.inr (Or.inr (Or.inr h))

theorem schemaOKB_sound (l : Layout) (att : HeapOf AttrRow) (ver : Nat) (h : schemaOKB l att ver = true) : SchemaOK l att ver := by
  simp only [schemaOKB, Bool.or_eq_true, Bool.and_eq_true, decide_eq_true_eq, beq_iff_eq, all_eq_true] at h
  rcases h with ((⟨h1, h2⟩ | ⟨⟨h1, h2⟩, h3⟩) | ⟨⟨h1, h2⟩, h3⟩) | ⟨h1, h2⟩
  · exact Or.inl ⟨h1, h2⟩
  · exact Or.inr (Or.inl ⟨h1, h2, h3⟩)
  · exact Or.inr (Or.inr (Or.inl ⟨h1, h2, h3⟩))
  · exact Or.inr (Or.inr (Or.inr ⟨h1, fun a ha => storageOKB_sound a (h2 a ha)⟩))

theorem dumpableB_sound (l : Layout) (d : DbContent) (o : Options) (h : dumpableB l d o = true) :
    DbDumpable l d o ∧ A02Free d o := by
  unfold dumpableB at h
  simp only [Bool.and_eq_true, decide_eq_true_eq, all_eq_true] at h
  obtain ⟨⟨⟨hschema, hascii⟩, ha02⟩, hrels⟩ := h
  -- what the last conjunct says of a selected relation
  have hrel : ∀ r ∈ d.cls.live, selectedRel o r = true →
      (r.filenode ≠ 1259 ∧ r.filenode ≠ 1249 ∧ d.raws.lookup r.filenode = none) ∧
      ∀ pages, d.heaps.lookup r.filenode = some pages → o.listOnly = false → pages ≠ [] → RelReadable d r := by
    intro r hr hsel
    have hb := hrels r hr
    simp only [hsel, Bool.not_true, Bool.false_or, Bool.and_eq_true, bne_iff_ne, ne_eq, Option.isNone_iff_eq_none] at hb
    obtain ⟨⟨⟨h1, h2⟩, h3⟩, hheap⟩ := hb
    refine ⟨⟨h1, h2, h3⟩, fun pages hp hlo hne => ?_⟩
    rw [hp] at hheap
    simp only [hlo, Bool.false_or, Bool.or_eq_true, isEmpty_iff] at hheap
    exact relReadableB_sound d r (hheap.resolve_left hne)
  exact ⟨⟨schemaOKB_sound l d.att _ hschema, hascii, fun r hr hs => (hrel r hr hs).1, fun r hr hs => (hrel r hr hs).2⟩, ha02⟩

/-- not covered: `Cluster.WF` (decidable itself: `clusterWF_decidable`), `CatDec`, the map orders -/
theorem dumpHypB_sound (c : Cluster) (o : Options) (h : dumpHypB c o = true) :
    TemplatesByName c ∧ c.Plain ∧ c.IdentityMapped ∧ c.NoFastDefaults ∧
    ∀ db ∈ c.dbs.live, selectedDb o db = true → ∀ d, c.content.lookup db.oid = some d → DbDumpable c.layout d o ∧ A02Free d o := by
  simp only [dumpHypB, Bool.and_eq_true, decide_eq_true_eq] at h
  obtain ⟨⟨⟨⟨htpl, hplain⟩, hid⟩, hnm⟩, h⟩ := h
  refine ⟨htpl, hplain, hid, hnm, ?_⟩
  intro db hdb hsel d hd
  simp only [all_eq_true, Bool.or_eq_true, Bool.not_eq_true'] at h
  rcases h db hdb with h | h
  · rw [hsel] at h; cases h
  · rw [hd] at h
    exact dumpableB_sound c.layout d o h

end PgVerif.Proofs.Cluster
