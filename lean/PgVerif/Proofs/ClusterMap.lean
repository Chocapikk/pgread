/-
  The catalog model's own sorts and maps: `sortNat`, `sortByFilenode`, `mapPut` (Go's `m[k] = v`), `mapAppend`, and the invariant
  `KeysOK` of the map ParsePGClass builds.
-/
import PgVerif.Model.Remote
import PgVerif.Proofs.CollectM
import PgVerif.Lib.AssocMap
namespace PgVerif.Proofs.Cluster
open PgVerif PgVerif.Model PgVerif.Sorting List

theorem sortNat_eq (l : List Nat) : sortNat l = insertionSort (byKey id) l :=
  foldr_eq_insertionSort (f := insertNat) _ (fun _ => rfl) (fun _ _ _ => rfl) l

theorem sortByFilenode_eq (l : List TableInfo) : sortByFilenode l = insertionSort (byKey (·.filenode)) l :=
  foldr_eq_insertionSort (f := insertByFilenode) _ (fun _ => rfl) (fun _ _ _ => rfl) l

/-- no distinctness needed: equal keys are equal elements -/
theorem sortNat_perm_invariant (l₁ l₂ : List Nat) (hp : l₁ ~ l₂) : sortNat l₁ = sortNat l₂ := by
  rw [sortNat_eq, sortNat_eq]
  exact byKey_eq_of_perm id hp fun _ _ _ _ => Nat.le_antisymm

theorem collectM_append {α β} (f : α → M (Option β)) (xs ys : List α) (rx ry : List β)
    (hx : collectM f xs = .ok rx) (hy : collectM f ys = .ok ry) : collectM f (xs ++ ys) = .ok (rx ++ ry) :=
  Isolation.collectM_append f xs ys rx ry hx hy

theorem mapPut_eq {β} (m : List (Nat × β)) (k : Nat) (v : β) : mapPut m k v = AssocMap.upsertFirst m k v fun _ => v := by
  induction m with
  | nil => rfl
  | cons e m ih => unfold mapPut AssocMap.upsertFirst; rw [ih]; simp

theorem mapAppend_eq {β} (m : List (Nat × List β)) (k : Nat) (v : β) :
    mapAppend m k v = AssocMap.upsertFirst m k [v] (· ++ [v]) := by
  induction m with
  | nil => rfl
  | cons e m ih => unfold mapAppend AssocMap.upsertFirst; rw [ih]; simp

theorem mapPut_absent {β} (m : List (Nat × β)) (k : Nat) (v : β) (h : k ∉ m.map (·.1)) : mapPut m k v = m ++ [(k, v)] :=
  (mapPut_eq m k v).trans (AssocMap.upsertFirst_fresh h v _)

theorem mapPut_nodup {β} (m : List (Nat × β)) (k : Nat) (v : β) (h : (m.map (·.1)).Nodup) :
    ((mapPut m k v).map (·.1)).Nodup := by
  rw [mapPut_eq, AssocMap.keys_upsertFirst]
  split
  · exact h
  · next hk => exact nodup_append.mpr ⟨h, by simp, fun a ha b hb => by rw [mem_singleton.mp hb]; exact fun e => hk (e ▸ ha)⟩

theorem mapPut_mem {β} (m : List (Nat × β)) (k : Nat) (v : β) (e : Nat × β) (he : e ∈ mapPut m k v) :
    e = (k, v) ∨ e ∈ m := by
  rw [mapPut_eq] at he
  rcases AssocMap.mem_upsertFirst he with h | ⟨_, _, h⟩ | ⟨_, h⟩
  · exact .inr h
  · exact .inl h
  · exact .inl h

theorem mapGet_mapPut {β} (m : List (Nat × β)) (k k' : Nat) (v : β) :
    mapGet (mapPut m k v) k' = if k' = k then some v else mapGet m k' := by
  rw [mapGet, mapPut_eq, AssocMap.lookup_upsertFirst, mapGet, AssocMap.lookup_upsert_const]

/-- Go: `result[relid] = append(result[relid], a)` read back, an absent key reading as the empty list -/
theorem mapGet_mapAppend {β} (m : List (Nat × List β)) (k k' : Nat) (v : β) :
    (mapGet (mapAppend m k' v) k).getD [] = (mapGet m k).getD [] ++ (if k' = k then [v] else []) := by
  rw [mapGet, mapAppend_eq, AssocMap.lookup_upsertFirst, mapGet]
  by_cases h : k = k'
  · subst h; rw [if_pos (beq_self_eq_true k), if_pos rfl]; cases m.lookup k <;> rfl
  · rw [if_neg (fun e => h (beq_iff_eq.mp e)), if_neg (fun e => h e.symm), List.append_nil]

/-- distinct keys, and each entry's Filenode field is its key -/
def KeysOK (m : List (Nat × TableInfo)) : Prop := (m.map (·.1)).Nodup ∧ ∀ e ∈ m, e.2.filenode = e.1

theorem keysOK_nil : KeysOK [] := ⟨by simp, by simp⟩

theorem classStep_keysOK (m : List (Nat × TableInfo)) (row : Row) (h : KeysOK m) : KeysOK (classStep m row) := by
  unfold classStep
  by_cases hfn : getOID row "relfilenode" > 0
  · simp only [hfn, if_true]
    refine ⟨mapPut_nodup _ _ _ h.1, ?_⟩
    intro e he
    rcases mapPut_mem _ _ _ e he with h1 | h1
    · rw [h1]
    · exact h.2 e h1
  · simp only [hfn, if_false]; exact h

theorem foldl_classStep_keysOK (rows : List Row) (m : List (Nat × TableInfo)) (h : KeysOK m) :
    KeysOK (rows.foldl classStep m) := by
  induction rows generalizing m with
  | nil => exact h
  | cons r rs ih => exact ih _ (classStep_keysOK m r h)

theorem parsePGClass_keysOK (rr : RowReader) (data : Bytes) (t : List (Nat × TableInfo))
    (h : parsePGClass rr data = .ok t) : KeysOK t := by
  unfold parsePGClass at h
  obtain ⟨rows, _, h⟩ := bind_eq_ok h
  cases h
  exact foldl_classStep_keysOK rows [] keysOK_nil

theorem keysOK_filenodes {m : List (Nat × TableInfo)} (h : KeysOK m) : (m.map (·.2)).map (·.filenode) = m.map (·.1) := by
  rw [map_map]; exact map_congr_left h.2

/-- RemoteClient.Tables, whatever order the map is iterated in (the core of C11, DESIGN.md B.10) -/
theorem tablesOf_eq_sort (π : MapOrder TableInfo) (hπ : ∀ l, π l ~ l) (t : List (Nat × TableInfo)) (hk : KeysOK t) :
    tablesOf π t = sortByFilenode (t.map (·.2)) := by
  unfold tablesOf
  rw [sortByFilenode_eq, sortByFilenode_eq]
  exact byKey_eq_of_perm _ ((hπ t).map _) ((antisymmOn_key _ (keysOK_filenodes hk ▸ hk.1)).perm ((hπ t).map _).symm)

end PgVerif.Proofs.Cluster
