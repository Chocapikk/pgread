/-
  The heap files a `Spec.Cluster` is encoded into (`Spec.encTuplePages`: one page per list of tuples) are well-formed heap files in the
  sense of areas `heap` / `rows`, so ReadRows on them is the per-tuple decoder over the stored tuples.
-/
import PgVerif.Proofs.RowsFile
import PgVerif.Model.Rows
import PgVerif.Spec.Cluster
namespace PgVerif.Proofs.Cluster
open PgVerif PgVerif.Model PgVerif.Spec PgVerif.Proofs PgVerif.Proofs.Rows List

theorem slotsOf_snd (ts : List Tuple) (p : Nat) : (slotsOf ts p).map (·.2) = ts := by
  induction ts generalizing p with
  | nil => rfl
  | cons t ts ih => simp [slotsOf, ih]

theorem slotsOf_length (ts : List Tuple) (p : Nat) : (slotsOf ts p).length = ts.length := by
  rw [← length_map (f := (·.2)), slotsOf_snd]

def lastPad (ts : List Tuple) : Nat := match ts.getLast? with | some t => pad8 t.len | none => 0

theorem slotsOf_sum (t : Tuple) (ts : List Tuple) (p : Nat) :
    ((slotsOf (t :: ts) p).map slotLen).sum + lastPad (t :: ts) =
      p + ((t :: ts).map fun t => t.len + pad8 t.len).sum := by
  induction ts generalizing t p with
  | nil => simp [slotsOf, slotLen, lastPad]; omega
  | cons u us ih =>
    have h := ih u (pad8 t.len)
    have hl : lastPad (t :: u :: us) = lastPad (u :: us) := by
      simp [lastPad, getLast?_cons_cons]
    rw [hl]
    simp only [slotsOf, map_cons, sum_cons, slotLen, zeros_length] at h ⊢
    omega

theorem pageNeed_eq (ts : List Tuple) : pageNeed ts = 24 + 4 * ts.length + (ts.map fun t => t.len + pad8 t.len).sum := by
  unfold pageNeed
  induction ts with
  | nil => rfl
  | cons t ts ih => simp only [map_cons, sum_cons, length_cons] at ih ⊢; omega

theorem pageOfTuples_eq (ts : List Tuple) : pageOfTuples ts =
    { hdr0 := zeros 12, special := 8192, version := 4, prune := 0,
      lps := (List.range ts.length).map .normal,
      free := zeros (8192 - (24 + 4 * ts.length) - ((slotsOf ts 0).map slotLen).sum - lastPad ts),
      slots := slotsOf ts 0, tail := zeros (lastPad ts) } := rfl

theorem pageOfTuples_WF (ts : List Tuple) (hwf : ∀ t ∈ ts, t.WF) (hfit : pageNeed ts ≤ 8192) : (pageOfTuples ts).WF := by
  rw [pageNeed_eq] at hfit
  rw [pageOfTuples_eq]
  refine ⟨by simp, by simp, by simp, by simp, by simp, ?_, ?_, ?_, normalSlots_nodup_of_range _ ts.length rfl⟩
  · intro l hl
    simp only [mem_map, mem_range] at hl
    obtain ⟨k, hk, rfl⟩ := hl
    simp only [LP.WF, slotsOf_length]
    exact hk
  · intro s hs
    simp only at hs
    apply hwf
    rw [← slotsOf_snd ts 0]
    exact mem_map_of_mem hs
  · -- lengths first: the free space of an empty page is `zeros 8168`, which must not be evaluated
    simp only [Page.upper, Page.lower, zeros_length, length_map, length_range]
    cases ts with
    | nil => rfl
    | cons t ts =>
      have h := slotsOf_sum t ts 0
      generalize ((slotsOf (t :: ts) 0).map slotLen).sum = used at h ⊢
      generalize ((t :: ts).map fun t => t.len + pad8 t.len).sum = tot at h hfit
      generalize lastPad (t :: ts) = tl at h ⊢
      simp only [length_cons] at hfit ⊢
      omega

theorem pageOfTuples_tuples (ts : List Tuple) : (pageOfTuples ts).normalTuples = ts := by
  unfold Page.normalTuples
  rw [pageOfTuples_eq]
  simp only [filterMap_map]
  refine Eq.trans (filterMap_congr _ _ _ ?_) (by simpa using range_filterMap id ts)
  intro k _
  simp only [Function.comp]
  have h := congrArg (fun l => l[k]?) (slotsOf_snd ts 0)
  simp only [getElem?_map] at h
  exact h

def blocksOf (pages : List (List Tuple)) : List Block := pages.map fun ts => .page (pageOfTuples ts)

theorem encTuplePages_eq (pages : List (List Tuple)) : encTuplePages pages = encHeap (blocksOf pages) [] := by
  simp [encTuplePages, encHeap, blocksOf, flatMap_def, Function.comp_def, encBlock]

theorem fileTuples_blocksOf (pages : List (List Tuple)) : fileTuples (blocksOf pages) = pages.flatten := by
  simp [fileTuples, blocksOf, flatMap_def, Function.comp_def, Block.tuples, pageOfTuples_tuples]

theorem blocksOf_WF (pages : List (List Tuple)) (hwf : ∀ ts ∈ pages, ∀ t ∈ ts, t.WF) (hfit : pagesFit pages) :
    ∀ b ∈ blocksOf pages, b.WF := by
  intro b hb
  simp only [blocksOf, mem_map] at hb
  obtain ⟨ts, hts, rfl⟩ := hb
  exact pageOfTuples_WF ts (hwf ts hts) (hfit ts hts)

/-- in page then pointer order; when `vis` is set, the versions whose own hint bits say live -/
theorem readRows_pages (dec : Dec) (pages : List (List Tuple)) (mcols : List Column) (vis : Bool)
    (hwf : ∀ ts ∈ pages, ∀ t ∈ ts, t.WF) (hfit : pagesFit pages) :
    readRows dec (encTuplePages pages) mcols vis =
      collectM (fun t => decodeTuple dec (mtuple t) mcols) (pages.flatten.filter fun t => !vis || liveBits t.infomask) := by
  rw [readRows, readTuples_eq, ok_bind, encTuplePages_eq]
  exact collect_scan_tuples (fun t => decodeTuple dec t mcols) _ id _ [] vis _ (blocksOf_WF pages hwf hfit) (by simp)
    ((fileTuples_blocksOf pages).trans (List.map_id _).symm) fun _ _ => rfl

theorem encTuplePages_length (pages : List (List Tuple)) (hwf : ∀ ts ∈ pages, ∀ t ∈ ts, t.WF) (hfit : pagesFit pages) :
    (encTuplePages pages).length = 8192 * pages.length := by
  induction pages with
  | nil => rfl
  | cons ts pages ih =>
    have h1 := encBlock_length (.page (pageOfTuples ts)) (pageOfTuples_WF ts (hwf ts (by simp)) (hfit ts (by simp)))
    have h2 := ih (fun x hx => hwf x (by simp [hx])) (fun x hx => hfit x (by simp [hx]))
    simp only [encTuplePages, map_cons, flatten_cons, length_append, length_cons] at h2 ⊢
    simp only [encBlock] at h1
    rw [h1, h2]; omega

theorem form_split (m : Nat) : ∀ (cols : List Col) (vals : List (Option Datum)) (o : Nat),
    form cols vals o = form (cols.take m) (vals.take m) o ++
      form (cols.drop m) (vals.drop m) (o + (form (cols.take m) (vals.take m) o).length) := by
  induction m with
  | zero => intro cols vals o; simp [form]
  | succ m ih =>
    intro cols vals o
    cases cols with
    | nil => simp [form]
    | cons c cs =>
      cases vals with
      | nil => simp [form]
      | cons v vs =>
        cases v with
        | none =>
          simp only [take_succ_cons, drop_succ_cons, form]
          exact ih cs vs o
        | some d =>
          simp only [take_succ_cons, drop_succ_cons, form]
          rw [ih cs vs (o + (formDatum c o d).length)]
          simp [append_assoc, Nat.add_assoc]

end PgVerif.Proofs.Cluster
