/-
  The file tree `Spec.fsOf c` of a cluster satisfies `TreeOf`: paths are `base/<db oid>/<filenode>` in decimal, and distinct numbers
  give distinct paths.
-/
import PgVerif.Proofs.ClusterFull
import PgVerif.Proofs.TxtNumerals
namespace PgVerif.Proofs.Cluster
open PgVerif PgVerif.Model PgVerif.Spec PgVerif.Proofs List

theorem sb_base : strBytes "base/" = [98, 97, 115, 101, 47] := by decide +kernel
theorem sb_slash : strBytes "/" = [47] := by decide +kernel

theorem utf8_digitChar : ∀ d : Fin 10, String.utf8EncodeChar (Nat.digitChar d.val) = [Txt.digitCh d.val] := by decide

theorem toDigits_bytes (n : Nat) : (Nat.toDigits 10 n).flatMap String.utf8EncodeChar = Txt.decNat n := by
  induction n using Nat.strongRecOn with
  | _ n ih =>
    rw [TxtNumerals.decNat_rec]
    split
    · next h => rw [Nat.toDigits_of_lt_base h, flatMap_singleton]; exact utf8_digitChar ⟨n, h⟩
    · next h =>
      rw [Nat.toDigits_of_base_le (by decide) (by omega), flatMap_append, ih _ (by omega), flatMap_singleton]
      exact congrArg _ (utf8_digitChar ⟨n % 10, by omega⟩)

/-- the Spec's decimal text (core's `toString`) is the text the tool's printers write (`Txt.decNat`) -/
theorem natBytes_eq_decNat (n : Nat) : natBytes n = Txt.decNat n := by
  rw [natBytes, strBytes_eq, show (toString n).toList = Nat.toDigits 10 n from Nat.toList_repr, toDigits_bytes]

theorem natBytes_inj (a b : Nat) (h : natBytes a = natBytes b) : a = b :=
  TxtNumerals.decNat_injective a b (by rwa [natBytes_eq_decNat, natBytes_eq_decNat] at h)

theorem natBytes_digits (n : Nat) : ∀ b ∈ natBytes n, (48 : UInt8) ≤ b ∧ b ≤ 57 := fun b hb =>
  ((TxtNumerals.decNat_all n).2.1 b (natBytes_eq_decNat n ▸ hb)).imp UInt8.le_iff_toNat_le.2 UInt8.le_iff_toNat_le.2

theorem natBytes_no_slash (n : Nat) : (47 : UInt8) ∉ natBytes n :=
  fun h => absurd (natBytes_digits n 47 h).1 (by decide)

theorem pathBase_eq (db fn : Nat) : pathBase db fn = [98, 97, 115, 101, 47] ++ (natBytes db ++ 47 :: natBytes fn) := by
  unfold pathBase
  rw [sb_base, sb_slash]
  simp

theorem pathBase_inj (a b a' b' : Nat) (h : pathBase a b = pathBase a' b') : a = a' ∧ b = b' := by
  rw [pathBase_eq, pathBase_eq] at h
  have h1 := append_cancel_left h
  obtain ⟨h2, h3⟩ := append_cons_cancel _ _ _ _ (natBytes_no_slash a) (natBytes_no_slash a') h1
  exact ⟨natBytes_inj _ _ h2, natBytes_inj _ _ h3⟩

/-- a path that does not begin with the letter `b` is no `base/…` path -/
theorem ne_pathBase {p : Bytes} (hp : p.head? ≠ some 98) (db fn : Nat) : p ≠ pathBase db fn := by
  rintro rfl
  exact hp (by rw [pathBase_eq]; rfl)

theorem pathBase_ne_pgversion (db fn : Nat) : (pathBase db fn == strBytes "PG_VERSION") = false :=
  beq_false_of_ne fun h => ne_pathBase (by decide +kernel) db fn h.symm

theorem pathGlobal_1262 : pathGlobal 1262 = pathGlobal1262 := by decide +kernel

theorem pathBase_ne_global1262 (db fn : Nat) : (pathBase db fn == pathGlobal 1262) = false :=
  beq_false_of_ne fun h => ne_pathBase (by decide +kernel) db fn h.symm

theorem global_ne_version : (pathGlobal1262 == strBytes "PG_VERSION") = false := by decide +kernel

theorem pathBase_beq (oid fn fn' : Nat) : (pathBase oid fn == pathBase oid fn') = (fn == fn') := by
  by_cases h : fn = fn'
  · rw [h, beq_self_eq_true, beq_self_eq_true]
  · rw [beq_false_of_ne h, beq_false_of_ne fun e => h (pathBase_inj _ _ _ _ e).2]

theorem lookup_files {β γ} (oid : Nat) (g : Nat → β → γ) (m : List (Nat × β)) (fn : Nat) :
    (m.map fun (p : Nat × β) => (pathBase oid p.1, g p.1 p.2)).lookup (pathBase oid fn) = (m.lookup fn).map (g fn) := by
  induction m with
  | nil => rfl
  | cons e rest ih =>
    rw [map_cons, lookup_cons, lookup_cons, pathBase_beq, ih]
    cases h : fn == e.1
    · rfl
    · rw [beq_iff_eq.mp h]; rfl

theorem dbFiles_keys (l : Layout) (oid : Nat) (d : DbContent) : ∀ e ∈ dbFiles l oid d, ∃ fn, e.1 = pathBase oid fn := by
  intro e he
  unfold dbFiles at he
  simp only [cons_append, nil_append, mem_cons, mem_append, mem_map] at he
  rcases he with rfl | rfl | ⟨p, _, rfl⟩ | ⟨p, _, rfl⟩
  · exact ⟨1259, rfl⟩
  · exact ⟨1249, rfl⟩
  · exact ⟨p.1, rfl⟩
  · exact ⟨p.1, rfl⟩

theorem dbFiles_other (l : Layout) (oid oid' : Nat) (d : DbContent) (fn : Nat) (h : oid' ≠ oid) :
    (dbFiles l oid' d).lookup (pathBase oid fn) = none := by
  apply AssocMap.lookup_none_of_keys
  intro e he hk
  obtain ⟨fn', hfn'⟩ := dbFiles_keys l oid' d e he
  rw [hfn'] at hk
  exact h (pathBase_inj _ _ _ _ hk).1

theorem dbFiles_lookup (l : Layout) (oid : Nat) (d : DbContent) (fn : Nat) :
    (dbFiles l oid d).lookup (pathBase oid fn) =
      if fn = 1259 then some (encHeapOf pgClassCols classVals d.cls)
      else if fn = 1249 then some (encHeapOf (pgAttributeCols l) (attrVals l) d.att)
      else ((d.heaps.lookup fn).map (encRowPages (colsOfFilenode d fn))).or (d.raws.lookup fn) := by
  have hh := lookup_files oid (fun fn pages => encRowPages (colsOfFilenode d fn) pages) d.heaps fn
  have hr := lookup_files oid (fun _ (bs : Bytes) => bs) d.raws fn
  unfold dbFiles
  simp only [cons_append, nil_append, lookup_cons, pathBase_beq, lookup_append]
  -- `erw`: `dbFiles` writes the two maps with pattern-matching lambdas, `lookup_files` with projections
  erw [hh, hr]
  by_cases h1 : fn = 1259
  · rw [if_pos h1, h1]; rfl
  · by_cases h2 : fn = 1249
    · rw [if_neg h1, if_pos h2, h2]; rfl
    · rw [if_neg h1, if_neg h2, beq_false_of_ne h1, beq_false_of_ne h2, Option.map_id']

theorem content_other (l : Layout) (content : List (Nat × DbContent)) (oid fn : Nat) (h : ∀ e ∈ content, e.1 ≠ oid) :
    ((content.map fun (p : Nat × DbContent) => dbFiles l p.1 p.2).flatten).lookup (pathBase oid fn) = none := by
  apply AssocMap.lookup_none_of_keys
  intro e he hk
  obtain ⟨fs, hfs, hef⟩ := mem_flatten.mp he
  obtain ⟨p, hp, rfl⟩ := mem_map.mp hfs
  obtain ⟨fn', hfn'⟩ := dbFiles_keys l p.1 p.2 e hef
  rw [hfn'] at hk
  exact h p hp (pathBase_inj _ _ _ _ hk).1

theorem content_lookup (l : Layout) (content : List (Nat × DbContent)) (hnd : (content.map (·.1)).Nodup) (oid fn : Nat) :
    ((content.map fun (p : Nat × DbContent) => dbFiles l p.1 p.2).flatten).lookup (pathBase oid fn) =
      match content.lookup oid with
      | some d => (dbFiles l oid d).lookup (pathBase oid fn)
      | none => none := by
  induction content with
  | nil => rfl
  | cons e rest ih =>
    obtain ⟨oid', d'⟩ := e
    simp only [map_cons, nodup_cons] at hnd
    simp only [map_cons, flatten_cons, lookup_cons]
    by_cases h : oid = oid'
    · subst h
      simp only [beq_self_eq_true]
      rw [lookup_append, content_other l rest oid fn fun e he hk => hnd.1 (by rw [← hk]; exact mem_map_of_mem he),
        Option.or_none]
    · have h1 : (oid == oid') = false := by simpa using h
      simp only [h1]
      rw [lookup_append, dbFiles_other l oid oid' d' fn (fun e => h e.symm), Option.none_or]
      exact ih hnd.2

/-! ### without segments, tablespaces, relocated catalogs and fast defaults every relation is one file under `base/<db>/` -/

theorem heapFiles_plain (ver oid : Nat) (d : DbContent) (h : Nat × List (List RowV)) (ht : ∀ r ∈ d.cls.live, r.tblspc = 0) :
    heapFiles ver 0 oid d h 0 = [(pathBase oid h.1, encRowPages (colsOfFilenode d h.1) h.2)] := by
  have hp : heapPath ver oid d h.1 0 = pathBase oid h.1 := by
    unfold heapPath pathDb
    cases hf : relOfFilenode d.cls h.1 with
    | none => rfl
    | some r =>
      unfold relOfFilenode at hf
      simp only [ht r (mem_of_find?_eq_some hf), if_true]
  simp only [heapFiles, chunksOf, if_true, numbered, map_cons, map_nil, segSuffix, append_nil, hp]

theorem dbFilesPlaced_plain (ver : Nat) (l : Layout) (oid : Nat) (d : DbContent) (ht : ∀ r ∈ d.cls.live, r.tblspc = 0)
    (h1259 : mappedNode d.relmap 1259 = 1259) (h1249 : mappedNode d.relmap 1249 = 1249) (hm : d.missing = []) :
    dbFilesPlaced ver 0 l oid d 0 = dbFiles l oid d := by
  unfold dbFilesPlaced dbFiles
  have hheaps : (d.heaps.map fun h => heapFiles ver 0 oid d h 0).flatten =
      d.heaps.map fun (p : Nat × List (List RowV)) => (pathBase oid p.1, encRowPages (colsOfFilenode d p.1) p.2) := by
    rw [← flatMap_def, map_eq_flatMap]
    exact flatMap_congr fun h _ => heapFiles_plain ver oid d h ht
  rw [hheaps, h1259, h1249, hm, attrValsM_nil]
  rfl

theorem dbTblspc_plain (c : Cluster) (hp : ∀ db ∈ c.dbs.live, db.tblspc = 0) (oid : Nat) : dbTblspc c oid = 0 := by
  unfold dbTblspc
  cases hf : c.dbs.live.find? (fun db => db.oid == oid) with
  | none => rfl
  | some db => exact hp db (mem_of_find?_eq_some hf)

/-- everything but the pg_filenode.map files -/
def plainFiles (c : Cluster) : List (Bytes × Bytes) :=
  [(strBytes "PG_VERSION", natBytes c.pgVersion ++ [10]),
   (pathGlobal 1262, encHeapOf (pgDatabaseCols c.pgVersion) (dbVals c.pgVersion) c.dbs)] ++
  (c.content.map fun (p : Nat × DbContent) => dbFiles c.layout p.1 p.2).flatten

theorem filesOf_plain (c : Cluster) (hp : c.Plain) (hid : c.IdentityMapped) (hnm : c.NoFastDefaults) :
    filesOf c = plainFiles c ++ mapFilesOf c := by
  unfold filesOf plainFiles
  rw [hid.1]
  congr 3
  apply map_congr_left
  intro p hpm
  obtain ⟨oid, d⟩ := p
  simp only
  rw [hp.1, dbTblspc_plain c hp.2.2]
  exact dbFilesPlaced_plain c.pgVersion c.layout oid d (hp.2.1 _ hpm) (hid.2 _ hpm).1 (hid.2 _ hpm).2 (hnm _ hpm)

/-! ### the pg_filenode.map files do not shadow or answer for any relation file -/

theorem sb_mapname : strBytes "/pg_filenode.map" = 47 :: 112 :: (strBytes "/pg_filenode.map").drop 2 := by decide +kernel

theorem pathMapDb_ne (oid oid' fn ver : Nat) : pathMapDb 0 ver oid' ≠ pathBase oid fn := by
  intro he
  unfold pathMapDb at he
  rw [if_pos rfl, pathBase_eq, sb_base, sb_mapname] at he
  have h1 : natBytes oid' ++ 47 :: (112 :: (strBytes "/pg_filenode.map").drop 2) = natBytes oid ++ 47 :: natBytes fn := by
    simpa [List.append_assoc] using he
  obtain ⟨_, h3⟩ := append_cons_cancel _ _ _ _ (natBytes_no_slash oid') (natBytes_no_slash oid) h1
  have hmem : (112 : UInt8) ∈ natBytes fn := by rw [← h3]; simp
  exact absurd (natBytes_digits fn 112 hmem).2 (by decide)

theorem pathMapGlobal_ne (oid fn : Nat) : pathMapGlobal ≠ pathBase oid fn := ne_pathBase (by decide +kernel) oid fn

theorem mapFiles_base (c : Cluster) (hp : ∀ db ∈ c.dbs.live, db.tblspc = 0) (oid fn : Nat) :
    (mapFilesOf c).lookup (pathBase oid fn) = none := by
  apply AssocMap.lookup_none_of_keys
  intro e he hk
  unfold mapFilesOf at he
  simp only [mem_cons, mem_map] at he
  rcases he with rfl | ⟨p, _, rfl⟩
  · exact pathMapGlobal_ne oid fn hk
  · simp only [dbTblspc_plain c hp] at hk
    exact pathMapDb_ne oid p.1 fn c.pgVersion hk

theorem filesOf_lookup_base (c : Cluster) (hp : c.Plain) (hid : c.IdentityMapped) (hnm : c.NoFastDefaults) (oid fn : Nat) :
    (filesOf c).lookup (pathBase oid fn) = (plainFiles c).lookup (pathBase oid fn) := by
  rw [filesOf_plain c hp hid hnm]
  rw [lookup_append, mapFiles_base c hp.2.2 oid fn, Option.or_none]

/-- the encoded file tree is the tree the theorems talk about, for a cluster outside the open findings C01-SEG and C01-TBLSPC
(`Cluster.Plain`), C01-MAPPED (`Cluster.IdentityMapped`) and C01-MISSINGVAL (`Cluster.NoFastDefaults`) -/
theorem treeOf_fsOf (c : Cluster) (hnd : (c.content.map (·.1)).Nodup) (hp : c.Plain) (hid : c.IdentityMapped)
    (hnm : c.NoFastDefaults) : TreeOf c (fsOf c) := by
  have hbase : ∀ oid fn, fsOf c (basePath oid fn) =
      match c.content.lookup oid with
      | some d => (dbFiles c.layout oid d).lookup (pathBase oid fn)
      | none => none := by
    intro oid fn
    unfold fsOf
    show (filesOf c).lookup (pathBase oid fn) = _
    rw [filesOf_lookup_base c hp hid hnm]
    unfold plainFiles
    simp only [cons_append, nil_append, lookup_cons, pathBase_ne_pgversion, pathBase_ne_global1262]
    exact content_lookup c.layout c.content hnd oid fn
  refine ⟨?_, ?_, ?_, ?_, ?_⟩
  · unfold fsOf
    rw [filesOf_plain c hp hid hnm, lookup_append]
    unfold plainFiles
    simp only [cons_append, nil_append, lookup_cons, global_ne_version, pathGlobal_1262, beq_self_eq_true, Option.some_or]
  · intro oid d hl
    rw [hbase, hl]
    exact (dbFiles_lookup c.layout oid d 1259).trans rfl
  · intro oid d hl
    rw [hbase, hl]
    exact (dbFiles_lookup c.layout oid d 1249).trans rfl
  · intro oid d hl fn h1 h2 h3
    rw [hbase, hl]
    exact (dbFiles_lookup c.layout oid d fn).trans (by rw [if_neg h1, if_neg h2, h3, Option.or_none])
  · intro oid hl
    rw [hbase, hl]

end PgVerif.Proofs.Cluster
