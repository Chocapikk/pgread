/-
  `collectM f xs` (Model/Heap.lean) is every "for x in xs: (continue | y ← body; append y)" loop of the scan and dump paths.
  The prefix `Isolation.` of `collectM_congr`, `_append`, `_single` is part of their names only: they are general loop lemmas and
  no isolation module uses them.
-/
import PgVerif.Basic.Lemmas
import PgVerif.Model.Heap
namespace PgVerif.Proofs
open PgVerif PgVerif.Model List

-- `(generalizing := false)`: without it `match r` would abstract `r` in `hx` too and the result could not be rewritten
theorem collectM_cons {α β} (f : α → M (Option β)) (x : α) (xs : List α) (r : Option β) (rest : List β) (hx : f x = .ok r)
    (hr : collectM f xs = .ok rest) : collectM f (x :: xs) = .ok (match (generalizing := false) r with | some y => y :: rest | none => rest) := by
  simp only [collectM, hx, hr, ok_bind, pure_eq_ok]
  cases r <;> rfl

theorem collectM_cons_ok {α β} (f : α → M (Option β)) (x : α) (xs : List α) (ys : List β) (h : collectM f (x :: xs) = .ok ys) :
    ∃ r rest, f x = .ok r ∧ collectM f xs = .ok rest ∧ ys = (match (generalizing := false) r with | some y => y :: rest | none => rest) := by
  simp only [collectM] at h
  obtain ⟨r, hx, h⟩ := bind_eq_ok h
  obtain ⟨rest, hr, h⟩ := bind_eq_ok h
  cases h
  exact ⟨r, rest, hx, hr, rfl⟩

theorem collectM_ok {α β} (f : α → M (Option β)) (xs : List α) (ys : List β)
    (h : collectM f xs = .ok ys) : ∀ y ∈ ys, ∃ x ∈ xs, f x = .ok (some y) := by
  induction xs generalizing ys with
  | nil => cases h; exact fun _ hy => nomatch hy
  | cons x xs ih =>
    obtain ⟨r, rest, hx, hr, rfl⟩ := collectM_cons_ok f x xs ys h
    have tl : ∀ y ∈ rest, ∃ x' ∈ x :: xs, f x' = .ok (some y) := fun y hy =>
      let ⟨x', hx', hf⟩ := ih rest hr y hy; ⟨x', List.mem_cons_of_mem _ hx', hf⟩
    cases r with
    | none => exact tl
    | some y0 =>
      intro y hy
      cases List.mem_cons.mp hy with
      | inl e => exact ⟨x, List.mem_cons_self, e ▸ hx⟩
      | inr m => exact tl y m

theorem collectM_map {α β γ} (f : β → M (Option γ)) (g : α → β) (xs : List α) :
    collectM f (xs.map g) = collectM (fun x => f (g x)) xs := by
  induction xs with
  | nil => rfl
  | cons x xs ih => simp only [List.map_cons, collectM, ih]

theorem Isolation.collectM_congr {α β} (f g : α → M (Option β)) (xs : List α) (h : ∀ x ∈ xs, f x = g x) :
    collectM f xs = collectM g xs := by
  induction xs with
  | nil => rfl
  | cons x xs ih =>
    simp only [collectM]
    rw [h x (by simp), ih (fun y hy => h y (by simp [hy]))]

theorem Isolation.collectM_append {α β} (f : α → M (Option β)) (xs ys : List α) (A B : List β)
    (hA : collectM f xs = .ok A) (hB : collectM f ys = .ok B) : collectM f (xs ++ ys) = .ok (A ++ B) := by
  induction xs generalizing A with
  | nil => cases hA; exact hB
  | cons x xs ih =>
    obtain ⟨r, rest, hx, hr, rfl⟩ := collectM_cons_ok f x xs A hA
    rw [List.cons_append, collectM_cons f x _ r _ hx (ih rest hr)]
    cases r <;> rfl

theorem Isolation.collectM_single {α β} (f : α → M (Option β)) (x : α) (r : Option β) (h : f x = .ok r) :
    collectM f [x] = .ok r.toList := by
  rw [collectM_cons f x [] r [] h rfl]
  cases r <;> rfl

theorem collectM_filterMap {α β γ} (g : α → Option β) (f : β → M (Option γ)) (xs : List α) :
    collectM (fun x => match g x with | some b => f b | none => pure none) xs = collectM f (xs.filterMap g) := by
  induction xs with
  | nil => rfl
  | cons x xs ih =>
    rw [filterMap_cons, collectM, ih]
    cases g x with
    | some b => rfl
    | none => cases collectM f (xs.filterMap g) <;> rfl

/-- a `continue` in front of the body is a filter on the list (`filter p = filterMap (Option.guard p)`) -/
theorem collectM_filter {α β} (p : α → Bool) (f : α → M (Option β)) (xs : List α) :
    collectM (fun x => if p x = true then f x else pure none) xs = collectM f (xs.filter p) := by
  rw [← filterMap_eq_filter, ← collectM_filterMap]
  exact Isolation.collectM_congr _ _ _ fun x _ => by rw [Option.guard]; split <;> rfl

theorem collectM_filter_none {α γ} (f : α → M (Option γ)) (p : α → Bool) (xs : List α)
    (h : ∀ x ∈ xs, p x = false → f x = .ok none) : collectM f xs = collectM f (xs.filter p) := by
  rw [← collectM_filter]
  exact Isolation.collectM_congr _ _ _ fun x hx => by
    cases hp : p x with
    | true => rfl
    | false => exact h x hx hp

theorem collectM_eq_filterMap {α β} (f : α → M (Option β)) (g : α → Option β) (xs : List α)
    (h : ∀ x ∈ xs, f x = .ok (g x)) : collectM f xs = .ok (xs.filterMap g) := by
  induction xs with
  | nil => rfl
  | cons x xs ih =>
    rw [collectM_cons f x xs (g x) (xs.filterMap g) (h x List.mem_cons_self) (ih fun y hy => h y (List.mem_cons_of_mem _ hy)),
      List.filterMap_cons]
    cases g x <;> rfl

theorem collectM_eq_map {α γ} (f : α → M (Option γ)) (g : α → γ) (xs : List α) (h : ∀ x ∈ xs, f x = .ok (some (g x))) :
    collectM f xs = .ok (xs.map g) := by
  rw [collectM_eq_filterMap f (some ∘ g) xs h, List.filterMap_eq_map]

/-- given that the loop returned `ys`, and a view `G` of what a step returns that is known from the element (`E`) -/
theorem collectM_filterMap_spec {α β γ} (f : α → M (Option β)) (G : β → γ) (E : α → Option γ) (xs : List α) (ys : List β)
    (h : collectM f xs = .ok ys) (hf : ∀ x ∈ xs, ∀ y, f x = .ok y → y.map G = E x) : ys.map G = xs.filterMap E := by
  induction xs generalizing ys with
  | nil => simp [collectM] at h; subst h; rfl
  | cons x xs ih =>
    obtain ⟨r, rest, hx, hr, rfl⟩ := collectM_cons_ok f x xs ys h
    rw [filterMap_cons, ← hf x (by simp) r hx, ← ih rest hr fun y hy => hf y (by simp [hy])]
    cases r <;> rfl

theorem collectM_map_spec {α β γ} (F : α → M β) (G : β → γ) (E : α → γ) (xs : List α) (ys : List β)
    (h : collectM (fun x => do let t ← F x; pure (some t)) xs = .ok ys) (hf : ∀ x ∈ xs, ∀ t, F x = .ok t → G t = E x) :
    ys.map G = xs.map E := by
  have := collectM_filterMap_spec _ G (fun x => some (E x)) xs ys h ?_
  · rw [this]; simp
  · intro x hx y hy
    obtain ⟨t, hF, hy⟩ := bind_eq_ok hy
    cases hy
    simp [hf x hx t hF]

theorem collectM_total_mem {α β} (f : α → M (Option β)) (xs : List α) (h : ∀ x ∈ xs, ∃ r, f x = .ok r) :
    ∃ r, collectM f xs = .ok r := by
  induction xs with
  | nil => exact ⟨_, rfl⟩
  | cons x xs ih =>
    exact tot_bind (h x mem_cons_self) fun _ _ => tot_bind (ih fun y hy => h y (mem_cons_of_mem _ hy)) fun _ _ => tot_ok _

theorem collectM_total {α β} (f : α → M (Option β)) (xs : List α) (h : ∀ x, ∃ r, f x = .ok r) :
    ∃ r, collectM f xs = .ok r :=
  collectM_total_mem f xs fun x _ => h x

theorem collectM_exists_filterMap {α β γ} (f : α → M (Option β)) (G : β → γ) (E : α → Option γ) (xs : List α)
    (h : ∀ x ∈ xs, ∃ y, f x = .ok y ∧ y.map G = E x) : ∃ ys, collectM f xs = .ok ys ∧ ys.map G = xs.filterMap E := by
  obtain ⟨ys, hys⟩ := collectM_total_mem f xs fun x hx => (h x hx).imp fun _ hy => hy.1
  refine ⟨ys, hys, collectM_filterMap_spec f G E xs ys hys fun x hx y hy => ?_⟩
  obtain ⟨y', hy', hE⟩ := h x hx
  obtain rfl := Except.ok.inj (hy'.symm.trans hy)
  exact hE

theorem collectM_exists_map {α β γ} (f : α → M (Option β)) (G : β → γ) (E : α → γ) (xs : List α)
    (h : ∀ x ∈ xs, ∃ y, f x = .ok (some y) ∧ G y = E x) : ∃ ys, collectM f xs = .ok ys ∧ ys.map G = xs.map E := by
  rw [← filterMap_eq_map (f := E)]
  exact collectM_exists_filterMap f G (some ∘ E) xs fun x hx =>
    let ⟨y, hy, hE⟩ := h x hx; ⟨some y, hy, congrArg some hE⟩

theorem collectM_length_of_some {α β} (f : α → M (Option β)) (xs : List α) (h : ∀ x ∈ xs, ∃ y, f x = .ok (some y)) :
    ∃ ys, collectM f xs = .ok ys ∧ ys.length = xs.length := by
  obtain ⟨ys, hys, hm⟩ := collectM_exists_map f (fun _ => ()) (fun _ => ()) xs fun x hx => (h x hx).imp fun _ hy => ⟨hy, rfl⟩
  exact ⟨ys, hys, by simpa using congrArg length hm⟩

theorem collectM_step_map {α β γ} (f : α → M (Option β)) (h : β → γ) (xs : List α) :
    collectM (fun x => f x >>= fun y => pure (y.map h)) xs = (collectM f xs >>= fun ys => pure (ys.map h)) := by
  induction xs with
  | nil => rfl
  | cons x xs ih =>
    simp only [collectM, ih]
    cases f x with
    | error e => rfl
    | ok r => cases collectM f xs <;> cases r <;> rfl

/-- a loop `g` over the same list whose step is `φ` of `f`'s step wherever `f` returns: where `f`'s loop returns `ys`,
`g`'s returns `φ` of them -/
theorem collectM_result {α β γ} (f : α → M (Option β)) (g : α → M (Option γ)) (φ : β → Option γ) (xs : List α) (ys : List β)
    (hf : collectM f xs = .ok ys) (hg : ∀ x ∈ xs, ∀ y, f x = .ok y → g x = .ok (y.bind φ)) :
    collectM g xs = .ok (ys.filterMap φ) := by
  induction xs generalizing ys with
  | nil => cases hf; rfl
  | cons x xs ih =>
    obtain ⟨r, rest, hx, hr, rfl⟩ := collectM_cons_ok f x xs ys hf
    rw [collectM_cons g x xs _ _ (hg x mem_cons_self r hx) (ih rest hr fun y hy => hg y (mem_cons_of_mem _ hy))]
    cases r with
    | none => rfl
    | some y => rw [filterMap_cons, Option.bind_some]; cases φ y <;> rfl

theorem collectM_result_map {α β γ} (f : α → M (Option β)) (g : α → M (Option γ)) (hmap : β → γ) (xs : List α) (ys : List β)
    (hf : collectM f xs = .ok ys) (hg : ∀ x ∈ xs, ∀ y, f x = .ok y → g x = .ok (y.map hmap)) :
    collectM g xs = .ok (ys.map hmap) := by
  rw [← filterMap_eq_map (f := hmap)]
  exact collectM_result f g (some ∘ hmap) xs ys hf fun x hx y hy => by rw [hg x hx y hy]; cases y <;> rfl

theorem collectM_result_filter {α β} (f g : α → M (Option β)) (q : β → Bool) (xs : List α) (ys : List β)
    (hf : collectM f xs = .ok ys) (hg : ∀ x ∈ xs, ∀ y, f x = .ok y → g x = .ok (y.filter q)) :
    collectM g xs = .ok (ys.filter q) := by
  rw [← filterMap_eq_filter]
  exact collectM_result f g (Option.guard q) xs ys hf fun x hx y hy => by rw [Option.bind_guard]; exact hg x hx y hy

/-- "decode all, select afterwards": the second loop runs over the elements `p` selects; `q` tells from a result of `f` whether
its element was selected -/
theorem collectM_result_select {α β γ} (f : α → M (Option β)) (g : α → M (Option γ)) (p : α → Bool) (q : β → Bool) (h : β → γ)
    (xs : List α) (ys : List β) (hf : collectM f xs = .ok ys) (hq : ∀ x ∈ xs, ∀ y, f x = .ok (some y) → q y = p x)
    (hg : ∀ x ∈ xs, p x = true → ∀ y, f x = .ok y → g x = .ok (y.map h)) :
    collectM g (xs.filter p) = .ok ((ys.filter q).map h) := by
  rw [← collectM_filter p, ← filterMap_ite q h]
  refine collectM_result f _ _ xs ys hf fun x hx y hy => ?_
  cases hp : p x with
  | false =>
    rw [if_neg (by simp)]
    cases y with
    | none => rfl
    | some y => rw [Option.bind_some, hq x hx y hy, hp]; rfl
  | true =>
    rw [if_pos rfl, hg x hx hp y hy]
    cases y with
    | none => rfl
    | some y => rw [Option.bind_some, hq x hx y hy, hp]; rfl

end PgVerif.Proofs
