/-
  control.go for C16: the text helpers against the Spec's, ParseControlFile as a pure reader of any 296 bytes or more and on an
  encoded image (over `FieldsAt` of Lib/Reads.lean), inferPGVersion against the release table.
-/
import PgVerif.Model.ControlView
import PgVerif.Proofs.Crc
import PgVerif.Basic.Lemmas
namespace PgVerif.Proofs
open PgVerif PgVerif.Spec

/-! The record facts of Lib/Reads.lean under `Spec.encFields` and `Spec.offsetOf`. -/

theorem encFields_length (fs : List Field) : (encFields fs).length = (fs.map (·.1)).sum := leFields_length fs

theorem encFields_take_length (fs : List Field) (i : Nat) : (encFields (fs.take i)).length = offsetOf fs i :=
  leFields_length (fs.take i)

theorem read_field (fs : List Field) (rest : Bytes) (i : Nat) (hi : i < fs.length)
    (hv : fs[i].2 < 256 ^ fs[i].1) :
    rdAt fs[i].1 (offsetOf fs i) (encFields fs ++ rest) = fs[i].2 := by
  have := ((at_zero (leFields fs) rest).field i hi).rd hv
  rwa [Nat.zero_add] at this

theorem hexDigitsAux_eq (fuel v : Nat) (acc : List Char) :
    Model.hexDigitsAux fuel v acc = Spec.hexDigitsAux fuel v acc := by
  induction fuel generalizing v acc with
  | zero => rfl
  | succ n ih =>
    simp only [Model.hexDigitsAux, Spec.hexDigitsAux]
    split
    · rfl
    · exact ih _ _

theorem fmtX_eq (v : Nat) : Model.fmtX v = Spec.hexX v := by
  unfold Model.fmtX Spec.hexX; rw [hexDigitsAux_eq]

theorem fmt08X_eq (v : Nat) : Model.fmt08X v = Spec.hex08X v := by
  unfold Model.fmt08X Spec.hex08X; simp only [hexDigitsAux_eq]

theorem ctlFormatLSN_eq (lsn : Nat) (h : lsn < 2 ^ 64) : Model.ctlFormatLSN lsn = Spec.lsnText lsn := by
  unfold Model.ctlFormatLSN Spec.lsnText
  have h1 : (lsn >>> 32) % 2 ^ 32 = lsn / 2 ^ 32 := by
    rw [Nat.shiftRight_eq_div_pow]; omega
  have h2 : (lsn &&& 0xFFFFFFFF) % 2 ^ 32 = lsn % 2 ^ 32 := by
    rw [show lsn &&& 0xFFFFFFFF = _ from land_mask lsn 32, Nat.mod_mod]
  rw [h1, h2, fmtX_eq, fmtX_eq]

theorem dbStateString_eq (s : Int) : Model.dbStateString s = Spec.stateName s := by
  unfold Model.dbStateString Spec.stateName
  by_cases h0 : s = 0; · subst h0; rfl
  by_cases h1 : s = 1; · subst h1; rfl
  by_cases h2 : s = 2; · subst h2; rfl
  by_cases h3 : s = 3; · subst h3; rfl
  by_cases h4 : s = 4; · subst h4; rfl
  by_cases h5 : s = 5; · subst h5; rfl
  by_cases h6 : s = 6; · subst h6; rfl
  rw [if_neg h0, if_neg h1, if_neg h2, if_neg h3, if_neg h4, if_neg h5, if_neg h6, if_neg (by omega)]

theorem formatWALFilename_eq (lsn tli segsz : Nat) (hl : lsn < 2 ^ 64) (hs : segsz ∈ legalSegSizes) :
    Model.formatWALFilename lsn tli segsz = .ok (Spec.xlogFileName tli lsn segsz) := by
  unfold Model.formatWALFilename Spec.xlogFileName
  simp only [fmt08X_eq]
  -- the model casts both quotients to uint32 (`% 2 ^ 32`); with `segsz = 2 ^ k`, 20 ≤ k ≤ 30, the segments per xlogid are
  -- `2 ^ (32 - k)`, the first quotient is `lsn / 2 ^ 32 < 2 ^ 32` and the second a remainder below `2 ^ (32 - k)`: neither cast bites
  have key : ∀ k, 20 ≤ k → k ≤ 30 → segsz = 2 ^ k →
      segsz ≠ 0 ∧ 0x100000000 / segsz ≠ 0 ∧ (lsn / segsz / (0x100000000 / segsz)) % 2 ^ 32 = lsn / segsz / (2 ^ 32 / segsz) ∧
      (lsn / segsz % (0x100000000 / segsz)) % 2 ^ 32 = lsn / segsz % (2 ^ 32 / segsz) := by
    intro k hk1 hk2 hk
    have hpos : 0 < segsz := by rw [hk]; exact Nat.pow_pos (by decide)
    have hdiv : 2 ^ 32 / segsz = 2 ^ (32 - k) := by
      rw [hk]; exact Nat.pow_div (by omega) (by decide)
    have hq : lsn / segsz / 2 ^ (32 - k) = lsn / 2 ^ 32 := by
      rw [Nat.div_div_eq_div_mul, hk, ← Nat.pow_add]; congr 2; omega
    have hp12 : 2 ^ (32 - k) ≤ 2 ^ 32 := Nat.pow_le_pow_right (by decide) (by omega)
    have hppos : 0 < 2 ^ (32 - k) := Nat.pow_pos (by decide)
    have e32 : (0x100000000 : Nat) = 2 ^ 32 := by decide
    rw [e32, hdiv, hq]
    refine ⟨by omega, by omega, ?_, ?_⟩
    · apply Nat.mod_eq_of_lt; omega
    · apply Nat.mod_eq_of_lt
      have := Nat.mod_lt (lsn / segsz) hppos
      omega
  have hk : ∃ k, 20 ≤ k ∧ k ≤ 30 ∧ segsz = 2 ^ k := by
    unfold legalSegSizes at hs
    obtain ⟨j, hj, hj2⟩ := List.mem_map.mp hs
    have := List.mem_range.mp hj
    exact ⟨20 + j, by omega, by omega, hj2.symm⟩
  obtain ⟨k, hk1, hk2, hk3⟩ := hk
  obtain ⟨a, b, c, d⟩ := key k hk1 hk2 hk3
  rw [if_neg a, if_neg b, c, d]
  rfl

theorem walLevel_name (n : Nat) (h : n ≤ 2) : Model.walLevelName n = Spec.walLevelNames.getD n "" := by
  have : n = 0 ∨ n = 1 ∨ n = 2 := by omega
  rcases this with h | h | h <;> subst h <;> rfl

/-- the WAL segment size the code goes by: a stored 0 is replaced by the 16 MiB default -/
def walSegSize (bs : Bytes) : Nat := if rdAt 4 228 bs = 0 then 16 * 1024 * 1024 else rdAt 4 228 bs

/-- what ParseControlFile reports on 296 bytes or more, given the redo WAL file name: every field as the read and conversion the
code applies at its constant offset -/
def controlOf (bs : Bytes) (redoWALFile : String) : Model.ControlFile :=
  { pgControlVersion := rdAt 4 8 bs, catalogVersionNo := rdAt 4 12 bs, systemIdentifier := rdAt 8 0 bs,
    state := toSigned 32 (rdAt 4 16 bs), stateString := Model.dbStateString (toSigned 32 (rdAt 4 16 bs)),
    checkpointLSN := Model.ctlFormatLSN (rdAt 8 32 bs), redoLSN := Model.ctlFormatLSN (rdAt 8 40 bs), redoWALFile,
    timeLineID := rdAt 4 48 bs, prevTimeLineID := rdAt 4 52 bs, fullPageWrites := rdAt 1 56 bs != 0,
    nextXIDEpoch := rdAt 4 68 bs, nextXID := rdAt 4 64 bs, nextOID := rdAt 4 72 bs, nextMulti := rdAt 4 76 bs,
    nextMultiOffset := rdAt 4 80 bs, oldestXID := rdAt 4 84 bs, oldestXIDDB := rdAt 4 88 bs,
    oldestActiveXID := rdAt 4 120 bs, oldestMulti := rdAt 4 92 bs, oldestMultiDB := rdAt 4 96 bs,
    oldestCommitTsXID := rdAt 4 112 bs, newestCommitTsXID := rdAt 4 116 bs,
    checkpointTime := toSigned 64 (rdAt 8 104 bs), walLevel := Model.walLevelName (rdAt 4 172 bs),
    walLogHints := rdAt 1 176 bs != 0, maxConnections := toSigned 32 (rdAt 4 180 bs),
    maxWorkerProcesses := toSigned 32 (rdAt 4 184 bs), maxWALSenders := toSigned 32 (rdAt 4 188 bs),
    maxPreparedXacts := toSigned 32 (rdAt 4 192 bs), maxLocksPerXact := toSigned 32 (rdAt 4 196 bs),
    trackCommitTS := rdAt 1 200 bs != 0, maxAlign := rdAt 4 204 bs,
    blockSize := if rdAt 4 216 bs = 0 then 8192 else rdAt 4 216 bs, blocksPerSeg := rdAt 4 220 bs,
    walBlockSize := if rdAt 4 224 bs = 0 then 8192 else rdAt 4 224 bs, walSegmentSize := walSegSize bs,
    nameDataLen := rdAt 4 232 bs, indexMaxKeys := rdAt 4 236 bs, toastMaxChunk := rdAt 4 240 bs,
    largeObjectChunk := rdAt 4 244 bs, floatFormatOK := Model.floatIs1234567 (rdAt 8 208 bs),
    dataChecksumsEnabled := rdAt 4 252 bs != 0, crc := rdAt 4 288 bs,
    crcValid := Model.verifyCRC32C (bs.take 288) (rdAt 4 288 bs),
    pgVersionMajor := Model.inferPGVersion (rdAt 4 8 bs) (rdAt 4 12 bs) }

/-- the length test discharges every bounds check; the one step that can still fail is the WAL file name (a division) -/
theorem parseControlFile_eq (bs : Bytes) (h : 296 ≤ bs.length) :
    Model.parseControlFile bs =
      Model.formatWALFilename (rdAt 8 40 bs) (rdAt 4 48 bs) (walSegSize bs) >>= fun s => .ok (some (controlOf bs s)) := by
  have h292 : bs.length > 292 := by omega
  -- every read ends within the first 296 bytes: the bounds checks become comparisons of literals
  have hu : ∀ n off, off + n ≤ 296 → uN n bs off = .ok (rd n (bs.drop off)) := fun n off _ => uN_ok n bs off (by omega)
  unfold Model.parseControlFile
  rw [if_neg (by omega)]
  simp (disch := decide) only [hu, sliceTo_ok bs 288 (by omega), ok_bind, pure_eq_ok, h292, if_true]
  rfl

theorem formatWALFilename_total (lsn tli seg : Nat) (h0 : seg ≠ 0) (h1 : seg < 2 ^ 32) :
    ∃ s, Model.formatWALFilename lsn tli seg = .ok s := by
  unfold Model.formatWALFilename
  have : 0x100000000 / seg ≠ 0 := by
    have := Nat.div_pos (by omega : seg ≤ 0x100000000) (by omega : 0 < seg)
    omega
  rw [if_neg h0, if_neg this]
  exact ⟨_, rfl⟩

theorem parseControlFile_ok (bs : Bytes) (h : 296 ≤ bs.length) :
    ∃ s, Model.parseControlFile bs = .ok (some (controlOf bs s)) := by
  have hseg : walSegSize bs ≠ 0 ∧ walSegSize bs < 2 ^ 32 := by
    have := rd_lt 4 (bs.drop 228)
    unfold walSegSize rdAt; split <;> omega
  obtain ⟨s, hs⟩ := formatWALFilename_total (rdAt 8 40 bs) (rdAt 4 48 bs) _ hseg.1 hseg.2
  exact ⟨s, by rw [parseControlFile_eq bs h, hs]; rfl⟩

/-- in the shape of the bound of a one-byte field `(1, b2n _)` of `ControlData.fields` -/
theorem b2n_lt (b : Bool) : b2n b < 256 ^ 1 := by cases b <;> decide

theorem b2n_ne_zero (b : Bool) : (b2n b != 0) = b := by cases b <;> rfl

theorem body_length (c : ControlData) : c.body.length = 288 := by
  unfold ControlData.body; rw [encFields_length]; simp [ControlData.fields]

theorem encControl_length (c : ControlData) (crc pad : Nat) : (encControl c crc pad).length = 296 + pad := by
  simp [encControl, body_length]; omega

theorem encControl_take (c : ControlData) (crc pad : Nat) : (encControl c crc pad).take 288 = c.body :=
  List.take_left' (body_length c)

theorem encControl_crc (c : ControlData) (crc pad : Nat) (h : crc < 2 ^ 32) : rdAt 4 288 (encControl c crc pad) = crc :=
  rdAt_append' 4 crc 288 c.body _ (body_length c).symm (by omega)

theorem legalSegSizes_bounds {n : Nat} (h : n ∈ legalSegSizes) : n ≠ 0 ∧ n < 2 ^ 32 := by
  obtain ⟨j, hj, rfl⟩ := List.mem_map.mp h
  have hj' := List.mem_range.mp hj
  have h1 : 0 < 2 ^ (20 + j) := Nat.pow_pos (by decide)
  have h2 : 2 ^ (20 + j) < 2 ^ 32 := Nat.pow_lt_pow_right (by decide) (by omega)
  omega

/-- the conjuncts of `ControlData.WF` the proofs below use, by name; the one place that addresses `WF` by position -/
theorem wf_used (c : ControlData) (h : c.WF) :
    (c.blcksz ≠ 0 ∧ c.blcksz < 2 ^ 32) ∧ (c.xlogBlcksz ≠ 0 ∧ c.xlogBlcksz < 2 ^ 32) ∧ c.xlogSegSize ∈ legalSegSizes ∧
    (-(2 ^ 31 : Int) ≤ c.state ∧ c.state < 2 ^ 31) ∧ (-(2 ^ 63 : Int) ≤ c.cpTime ∧ c.cpTime < 2 ^ 63) ∧
    c.checkPoint < 2 ^ 64 ∧ c.redo < 2 ^ 64 ∧ c.walLevel ≤ 2 ∧ c.maxConnections < 2 ^ 31 ∧
    c.maxWorkerProcesses < 2 ^ 31 ∧ c.maxWalSenders < 2 ^ 31 ∧ c.maxPreparedXacts < 2 ^ 31 ∧ c.maxLocksPerXact < 2 ^ 31 := by
  obtain ⟨_, _, _, hs, _, hckpt, hredo, _, _, _, _, _, _, _, _, _, _, _, ht, _, _, _, _, _, _, _, _,
    hwl, hmc, hmw, hms, hmp, hml, _, _, hblk, _, hxblk, hseg, _⟩ := h
  have hb : ∀ n ∈ legalBlockSizes, n ≠ 0 ∧ n < 2 ^ 32 := by decide
  have hxb : ∀ n ∈ legalXlogBlockSizes, n ≠ 0 ∧ n < 2 ^ 32 := by decide
  exact ⟨hb _ hblk, hxb _ hxblk, hseg, hs, ht, hckpt, hredo, hwl, hmc, hmw, hms, hmp, hml⟩

theorem fields_lt (c : ControlData) (h : c.WF) : ∀ f ∈ c.fields, f.2 < 256 ^ f.1 := by
  obtain ⟨⟨_, hblk⟩, ⟨_, hxblk⟩, hseg, _⟩ := wf_used c h
  have hseg := (legalSegSizes_bounds hseg).2
  have hs32 := ofSigned_lt 32
  have hs64 := ofSigned_lt 64
  have hb := b2n_lt
  unfold ControlData.WF at h
  simp only [Nat.reducePow] at h hblk hxblk hseg hs32 hs64 hb
  simp only [ControlData.fields, List.forall_mem_cons, List.not_mem_nil, false_imp_iff, implies_true, and_true,
    Nat.reducePow, Nat.reduceLT, h, hblk, hxblk, hseg, hs32, hs64, hb, true_and]
  omega

/-- the one lemma behind `C16_fields`, `C16_version_major_file`, `C16_version_report_file` -/
theorem parseControlFile_enc_full (c : ControlData) (h : c.WF) (crc pad : Nat) (hcrc : crc < 2 ^ 32) :
    ∃ f, Model.parseControlFile (encControl c crc pad) = .ok (some f) ∧ f.toView = viewControl c crc ∧
      f.pgVersionMajor = Model.inferPGVersion c.pgControlVersion c.catalogVersionNo := by
  -- the 60 members read back, one equation `rdAt width offset _ = value` each
  have hf : FieldsAt (encControl c crc pad) 0 c.fields := (at_zero _ _).fields (fields_lt c h)
  simp only [ControlData.fields, FieldsAt, uN_eq_ok, Nat.zero_add, Nat.reduceAdd] at hf
  obtain ⟨⟨hblk', _⟩, ⟨hxblk', _⟩, hseg, ⟨hs1, hs2⟩, ⟨ht1, ht2⟩, hckpt, hredo, hwl, hmc, hmw, hms, hmp, hml⟩ := wf_used c h
  -- the report is `controlOf` of the image, with the WAL file name of the stored redo location
  rw [parseControlFile_eq _ (by rw [encControl_length]; omega)]
  simp only [walSegSize, hf, if_neg (legalSegSizes_bounds hseg).1, formatWALFilename_eq _ _ _ hredo hseg, ok_bind]
  refine ⟨_, rfl, ?_, by simp only [controlOf, hf]⟩
  -- field by field: the read by `hf`, then the conversion of its kind (default not taken, signed, text, flag, name)
  simp only [controlOf, Model.ControlFile.toView, viewControl, walSegSize, hf, encControl_crc c crc pad hcrc, encControl_take,
    if_neg hblk', if_neg hxblk', if_neg (legalSegSizes_bounds hseg).1,
    toSigned_ofSigned 32 (by decide) _ hs1 hs2, toSigned_ofSigned 64 (by decide) _ ht1 ht2,
    dbStateString_eq, ctlFormatLSN_eq _ hckpt, ctlFormatLSN_eq _ hredo, b2n_ne_zero, walLevel_name _ hwl,
    toSigned_small 32 _ hmc, toSigned_small 32 _ hmw, toSigned_small 32 _ hms, toSigned_small 32 _ hmp, toSigned_small 32 _ hml,
    verifyCRC32C_eq, Model.floatIs1234567, floatFormatBits]

/-! ### inferPGVersion (fixes/control/22) -/

theorem find_catalog_cons (M cv k cat : Nat) (l : List (Nat × Nat × Nat)) :
    (((M, cv, k) :: l).find? fun r => r.2.2 == cat).map (·.1) =
      if cat = k then some M else (l.find? fun r => r.2.2 == cat).map (·.1) := by
  by_cases h : cat = k
  · subst h; simp
  · rw [if_neg h, List.find?_cons_of_neg (by simpa using Ne.symm h)]

theorem pgMajorOfCatalog_eq (cat : Nat) : pgMajorOfCatalog cat =
    if cat = 201909212 then some 12 else if cat = 202007201 then some 13 else if cat = 202107181 then some 14
    else if cat = 202209061 then some 15 else if cat = 202307071 then some 16 else if cat = 202406281 then some 17
    else none := by
  simp only [pgMajorOfCatalog, pgReleases, find_catalog_cons, List.find?_nil, Option.map_none]

/-- the second `switch` of inferPGVersion: what the control version alone tells -/
def olderMajor (cv : Nat) : Nat :=
  if cv ≥ 1201 then 0 else if cv ≥ 1100 then 11 else if cv ≥ 1002 then 10 else if cv ≥ 960 then 9 else 9

theorem olderMajor_lt (cv : Nat) : olderMajor cv < 12 := by
  unfold olderMajor
  split; · omega
  split; · omega
  split; · omega
  split <;> omega

theorem olderMajor_of_ge {cv : Nat} (h : cv ≥ 1201) : olderMajor cv = 0 := if_pos h

/-- the catalog version of a released major decides, whatever the control version; any other leaves it to the control version -/
theorem inferPGVersion_eq (cv cat : Nat) :
    Model.inferPGVersion cv cat = (pgMajorOfCatalog cat).getD (olderMajor cv) := by
  rw [pgMajorOfCatalog_eq]
  unfold Model.inferPGVersion
  by_cases h1 : cat = 201909212; · subst h1; rfl
  by_cases h2 : cat = 202007201; · subst h2; rfl
  by_cases h3 : cat = 202107181; · subst h3; rfl
  by_cases h4 : cat = 202209061; · subst h4; rfl
  by_cases h5 : cat = 202307071; · subst h5; rfl
  by_cases h6 : cat = 202406281; · subst h6; rfl
  rw [if_neg h6, if_neg h5, if_neg h4, if_neg h3, if_neg h2, if_neg h1, if_neg h1, if_neg h2, if_neg h3, if_neg h4, if_neg h5,
    if_neg h6]
  rfl

theorem inferPGVersion_of_catalog (cv cat M : Nat) (h : pgMajorOfCatalog cat = some M) : Model.inferPGVersion cv cat = M := by
  rw [inferPGVersion_eq, h]; rfl

theorem inferPGVersion_unknown (cv cat : Nat) (h : pgMajorOfCatalog cat = none) :
    Model.inferPGVersion cv cat < 12 ∧ (cv ≥ 1201 → Model.inferPGVersion cv cat = 0) := by
  rw [inferPGVersion_eq, h]
  exact ⟨olderMajor_lt cv, olderMajor_of_ge⟩

/-- the six catalog versions are distinct -/
theorem pgMajorOfCatalog_of_pair {cv cat M : Nat} (h : pgMajorOf cv cat = some M) : pgMajorOfCatalog cat = some M := by
  obtain ⟨r, hf, rfl⟩ := Option.map_eq_some_iff.mp h
  have hc : r.2.1 = cv ∧ r.2.2 = cat := by simpa using List.find?_some hf
  exact hc.2 ▸ (by decide : ∀ r ∈ pgReleases, pgMajorOfCatalog r.2.2 = some r.1) r (List.mem_of_find?_eq_some hf)

theorem majorReport_some {cv cat M : Nat} (h : majorReport cv cat = some M) :
    pgMajorOfCatalog cat = some M ∨ (pgMajorOfCatalog cat = none ∧ cv ≥ 1201 ∧ M = 0) := by
  unfold majorReport at h
  split at h
  · next M' hp => exact .inl (Option.some.inj h ▸ pgMajorOfCatalog_of_pair hp)
  · split at h
    · cases h
    · next hc =>
      split at h
      · next hcv => exact .inr ⟨hc, hcv, (Option.some.inj h).symm⟩
      · cases h

end PgVerif.Proofs
