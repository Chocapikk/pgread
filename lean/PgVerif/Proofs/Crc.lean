/-
  CRC-32C: the table-driven computation of control.go equals the bit-serial definition of Spec/Crc.lean
  for every byte string (GF(2)-linearity of the one-bit step; no bit-blasting).
-/
import PgVerif.Spec.Crc
import PgVerif.Model.Control
namespace PgVerif.Proofs
open PgVerif PgVerif.Spec

theorem crcStep1_xor (x y : W32) : crcStep1 (x ^^^ y) = crcStep1 x ^^^ crcStep1 y := by
  unfold crcStep1
  have hs : (x ^^^ y) >>> 1 = (x >>> 1) ^^^ (y >>> 1) := by
    ext i; simp [BitVec.getLsbD_xor]
  simp only [BitVec.getLsbD_xor, hs]
  -- by the low bits of x and y: (0,0) is closed by `simp`; with one bit set the polynomial is added once on either side;
  -- with both set it is added twice on the right and cancels
  cases hx : x.getLsbD 0 <;> cases hy : y.getLsbD 0 <;> simp
  · ac_rfl
  · ac_rfl
  · have : (x >>> 1 ^^^ crcPoly) ^^^ (y >>> 1 ^^^ crcPoly) = x >>> 1 ^^^ y >>> 1 ^^^ (crcPoly ^^^ crcPoly) := by ac_rfl
    rw [this, BitVec.xor_self, BitVec.xor_zero]

theorem crcIter_xor (n : Nat) (x y : W32) : crcIter n (x ^^^ y) = crcIter n x ^^^ crcIter n y := by
  induction n with
  | zero => rfl
  | succ n ih => simp only [crcIter, Nat.repeat] at *; rw [ih, crcStep1_xor]

theorem crcIter_high (n : Nat) (x : W32) (h : ∀ i, i < n → x.getLsbD i = false) : crcIter n x = x >>> n := by
  induction n with
  | zero => simp [crcIter, Nat.repeat]
  | succ n ih =>
    have := ih (fun i hi => h i (by omega))
    simp only [crcIter, Nat.repeat] at *
    rw [this]
    unfold crcStep1
    have h0 : (x >>> n).getLsbD 0 = false := by
      simp; exact h n (by omega)
    rw [h0]
    ext i; simp [BitVec.getLsbD_ushiftRight]; congr 1; omega

theorem lsb_and_one (c : W32) : (c &&& 1#32 != 0#32) = c.getLsbD 0 := by
  rw [BitVec.and_one_eq_setWidth_ofBool_getLsbD]
  cases c.getLsbD 0 <;> rfl

theorem crcTableStep_eq (c : W32) : Model.crcTableStep c = crcStep1 c := by
  unfold Model.crcTableStep crcStep1
  rw [lsb_and_one]; rfl

theorem crcTableEntry_eq (i : W32) : Model.crcTableEntry i = crcIter 8 i := by
  simp only [Model.crcTableEntry, crcTableStep_eq, crcIter, Nat.repeat]

theorem table_eq : Model.makeCRC32CTable = crc32cTable := by
  unfold Model.makeCRC32CTable crc32cTable
  apply List.map_congr_left
  intro i _
  exact crcTableEntry_eq _

theorem table_getD (k : Nat) (hk : k < 256) :
    Model.makeCRC32CTable.getD k 0#32 = crcIter 8 (BitVec.ofNat 32 k) := by
  rw [table_eq]
  unfold crc32cTable
  simp [List.getD_eq_getElem?_getD, hk]

theorem ff_bit (i : Nat) : (0xFF#32).getLsbD i = decide (i < 8) := by
  have : (0xFF#32) = BitVec.ofNat 32 (2 ^ 8 - 1) := rfl
  rw [this, BitVec.getLsbD_ofNat, Nat.testBit_two_pow_sub_one]
  by_cases h : i < 8
  · have : i < 32 := by omega
    simp [h, this]
  · simp [h]

theorem byte_bit_high (b : UInt8) (i : Nat) (hi : 8 ≤ i) : (BitVec.ofNat 32 b.toNat).getLsbD i = false := by
  rw [BitVec.getLsbD_ofNat]
  have : b.toNat < 2 ^ i := Nat.lt_of_lt_of_le b.toNat_lt (Nat.pow_le_pow_right (by decide) hi)
  simp [Nat.testBit_lt_two_pow this]

/-- the table step: eight steps on a register are the entry of its low byte, xor the rest shifted -/
theorem crcIter8_split (x : W32) :
    crcIter 8 x = crcIter 8 (x &&& 0xFF#32) ^^^ (x >>> 8) := by
  have hmb : ∀ i, (~~~(0xFF#32)).getLsbD i = (decide (i < 32) && !decide (i < 8)) := by
    intro i; rw [BitVec.getLsbD_not, ff_bit]
  have hsplit : x = (x &&& 0xFF#32) ^^^ (x &&& ~~~(0xFF#32)) := by
    apply BitVec.eq_of_getLsbD_eq
    intro i hi
    simp only [BitVec.getLsbD_xor, BitVec.getLsbD_and, hmb, ff_bit, hi, decide_true, Bool.true_and]
    cases x.getLsbD i <;> cases decide (i < 8) <;> rfl
  have hhigh : crcIter 8 (x &&& ~~~(0xFF#32)) = x >>> 8 := by
    rw [crcIter_high]
    · apply BitVec.eq_of_getLsbD_eq
      intro i hi
      simp only [BitVec.getLsbD_ushiftRight, BitVec.getLsbD_and, hmb]
      have h8 : ¬ (8 + i < 8) := by omega
      by_cases h32 : 8 + i < 32
      · simp [h8, h32]
      · rw [BitVec.getLsbD_of_ge x (8 + i) (by omega)]; simp
    · intro i hi
      simp only [BitVec.getLsbD_and, hmb]
      have : i < 8 := hi
      simp [this]
  conv => lhs; rw [hsplit, crcIter_xor, hhigh]

theorem crcUpdate_eq (c : W32) (b : UInt8) : Model.crcUpdate Model.makeCRC32CTable c b = crcByte c b := by
  unfold Model.crcUpdate crcByte
  generalize hx : c ^^^ BitVec.ofNat 32 b.toNat = x
  have hlt : (x &&& 0xFF#32).toNat < 256 := by
    have : (x &&& 0xFF#32).toNat ≤ (0xFF#32).toNat := by
      rw [BitVec.toNat_and]; exact Nat.and_le_right
    have h255 : (0xFF#32).toNat = 255 := rfl
    omega
  rw [table_getD _ hlt, BitVec.ofNat_toNat, BitVec.setWidth_eq, crcIter8_split x]
  congr 1
  -- x >>> 8 = c >>> 8: the byte has no bits above 7
  rw [← hx]
  apply BitVec.eq_of_getLsbD_eq
  intro i hi
  simp only [BitVec.getLsbD_ushiftRight, BitVec.getLsbD_xor]
  rw [byte_bit_high b (8 + i) (by omega)]
  simp

theorem crcFold_eq (bs : Bytes) (c : W32) :
    bs.foldl (Model.crcUpdate Model.makeCRC32CTable) c = crcFeed c bs := by
  unfold crcFeed
  induction bs generalizing c with
  | nil => rfl
  | cons b bs ih => simp only [List.foldl_cons, crcUpdate_eq, ih]

theorem verifyCRC32C_eq (bs : Bytes) (x : Nat) : Model.verifyCRC32C bs x = (x == crc32c bs) := by
  unfold Model.verifyCRC32C crc32c
  simp only [crcFold_eq]
  exact BEq.comm

theorem crc32c_lt (bs : Bytes) : crc32c bs < 256 ^ 4 := by
  unfold crc32c
  have := (crcFeed 0xFFFFFFFF#32 bs ^^^ 0xFFFFFFFF#32).isLt
  omega

/-! The register update is injective, so a change confined to one byte is always detected. -/

theorem crcStep1_zero (z : W32) (h : crcStep1 z = 0#32) : z = 0#32 := by
  unfold crcStep1 at h
  cases hz : z.getLsbD 0
  · rw [hz] at h
    simp only [Bool.false_eq_true, if_false] at h
    apply BitVec.eq_of_getLsbD_eq
    intro i hi
    cases i with
    | zero => simpa using hz
    | succ j =>
      have := congrArg (fun v => v.getLsbD j) h
      simp only [BitVec.getLsbD_ushiftRight] at this
      rw [show j + 1 = 1 + j by omega]
      simpa using this
  · rw [hz] at h
    simp only [if_true] at h
    have := congrArg (fun v => v.getLsbD 31) h
    simp only [BitVec.getLsbD_xor, BitVec.getLsbD_ushiftRight] at this
    have h32 : z.getLsbD (1 + 31) = false := BitVec.getLsbD_of_ge z 32 (by omega)
    rw [h32] at this
    have hp : crcPoly.getLsbD 31 = true := by decide
    rw [hp] at this
    simp at this

theorem crcStep1_inj (x y : W32) (h : crcStep1 x = crcStep1 y) : x = y := by
  apply BitVec.xor_eq_zero_iff.mp
  apply crcStep1_zero
  rw [crcStep1_xor, h, BitVec.xor_self]

theorem crcIter_inj (n : Nat) (x y : W32) (h : crcIter n x = crcIter n y) : x = y := by
  induction n with
  | zero => exact h
  | succ n ih =>
    simp only [crcIter, Nat.repeat] at h ih
    exact ih (crcStep1_inj _ _ h)

theorem crcByte_inj_reg (c d : W32) (b : UInt8) (h : crcByte c b = crcByte d b) : c = d :=
  (BitVec.xor_left_inj _).mp (crcIter_inj 8 _ _ h)

theorem crcByte_inj_byte (c : W32) (x y : UInt8) (h : crcByte c x = crcByte c y) : x = y := by
  have h1 := (BitVec.xor_right_inj _).mp (crcIter_inj 8 _ _ h)
  have h2 := congrArg BitVec.toNat h1
  simp only [BitVec.toNat_ofNat] at h2
  have hx := x.toNat_lt
  have hy := y.toNat_lt
  rw [Nat.mod_eq_of_lt (by omega), Nat.mod_eq_of_lt (by omega)] at h2
  exact UInt8.toNat_inj.mp h2

theorem crcFeed_inj (bs : Bytes) (c d : W32) (h : crcFeed c bs = crcFeed d bs) : c = d := by
  unfold crcFeed at h
  induction bs generalizing c d with
  | nil => exact h
  | cons b bs ih => exact crcByte_inj_reg _ _ b (ih _ _ h)

theorem crc32c_byte_change (pre post : Bytes) (x y : UInt8) (h : x ≠ y) :
    crc32c (pre ++ x :: post) ≠ crc32c (pre ++ y :: post) := by
  intro he
  unfold crc32c at he
  have h1 := BitVec.eq_of_toNat_eq he
  have h2 := (BitVec.xor_left_inj _).mp h1
  unfold crcFeed at h2
  simp only [List.foldl_append, List.foldl_cons] at h2
  have h3 := crcFeed_inj post _ _ h2
  exact h (crcByte_inj_byte _ _ _ h3)

end PgVerif.Proofs
