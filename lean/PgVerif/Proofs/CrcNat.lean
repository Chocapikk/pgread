/-
  The bit-serial CRC-32C of Spec/Crc.lean on `Nat`, whose `%`, `/`, `^^^` the kernel computes natively (`BitVec 32` goes through
  `Fin`).  `crc32c_eq_crcN` is an equation between functions: a test vector unfolds down to `crc32c`, rewrites once, evaluates `crcN`.
-/
import PgVerif.Spec.Crc
namespace PgVerif.Proofs.CrcNat
open PgVerif PgVerif.Spec

def stepN (c : Nat) : Nat := if c % 2 = 1 then (c / 2) ^^^ 0x82F63B78 else c / 2
def byteN (c : Nat) (b : UInt8) : Nat := Nat.repeat stepN 8 (c ^^^ b.toNat)
def crcN (bs : Bytes) : Nat := bs.foldl byteN 0xFFFFFFFF ^^^ 0xFFFFFFFF

theorem stepN_eq (c : W32) : stepN c.toNat = (crcStep1 c).toNat := by
  unfold stepN crcStep1
  have hb : c.getLsbD 0 = decide (c.toNat % 2 = 1) := by
    rw [BitVec.getLsbD, Nat.testBit_zero]
  rw [hb]
  by_cases h : c.toNat % 2 = 1
  · simp [h, crcPoly, Nat.shiftRight_eq_div_pow]
  · simp [h, Nat.shiftRight_eq_div_pow]

theorem iter_eq (n : Nat) (c : W32) : Nat.repeat stepN n c.toNat = (crcIter n c).toNat := by
  induction n with
  | zero => rfl
  | succ n ih => rw [Nat.repeat, ih, stepN_eq]; rfl

theorem byteN_eq (c : W32) (b : UInt8) : byteN c.toNat b = (crcByte c b).toNat := by
  unfold byteN crcByte
  rw [← iter_eq]
  congr 1
  have : b.toNat < 2 ^ 32 := Nat.lt_trans b.toNat_lt (by decide)
  simp [BitVec.toNat_xor, Nat.mod_eq_of_lt this]

theorem feed_eq (bs : Bytes) : ∀ c : W32, bs.foldl byteN c.toNat = (crcFeed c bs).toNat := by
  induction bs with
  | nil => intro c; rfl
  | cons b bs ih => intro c; rw [List.foldl_cons, byteN_eq, ih]; rfl

theorem crc32c_eq_crcN : crc32c = crcN := by
  funext bs
  unfold crc32c crcN
  rw [BitVec.toNat_xor, ← feed_eq]; rfl

end PgVerif.Proofs.CrcNat
