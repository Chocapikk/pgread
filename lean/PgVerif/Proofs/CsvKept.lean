/-
  C13, CSV side: only NULL and the empty string are written as the empty field (`Spec.CsvExport.valuesKept`).
-/
import PgVerif.Proofs.ExportJson
import PgVerif.Proofs.ExportDec
import PgVerif.Proofs.CsvParse
namespace PgVerif.Proofs.CsvKept
open PgVerif PgVerif.Export PgVerif.Model.Export

theorem decInt_ne_nil (i : Int) : decInt i ≠ [] := by
  obtain ⟨h1, _, _⟩ := ExportDec.dec_props i.natAbs
  unfold decInt
  split
  · simp
  · exact h1

theorem floatText_ne_nil (text : Bytes)
    (h : isNonFiniteText text = false → ∃ c t, text = c :: t ∧ (c = 45 ∨ Spec.Json.isDigit c = true)) : text ≠ [] := by
  intro he
  subst he
  have : isNonFiniteText [] = false := by decide
  obtain ⟨c, t, h1, _⟩ := h this
  cases h1

theorem getD_map_ne_nil {α} (o : Option α) (f : α → Bytes) (d : Bytes) (hf : ∀ e, f e ≠ []) (hd : d ≠ []) :
    (o.map f).getD d ≠ [] := by
  cases o with
  | none => exact hd
  | some e => exact hf e

theorem formatCSVValue_nil (F : FloatFmt) (hF : ExportJson.FloatOK F) (v : GoVal) (h : formatCSVValue F v = []) :
    v = .nil ∨ v = .str [] := by
  cases v with
  | nil => exact Or.inl rfl
  | bool b => cases b <;> simp [formatCSVValue, asc] at h
  | int i => exact absurd h (decInt_ne_nil i)
  | f64 b => exact absurd h (floatText_ne_nil _ (fun hn => (hF.num64 b hn).2.1))
  | f32 b => exact absurd h (floatText_ne_nil _ (fun hn => (hF.num32 b hn).2.1))
  | str s => simp only [formatCSVValue] at h; subst h; exact Or.inr rfl
  | arr xs =>
    -- json.Marshal's text and the fallback writer's both open with a bracket
    simp only [formatCSVValue, jsonCell, goJson] at h
    exact absurd h (getD_map_ne_nil _ _ _ (fun _ => List.cons_ne_nil _ _) (by simp [writeJSONValue]))
  | obj kvs =>
    simp only [formatCSVValue, jsonCell, goJson] at h
    exact absurd h (getD_map_ne_nil _ _ _ (fun _ => List.cons_ne_nil _ _) (by simp [writeJSONValue]))

theorem all_zip_map {α β} (l : List α) (f : α → β) (p : α × β → Bool) (h : ∀ x ∈ l, p (x, f x) = true) :
    (l.zip (l.map f)).all p = true := by
  induction l with
  | nil => rfl
  | cons x l ih =>
    simp only [List.map_cons, List.zip_cons_cons, List.all_cons, Bool.and_eq_true]
    exact ⟨h x (by simp), ih (fun y hy => h y (by simp [hy]))⟩

theorem valuesKept_model (F : FloatFmt) (hF : ExportJson.FloatOK F) (t : TableDump) :
    Spec.CsvExport.valuesKept t (CsvParse.expectedRecords F t) = true := by
  unfold Spec.CsvExport.valuesKept CsvParse.expectedRecords
  simp only [List.drop_succ_cons, List.drop_zero]
  apply all_zip_map
  intro row _
  apply all_zip_map
  intro col _
  simp only [cellCSV]
  cases hg : row.get col.name with
  | none => rfl
  | some v =>
    -- valuesKept exempts NULL and the empty string; every other value must have a non-empty field
    cases v with
    | nil => rfl
    | str s =>
      cases s with
      | nil => rfl
      | cons c s' => simp [formatCSVValue]
    | bool _ | int _ | f64 _ | f32 _ | arr _ | obj _ =>
      simp only [Bool.not_eq_true', List.isEmpty_eq_false_iff]
      intro he
      rcases formatCSVValue_nil F hF _ he with h | h <;> cases h

end PgVerif.Proofs.CsvKept
