/-
  Helper lemmas for C13 (CSV side): Spec.Csv reads back what the model of encoding/csv.Writer (+ fix 07) writes.
-/
import PgVerif.Spec.CsvExport
import PgVerif.Model.ExportCsv
import PgVerif.Proofs.SqlLex
namespace PgVerif.Proofs.CsvParse
open PgVerif PgVerif.Export PgVerif.Spec.Csv PgVerif.Model.Export

theorem quoted_eq_scanQuoted : ∀ bs : Bytes, quoted bs = Spec.SqlLex.scanQuoted 34 bs
  | [] => rfl
  | [_] => rfl
  | c :: c2 :: t => by
    rw [quoted, Spec.SqlLex.scanQuoted, quoted_eq_scanQuoted t, quoted_eq_scanQuoted (c2 :: t)]

theorem quoted_escape (s rest : Bytes) (hr : rest.head? ≠ some 34) :
    quoted (escapeQ 34 s ++ 34 :: rest) = some (s, rest) := by
  rw [quoted_eq_scanQuoted]
  exact SqlLex.scanQuoted_escape 34 s rest hr

def plainByte (c : UInt8) : Bool := !(c == 10 || c == 13 || c == 34 || c == 44)

theorem unquoted_plain (x rest : Bytes) (sep : UInt8) (hs : isSep sep = true) (hx : ∀ c ∈ x, plainByte c = true) :
    unquoted (x ++ sep :: rest) = some (x, sep :: rest) := by
  induction x with
  | nil => simp [unquoted, hs]
  | cons c x ih =>
    have hc := hx c (by simp)
    simp only [plainByte, Bool.not_eq_true', Bool.or_eq_false_iff, beq_eq_false_iff_ne, ne_eq] at hc
    have h1 : isSep c = false := by
      simp only [isSep, Bool.or_eq_false_iff, beq_eq_false_iff_ne, ne_eq]
      exact ⟨⟨hc.2, hc.1.1.1⟩, hc.1.1.2⟩
    simp only [List.cons_append, unquoted, h1, hc.1.2, if_false, Bool.false_eq_true]
    rw [ih (fun d hd => hx d (by simp [hd]))]
    rfl

theorem plain_of_noQuotes (x : Bytes) (h : fieldNeedsQuotes x = false) : ∀ c ∈ x, plainByte c = true := by
  unfold fieldNeedsQuotes at h
  split at h
  · rename_i he; simp at he; subst he; simp
  · split at h
    · simp at h
    · split at h
      · simp at h
      · rename_i hany
        intro c hc
        simp only [List.any_eq_true, not_exists, not_and, Bool.not_eq_true] at hany
        have := hany c hc
        simp [plainByte, this]

theorem field_csvField (x rest : Bytes) (sep : UInt8) (hs : sep = 44 ∨ sep = 10) :
    field (csvField x ++ sep :: rest) = some (x, sep :: rest) := by
  have hsep : isSep sep = true := by rcases hs with h | h <;> subst h <;> decide
  have hne : sep ≠ 34 := by rcases hs with h | h <;> subst h <;> decide
  unfold csvField
  by_cases hq : fieldNeedsQuotes x = true
  · -- written in quotes: `quoted_escape`
    rw [if_pos hq]
    simp only [List.cons_append, List.append_assoc, List.nil_append, field]
    rw [quoted_escape x (sep :: rest) (by simp [hne])]
    simp [hsep]
  · rw [if_neg hq]
    simp only [Bool.not_eq_true] at hq
    have hp := plain_of_noQuotes x hq
    have hu := unquoted_plain x rest sep hsep hp
    -- left bare: `unquoted_plain`; `x` is split only to see that `field`'s first match, an opening quote, does not fire
    cases x with
    | nil =>
      simp only [List.nil_append] at hu ⊢
      unfold field
      split
      · rename_i heq; simp at heq; exact absurd heq.1 hne
      · exact hu
    | cons c x =>
      have h2 : c ≠ 34 := by
        intro h; subst h; have := hp 34 (by simp); simp [plainByte] at this
      unfold field
      split
      · rename_i heq; simp at heq; exact absurd heq.1 h2
      · exact hu

theorem csvRecord_cons (x : Bytes) (more : List Bytes) :
    csvRecord (x :: more) = csvField x ++ (if more = [] then [10] else 44 :: csvRecord more) := by
  cases more with
  | nil => simp [csvRecord, joinB]
  | cons y more' => simp [csvRecord, joinB, List.append_assoc]

theorem record_csvRecord (fields : List Bytes) (hne : fields ≠ []) (rest : Bytes) :
    ∀ f, fields.length ≤ f → record f (csvRecord fields ++ rest) = some (fields, rest) := by
  induction fields with
  | nil => exact absurd rfl hne
  | cons x more ih =>
    intro f hf
    cases f with
    | zero => simp at hf
    | succ f =>
      rw [csvRecord_cons, List.append_assoc, record]
      by_cases hm : more = []
      · subst hm
        rw [if_pos rfl, List.singleton_append, field_csvField x rest 10 (.inr rfl)]; rfl
      · rw [if_neg hm, List.cons_append, field_csvField x _ 44 (.inl rfl)]
        simp only [ih hm f (by simp only [List.length_cons] at hf; omega), Option.map_some]

/-- fix 07: a single empty field is written `""` -/
def lineText (r : List Bytes) : Bytes := if r == [[]] then [34, 34, 10] else csvRecord r

theorem lineText_of_ne {r : List Bytes} (h : r ≠ [[]]) : lineText r = csvRecord r := by
  unfold lineText; rw [if_neg (by simpa using h)]

theorem record_lineText (r : List Bytes) (hne : r ≠ []) (rest : Bytes) (f : Nat) (hf : r.length ≤ f) :
    record f (lineText r ++ rest) = some (r, rest) := by
  by_cases h : r = [[]]
  · subst h
    cases f with
    | zero => simp at hf
    | succ f => simp [lineText, record, field, quoted, isSep]
  · rw [lineText_of_ne h]
    exact record_csvRecord r hne rest f hf

theorem joinB_length (fs : List Bytes) (hne : fs ≠ []) : fs.length ≤ (joinB [44] fs).length + 1 := by
  induction fs with
  | nil => exact absurd rfl hne
  | cons x more ih =>
    cases more with
    | nil => simp [joinB]
    | cons y more' =>
      have := ih (by simp)
      simp only [joinB, List.length_append, List.length_cons, List.length_nil] at this ⊢
      omega

theorem lineText_length (r : List Bytes) (hne : r ≠ []) : r.length ≤ (lineText r).length := by
  by_cases h : r = [[]]
  · subst h; simp [lineText]
  · have := joinB_length (r.map csvField) (by simpa using hne)
    simp only [lineText_of_ne h, csvRecord, List.length_append, List.length_map, List.length_cons, List.length_nil] at this ⊢
    omega

/-- the empty field, or a first byte that is no line break: the opening quote, or the first byte of a bare field -/
theorem csvField_head (x : Bytes) : (x = [] ∧ csvField x = []) ∨ ∃ c t, csvField x = c :: t ∧ c ≠ 10 ∧ c ≠ 13 := by
  unfold csvField
  by_cases hq : fieldNeedsQuotes x = true
  · rw [if_pos hq]; exact .inr ⟨34, _, rfl, by decide, by decide⟩
  · rw [if_neg hq]
    cases x with
    | nil => exact .inl ⟨rfl, rfl⟩
    | cons c x' =>
      have hc := plain_of_noQuotes (c :: x') (by simpa using hq) c (by simp)
      exact .inr ⟨c, x', rfl, by intro e; subst e; simp [plainByte] at hc, by intro e; subst e; simp [plainByte] at hc⟩

/-- so a written record is not taken for an empty line: it starts with its first field, or, when that is empty, with the comma -/
theorem lineText_head (r : List Bytes) (hne : r ≠ []) : ∃ c t, lineText r = c :: t ∧ c ≠ 10 ∧ c ≠ 13 := by
  by_cases h : r = [[]]
  · subst h; exact ⟨34, [34, 10], rfl, by decide, by decide⟩
  · rw [lineText_of_ne h]
    obtain ⟨x, more, rfl⟩ := List.exists_cons_of_ne_nil hne
    rw [csvRecord_cons]
    rcases csvField_head x with ⟨rfl, hx⟩ | ⟨c, t, hx, h10, h13⟩
    · have hm : more ≠ [] := fun e => h (by rw [e])
      rw [hx, if_neg hm]
      exact ⟨44, _, rfl, by decide, by decide⟩
    · rw [hx]
      exact ⟨c, _, rfl, h10, h13⟩

def linesText (recs : List (List Bytes)) : Bytes := recs.flatMap lineText

theorem skipBlank_cons (c : UInt8) (t : Bytes) (h10 : c ≠ 10) (h13 : c ≠ 13) : skipBlank (c :: t) = c :: t := by
  unfold skipBlank
  split
  · rename_i heq; simp at heq; exact absurd heq.1 h10
  · rename_i heq; simp at heq; exact absurd heq.1 h13
  · rfl

/-- the fuel is the one the readers pass to `record` -/
theorem record_first (r : List Bytes) (hr : r ≠ []) : ∃ c t, lineText r = c :: t ∧ c ≠ 10 ∧ c ≠ 13 ∧
    ∀ rest, record ((c :: (t ++ rest)).length + 1) (c :: (t ++ rest)) = some (r, rest) := by
  obtain ⟨c, t, hct, h10, h13⟩ := lineText_head r hr
  refine ⟨c, t, hct, h10, h13, fun rest => ?_⟩
  have hlen := lineText_length r hr
  have := record_lineText r hr rest ((c :: (t ++ rest)).length + 1)
    (by rw [hct] at hlen; simp only [List.length_cons, List.length_append] at hlen ⊢; omega)
  rwa [hct] at this

theorem recordsF_lines (recs : List (List Bytes)) (hall : ∀ r ∈ recs, r ≠ []) :
    ∀ f, recs.length + 1 ≤ f → recordsF f (linesText recs) = some recs := by
  induction recs with
  | nil =>
    intro f hf
    cases f with
    | zero => omega
    | succ f => simp [linesText, recordsF, skipBlank]
  | cons r recs ih =>
    intro f hf
    cases f with
    | zero => omega
    | succ f =>
      obtain ⟨c, t, hct, h10, h13, hrec⟩ := record_first r (hall r (by simp))
      have hlt : linesText (r :: recs) = c :: (t ++ linesText recs) := by
        simp [linesText, hct]
      rw [hlt, recordsF, skipBlank_cons c _ h10 h13]
      simp only []
      rw [hrec]
      simp only [List.length_cons, List.length_append]
      rw [if_pos (by omega)]
      rw [ih (fun x hx => hall x (by simp [hx])) f (by simp at hf; omega)]
      rfl

theorem linesText_length (recs : List (List Bytes)) (hall : ∀ r ∈ recs, r ≠ []) : recs.length ≤ (linesText recs).length := by
  induction recs with
  | nil => simp
  | cons r recs ih =>
    have h1 := lineText_length r (hall r (by simp))
    have hr : r ≠ [] := hall r (by simp)
    have h2 := ih (fun x hx => hall x (by simp [hx]))
    simp only [linesText, List.flatMap_cons, List.length_append, List.length_cons] at h2 ⊢
    cases r with
    | nil => exact absurd rfl hr
    | cons x more => simp only [List.length_cons] at h1; omega

theorem parse_lines (recs : List (List Bytes)) (hall : ∀ r ∈ recs, r ≠ []) : parse (linesText recs) = some recs := by
  unfold parse
  exact recordsF_lines recs hall ((linesText recs).length + 1) (by have := linesText_length recs hall; omega)

def expectedRecords (F : FloatFmt) (t : TableDump) : List (List Bytes) :=
  t.columns.map (·.name) :: t.rows.map fun r => t.columns.map (cellCSV F r)

theorem expectedRecords_ne (F : FloatFmt) (t : TableDump) (hc : t.columns ≠ []) : ∀ r ∈ expectedRecords F t, r ≠ [] := by
  intro r hr
  simp only [expectedRecords, List.mem_cons, List.mem_map] at hr
  rcases hr with h | ⟨row, _, h⟩
  · subst h; simpa using hc
  · subst h; simpa using hc

theorem tableToCSV_lines (F : FloatFmt) (t : TableDump) (hc : t.columns ≠ []) (hh : t.columns.map (·.name) ≠ [[]]) :
    tableToCSV F t = linesText (expectedRecords F t) := by
  have he : t.columns.isEmpty = false := by
    cases h : t.columns with
    | nil => exact absurd h hc
    | cons _ _ => rfl
  have hl : lineText (t.columns.map (·.name)) = csvRecord (t.columns.map (·.name)) := lineText_of_ne hh
  unfold tableToCSV expectedRecords linesText
  rw [he]
  simp only [Bool.false_eq_true, if_false, List.flatMap_cons, hl, List.flatMap_map]
  rfl

theorem isPrefix_append (a b : Bytes) : Spec.SqlLex.isPrefix a (a ++ b) = true := by
  induction a with
  | nil => simp [Spec.SqlLex.isPrefix]
  | cons c a ih => simp [Spec.SqlLex.isPrefix, ih]

theorem mem_splits (sep x y : Bytes) (hs : sep ≠ []) : (x, y) ∈ Spec.CsvExport.splits sep (x ++ sep ++ y) := by
  induction x with
  | nil =>
    cases sep with
    | nil => exact absurd rfl hs
    | cons c sep' =>
      simp only [List.nil_append, List.cons_append, Spec.CsvExport.splits]
      have := isPrefix_append (c :: sep') y
      simp only [List.cons_append] at this
      simp [this]
  | cons c x ih =>
    simp only [List.cons_append, Spec.CsvExport.splits, List.mem_append, List.mem_map]
    right
    exact ⟨(x, y), by simpa using ih, rfl⟩

/-- the section header without its LF -/
def headerLine (db table : Bytes) : Bytes :=
  Spec.SqlLex.asc "# Database: " ++ commentText db ++ Spec.SqlLex.asc ", Table: " ++ commentText table

theorem sectionHeader_eq (db table : Bytes) : sectionHeader db table = headerLine db table ++ [10] := by
  simp [sectionHeader, headerLine, asc, Spec.SqlLex.asc]

theorem headerLine_noNewline (db table : Bytes) : ∀ c ∈ headerLine db table, (c == 10 || c == 13) = false := by
  intro c hc
  have key : ∀ d, Spec.SqlLex.isNewline d = (d == 10 || d == 13) := fun d => rfl
  simp only [headerLine, List.mem_append] at hc
  rcases hc with ((h | h) | h) | h
  · revert c; decide
  · rw [← key]; exact Proofs.SqlLex.commentText_noNewline db c h
  · revert c; decide
  · rw [← key]; exact Proofs.SqlLex.commentText_noNewline table c h

theorem headerOK_headerLine (db table : Bytes) : Spec.CsvExport.headerOK db table (headerLine db table) = true := by
  unfold Spec.CsvExport.headerOK
  simp only [Bool.and_eq_true, Bool.not_eq_true', List.any_eq_false, List.any_eq_true, beq_iff_eq]
  refine ⟨⟨?_, ?_⟩, ?_⟩
  · intro c hc
    have := headerLine_noNewline db table c hc
    simpa using this
  · simp [headerLine, List.append_assoc]
  · refine ⟨(commentText db, commentText table), ?_, ?_⟩
    · have : (headerLine db table).drop (Spec.SqlLex.asc "# Database: ").length
          = commentText db ++ Spec.SqlLex.asc ", Table: " ++ commentText table := by
        simp [headerLine, List.append_assoc]
      rw [this]
      exact mem_splits _ _ _ (by decide)
    · simp [Proofs.SqlLex.commentDecode_commentText]

theorem takeLine_line (line rest : Bytes) (h : ∀ c ∈ line, (c == 10 || c == 13) = false) :
    Spec.CsvExport.takeLine (line ++ 10 :: rest) = some (line, rest) := by
  induction line with
  | nil => simp [Spec.CsvExport.takeLine]
  | cons c line ih =>
    have hc : c ≠ 10 := by
      intro e; have := h c (by simp); subst e; simp at this
    simp only [List.cons_append, Spec.CsvExport.takeLine, hc, if_false]
    rw [ih (fun d hd => h d (by simp [hd]))]
    rfl

theorem takeRecords_lines (recs : List (List Bytes)) (hall : ∀ r ∈ recs, r ≠ []) (tail : Bytes) :
    takeRecords recs.length (linesText recs ++ tail) = some (recs, tail) := by
  induction recs with
  | nil => simp [takeRecords, linesText]
  | cons r recs ih =>
    obtain ⟨c, t, hct, h10, h13, hrec⟩ := record_first r (hall r (by simp))
    have hlt : linesText (r :: recs) ++ tail = c :: (t ++ (linesText recs ++ tail)) := by
      simp [linesText, hct]
    rw [hlt, List.length_cons, takeRecords, skipBlank_cons c _ h10 h13]
    simp only []
    rw [hrec]
    simp only []
    rw [ih (fun x hx => hall x (by simp [hx]))]
    rfl

def expectedOf (F : FloatFmt) (t : TableDump) : List (List Bytes) := if t.columns.isEmpty then [] else expectedRecords F t

theorem tableToCSV_expectedOf (F : FloatFmt) (t : TableDump) (hh : t.columns.map (·.name) ≠ [[]]) :
    tableToCSV F t = linesText (expectedOf F t) ∧ ∀ r ∈ expectedOf F t, r ≠ [] := by
  unfold expectedOf
  by_cases he : t.columns.isEmpty = true
  · simp only [he, if_true]
    exact ⟨by simp [tableToCSV, he, linesText], by simp⟩
  · have hc : t.columns ≠ [] := by intro e; simp [e] at he
    simp only [he, Bool.false_eq_true, if_false]
    exact ⟨tableToCSV_lines F t hc hh, expectedRecords_ne F t hc⟩

def sectionsOfDb (F : FloatFmt) (db : DatabaseDump) : List (Bytes × Bytes × List (List Bytes)) :=
  db.tables.map fun t => (db.name, t.name, expectedOf F t)

theorem sections_ok (F : FloatFmt) (dbname : Bytes) : ∀ (ts : List TableDump) (more : List (Bytes × Bytes × List (List Bytes))) (tail : Bytes),
    (∀ t ∈ ts, t.columns.map (·.name) ≠ [[]]) →
    Spec.CsvExport.sectionsVerdict ((ts.map fun t => (dbname, t.name, expectedOf F t)) ++ more)
      ((ts.flatMap fun t => sectionHeader dbname t.name ++ tableToCSV F t ++ [10]) ++ tail)
      = Spec.CsvExport.sectionsVerdict more tail
  | [], more, tail, _ => by simp
  | t :: ts, more, tail, h => by
    obtain ⟨hlines, hne⟩ := tableToCSV_expectedOf F t (h t (by simp))
    have ih := sections_ok F dbname ts more tail (fun x hx => h x (by simp [hx]))
    simp only [List.map, List.flatMap_cons, List.cons_append, List.append_assoc]
    rw [Spec.CsvExport.sectionsVerdict, sectionHeader_eq, List.append_assoc]
    simp only [List.cons_append, List.nil_append]
    rw [takeLine_line _ _ (headerLine_noNewline dbname t.name)]
    simp only [headerOK_headerLine, Bool.not_true, Bool.false_eq_true, if_false]
    rw [hlines, takeRecords_lines _ hne]
    simp only [bne_self_eq_false, Bool.false_eq_true, if_false]
    simp only [List.append_assoc] at ih
    exact ih

def sectionsOf (F : FloatFmt) (d : DumpResult) : List (Bytes × Bytes × List (List Bytes)) := d.flatMap (sectionsOfDb F)

end PgVerif.Proofs.CsvParse
