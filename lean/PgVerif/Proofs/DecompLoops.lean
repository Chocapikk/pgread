/-
  The two decompressors on ARBITRARY bytes (the claims are stated in Props/C10/Toast.lean).  Each main loop and its twin with a
  visible budget iterate ONE body (`pglzBody`, `lz4Body`), opened once (`pglzBody_cases`, `lz4Body_cases`): an iteration returns, or
  hands the next one strictly less input, within rawSize and paid for by the input consumed.
  Namespaces `ToastSize` and, for the two totality theorems, `Toast`: Props/C10/Toast.lean and Proofs/ToastTotal.lean name them so.
-/
import PgVerif.Proofs.Pglz
import PgVerif.Proofs.Lz4
namespace PgVerif.Proofs.ToastSize
open PgVerif PgVerif.Model

section Pglz
open PgVerif.Model.Pglz

theorem copyLoopM_bound (s o raw n i : Nat) (out r : Bytes) (h : copyLoopM s o raw n i out = .ok r)
    (h0 : out.length ≤ raw) : r.length ≤ out.length + n ∧ r.length ≤ raw := by
  fun_induction copyLoopM s o raw n i out with
  | case1 | case4 => cases h; omega
  | case2 => cases h
  | case3 n i out _ _ _ ih =>
    obtain ⟨b, -, hk⟩ := bind_eq_ok h
    have := ih b hk
    rw [List.length_append] at this
    simp only [List.length_singleton] at this
    omega

theorem copy_ret {raw off : Nat} {out : Bytes} (n : Nat) (hoff : ¬ (off = 0 ∨ off > out.length)) (h0 : out.length ≤ raw) :
    ∃ o2, copyLoopM (out.length - off) off raw n 0 out = .ok o2 ∧ o2.length ≤ out.length + n ∧ o2.length ≤ raw :=
  have e := Proofs.Pglz.copyLoopM_eq (out.length - off) off raw (by omega) n 0 out (by omega)
  ⟨_, e, copyLoopM_bound _ _ _ _ _ _ _ e h0⟩

/-- 91 output bytes per stream byte: a 3-byte tag yields at most 18 + 255 = 273 bytes, a 2-byte tag at most 18, a literal 1 -/
theorem items_ret (raw n ctrl bit : Nat) (data out : Bytes) (h0 : out.length ≤ raw) :
    ∃ d' o', items raw n ctrl bit data out = .ok (d', o') ∧
      o'.length ≤ raw ∧ d'.length ≤ data.length ∧ o'.length + 91 * d'.length ≤ out.length + 91 * data.length := by
  fun_induction items raw n ctrl bit data out with
  -- the arms follow `items`.  Stops: eight items done (1), input or rawSize exhausted (2), a tag cut off by the end of the
  -- stream (5: the extension byte of a 3-byte tag is missing, 8: fewer than two bytes, 10: no byte for a literal)
  | case1 | case2 | case8 => exact ⟨_, _, rfl, h0, Nat.le_refl _, Nat.le_refl _⟩
  | case5 | case10 =>
    exact ⟨_, _, rfl, h0, by simp only [List.length_cons, List.length_nil]; omega,
      by simp only [List.length_cons, List.length_nil]; omega⟩
  -- a tag whose offset is 0 or beyond the output is skipped: 3-byte tag (3), 2-byte tag (6)
  | case3 | case6 =>
    rename_i ih
    obtain ⟨d', o', e, b⟩ := ih h0
    exact ⟨d', o', e, by simp only [List.length_cons]; omega⟩
  -- a 3-byte tag copies `len' = 18 + b2` bytes
  | case4 n ctrl bit out _ b0 b1 len off h18 b2 r2 len' hoff _ ih =>
    obtain ⟨o2, e2, c1, c2⟩ := copy_ret len' hoff h0
    obtain ⟨d', o', e, b⟩ := ih o2 c2
    have hl : len' = len + b2.toNat := rfl
    have := b2.toNat_lt
    exact ⟨d', o', bind_eq e2 e, by simp only [List.length_cons]; omega⟩
  -- a 2-byte tag copies `len = (b0 &&& 0x0F) + 3` bytes
  | case7 n ctrl bit out _ b0 b1 rest len off _ hoff _ ih =>
    obtain ⟨o2, e2, c1, c2⟩ := copy_ret len hoff h0
    obtain ⟨d', o', e, b⟩ := ih o2 c2
    have hl : len ≤ 18 := by
      have : b0.toNat &&& 0x0F ≤ 15 := Nat.and_le_right
      show (b0.toNat &&& 0x0F) + 3 ≤ 18
      omega
    exact ⟨d', o', bind_eq e2 e, by simp only [List.length_cons]; omega⟩
  -- a literal byte
  | case9 =>
    rename_i ih
    obtain ⟨d', o', e, b⟩ := ih (by rw [List.length_append]; simp only [List.length_singleton]; omega)
    refine ⟨d', o', e, ?_⟩
    simp only [List.length_append, List.length_cons, List.length_nil] at b ⊢; omega

/-- one iteration of `Pglz.decompress` and of `Pglz.decompressB`; `k` = the recursive call -/
def pglzBody (raw : Nat) (k : Bytes → Bytes → M Bytes) (data out : Bytes) : M Bytes :=
  if data = [] ∨ ¬ out.length < raw then pure out
  else match data with
    | ctrl :: rest => do
      let r ← items raw 8 ctrl.toNat 0 rest out
      k r.1 r.2
    | [] => pure out

theorem decompress_succ (raw f : Nat) (data out : Bytes) :
    decompress raw (f+1) data out = pglzBody raw (decompress raw f) data out := rfl

theorem decompressB_succ (raw f : Nat) (data out : Bytes) :
    decompressB raw (f+1) data out = pglzBody raw (decompressB raw f) data out := rfl

/-- an iteration returns `out`, or goes on behind a control byte with less input -/
theorem pglzBody_cases (raw : Nat) (data out : Bytes) {motive : ((Bytes → Bytes → M Bytes) → M Bytes) → Prop}
    (stop : motive fun _ => .ok out)
    (go : ∀ rest out2, rest.length < data.length → out2.length ≤ raw →
      out2.length + 91 * rest.length ≤ out.length + 91 * data.length → motive fun k => k rest out2) :
    motive fun k => pglzBody raw k data out := by
  unfold pglzBody
  by_cases hc : data = [] ∨ ¬ out.length < raw
  · simp only [if_pos hc]; exact stop
  · simp only [if_neg hc]
    cases data with
    | nil => exact stop
    | cons ctrl rest =>
      obtain ⟨d', o', e, b1, b2, b3⟩ := items_ret raw 8 ctrl.toNat 0 rest out (by omega)
      simp only [e, ok_bind]
      exact go d' o' (Nat.lt_succ_of_le b2) b1 (by simp only [List.length_cons]; omega)

theorem decompress_bound (raw f : Nat) (data out r : Bytes) (h : decompress raw f data out = .ok r)
    (h0 : out.length ≤ raw) : r.length ≤ raw ∧ r.length ≤ out.length + 91 * data.length := by
  induction f generalizing data out with
  | zero => cases h; omega
  | succ f ih =>
    rw [decompress_succ] at h
    revert h
    refine pglzBody_cases raw data out (motive := fun B => B (decompress raw f) = .ok r → _) ?_ ?_
    · intro h; cases h; omega
    · intro d o _ b1 b2 h
      have := ih _ _ h b1
      omega

end Pglz

section Lz4
open PgVerif.Model.Lz4 PgVerif.Model.Pglz

theorem readExt_bound : ∀ (d : Bytes) (acc : Nat),
    (readExt d acc).2.length ≤ d.length ∧ (readExt d acc).1 + 255 * (readExt d acc).2.length ≤ acc + 255 * d.length
  | [], acc => by simp [readExt]
  | b :: rest, acc => by
    simp only [readExt]
    by_cases hb : (b.toNat != 255) = true
    · rw [if_pos hb]
      have : b.toNat < 256 := b.toNat_lt
      simp only [List.length_cons]; omega
    · rw [if_neg hb]
      have := readExt_bound rest (acc + 255)
      simp only [List.length_cons]; omega

/-- the same for `Lz4.loop` and `Lz4.loopB` -/
def lz4Body (raw : Nat) (k : Bytes → Bytes → M (Option Bytes)) (data out : Bytes) : M (Option Bytes) :=
  if data = [] ∨ ¬ out.length < raw then pure (some out)
  else match data with
    | [] => pure (some out)
    | token :: d1 =>
      let lit0 := token.toNat >>> 4
      let r := if lit0 = 15 then readExt d1 15 else (lit0, d1)
      let d2 := r.2
      let litLen := if r.1 > d2.length then d2.length else r.1
      let out := out ++ d2.take litLen
      let d3 := d2.drop litLen
      if d3 = [] ∨ out.length ≥ raw then pure (some out)
      else match d3 with
        | o0 :: o1 :: d4 =>
          let offset := o0.toNat ||| (o1.toNat <<< 8)
          if offset = 0 then pure none
          else
            let ml0 := (token.toNat &&& 0x0F) + 4
            let r2 := if ml0 = 19 then readExt d4 19 else (ml0, d4)
            if offset > out.length then pure none
            else copyLoopM (out.length - offset) offset raw r2.1 0 out >>= k r2.2
        | _ => pure (some out)

theorem loop_succ (raw f : Nat) (data out : Bytes) : loop raw (f+1) data out = lz4Body raw (loop raw f) data out := rfl

theorem loopB_succ (raw f : Nat) (data out : Bytes) : loopB raw (f+1) data out = lz4Body raw (loopB raw f) data out := rfl

/-- an iteration stops (with an error, or with `out` plus literals: one byte of result per byte of stream) or goes on with less
input; a length-extension byte stands for 255 -/
theorem lz4Body_cases (raw : Nat) (data out : Bytes)
    {motive : ((Bytes → Bytes → M (Option Bytes)) → M (Option Bytes)) → Prop}
    (stop : ∀ r : Option Bytes, (∀ r', r = some r' → r'.length ≤ out.length + data.length) → motive fun _ => .ok r)
    (go : ∀ rest out2, rest.length < data.length → out2.length ≤ raw →
      out2.length + 255 * rest.length ≤ out.length + 255 * data.length → motive fun k => k rest out2) :
    motive fun k => lz4Body raw k data out := by
  unfold lz4Body
  by_cases hc : data = [] ∨ ¬ out.length < raw
  · simp only [if_pos hc]
    exact stop _ (by rintro _ ⟨⟩; omega)
  · simp -zeta only [if_neg hc]
    rcases data with _ | ⟨token, d1⟩
    · exact absurd (.inl rfl) hc
    · simp -zeta only [List.length_cons] at stop go ⊢
      extract_lets lit0 r d2 litLen out' d3 ml0
      have hd2 : d2.length ≤ d1.length := by
        show (if lit0 = 15 then readExt d1 15 else (lit0, d1)).2.length ≤ _
        split
        · exact (readExt_bound d1 15).1
        · exact Nat.le_refl _
      have hlit : litLen ≤ d2.length := by show (if r.1 > d2.length then d2.length else r.1) ≤ _; split <;> omega
      have htk : out'.length = out.length + litLen := by
        show (out ++ d2.take litLen).length = _
        rw [List.length_append, List.length_take]; omega
      have hdr : d3.length = d2.length - litLen := List.length_drop
      have hstop : ∀ r' : Bytes, some out' = some r' → r'.length ≤ out.length + (d1.length + 1) := by
        rintro _ ⟨⟩; omega
      by_cases hc2 : d3 = [] ∨ out'.length ≥ raw
      · simp only [if_pos hc2]
        exact stop _ hstop
      · simp -zeta only [if_neg hc2]
        rcases hd : d3 with _ | ⟨o0, _ | ⟨o1, d4⟩⟩
        · exact stop _ hstop
        · exact stop _ hstop
        · simp -zeta only []
          extract_lets offset r2
          rw [hd, List.length_cons, List.length_cons] at hdr
          by_cases hz : offset = 0
          · simp only [if_pos hz]
            exact stop none (by rintro _ ⟨⟩)
          · simp only [if_neg hz]
            have hnib : token.toNat &&& 0x0F ≤ 15 := Nat.and_le_right
            have hr2b : r2.2.length ≤ d4.length ∧ r2.1 + 255 * r2.2.length ≤ 19 + 255 * d4.length := by
              have e : r2 = if ml0 = 19 then readExt d4 19 else (ml0, d4) := rfl
              rw [e]; split
              · exact readExt_bound d4 19
              · have : ml0 = (token.toNat &&& 0x0F) + 4 := rfl
                simp only; omega
            by_cases hoff : offset > out'.length
            · simp only [if_pos hoff]
              exact stop none (by rintro _ ⟨⟩)
            · simp only [if_neg hoff]
              obtain ⟨o2, e2, c1, c2⟩ := copy_ret (raw := raw) r2.1 (show ¬ (offset = 0 ∨ offset > out'.length) by omega) (by omega)
              rw [e2]
              exact go _ o2 (by omega) c2 (by omega)

/-- literals are copied without looking at rawSize, matches stop at it; 255 is the ratio the format reaches -/
theorem loop_len (raw f : Nat) (data out r : Bytes) (h : loop raw f data out = .ok (some r)) :
    r.length ≤ max out.length raw + data.length ∧ r.length ≤ out.length + 255 * data.length := by
  induction f generalizing data out with
  | zero => cases h; omega
  | succ f ih =>
    rw [loop_succ] at h
    revert h
    refine lz4Body_cases raw data out (motive := fun B => B (loop raw f) = .ok (some r) → _) ?_ ?_
    · intro r0 hb h; cases h; have := hb r rfl; omega
    · intro d o h1 h2 h3 h
      have := ih _ _ h; omega

end Lz4

theorem decompressPGLZ_bound (data : Bytes) (raw : Nat) (d : Bytes) (h : Pglz.decompressPGLZ data raw = .ok (some d)) :
    d.length ≤ raw ∧ d.length ≤ 91 * data.length := by
  unfold Pglz.decompressPGLZ at h
  split at h
  · cases h
  · obtain ⟨r, hd, hr⟩ := bind_eq_ok h
    cases hr
    simpa using decompress_bound raw _ data [] d hd (Nat.zero_le _)

theorem decompressLZ4_len (data : Bytes) (raw : Nat) (d : Bytes) (h : Lz4.decompressLZ4 data raw = .ok (some d)) :
    d.length ≤ raw + data.length ∧ d.length ≤ 255 * data.length := by
  unfold Lz4.decompressLZ4 at h
  split at h
  · cases h
  · simpa using loop_len raw _ data [] d h

/-! The models RETURN the result so far when the fuel (`len(stream) + 1`) is used up, so totality alone would also hold of a Go loop
that never ends.  Every iteration consumes an input byte: any two budgets above `len(stream)` give the same answer, also in the
twin that faults on an exhausted budget. -/

section Fuel
open PgVerif.Model.Pglz PgVerif.Model.Lz4

theorem decompressB_same (raw f g : Nat) (data out : Bytes) (hf : data.length < f) (hg : data.length < g) :
    Same (decompressB raw f data out) (decompress raw g data out) := by
  induction f generalizing g data out with
  | zero => omega
  | succ f ih =>
    cases g with
    | zero => omega
    | succ g =>
      rw [decompressB_succ, decompress_succ]
      exact pglzBody_cases raw data out (motive := fun B => Same (B (decompressB raw f)) (B (decompress raw g))) (Same.ok _)
        fun d o hd _ _ => ih g d o (by omega) (by omega)

theorem decompress_fuel (raw f g : Nat) (data out : Bytes) (hf : data.length < f) (hg : data.length < g) :
    decompress raw f data out = decompress raw g data out :=
  ((decompressB_same raw f f data out hf hf).symm.trans (decompressB_same raw f g data out hf hg)).1

theorem decompressB_eq (raw f : Nat) (data out : Bytes) (hf : data.length < f) :
    decompressB raw f data out = decompress raw f data out :=
  (decompressB_same raw f f data out hf hf).1

theorem loopB_same (raw f g : Nat) (data out : Bytes) (hf : data.length < f) (hg : data.length < g) :
    Same (loopB raw f data out) (loop raw g data out) := by
  induction f generalizing g data out with
  | zero => omega
  | succ f ih =>
    cases g with
    | zero => omega
    | succ g =>
      rw [loopB_succ, loop_succ]
      exact lz4Body_cases raw data out (motive := fun B => Same (B (loopB raw f)) (B (loop raw g))) (fun _ _ => Same.ok _)
        fun d o hd _ _ => ih g d o (by omega) (by omega)

theorem loop_fuel (raw f g : Nat) (data out : Bytes) (hf : data.length < f) (hg : data.length < g) :
    loop raw f data out = loop raw g data out :=
  ((loopB_same raw f f data out hf hf).symm.trans (loopB_same raw f g data out hf hg)).1

theorem loopB_eq (raw f : Nat) (data out : Bytes) (hf : data.length < f) : loopB raw f data out = loop raw f data out :=
  (loopB_same raw f f data out hf hf).1

end Fuel

end PgVerif.Proofs.ToastSize

namespace PgVerif.Proofs.Toast
open PgVerif PgVerif.Model

theorem decompressPGLZ_total (data : Bytes) (raw : Nat) : ∃ r, Pglz.decompressPGLZ data raw = .ok r :=
  tot_ite (fun _ => ⟨_, rfl⟩) fun _ =>
    tot_bind (ToastSize.decompressB_same raw _ _ data [] (Nat.lt_succ_self _) (Nat.lt_succ_self _)).symm.2 fun _ _ => ⟨_, rfl⟩

theorem decompressLZ4_total (data : Bytes) (raw : Nat) : ∃ r, Lz4.decompressLZ4 data raw = .ok r :=
  tot_ite (fun _ => ⟨_, rfl⟩) fun _ => (ToastSize.loopB_same raw _ _ data [] (Nat.lt_succ_self _) (Nat.lt_succ_self _)).symm.2

end PgVerif.Proofs.Toast
