/-
  pgdump.go:dumpDataDirRows (Model/DeletedScan.lean), which DumpDataDir and ScanAllDeletedRows both call: with the live row source it
  IS the dump chain of Model/Cluster.lean, so the theorems about DumpDataDir / DumpDatabaseFromFiles speak of it.
-/
import PgVerif.Basic.Lemmas
import PgVerif.Model.DeletedScan
import PgVerif.Proofs.CollectM
namespace PgVerif.Proofs.DeletedScan
open PgVerif PgVerif.Model PgVerif.Proofs
open PgVerif.Spec (Options)

theorem dumpTableRows_live (rr : RowReader) (fn : Nat) (info : TableInfo) (attrs : List AttrInfo)
    (reader : Option FileReader) (o : Options) :
    dumpTableRows (readTableRows rr) fn info attrs reader o = dumpTable rr fn info attrs reader o := rfl

theorem dumpOneRows_live (rr : RowReader) (tables : List (Nat × TableInfo)) (attrs : List (Nat × List AttrInfo))
    (reader : Option FileReader) (o : Options) (fn : Nat) :
    dumpOneRows (readTableRows rr) tables attrs reader o fn = dumpOne rr tables attrs reader o fn := rfl

theorem dumpDatabaseFromFilesRows_live (rr : RowReader) (π : MapOrder TableInfo) (classData attrData : Bytes)
    (reader : Option FileReader) (o : Options) :
    dumpDatabaseFromFilesRows rr (readTableRows rr) π classData attrData reader o =
      dumpDatabaseFromFiles rr π classData attrData reader o := rfl

theorem dumpDbRows_live (rr : RowReader) (π : MapOrder TableInfo) (fs : Bytes → Option Bytes) (o : Options) (db : DatabaseInfo) :
    dumpDbRows rr (readTableRows rr) π fs o db = dumpDb rr π fs o db := rfl

theorem dumpDataDirRows_live (rr : RowReader) (π : MapOrder TableInfo) (fs : Bytes → Option Bytes) (o : Options) :
    dumpDataDirRows rr (readTableRows rr) π fs o = dumpDataDir rr π fs o := rfl

def TotalRows (rows : RowSource) : Prop := ∀ data cols, ∃ r, rows data cols = .ok r

theorem dumpTableRows_total (rows : RowSource) (h : TotalRows rows) (fn : Nat) (info : TableInfo) (attrs : List AttrInfo)
    (reader : Option FileReader) (o : Options) : ∃ r, dumpTableRows rows fn info attrs reader o = .ok r := by
  unfold dumpTableRows
  simp only
  cases (if o.listOnly = true then none else reader) with
  | none => exact ⟨_, rfl⟩
  | some rd =>
    simp only
    cases rd fn with
    | none => exact ⟨_, rfl⟩
    | some data => exact tot_ite (fun _ => ⟨_, rfl⟩) fun _ => tot_bind (h data _) fun _ _ => ⟨_, rfl⟩

theorem dumpDatabaseFromFilesRows_total (rr : RowReader) (rows : RowSource) (h : TotalRows rows)
    (hcls : ∀ d, ∃ r, parsePGClass rr d = .ok r) (hatt : ∀ d v, ∃ r, parsePGAttribute rr d v = .ok r)
    (π : MapOrder TableInfo) (classData attrData : Bytes) (reader : Option FileReader) (o : Options) :
    ∃ r, dumpDatabaseFromFilesRows rr rows π classData attrData reader o = .ok r := by
  refine tot_bind (hcls classData) fun tables _ => tot_bind (hatt attrData o.pgVersion) fun attrs _ => ?_
  apply collectM_total
  intro fn
  unfold dumpOneRows
  cases mapGet tables fn with
  | none => exact ⟨_, rfl⟩
  | some info =>
    exact tot_ite (fun _ => tot_bind (dumpTableRows_total rows h fn info _ reader o) fun _ _ => ⟨_, rfl⟩) fun _ => ⟨_, rfl⟩

theorem dumpDataDirRows_total (rr : RowReader) (rows : RowSource) (h : TotalRows rows)
    (hdb : ∀ d, ∃ r, parsePGDatabase rr d = .ok r)
    (hcls : ∀ d, ∃ r, parsePGClass rr d = .ok r) (hatt : ∀ d v, ∃ r, parsePGAttribute rr d v = .ok r)
    (π : MapOrder TableInfo) (fs : Bytes → Option Bytes) (o : Options) : ∃ r, dumpDataDirRows rr rows π fs o = .ok r := by
  unfold dumpDataDirRows
  cases fs pathGlobal1262 with
  | none => exact ⟨_, rfl⟩
  | some dbData =>
    refine tot_bind (hdb dbData) fun dbs _ => tot_bind (collectM_total _ dbs fun db => ?_) fun _ _ => ⟨_, rfl⟩
    unfold dumpDbRows
    refine tot_ite (fun _ => ⟨_, rfl⟩) fun _ => tot_ite (fun _ => ⟨_, rfl⟩) fun _ => tot_ite (fun _ => ⟨_, rfl⟩) fun _ => ?_
    exact tot_bind (dumpDatabaseFromFilesRows_total rr rows h hcls hatt π _ _ _ o) fun _ _ => ⟨_, rfl⟩

end PgVerif.Proofs.DeletedScan
