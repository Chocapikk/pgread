/-
  dropped.go is reasoned about through what its loop bodies read from a pg_attribute row (`AttrFacts`: nine fields), so that
  every statement is relative to the row reader only.
-/
import PgVerif.Model.Dropped
import PgVerif.Basic.Lemmas
import PgVerif.Proofs.SpecSort
import PgVerif.Proofs.TxtNumerals
namespace PgVerif.Proofs.Dropped
open PgVerif PgVerif.Model PgVerif.Spec PgVerif.Sorting List

/-! `dropped_%d` is printed by the numeral printer of Proofs/TxtNumerals.lean -/

theorem drDecNatAux_eq (f n : Nat) (acc : Bytes) (h : n ≤ f) : drDecNatAux (f + 1) n acc = Txt.decAux f n acc := by
  have hd : ∀ d, d < 10 → drDigitByte d = Txt.digitCh d := by decide
  induction f generalizing n acc with
  | zero => rw [Nat.le_zero.mp h]; rfl
  | succ f ih =>
    rw [drDecNatAux, Txt.decAux]
    by_cases hn : n < 10
    · rw [if_pos hn, if_pos hn, hd n hn]
    · rw [if_neg hn, if_neg hn, hd _ (Nat.mod_lt n (by decide)), ih _ _ (by omega)]

theorem drDecNat_eq (n : Nat) : drDecNat n = Txt.decNat n := drDecNatAux_eq n n [] (Nat.le_refl n)

theorem drDecNat_digits (n : Nat) : (drDecNat n).all drIsDigit = true := by
  rw [drDecNat_eq, List.all_eq_true]
  intro c hc
  obtain ⟨h1, h2⟩ := (TxtNumerals.decNat_all n).2.1 c hc
  simp only [drIsDigit, Bool.and_eq_true, decide_eq_true_eq, UInt8.le_iff_toNat_le]
  exact ⟨h1, h2⟩

theorem drDecNat_ne_nil (n : Nat) : drDecNat n ≠ [] := drDecNat_eq n ▸ (TxtNumerals.decNat_all n).1

/-! ### the regular expression `^\.+pg\.dropped\.(\d+)\.+$` on PostgreSQL's placeholder name -/

theorem droppedDigits_pgName (ds : Bytes) (hd : ds.all drIsDigit = true) (hne : ds ≠ []) :
    droppedDigits (drDots8 ++ pgDroppedLit ++ ds ++ drDots8) = some ds := by
  -- the dots and `pg.dropped.` are literals: skipping the dots, the prefix test and the `drop 11` compute
  have hs1 : (drDots8 ++ pgDroppedLit ++ ds ++ drDots8).dropWhile (· == 46) = pgDroppedLit ++ (ds ++ drDots8) := rfl
  have hlen : ¬ (pgDroppedLit ++ (ds ++ drDots8)).length = (drDots8 ++ pgDroppedLit ++ ds ++ drDots8).length := by
    simp only [length_append, show drDots8.length = 8 from rfl]; omega
  have hpre : pgDroppedLit.isPrefixOf (pgDroppedLit ++ (ds ++ drDots8)) = true := rfl
  have hdrop : (pgDroppedLit ++ (ds ++ drDots8)).drop 11 = ds ++ drDots8 := rfl
  have htw : (ds ++ drDots8).takeWhile drIsDigit = ds := takeWhile_append_stop drIsDigit ds 46 _ (List.all_eq_true.mp hd) (by decide)
  have hemp : ds.isEmpty = false := by
    cases ds with
    | nil => exact absurd rfl hne
    | cons _ _ => rfl
  unfold droppedDigits
  simp only [hs1, if_neg hlen, hpre, hdrop, htw, drop_left, hemp, Bool.not_true, Bool.false_eq_true, if_false]
  rfl

theorem droppedDigits_pgDroppedName (n : Int) (h : 0 < n) : droppedDigits (pgDroppedName n) = some (drDecInt n) := by
  have hdec : drDecInt n = drDecNat n.toNat := by unfold drDecInt; rw [if_neg (by omega)]
  unfold pgDroppedName
  rw [hdec]
  exact droppedDigits_pgName _ (drDecNat_digits _) (drDecNat_ne_nil _)

/-- the fields of a pg_attribute row dropped.go looks at, as the row reader delivers them -/
structure AttrFacts where
  relid : Nat
  name : Bytes
  typid : Nat
  len : Int
  num : Int
  byval : Option Bool
  align : Bytes
  storage : Bytes
  dropped : Option Bool
deriving DecidableEq, Repr

def factsOfRow (row : Row) : AttrFacts :=
  ⟨getOID row "attrelid", getString row "attname", getOID row "atttypid", getInt row "attlen", getInt row "attnum",
   drGetBool row "attbyval", getString row "attalign", getString row "attstorage", drGetBool row "attisdropped"⟩

/-- what a correct row reader delivers for the stored attribute row `a` (C03: an oid column as its value, a name
column as the bytes up to the first NUL, an int2 column as its value, a bool column as a bool, a char column as a
one-byte string) -/
def factsOfAttr (a : AttrRow) : AttrFacts :=
  ⟨a.relid, a.name, a.typid, a.len, a.num, some a.byval, [UInt8.ofNat (alignCh a.align)], [UInt8.ofNat a.storage], some a.dropped⟩

def plausibleFacts (f : AttrFacts) : Bool :=
  drOneOfBytes [99, 115, 105, 100] f.align && drOneOfBytes [112, 101, 109, 120] f.storage

def alignByteOfFacts (f : AttrFacts) : Nat :=
  match f.align with
  | b :: _ => b.toNat
  | [] => 0

def droppedOfFacts (tableNames : List (Nat × Bytes)) (f : AttrFacts) : Option DroppedColumnInfo :=
  match f.dropped with
  | some true =>
    if f.num ≤ 0 then none
    else
      some { relOID := f.relid, tableName := (mapGet tableNames f.relid).getD [], attNum := f.num,
             originalName := match droppedDigits f.name with
               | some ds => droppedPrefix ++ ds
               | none => [],
             droppedName := f.name, typeOID := f.typid, typeName := Model.typeName f.typid, attLen := f.len,
             attAlign := alignByteOfFacts f, attByVal := f.byval.getD false }
  | _ => none

theorem droppedOfRow_facts (names : List (Nat × Bytes)) (row : Row) :
    droppedOfRow names row = droppedOfFacts names (factsOfRow row) := rfl

def attrOfFacts (relOID : Nat) (f : AttrFacts) : Option DroppedColumnInfo :=
  if f.relid ≠ relOID then none
  else if f.num ≤ 0 then none
  else
    some { relOID := f.relid, tableName := [], attNum := f.num,
           originalName := if f.dropped.getD false then droppedKey f.num else f.name,
           droppedName := f.name, typeOID := f.typid, typeName := Model.typeName f.typid, attLen := f.len,
           attAlign := alignByteOfFacts f, attByVal := f.byval.getD false }

theorem drAttrOfRow_facts (relOID : Nat) (row : Row) : drAttrOfRow relOID row = attrOfFacts relOID (factsOfRow row) := rfl

theorem drAttrScore_facts (rows : List Row) : drAttrScore rows = ((rows.map factsOfRow).filter plausibleFacts).length := by
  unfold drAttrScore
  rw [List.filter_map, List.length_map]
  rfl

/-- attalign, as `Spec.AttrRow` holds it (the number of bytes: `alignCh` gives the catalog character), is one of PostgreSQL's four -/
def AlignOK (a : AttrRow) : Prop := a.align = 1 ∨ a.align = 2 ∨ a.align = 4 ∨ a.align = 8
instance (a : AttrRow) : Decidable (AlignOK a) := by unfold AlignOK; infer_instance

theorem alignByte_factsOfAttr (a : AttrRow) (h : AlignOK a) : alignByteOfFacts (factsOfAttr a) = alignCh a.align := by
  rcases h with h | h | h | h <;> simp [alignByteOfFacts, factsOfAttr, alignCh, h] <;> decide

theorem plausible_factsOfAttr (a : AttrRow) (h : AlignOK a) (hs : drStorageOK a.storage) :
    plausibleFacts (factsOfAttr a) = true := by
  have h1 : drOneOfBytes [99, 115, 105, 100] [UInt8.ofNat (alignCh a.align)] = true := by
    rcases h with h | h | h | h <;> rw [h] <;> decide
  have h2 : drOneOfBytes [112, 101, 109, 120] [UInt8.ofNat a.storage] = true := by
    rcases hs with hs | hs | hs | hs <;> rw [hs] <;> decide
  show (drOneOfBytes _ [UInt8.ofNat (alignCh a.align)] && drOneOfBytes _ [UInt8.ofNat a.storage]) = true
  rw [h1, h2]; rfl

def rowsOfLayout : Layout → List Row → List Row → List Row → List Row
  | .v16, r16, _, _ => r16
  | .v14, _, r15, _ => r15
  | .v12, _, _, r12 => r12

/-- the schema literal dropped.go reads a pg_attribute of layout `l` with -/
def schemaOfLayout : Layout → List Column
  | .v16 => schemaPGAttrDropped
  | .v14 => schemaPGAttrDroppedV15
  | .v12 => schemaPGAttrDroppedV12

/-- the layout choice (`better_pick`).  Of `hwf` only `AlignOK` and `drStorageOK`, the first conjunct of `DroppedWF`, are used:
they make every row read under the own layout plausible -/
theorem readAttrRows_select (rr : RowReader) (data : Bytes) (l : Layout) (live : List AttrRow) (r16 r15 r12 : List Row)
    (h16 : rr data schemaPGAttrDropped true = .ok r16) (h15 : rr data schemaPGAttrDroppedV15 true = .ok r15)
    (h12 : rr data schemaPGAttrDroppedV12 true = .ok r12)
    (hread : (rowsOfLayout l r16 r15 r12).map factsOfRow = live.map factsOfAttr)
    (hb16 : l ≠ .v16 → drAttrScore r16 = 0) (hb15 : l ≠ .v14 → drAttrScore r15 = 0) (hb12 : l ≠ .v12 → drAttrScore r12 = 0)
    (hwf : ∀ a ∈ live, a.DroppedWF ∧ AlignOK a) :
    readAttrRowsWithDropped rr data = .ok (rowsOfLayout l r16 r15 r12) := by
  have hgood : ∀ row ∈ rowsOfLayout l r16 r15 r12, drPlausibleAttrRow row = true := by
    intro row hrow
    obtain ⟨a, ha, hfa⟩ := List.mem_map.mp (hread ▸ List.mem_map_of_mem (f := factsOfRow) hrow)
    show plausibleFacts (factsOfRow row) = true
    rw [← hfa]
    exact plausible_factsOfAttr a (hwf a ha).2 (hwf a ha).1.1
  simp only [readAttrRowsWithDropped, h16, h15, h12, ok_bind, pure_eq_ok]
  have hown : drAttrScore (rowsOfLayout l r16 r15 r12) = (rowsOfLayout l r16 r15 r12).length :=
    congrArg length (filter_eq_self.mpr hgood)
  have zero : ∀ {r : List Row} {n : Nat}, drAttrScore r = 0 → drAttrScore r ≤ n := fun h => Nat.le_trans (Nat.le_of_eq h) (Nat.zero_le _)
  cases l with
  | v16 =>
    exact congrArg Except.ok (better_pick drAttrScore drBetterRows (fun _ _ => rfl) r16 hown [] [r15, r12] (by simp)
      (forall_mem_cons.mpr ⟨zero (hb15 (by decide)), forall_mem_singleton.mpr (zero (hb12 (by decide)))⟩))
  | v14 =>
    exact congrArg Except.ok (better_pick drAttrScore drBetterRows (fun _ _ => rfl) r15 hown [r16] [r12] (forall_mem_singleton.mpr (hb16 (by decide)))
      (forall_mem_singleton.mpr (zero (hb12 (by decide)))))
  | v12 =>
    exact congrArg Except.ok (better_pick drAttrScore drBetterRows (fun _ _ => rfl) r12 hown [r16, r15]  []
      (forall_mem_cons.mpr ⟨hb16 (by decide), forall_mem_singleton.mpr (hb15 (by decide))⟩) (by simp))

theorem droppedLE_eq (a b : DroppedColumnInfo) : droppedLE a b = !droppedLess b a := by
  unfold droppedLE droppedLess
  generalize a.relOID = x
  generalize b.relOID = y
  generalize a.attNum = m
  generalize b.attNum = n
  by_cases h : x = y
  · subst h
    simp only [bne_self_eq_false, Bool.false_eq_true, if_false, ← decide_not, Int.not_lt]
  · have hx : (x != y) = true := bne_iff_ne.mpr h
    have hy : (y != x) = true := bne_iff_ne.mpr (Ne.symm h)
    rw [hx, hy, if_pos rfl, if_pos rfl, ← decide_not]
    exact decide_eq_decide.mpr (by omega)

theorem drSortDropped_eq (l : List DroppedColumnInfo) : drSortDropped l = insertionSort (fun a b => droppedLE a b) l :=
  foldr_eq_insertionSort (f := drInsertDropped) _ (fun _ => rfl) (fun _ _ _ => rfl) l

/-- `sort.Slice(dropped, relid then attnum)` is the specification's ordering, on every list -/
theorem drSortByRelNum_eq (l : List DroppedColumnInfo) : drSortByRelNum l = drSortDropped l := by
  rw [drSortDropped_eq]
  exact (foldr_eq_insertionSort_not (f := drInsertByRelNum) (fun _ => rfl) (fun _ _ _ => rfl) l).trans
    (insertionSort_congr (pairwise_of_forall fun a b => by simp [droppedLE_eq]))

theorem drSortDropped_perm (l : List DroppedColumnInfo) : drSortDropped l ~ l :=
  drSortDropped_eq l ▸ insertionSort_perm _ l

/-- the entry parseDroppedColumns builds for a dropped attribute `a` -/
def modelInfo (names : List (Nat × Bytes)) (a : AttrRow) : DroppedColumnInfo :=
  { relOID := a.relid, tableName := (mapGet names a.relid).getD [], attNum := a.num,
    originalName := droppedPrefix ++ drDecInt a.num, droppedName := a.name, typeOID := a.typid,
    typeName := Model.typeName a.typid, attLen := a.len, attAlign := alignCh a.align, attByVal := a.byval }

theorem droppedOfFacts_attr (names : List (Nat × Bytes)) (a : AttrRow) (hwf : a.DroppedWF) (hal : AlignOK a) :
    droppedOfFacts names (factsOfAttr a) = if (a.dropped && decide (a.num > 0)) = true then some (modelInfo names a) else none := by
  unfold droppedOfFacts
  cases hd : a.dropped with
  | false => simp [factsOfAttr, hd]
  | true =>
    obtain ⟨_, hdrop, _⟩ := hwf
    obtain ⟨_, _, hpos, hname⟩ := hdrop hd
    have hnum : ¬ a.num ≤ 0 := by omega
    have hgt : a.num > 0 := hpos
    have hdig : droppedDigits (factsOfAttr a).name = some (drDecInt a.num) := by
      show droppedDigits a.name = _
      rw [hname]; exact droppedDigits_pgDroppedName a.num hpos
    have hfd : (factsOfAttr a).dropped = some true := by simp [factsOfAttr, hd]
    simp only [hfd, hdig]
    have hn' : ¬ (factsOfAttr a).num ≤ 0 := hnum
    rw [if_neg hn']
    simp only [Bool.true_and, decide_eq_true_eq, hgt, if_true]
    rw [alignByte_factsOfAttr a hal]
    rfl

/-- a loop body that looks at a row only through its facts, on the rows a correct reader delivers -/
theorem filterMap_of_read {β} (g : Row → Option β) (G : AttrFacts → Option β) (hg : ∀ row, g row = G (factsOfRow row))
    (p : AttrRow → Bool) (f : AttrRow → β) (rows : List Row) (live : List AttrRow)
    (hread : rows.map factsOfRow = live.map factsOfAttr)
    (hG : ∀ a ∈ live, G (factsOfAttr a) = if p a = true then some (f a) else none) :
    rows.filterMap g = (live.filter p).map f := by
  have h1 : rows.filterMap g = (rows.map factsOfRow).filterMap G := by
    rw [List.filterMap_map]; exact congrArg (List.filterMap · rows) (funext hg)
  rw [h1, hread, List.filterMap_map, ← filterMap_ite]
  exact filterMap_congr _ _ _ hG

/-- a dropped attribute has atttypid 0: the tool prints `Model.typeName 0`, the text `oid:0`, where the specification's
`droppedInfo` has `(Spec.typeName 0).getD []`, the empty name -/
def eraseTypeName (c : DroppedColumnInfo) : DroppedColumnInfo := { c with typeName := [] }

theorem droppedLE_erase (a b : DroppedColumnInfo) : droppedLE (eraseTypeName a) (eraseTypeName b) = droppedLE a b := rfl

theorem drSortDropped_erase (l : List DroppedColumnInfo) :
    (drSortDropped l).map eraseTypeName = drSortDropped (l.map eraseTypeName) := by
  rw [drSortDropped_eq, drSortDropped_eq, insertionSort_map (r := fun a b => droppedLE a b) eraseTypeName fun _ _ => Iff.rfl]

/-- the entry parseAllAttributes builds for attribute `a` -/
def modelAttr (a : AttrRow) : DroppedColumnInfo :=
  { relOID := a.relid, tableName := [], attNum := a.num,
    originalName := if a.dropped then droppedKey a.num else a.name,
    droppedName := a.name, typeOID := a.typid, typeName := Model.typeName a.typid, attLen := a.len,
    attAlign := alignCh a.align, attByVal := a.byval }

theorem attrOfFacts_attr (relOID : Nat) (a : AttrRow) (hal : AlignOK a) :
    attrOfFacts relOID (factsOfAttr a) =
      if decide (a.relid = relOID ∧ a.num > 0) = true then some (modelAttr a) else none := by
  unfold attrOfFacts
  by_cases h1 : a.relid = relOID
  · have h1' : ¬ (factsOfAttr a).relid ≠ relOID := fun h => h h1
    rw [if_neg h1']
    by_cases h2 : a.num ≤ 0
    · have h2' : (factsOfAttr a).num ≤ 0 := h2
      rw [if_pos h2']
      have : ¬ (a.relid = relOID ∧ a.num > 0) := fun h => by omega
      simp [this]
    · have h2' : ¬ (factsOfAttr a).num ≤ 0 := h2
      rw [if_neg h2']
      have : a.relid = relOID ∧ a.num > 0 := ⟨h1, by omega⟩
      simp only [this, and_self, decide_true, if_true]
      rw [alignByte_factsOfAttr a hal]
      cases hd : a.dropped <;> simp [modelAttr, factsOfAttr, hd]
  · have h1' : (factsOfAttr a).relid ≠ relOID := h1
    rw [if_pos h1']
    have : ¬ (a.relid = relOID ∧ a.num > 0) := fun h => h1 h.1
    simp [this]

theorem drSortByAttNum_eq (l : List DroppedColumnInfo) : drSortByAttNum l = insertionSort (byKey (·.attNum)) l :=
  (foldr_eq_insertionSort_not (f := drInsertByAttNum) (fun _ => rfl) (fun _ _ _ => rfl) l).trans (insertionSort_not_gt _ l)

/-- `sort.Slice(attrs, attnum)` gives the specification's attnum order when the attribute numbers are distinct -/
theorem drSortByAttNum_map (l : List AttrRow) (h : (l.map (·.num)).Nodup) :
    drSortByAttNum (l.map modelAttr) = (sortAttrs l).map modelAttr := by
  rw [drSortByAttNum_eq, sortAttrs_eq_byKey h]
  exact insertionSort_map modelAttr (fun _ _ => Iff.rfl) l

/-- the decoding column of a specification schema column -/
def columnOf (s : DroppedSchemaCol) : Column := ⟨s.name, s.typid, s.len, s.num, s.align⟩

theorem drDecInt_ne_nil (n : Int) : drDecInt n ≠ [] := by
  unfold drDecInt
  by_cases h : n < 0
  · rw [if_pos h]; simp
  · rw [if_neg h]; exact drDecNat_ne_nil _

theorem buildColumns_map (l : List AttrRow) (hname : ∀ a ∈ l, a.name ≠ []) :
    buildColumnsWithDropped (l.map modelAttr) = l.map (columnOf ∘ droppedSchemaCol) := by
  unfold buildColumnsWithDropped
  rw [List.map_map]
  apply List.map_congr_left
  intro a ha
  cases hd : a.dropped with
  | true => simp [modelAttr, columnOf, droppedSchemaCol, drRecoveredName, hd, droppedKey]
  | false =>
    simp [modelAttr, columnOf, droppedSchemaCol, drRecoveredName, hd]
    intro h; exact absurd h (hname a ha)

theorem parseAllAttributes_exact (rr : RowReader) (data : Bytes) (relOID : Nat) (rows : List Row) (att : HeapOf AttrRow)
    (hsel : readAttrRowsWithDropped rr data = .ok rows) (hread : rows.map factsOfRow = att.live.map factsOfAttr)
    (hal : ∀ a ∈ att.live, AlignOK a) (hnd : (att.live.map fun a => (a.relid, a.num)).Nodup) :
    parseAllAttributes rr data relOID = .ok ((userAttrs att relOID).map modelAttr) := by
  simp only [parseAllAttributes, hsel, ok_bind, pure_eq_ok]
  rw [filterMap_of_read _ _ (drAttrOfRow_facts relOID) _ _ _ _ hread fun a ha => attrOfFacts_attr relOID a (hal a ha),
    drSortByAttNum_map _ (nums_nodup_of_rel _ relOID hnd)]
  rfl

theorem buildColumns_userAttrs (att : HeapOf AttrRow) (relOID : Nat) (hname : ∀ a ∈ att.live, a.name ≠ []) :
    buildColumnsWithDropped ((userAttrs att relOID).map modelAttr) = (userAttrs att relOID).map (columnOf ∘ droppedSchemaCol) :=
  buildColumns_map _ fun a ha => hname a (List.mem_filter.mp ((mem_sortAttrs _ _).mp ha)).1

end PgVerif.Proofs.Dropped
