/-
  The relation-oid ↦ name table of FindDroppedColumns against the specification's `drRelNameOf`, from the pg_class
  reader hypothesis of C01 (`rows.map infoOfRow = live.map infoOfRel`).
-/
import PgVerif.Proofs.Dropped
import PgVerif.Proofs.ClusterClass
namespace PgVerif.Proofs.Dropped
open PgVerif PgVerif.Model PgVerif.Spec PgVerif.Proofs.Cluster PgVerif.Sorting List

/-- `for _, t := range list { names[t.OID] = t.Name }` on relations with pairwise distinct oids -/
theorem names_foldl (P : List TableInfo) (hnd : (P.map (·.oid)).Nodup) (m0 : List (Nat × Bytes)) (k : Nat) :
    mapGet (P.foldl (fun m t => mapPut m t.oid t.name) m0) k =
      match P.find? (fun t => t.oid == k) with
      | some t => some t.name
      | none => mapGet m0 k := by
  induction P generalizing m0 with
  | nil => rfl
  | cons t P ih =>
    simp only [List.map_cons, List.nodup_cons] at hnd
    rw [List.foldl_cons, ih hnd.2]
    by_cases hk : t.oid = k
    · have hnone : P.find? (fun t => t.oid == k) = none := by
        rw [List.find?_eq_none]
        intro x hx hxk
        have : x.oid = k := by simpa using hxk
        exact hnd.1 (List.mem_map.mpr ⟨x, hx, by rw [this, hk]⟩)
      have hb : (t.oid == k) = true := by simpa using hk
      simp only [hnone, List.find?_cons, hb]
      rw [mapGet_mapPut, if_pos hk.symm]
    · have hb : (t.oid == k) = false := by simpa using hk
      simp only [List.find?_cons, hb]
      cases P.find? (fun t => t.oid == k) with
      | some x => rfl
      | none =>
        simp only
        rw [mapGet_mapPut, if_neg (fun h => hk h.symm)]

/-- the oid ↦ name table FindDroppedColumns builds names every relation as the specification does, for every iteration order of
Go's table map -/
theorem tableNames_exact (rr : RowReader) (π : MapOrder TableInfo) (hπ : ∀ l, π l ~ l) (cd : Bytes) (rows : List Row)
    (d : DbContent) (hr : rr cd schemaPGClass true = .ok rows) (hrows : rows.map infoOfRow = d.cls.live.map infoOfRel)
    (hnd : ((d.cls.live.filter (·.filenode != 0)).map (·.filenode)).Nodup) (hoid : (d.cls.live.map (·.oid)).Nodup) :
    ∃ tables, parsePGClass rr cd = .ok tables ∧
      ∀ relid, (mapGet (drTableNamesOf π tables) relid).getD [] = drRelNameOf d relid := by
  obtain ⟨tables, ht, hvals⟩ := parsePGClass_live rr cd rows d.cls.live hr hrows hnd
  refine ⟨tables, ht, ?_⟩
  intro relid
  let T := (d.cls.live.filter (·.filenode != 0)).map infoOfRel
  have hperm : tablesOf π tables ~ T := by
    unfold tablesOf
    rw [sortByFilenode_eq]
    exact (insertionSort_perm _ _).trans (((hπ tables).map _).trans (by rw [hvals]))
  have hTnd : (T.map (·.oid)).Nodup := by
    have : T.map (·.oid) = (d.cls.live.filter (·.filenode != 0)).map (·.oid) := by
      simp only [T, List.map_map]; rfl
    rw [this]
    exact (List.filter_sublist.map _).nodup hoid
  have hPnd : ((tablesOf π tables).map (·.oid)).Nodup := (hperm.map _).nodup_iff.mpr hTnd
  unfold drTableNamesOf
  rw [names_foldl _ hPnd [] relid, find?_key_perm (key := (·.oid)) hperm hTnd relid]
  unfold drRelNameOf
  -- both sides look the oid up among the live relations with storage
  have hfind : T.find? (fun t => t.oid == relid) =
      (d.cls.live.find? (fun r => r.oid == relid && r.filenode != 0)).map infoOfRel := by
    simp only [T]
    rw [List.find?_map, List.find?_filter]
    have hpred : (fun a : ClassRow => decide ((a.filenode != 0) = true ∧ ((fun t : TableInfo => t.oid == relid) ∘ infoOfRel) a = true)) =
        fun r : ClassRow => r.oid == relid && r.filenode != 0 := by
      funext r
      simp only [Function.comp, infoOfRel]
      cases h1 : (r.filenode != 0)
      · simp
      · simp
        by_cases h2 : r.oid = relid <;> simp [h2]
    rw [hpred]
  rw [hfind]
  cases d.cls.live.find? (fun r => r.oid == relid && r.filenode != 0) with
  | none => rfl
  | some r => rfl

end PgVerif.Proofs.Dropped
