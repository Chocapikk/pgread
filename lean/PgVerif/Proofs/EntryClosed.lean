/-
  The closed model of types.go:DecodeType.  In Go, DecodeType → decodeArray → parseArrayElements → DecodeType is one recursive
  function; the per-area models each take the next decoder as a parameter.  The knot is tied by unrolling (`decodeTypeN`, level 0
  a stub): no element type of `arrayElemTypes` is an array type, so the recursion has depth 2 and `decodeTypeC X = decodeTypeN X 2`
  is the function itself (`decodeTypeN_stable`).  Nothing depends on what the renderers `X` return.
-/
import PgVerif.Proofs.ScalarsTotal
import PgVerif.Proofs.Arrays
import PgVerif.Proofs.ArraysTables
import PgVerif.Proofs.Jsonb
import PgVerif.Basic.Lemmas
namespace PgVerif.Proofs.Entry
open PgVerif PgVerif.Model

/-- what the areas leave abstract about the values DecodeType returns -/
structure Render where
  /-- `DecodeNumeric`'s result as the Go value DecodeType hands back -/
  num : NumRes → GoVal
  /-- `ParseJSONB`'s result as a Go value (`GoVal.nil` = Go nil) -/
  json : JV → GoVal
  /-- `encoding/json.Unmarshal` into `interface{}` (`none` = error) -/
  unmarshal : Bytes → Option GoVal

/-- `Scalars.decodeType`'s external decoders: the array / numeric / jsonb models, array elements decoded by `dec` -/
def extOf (X : Render) (dec : Arrays.Dec) : Scalars.Ext :=
  { decodeArray := fun raw e => Arrays.decodeArray dec raw e
    decodeNumeric := fun b => (decodeNumeric b).map X.num
    parseJSONB := fun b => (parseJSONB b).map X.json
    jsonUnmarshal := X.unmarshal }

/-- DecodeType unrolled `n` times through its array branch -/
def decodeTypeN (X : Render) : Nat → Bytes → Nat → M GoVal
  | 0 => fun _ _ => pure .nil
  | n+1 => fun data oid => Scalars.decodeType (extOf X (decodeTypeN X n)) data oid

/-- the closed model of types.go:DecodeType -/
def decodeTypeC (X : Render) : Bytes → Nat → M GoVal := decodeTypeN X 2

theorem decodeTypeN_total (X : Render) (n : Nat) : Arrays.DecTotal (decodeTypeN X n) := by
  induction n with
  | zero => exact fun _ _ => ⟨.nil, rfl⟩
  | succ n ih =>
    -- the three external decoders of this level return: arrays by the level below, numeric and JSONB always
    have hext : Scalars.ExtTotal (extOf X (decodeTypeN X n)) :=
      ⟨fun d e => Arrays.decodeArray_total _ ih d e, fun d => tot_map X.num (decodeNumeric_total d),
       fun d => tot_map X.json (parseJSONB_total d)⟩
    exact fun data oid => Scalars.decodeType_total _ hext data oid

/-- area scalars and area arrays each carry the table of types.go (as `C07_tables` also states) -/
theorem arrayElemTypes_eq : Scalars.arrayElemTypes = Arrays.arrayElemTypes := rfl

/-- the recursion DecodeType → decodeArray → DecodeType stops at the element: an element oid is never an array oid -/
theorem elem_not_array (oid e : Nat) (h : Scalars.arrayElemTypes.lookup oid = some e) :
    Scalars.arrayElemTypes.lookup e = none := by
  rw [arrayElemTypes_eq] at h ⊢
  exact Proofs.Arrays.elem_not_array (oid, e) (AssocMap.lookup_mem _ _ _ h)

/-! ### outside the array branch DecodeType does not consult the array decoder -/

structure SameButArrays (e1 e2 : Scalars.Ext) : Prop where
  num : e1.decodeNumeric = e2.decodeNumeric
  jsonb : e1.parseJSONB = e2.parseJSONB
  unm : e1.jsonUnmarshal = e2.jsonUnmarshal

theorem decodeScalar0_congr (e1 e2 : Scalars.Ext) (h : SameButArrays e1 e2) (data : Bytes) (oid : Nat) :
    Scalars.decodeScalar0 e1 data oid = Scalars.decodeScalar0 e2 data oid := by
  unfold Scalars.decodeScalar0 Scalars.decJSON Scalars.decJSONB
  rw [h.num, h.jsonb, h.unm]

theorem sameButArrays_extOf (X : Render) (d d' : Arrays.Dec) : SameButArrays (extOf X d) (extOf X d') :=
  ⟨rfl, rfl, rfl⟩

theorem decodeType0_congr (e1 e2 : Scalars.Ext) (h : SameButArrays e1 e2) (data : Bytes) (oid : Nat)
    (hl : Scalars.arrayElemTypes.lookup oid = none) :
    Scalars.decodeType0 e1 data oid = Scalars.decodeType0 e2 data oid := by
  unfold Scalars.decodeType0
  rw [hl]
  simp only [decodeScalar0_congr e1 e2 h]

theorem readBound_congr (e1 e2 : Scalars.Ext) (h : SameButArrays e1 e2) (data : Bytes) (off sz eo : Nat)
    (hl : Scalars.arrayElemTypes.lookup eo = none) :
    Scalars.readBound e1 data off sz eo = Scalars.readBound e2 data off sz eo := by
  unfold Scalars.readBound
  simp only [fun s => decodeType0_congr e1 e2 h s eo hl]

theorem rangeElem_not_array (oid eo sz : Nat) (h : Scalars.rangeElem oid = some (eo, sz)) :
    Scalars.arrayElemTypes.lookup eo = none := by
  unfold Scalars.rangeElem at h
  by_cases h1 : oid = Scalars.OidInt4Range
  · rw [if_pos h1] at h; cases h; decide +kernel
  by_cases h2 : oid = Scalars.OidInt8Range
  · rw [if_neg h1, if_pos h2] at h; cases h; decide +kernel
  by_cases h3 : oid = Scalars.OidDateRange
  · rw [if_neg h1, if_neg h2, if_pos h3] at h; cases h; decide +kernel
  by_cases h4 : oid = Scalars.OidTsRange
  · rw [if_neg h1, if_neg h2, if_neg h3, if_pos h4] at h; cases h; decide +kernel
  by_cases h5 : oid = Scalars.OidTsTzRange
  · rw [if_neg h1, if_neg h2, if_neg h3, if_neg h4, if_pos h5] at h; cases h; decide +kernel
  · rw [if_neg h1, if_neg h2, if_neg h3, if_neg h4, if_neg h5] at h; cases h

/-- the bounds of a numrange are read with the numeric decoder only (types.go:decodeNumericRange, fix scalars/15) -/
theorem decodeNumericRange_congr (e1 e2 : Scalars.Ext) (h : SameButArrays e1 e2) (data : Bytes) (flags : Nat) :
    Scalars.decodeNumericRange e1 data flags = Scalars.decodeNumericRange e2 data flags := by
  unfold Scalars.decodeNumericRange Scalars.numBound
  rw [h.num]

theorem decodeRange_congr (e1 e2 : Scalars.Ext) (h : SameButArrays e1 e2) (data : Bytes) (oid : Nat) :
    Scalars.decodeRange e1 data oid = Scalars.decodeRange e2 data oid := by
  unfold Scalars.decodeRange
  cases hre : Scalars.rangeElem oid with
  | none => simp only [decodeNumericRange_congr e1 e2 h]
  | some p =>
    obtain ⟨eo, sz⟩ := p
    have hl := rangeElem_not_array oid eo sz hre
    simp only [Scalars.decodeRangeFixed, Scalars.rangeLower, Scalars.rangeUpper, decodeNumericRange_congr e1 e2 h,
      fun o => readBound_congr e1 e2 h data o sz eo hl]

theorem decodeType_congr (e1 e2 : Scalars.Ext) (h : SameButArrays e1 e2) (data : Bytes) (oid : Nat)
    (hl : Scalars.arrayElemTypes.lookup oid = none) :
    Scalars.decodeType e1 data oid = Scalars.decodeType e2 data oid := by
  unfold Scalars.decodeType Scalars.decodeScalar
  rw [hl]
  simp only [decodeRange_congr e1 e2 h, decodeScalar0_congr e1 e2 h]

/-! ### the array decoder consults its element decoder at the element oid only -/

theorem readElem_congr (d d' : Arrays.Dec) (e : Nat) (h : ∀ bs, d bs e = d' bs e) (raw : Bytes) (elemLen : Nat) (fixed : Bool) (off : Nat) :
    Arrays.readElem d raw e elemLen fixed off = Arrays.readElem d' raw e elemLen fixed off := by
  unfold Arrays.readElem Arrays.decodeVarlenaElem
  simp only [h]

theorem parseElems_congr (d d' : Arrays.Dec) (e : Nat) (h : ∀ bs, d bs e = d' bs e) (raw : Bytes) (elemLen elemAlign : Nat)
    (fixed : Bool) (nulls : Option Bytes) (n i off : Nat) :
    Arrays.parseElems d raw e elemLen elemAlign fixed nulls n i off = Arrays.parseElems d' raw e elemLen elemAlign fixed nulls n i off := by
  induction n generalizing i off with
  | zero => rfl
  | succ n ih =>
    unfold Arrays.parseElems
    simp only [ih, readElem_congr d d' e h]

theorem decodeArray_congr (d d' : Arrays.Dec) (e : Nat) (h : ∀ bs, d bs e = d' bs e) (raw : Bytes) :
    Arrays.decodeArray d raw e = Arrays.decodeArray d' raw e := by
  unfold Arrays.decodeArray Arrays.decodeDims
  simp only [parseElems_congr d d' e h]

theorem decodeTypeN_scalar (X : Render) (n : Nat) (data : Bytes) (oid : Nat)
    (hl : Scalars.arrayElemTypes.lookup oid = none) :
    decodeTypeN X (n + 1) data oid = decodeTypeN X 1 data oid :=
  decodeType_congr _ _ (sameButArrays_extOf X (decodeTypeN X n) (decodeTypeN X 0)) data oid hl

/-- two levels are the whole recursion of the Go code -/
theorem decodeTypeN_stable (X : Render) (n : Nat) : decodeTypeN X (n + 2) = decodeTypeN X 2 := by
  funext data oid
  cases hl : Scalars.arrayElemTypes.lookup oid with
  | none => exact decodeType_congr _ _ (sameButArrays_extOf X (decodeTypeN X (n + 1)) (decodeTypeN X 1)) data oid hl
  | some e =>
    show Scalars.decodeType (extOf X (decodeTypeN X (n + 1))) data oid = Scalars.decodeType (extOf X (decodeTypeN X 1)) data oid
    unfold Scalars.decodeType
    rw [hl]
    by_cases h0 : data.length = 0
    · rw [if_pos h0, if_pos h0]
    · rw [if_neg h0, if_neg h0]
      exact decodeArray_congr _ _ e (fun bs => decodeTypeN_scalar X n bs e (elem_not_array oid e hl)) data

end PgVerif.Proofs.Entry
