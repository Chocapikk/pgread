/-
  Totality of the path-taking wrappers of relmap.go and sequence.go, for Props/C10/Entry.lean.  The file system and the two catalog
  parsers are parameters of the models and nothing is assumed about them: any file content, any list of rows.
-/
import PgVerif.Proofs.Sequence
import PgVerif.Proofs.Relmap
namespace PgVerif.Proofs.Entry
open PgVerif PgVerif.Proofs

theorem readGlobalRelMap_total (fs : String → Option Bytes) (dir : String) :
    ∃ r, Model.readGlobalRelMap fs dir = .ok r := by
  unfold Model.readGlobalRelMap
  extract_lets path
  split
  · exact ⟨none, rfl⟩
  · exact tot_bind (parseRelMapFile_total _) fun r _ => by cases r <;> exact ⟨_, rfl⟩

theorem readDatabaseRelMap_total (fs : String → Option Bytes) (dir : String) (db : Nat) :
    ∃ r, Model.readDatabaseRelMap fs dir db = .ok r := by
  unfold Model.readDatabaseRelMap
  extract_lets path
  split
  · exact ⟨none, rfl⟩
  · exact tot_bind (parseRelMapFile_total _) fun r _ => by cases r <;> exact ⟨_, rfl⟩

theorem readAllRelMaps_go_total (fs : String → Option Bytes) (dir : String) (oids : List Nat) :
    ∃ r, Model.readAllRelMaps.go fs dir oids = .ok r := by
  induction oids with
  | nil => exact ⟨[], rfl⟩
  | cons oid rest ih =>
    unfold Model.readAllRelMaps.go
    refine tot_bind (readDatabaseRelMap_total fs dir oid) fun r _ => ?_
    cases r
    · exact ih
    · exact tot_bind ih fun _ _ => ⟨_, rfl⟩

theorem readAllRelMaps_total (fs : String → Option Bytes) (parseDatabase : Bytes → List Nat) (dir : String) :
    ∃ r, Model.readAllRelMaps fs parseDatabase dir = .ok r := by
  unfold Model.readAllRelMaps
  refine tot_bind (readGlobalRelMap_total fs dir) fun g _ => ?_
  cases g
  · exact ⟨none, rfl⟩
  · dsimp only
    split
    · exact ⟨_, rfl⟩
    · exact tot_bind (readAllRelMaps_go_total fs dir _) fun _ _ => ⟨_, rfl⟩

theorem findSeqLoop_total (env : Model.SeqEnv) (base : String) (cls : List Model.ClassInfo) :
    ∃ r, Model.findSeqLoop env base cls = .ok r := by
  induction cls with
  | nil => exact ⟨[], rfl⟩
  | cons info rest ih =>
    unfold Model.findSeqLoop
    refine tot_ite (fun _ => ih) fun _ => ?_
    split
    · exact ih
    · refine tot_bind (parseSequenceFile_total _) fun s _ => ?_
      cases s
      · exact ih
      · exact tot_bind ih fun _ _ => ⟨_, rfl⟩

theorem findSequences_total (env : Model.SeqEnv) (dir : String) (db : Bytes) :
    ∃ r, Model.findSequences env dir db = .ok r := by
  unfold Model.findSequences
  split
  · exact ⟨none, rfl⟩
  · -- the oid found for the name stays a variable: the next `split` is to open the read of base/<oid>/1259, not its search
    extract_lets dbOID basePath
    refine tot_ite (fun _ => ⟨_, rfl⟩) fun _ => ?_
    split
    · exact ⟨none, rfl⟩
    · exact tot_bind (findSeqLoop_total env _ _) fun _ _ => ⟨_, rfl⟩

theorem scanLoop_total (env : Model.SeqEnv) (dir : String) (dbs : List Model.DbInfo) :
    ∃ r, Model.scanLoop env dir dbs = .ok r := by
  induction dbs with
  | nil => exact ⟨[], rfl⟩
  | cons d rest ih =>
    unfold Model.scanLoop
    refine tot_ite (fun _ => ih) fun _ => tot_bind (findSequences_total env dir d.name) fun f _ => ?_
    cases f
    · exact ih
    · exact tot_bind ih fun _ _ => ⟨_, rfl⟩

theorem scanAllSequences_total (env : Model.SeqEnv) (dir : String) :
    ∃ r, Model.scanAllSequences env dir = .ok r := by
  unfold Model.scanAllSequences
  split
  · exact ⟨none, rfl⟩
  · exact tot_bind (scanLoop_total env dir _) fun _ _ => ⟨_, rfl⟩

end PgVerif.Proofs.Entry
