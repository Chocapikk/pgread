/-
  `dec` (Go's `%d`, Types/ExportDump.lean) is `Txt.decNat`; its numerals are those of Proofs/TxtNumerals.
-/
import PgVerif.Types.ExportDump
import PgVerif.Proofs.TxtNumerals
namespace PgVerif.Proofs.ExportDec
open PgVerif PgVerif.Export

def IsDig (c : UInt8) : Prop := 48 ≤ c.toNat ∧ c.toNat ≤ 57

/-- `dec` passes fuel `n + 1`, `Spec.SearchFloat.dec` `log2 n + 1` -/
theorem decAux_eq (f n : Nat) (acc : Bytes) (h : n < 2 ^ f) (hf : 0 < f) :
    decAux f n acc = Txt.decNat n ++ acc := by
  induction f generalizing n acc with
  | zero => omega
  | succ f ih =>
    rw [decAux, TxtNumerals.decNat_rec]; split
    · rfl
    · rw [ih _ _ (by omega) (by cases f <;> omega), List.append_assoc]; rfl

theorem dec_eq_decNat (n : Nat) : dec n = Txt.decNat n := by
  rw [dec, decAux_eq _ _ _ (Nat.lt_trans n.lt_succ_self Nat.lt_two_pow_self) (by simp), List.append_nil]

theorem decInt_eq_decInt (i : Int) : decInt i = Txt.decInt i := by simp only [decInt, Txt.decInt, dec_eq_decNat]

theorem dec_props (n : Nat) :
    dec n ≠ [] ∧ (∀ c ∈ dec n, IsDig c) ∧ (1 < (dec n).length → (dec n).head? ≠ some 48) := by
  rw [dec_eq_decNat]
  exact ⟨(TxtNumerals.decNat_all n).1, (TxtNumerals.decNat_all n).2.1, (TxtNumerals.decNat_all n).2.2.1⟩

end PgVerif.Proofs.ExportDec

/-! Facts about `dec` and `decInt` under the namespace of their users, the command-line modules. -/
namespace PgVerif.Proofs.CliRender
open PgVerif PgVerif.Export

theorem dec_injective (a b : Nat) (h : dec a = dec b) : a = b :=
  Proofs.TxtNumerals.decNat_injective a b (by rwa [ExportDec.dec_eq_decNat, ExportDec.dec_eq_decNat] at h)

theorem decInt_injective (a b : Int) (h : decInt a = decInt b) : a = b :=
  Proofs.TxtNumerals.decInt_injective a b (by rwa [ExportDec.decInt_eq_decInt, ExportDec.decInt_eq_decInt] at h)

end PgVerif.Proofs.CliRender
