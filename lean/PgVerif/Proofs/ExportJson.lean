/-
  `Spec.Json.parse` reads back what the model's mapToJSON / writeJSONValue write.  The leaf lemmas also serve the command-line
  renderer and the `json` scalars; what is declared for them stands under their namespaces (`ScalarsJsonParse`, `CliRender`),
  where those modules refer to it.
-/
import PgVerif.Spec.ExportJson
import PgVerif.Model.ExportSql
import PgVerif.Proofs.ExportDec
import PgVerif.Proofs.JsonGrammar
namespace PgVerif.Proofs.ExportJson
open PgVerif PgVerif.Export PgVerif.Spec.Json PgVerif.Model.Export PgVerif.Proofs.JsonGrammar

/-- the end, `,`, `]` or `}` -/
def JDelim (rest : Bytes) : Prop := ∀ c, rest.head? = some c → c = 44 ∨ c = 93 ∨ c = 125

theorem isDigit_of_isDig (c : UInt8) (h : ExportDec.IsDig c) : isDigit c = true := by
  simp only [isDigit, Bool.and_eq_true, decide_eq_true_eq, UInt8.le_iff_toNat_le]
  exact h

theorem spanDigits_all (ds rest : Bytes) (hd : ∀ c ∈ ds, isDigit c = true) (hr : ∀ c, rest.head? = some c → isDigit c = false) :
    spanDigits (ds ++ rest) = (ds, rest) := by
  induction ds with
  | nil =>
    cases rest with
    | nil => rfl
    | cons c t => simp [spanDigits, hr c rfl]
  | cons c ds ih =>
    simp only [List.cons_append, spanDigits, hd c (by simp), if_true]
    rw [ih (fun d h => hd d (by simp [h]))]

/-- the end, or none of a digit, `.`, `e`, `E` -/
def NumEnd (rest : Bytes) : Prop := ∀ c, rest.head? = some c → isDigit c = false ∧ c ≠ 46 ∧ c ≠ 101 ∧ c ≠ 69

theorem JDelim.numEnd {rest : Bytes} (h : JDelim rest) : NumEnd rest := fun c hc => by
  rcases h c hc with e | e | e <;> subst e <;> decide

end PgVerif.Proofs.ExportJson

namespace PgVerif.Proofs.ScalarsJsonParse
open PgVerif PgVerif.Spec.Json
open PgVerif.Proofs.ExportJson (spanDigits_all NumEnd)

/-! `fracScan`, `expScan`, `scanBody` are the three inner `let`s of `Spec.Json.scanNum`, named so that each has its own lemma;
`scanNum_neg` / `scanNum_pos` tie them back.  Under the namespace of Proofs/ScalarsJsonNum.lean, which builds on them. -/

def fracScan (r : Bytes) : Option (Bytes × Bytes) :=
  match r with
  | c :: t => if c = 46 then (let fp := spanDigits t; if fp.1 = [] then none else some (46 :: fp.1, fp.2)) else some ([], r)
  | [] => some ([], [])

def expScan (r1 : Bytes) : Option (Bytes × Bytes) :=
  match r1 with
  | e :: t =>
    if e = 101 ∨ e = 69 then
      let (sg, t') : Bytes × Bytes := match t with | s :: t2 => if s = 43 ∨ s = 45 then ([s], t2) else ([], t) | [] => ([], [])
      let ed := spanDigits t'
      if ed.1 = [] then none else some (e :: sg ++ ed.1, ed.2)
    else some ([], r1)
  | [] => some ([], [])

def scanBody (sign r0 : Bytes) : Option (Bytes × Bytes) :=
  let ip := spanDigits r0
  if ip.1 = [] ∨ (ip.1.length > 1 ∧ ip.1.head? = some 48) then none
  else
    match fracScan ip.2 with
    | none => none
    | some (frac, r1) =>
      match expScan r1 with
      | none => none
      | some (exp, r2) => some (sign ++ ip.1 ++ frac ++ exp, r2)

theorem scanNum_neg (t : Bytes) : scanNum (45 :: t) = scanBody [45] t := rfl

theorem scanNum_pos (c : UInt8) (t : Bytes) (h : c ≠ 45) : scanNum (c :: t) = scanBody [] (c :: t) := by
  simp only [scanNum, h, if_false]; rfl

def NDH (rest : Bytes) : Prop := ∀ c, rest.head? = some c → isDigit c = false

theorem digit_ne_sign (c : UInt8) (h : isDigit c = true) : c ≠ 43 ∧ c ≠ 45 := by
  constructor <;> (intro e; subst e; revert h; decide)

structure IntPart (ip : Bytes) : Prop where
  ne : ip ≠ []
  dig : ∀ c ∈ ip, isDigit c = true
  lead : 1 < ip.length → ip.head? ≠ some 48

theorem scanNum_parts (neg : Bool) (ip tail frac r1 exp rest : Bytes) (hip : IntPart ip) (ht : NDH tail)
    (hf : fracScan tail = some (frac, r1)) (he : expScan r1 = some (exp, rest)) :
    scanNum ((if neg then [45] else []) ++ (ip ++ tail)) = some ((if neg then [45] else []) ++ ip ++ frac ++ exp, rest) := by
  have hl : ¬ (ip = [] ∨ (ip.length > 1 ∧ ip.head? = some 48)) := fun h => h.elim hip.ne fun h => hip.lead h.1 h.2
  have key : ∀ sign, scanBody sign (ip ++ tail) = some (sign ++ ip ++ frac ++ exp, rest) := fun sign => by
    simp only [scanBody, spanDigits_all ip tail hip.dig ht, hl, if_false, hf, he]
  cases neg with
  | true => exact (scanNum_neg _).trans (key [45])
  | false =>
    cases hipc : ip with
    | nil => exact absurd hipc hip.ne
    | cons d ds =>
      have hd45 : d ≠ 45 := (digit_ne_sign d (hip.dig d (by rw [hipc]; simp))).2
      have := key []
      rw [hipc] at this
      simp only [Bool.false_eq_true, if_false, List.nil_append, List.cons_append] at this ⊢
      rw [scanNum_pos d _ hd45, this]

theorem fracScan_end (rest : Bytes) (hr : NumEnd rest) : fracScan rest = some ([], rest) := by
  cases rest with
  | nil => rfl
  | cons c t => simp only [fracScan, (hr c rfl).2.1, if_false]

theorem expScan_end (rest : Bytes) (hr : NumEnd rest) : expScan rest = some ([], rest) := by
  cases rest with
  | nil => rfl
  | cons c t => simp only [expScan, (hr c rfl).2.2.1, (hr c rfl).2.2.2, or_self, if_false]

end PgVerif.Proofs.ScalarsJsonParse

namespace PgVerif.Proofs.ExportJson
open PgVerif PgVerif.Export PgVerif.Spec.Json PgVerif.Model.Export PgVerif.Proofs.JsonGrammar
open PgVerif.Proofs.ScalarsJsonParse (scanNum_parts fracScan_end expScan_end)

theorem scanNum_sign_digits (neg : Bool) (ds rest : Bytes) (hne : ds ≠ []) (hd : ∀ c ∈ ds, ExportDec.IsDig c)
    (hz : 1 < ds.length → ds.head? ≠ some 48) (hr : NumEnd rest) :
    scanNum ((if neg then [45] else []) ++ (ds ++ rest)) = some ((if neg then [45] else []) ++ ds, rest) := by
  simpa only [List.append_nil] using scanNum_parts neg ds rest [] rest [] rest ⟨hne, fun c hc => isDigit_of_isDig c (hd c hc), hz⟩
    (fun c hc => (hr c hc).1) (fracScan_end rest hr) (expScan_end rest hr)

theorem scanNum_decInt (i : Int) (rest : Bytes) (hr : NumEnd rest) : scanNum (decInt i ++ rest) = some (decInt i, rest) := by
  obtain ⟨h1, h2, h3⟩ := ExportDec.dec_props i.natAbs
  unfold decInt
  split
  · exact scanNum_sign_digits true (dec i.natAbs) rest h1 h2 h3 hr
  · exact scanNum_sign_digits false (dec i.natAbs) rest h1 h2 h3 hr

theorem hexVal_hexLow : ∀ n : Fin 16, Spec.Json.hexVal (hexLow n.val) = some n.val := by decide

theorem scanStr_plain (c : UInt8) (t : Bytes) (r : Bytes × Bytes) (h34 : c ≠ 34) (h92 : c ≠ 92) (h32 : ¬ c < 32)
    (h : scanStr t = some r) : scanStr (c :: t) = some (c :: r.1, r.2) := by
  rw [scanStr.eq_def]
  simp only [h34, h92, h32, if_false, h, Option.map_some]

theorem esc2_scan (c e : UInt8) (he : escLit e = some c) (h117 : e ≠ 117) (tail : Bytes) (r : Bytes × Bytes)
    (h : scanStr tail = some r) : scanStr ([92, e] ++ tail) = some (c :: r.1, r.2) := by
  simp only [List.cons_append, List.nil_append]
  rw [scanStr.eq_def]
  simp only [show ((92 : UInt8) = 34) = False by decide, if_false, if_true]
  split
  · rename_i heq; simp at heq; exact absurd heq.1 h117
  · rename_i heq
    simp only [List.cons.injEq] at heq
    obtain ⟨h1, h2⟩ := heq
    subst h1; subst h2
    simp [he, h]
  · rename_i heq; cases heq

theorem _root_.PgVerif.Proofs.CliRender.uEsc_scan (a b c d : UInt8) (cp : Nat) (hx : hex4 a b c d = some cp) (n1 : ¬ (0xD800 ≤ cp ∧ cp < 0xDC00))
    (n2 : ¬ (0xDC00 ≤ cp ∧ cp < 0xE000)) (tail : Bytes) (r : Bytes × Bytes) (h : scanStr tail = some r) :
    scanStr ([92, 117, a, b, c, d] ++ tail) = some (utf8Enc cp ++ r.1, r.2) := by
  simp only [List.cons_append, List.nil_append, scanStr]
  simp only [show ((92 : UInt8) = 34) = False by decide, if_false, if_true, hx, n1, n2, h, Option.map_some]

theorem u00_scan (c x y : UInt8) (hlt : c.toNat < 128) (hx : Spec.Json.hexVal x = some (c.toNat / 16)) (hy : Spec.Json.hexVal y = some (c.toNat % 16))
    (tail : Bytes) (r : Bytes × Bytes) (h : scanStr tail = some r) :
    scanStr ([92, 117, 48, 48, x, y] ++ tail) = some (c :: r.1, r.2) := by
  have e0 : Spec.Json.hexVal 48 = some 0 := by decide
  have hv : hex4 48 48 x y = some c.toNat := by
    simp only [hex4, e0, hx, hy]; congr 1; omega
  have henc : utf8Enc c.toNat = [c] := by
    have : c.toNat < 0x80 := by omega
    simp [utf8Enc, this]
  rw [CliRender.uEsc_scan 48 48 x y c.toNat hv (by omega) (by omega) tail r h, henc]; rfl

theorem jsonByte_scan (c : UInt8) (tail : Bytes) (r : Bytes × Bytes) (h : scanStr tail = some r) :
    scanStr (jsonByte c ++ tail) = some (c :: r.1, r.2) := by
  unfold jsonByte
  by_cases h1 : c = 34 ∨ c = 92
  · rw [if_pos h1]
    rcases h1 with h1 | h1 <;> subst h1 <;> exact esc2_scan _ _ (by decide) (by decide) tail r h
  · rw [if_neg h1]
    by_cases h2 : c < 32
    · rw [if_pos h2]
      have hlt : c.toNat < 32 := by simpa [UInt8.lt_iff_toNat_lt] using h2
      exact u00_scan c _ _ (by omega) (hexVal_hexLow ⟨c.toNat / 16, by omega⟩) (hexVal_hexLow ⟨c.toNat % 16, by omega⟩) tail r h
    · rw [if_neg h2]
      exact scanStr_plain c tail r (fun e => h1 (Or.inl e)) (fun e => h1 (Or.inr e)) h2 h

theorem scanStr_jsonBody (s rest : Bytes) : scanStr (s.flatMap jsonByte ++ 34 :: rest) = some (s, rest) := by
  induction s with
  | nil => rw [scanStr.eq_def]; simp
  | cons c s ih =>
    simp only [List.flatMap_cons, List.append_assoc]
    exact jsonByte_scan c _ (s, rest) ih

/-- what the model assumes of `fmt`'s `%v` for floats: a NaN or infinity prints as NaN / +Inf / -Inf and nothing else does;
every other value prints as a JSON number (digits or `-` first; complete before a delimiter) -/
structure FloatOK (F : FloatFmt) : Prop where
  num64 : ∀ b, isNonFiniteText (F.v64 b) = false →
    isNonFinite64 b = false ∧ (∃ c t, F.v64 b = c :: t ∧ (c = 45 ∨ isDigit c = true)) ∧
    ∀ rest, JDelim rest → scanNum (F.v64 b ++ rest) = some (F.v64 b, rest)
  num32 : ∀ b, isNonFiniteText (F.v32 b) = false →
    isNonFinite32 b = false ∧ (∃ c t, F.v32 b = c :: t ∧ (c = 45 ∨ isDigit c = true)) ∧
    ∀ rest, JDelim rest → scanNum (F.v32 b ++ rest) = some (F.v32 b, rest)
  special64 : ∀ b, isNonFiniteText (F.v64 b) = true →
    isNonFinite64 b = true ∧ nonFiniteSpelling (b % 2 ^ 52 != 0) (b / 2 ^ 63 % 2 == 1) (F.v64 b) = true
  special32 : ∀ b, isNonFiniteText (F.v32 b) = true →
    isNonFinite32 b = true ∧ nonFiniteSpelling (b % 2 ^ 23 != 0) (b / 2 ^ 31 % 2 == 1) (F.v32 b) = true

def floatJ (text : Bytes) : J := if isNonFiniteText text then .str text else .num text

mutual
def jsonOf (F : FloatFmt) : GoVal → J
  | .nil => .null
  | .bool b => .bool b
  | .int i => .num (decInt i)
  | .f64 b => floatJ (F.v64 b)
  | .f32 b => floatJ (F.v32 b)
  | .str s => .str s
  | .arr xs => .arr (jsonOfList F xs)
  | .obj kvs => .obj (jsonOfKvs F kvs)
def jsonOfList (F : FloatFmt) : List GoVal → List J
  | [] => []
  | x :: xs => jsonOf F x :: jsonOfList F xs
def jsonOfKvs (F : FloatFmt) : List (Bytes × GoVal) → List (Bytes × J)
  | [] => []
  | (k, v) :: rest => (k, jsonOf F v) :: jsonOfKvs F rest
end

/-! fuel that suffices to parse the text of a value: `JsonGrammar.depth` of `jsonOf F v` (`need_eq`) -/
mutual
def need : GoVal → Nat
  | .arr xs => 1 + needList xs
  | .obj kvs => 1 + needKvs kvs
  | _ => 1
def needList : List GoVal → Nat
  | [] => 0
  | x :: xs => 1 + max (need x) (needList xs)
def needKvs : List (Bytes × GoVal) → Nat
  | [] => 0
  | (_, v) :: rest => 1 + max (need v) (needKvs rest)
end

mutual
theorem need_eq (F : FloatFmt) : ∀ v : GoVal, need v = depth (jsonOf F v)
  | .nil | .bool _ | .int _ | .str _ => rfl
  | .f64 _ | .f32 _ => by simp only [need, jsonOf, floatJ]; split <;> rfl
  | .arr xs => by simp only [need, jsonOf, depth, needList_eq F xs]
  | .obj kvs => by simp only [need, jsonOf, depth, needKvs_eq F kvs]
theorem needList_eq (F : FloatFmt) : ∀ xs : List GoVal, needList xs = depthList (jsonOfList F xs)
  | [] => rfl
  | x :: xs => by simp only [needList, jsonOfList, depthList, need_eq F x, needList_eq F xs]
theorem needKvs_eq (F : FloatFmt) : ∀ kvs : List (Bytes × GoVal), needKvs kvs = depthKvs (jsonOfKvs F kvs)
  | [] => rfl
  | (_, v) :: kvs => by simp only [needKvs, jsonOfKvs, depthKvs, need_eq F v, needKvs_eq F kvs]
end

theorem reads_floatText (text rest : Bytes)
    (hnum : isNonFiniteText text = false → (∃ c t, text = c :: t ∧ (c = 45 ∨ isDigit c = true)) ∧
      ∀ rest, JDelim rest → scanNum (text ++ rest) = some (text, rest))
    (hr : JDelim rest) :
    Reads ((if isNonFiniteText text then 34 :: (text ++ [34]) else text) ++ rest) (floatJ text) rest := by
  unfold floatJ
  by_cases hs : isNonFiniteText text = true
  · simp only [hs, if_true]
    -- one of the three fixed words, none of which needs escaping
    have h3 : (text = asc "NaN" ∨ text = asc "+Inf") ∨ text = asc "-Inf" := by
      simpa [isNonFiniteText] using hs
    rcases h3 with (h | h) | h <;> subst h <;> exact .str (by simp [asc, scanStr.eq_def])
  · have hs' : isNonFiniteText text = false := by simpa using hs
    simp only [hs', Bool.false_eq_true, if_false]
    exact .numText (hnum hs').1 ((hnum hs').2 rest hr)

theorem decInt_head (i : Int) : ∃ c t, decInt i = c :: t ∧ (c = 45 ∨ isDigit c = true) := by
  obtain ⟨h1, h2, _⟩ := ExportDec.dec_props i.natAbs
  unfold decInt
  by_cases hi : i < 0
  · simp only [hi, if_true]; exact ⟨45, _, rfl, Or.inl rfl⟩
  · simp only [hi, if_false]
    cases hd : dec i.natAbs with
    | nil => exact absurd hd h1
    | cons c t => exact ⟨c, t, rfl, Or.inr (isDigit_of_isDig c (h2 c (by rw [hd]; simp)))⟩

theorem jdelim_cons (c : UInt8) (t : Bytes) (h : c = 44 ∨ c = 93 ∨ c = 125) : JDelim (c :: t) := by
  intro d hd; simp at hd; subst hd; exact h

mutual
theorem reads_value (F : FloatFmt) (hF : FloatOK F) : ∀ (v : GoVal) (rest : Bytes), JDelim rest →
    Reads (writeJSONValue F v ++ rest) (jsonOf F v) rest
  | .nil, _, _ => .null
  | .bool true, _, _ => .tt
  | .bool false, _, _ => .ff
  | .int i, rest, hr => .numText (decInt_head i) (scanNum_decInt i rest hr.numEnd)
  | .f64 b, rest, hr => reads_floatText (F.v64 b) rest (fun h => (hF.num64 b h).2) hr
  | .f32 b, rest, hr => reads_floatText (F.v32 b) rest (fun h => (hF.num32 b h).2) hr
  | .str s, rest, _ => by
    simp only [writeJSONValue, jsonOf, jsonString, List.cons_append, List.append_assoc, List.nil_append]
    exact .str (scanStr_jsonBody s rest)
  | .arr [], _, _ => .arrNil (w := []) nofun
  | .arr (x :: xs), rest, _ => by
    simp only [writeJSONValue, jsonOf, List.cons_append, List.append_assoc, List.nil_append]
    exact .arr (w := []) nofun (reads_elems F hF (x :: xs) rest nofun)
  | .obj [], _, _ => .objNil (w := []) nofun
  | .obj (kv :: kvs), rest, _ => by
    simp only [writeJSONValue, jsonOf, List.cons_append, List.append_assoc, List.nil_append]
    exact .obj (w := []) nofun (reads_members F hF (kv :: kvs) rest nofun)
theorem reads_elems (F : FloatFmt) (hF : FloatOK F) : ∀ (xs : List GoVal) (rest : Bytes), xs ≠ [] →
    Elems (jsonElems F xs ++ 93 :: rest) (jsonOfList F xs) rest
  | [], _, h => absurd rfl h
  | [x], rest, _ => .last (w := []) (reads_value F hF x (93 :: rest) (jdelim_cons 93 rest (Or.inr (Or.inl rfl)))) nofun
  | x :: y :: ys, rest, _ => by
    simp only [jsonElems, List.append_assoc, List.cons_append, jsonOfList]
    exact .more (w := []) (w' := []) (reads_value F hF x _ (jdelim_cons 44 _ (Or.inl rfl))) nofun nofun
      (reads_elems F hF (y :: ys) rest nofun)
theorem reads_members (F : FloatFmt) (hF : FloatOK F) : ∀ (kvs : List (Bytes × GoVal)) (rest : Bytes), kvs ≠ [] →
    Members (jsonMembers F kvs ++ 125 :: rest) (jsonOfKvs F kvs) rest
  | [], _, h => absurd rfl h
  | [(k, v)], rest, _ => by
    simp only [jsonMembers, jsonString, List.append_assoc, List.cons_append, List.nil_append, jsonOfKvs]
    exact .last (w0 := []) (w1 := []) (w := []) (scanStr_jsonBody k _) nofun nofun
      (reads_value F hF v (125 :: rest) (jdelim_cons 125 rest (Or.inr (Or.inr rfl)))) nofun
  | (k, v) :: kv2 :: more, rest, _ => by
    simp only [jsonMembers, jsonString, List.append_assoc, List.cons_append, List.nil_append, jsonOfKvs]
    exact .more (w0 := []) (w1 := []) (w := []) (w' := []) (scanStr_jsonBody k _) nofun nofun
      (reads_value F hF v _ (jdelim_cons 44 _ (Or.inl rfl))) nofun nofun (reads_members F hF (kv2 :: more) rest nofun)
end

theorem parseElems_list (F : FloatFmt) (hF : FloatOK F) : ∀ (x : GoVal) (xs : List GoVal) (f : Nat) (rest : Bytes),
    needList (x :: xs) ≤ f → parseElems f (jsonElems F (x :: xs) ++ 93 :: rest) = some (jsonOfList F (x :: xs), rest) :=
  fun x xs f rest hf => (reads_elems F hF (x :: xs) rest nofun).parse f (needList_eq F _ ▸ hf)

theorem parseMembers_list (F : FloatFmt) (hF : FloatOK F) : ∀ (k : Bytes) (v : GoVal) (kvs : List (Bytes × GoVal)) (f : Nat) (rest : Bytes),
    needKvs ((k, v) :: kvs) ≤ f →
    parseMembers f (jsonMembers F ((k, v) :: kvs) ++ 125 :: rest) = some (jsonOfKvs F ((k, v) :: kvs), rest) :=
  fun k v kvs f rest hf => (reads_members F hF ((k, v) :: kvs) rest nofun).parse f (needKvs_eq F _ ▸ hf)

mutual
theorem need_le (F : FloatFmt) : ∀ v : GoVal, need v ≤ (writeJSONValue F v).length + 1
  | .nil => by simp [need]
  | .bool _ => by simp [need]
  | .int _ => by simp [need]
  | .f64 _ => by simp [need]
  | .f32 _ => by simp [need]
  | .str _ => by simp [need]
  | .arr xs => by
    have := needList_le F xs
    simp only [need, writeJSONValue, List.length_cons, List.length_append, List.length_nil]
    omega
  | .obj kvs => by
    have := needKvs_le F kvs
    simp only [need, writeJSONValue, List.length_cons, List.length_append, List.length_nil]
    omega
theorem needList_le (F : FloatFmt) : ∀ xs : List GoVal, needList xs ≤ (jsonElems F xs).length + 2
  | [] => by simp [needList]
  | [x] => by
    have := need_le F x
    simp only [needList, jsonElems]; omega
  | x :: y :: ys => by
    have h1 := need_le F x
    have h2 := needList_le F (y :: ys)
    simp only [needList, jsonElems, List.length_cons, List.length_append] at h2 ⊢
    omega
theorem needKvs_le (F : FloatFmt) : ∀ kvs : List (Bytes × GoVal), needKvs kvs ≤ (jsonMembers F kvs).length + 2
  | [] => by simp [needKvs]
  | [(k, v)] => by
    have := need_le F v
    simp only [needKvs, jsonMembers, List.length_cons, List.length_append]; omega
  | (k, v) :: kv2 :: rest => by
    have h1 := need_le F v
    have h2 := needKvs_le F (kv2 :: rest)
    simp only [needKvs, jsonMembers, List.length_cons, List.length_append] at h2 ⊢
    omega
end

theorem parse_value (F : FloatFmt) (hF : FloatOK F) (v : GoVal) : parse (writeJSONValue F v) = some (jsonOf F v) := by
  have h := reads_value F hF v [] nofun
  rw [List.append_nil] at h
  exact h.parse_text nofun

theorem floatAgrees_floatJ (nf nan neg : Bool) (text : Bytes)
    (h1 : isNonFiniteText text = false → nf = false)
    (h2 : isNonFiniteText text = true → nf = true ∧ nonFiniteSpelling nan neg text = true) :
    floatAgrees nf nan neg text (floatJ text) = true := by
  unfold floatJ
  by_cases hs : isNonFiniteText text = true
  · simp [hs, floatAgrees, (h2 hs).1, (h2 hs).2]
  · have hs' : isNonFiniteText text = false := by simpa using hs
    simp [hs', floatAgrees, h1 hs']

mutual
theorem agrees_jsonOf (F : FloatFmt) (hF : FloatOK F) : ∀ v : GoVal, agrees F v (jsonOf F v) = true
  | .nil => by simp [agrees, jsonOf]
  | .bool _ => by simp [agrees, jsonOf]
  | .int _ => by simp [agrees, jsonOf]
  | .f64 b => by
    simp only [agrees, jsonOf]
    exact floatAgrees_floatJ _ _ _ _ (fun h => (hF.num64 b h).1) (hF.special64 b)
  | .f32 b => by
    simp only [agrees, jsonOf]
    exact floatAgrees_floatJ _ _ _ _ (fun h => (hF.num32 b h).1) (hF.special32 b)
  | .str _ => by simp [agrees, jsonOf]
  | .arr xs => by simp only [agrees, jsonOf]; exact agreesList_jsonOf F hF xs
  | .obj kvs => by simp only [agrees, jsonOf]; exact agreesKvs_jsonOf F hF kvs
theorem agreesList_jsonOf (F : FloatFmt) (hF : FloatOK F) : ∀ xs : List GoVal, agreesList F xs (jsonOfList F xs) = true
  | [] => by simp [agreesList, jsonOfList]
  | x :: xs => by simp [agreesList, jsonOfList, agrees_jsonOf F hF x, agreesList_jsonOf F hF xs]
theorem agreesKvs_jsonOf (F : FloatFmt) (hF : FloatOK F) : ∀ kvs : List (Bytes × GoVal), agreesKvs F kvs (jsonOfKvs F kvs) = true
  | [] => by simp [agreesKvs, jsonOfKvs]
  | (k, v) :: rest => by simp [agreesKvs, jsonOfKvs, agrees_jsonOf F hF v, agreesKvs_jsonOf F hF rest]
end

end PgVerif.Proofs.ExportJson

/-! Under the namespace of the command-line renderer, its first user. -/
namespace PgVerif.Proofs.CliRender
open PgVerif
open PgVerif.Proofs.ExportJson (NumEnd)

/-- the end, `,`, `]`, `}`, a newline or a tab -/
def Follows (rest : Bytes) : Prop := ∀ c, rest.head? = some c → c = 44 ∨ c = 93 ∨ c = 125 ∨ c = 10 ∨ c = 9

theorem Follows.numEnd {rest : Bytes} (h : Follows rest) : NumEnd rest := by
  intro c hc
  rcases h c hc with e | e | e | e | e <;> subst e <;> decide

theorem follows_cons (c : UInt8) (t : Bytes) (h : c = 44 ∨ c = 93 ∨ c = 125 ∨ c = 10 ∨ c = 9) : Follows (c :: t) := by
  intro d hd; simp at hd; subst hd; exact h

end PgVerif.Proofs.CliRender
