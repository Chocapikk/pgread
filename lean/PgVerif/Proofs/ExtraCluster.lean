/-
  Model/ExtraCluster.lean: Go's insertion sort is `insertionSort` of Lib/Sorting.lean (hence a sorting permutation), the order
  of ListDatabases, what DetectAllDataDirs reports, DumpAll as a `collectM` over the detected directories.
-/
import PgVerif.Model.ExtraCluster
import PgVerif.Proofs.ClusterClass
import PgVerif.Props.C10.Cluster
import PgVerif.Basic.Lemmas
namespace PgVerif.Proofs.Extra
open PgVerif PgVerif.Model PgVerif.Model.Extra
open scoped List

/-- Go's loop holds the sorted prefix nearest neighbour first and moves the new element past every `p` it is `less`
than: an insertion (of the reversed input, into the reversed result) for "not less" -/
theorem goInsertionSort_eq {α} (less : α → α → Bool) (l : List α) :
    goInsertionSort less l = (Sorting.insertionSort (fun a b => ¬ less a b = true) l.reverse).reverse := by
  unfold goInsertionSort
  rw [List.foldl_eq_foldr_reverse]
  exact congrArg List.reverse (Sorting.foldr_eq_insertionSort_not (f := insertLeft less)
    (lt := fun b a => less a b = true) (fun _ => rfl) (fun _ _ _ => rfl) l.reverse)

theorem goInsertionSort_perm {α} (less : α → α → Bool) (l : List α) : goInsertionSort less l ~ l :=
  goInsertionSort_eq less l ▸ (List.reverse_perm _).trans ((Sorting.insertionSort_perm _ _).trans (List.reverse_perm l))

structure StrictWeak {α} (less : α → α → Bool) : Prop where
  asymm : ∀ a b, less a b = true → less b a = false
  negtrans : ∀ a b c, less c a = true → less c b = true ∨ less b a = true

theorem goInsertionSort_sorted {α} (less : α → α → Bool) (hw : StrictWeak less) (l : List α) :
    (goInsertionSort less l).Pairwise (fun a b => less b a = false) := by
  rw [goInsertionSort_eq, List.pairwise_reverse]
  refine (Sorting.insertionSort_sorted (r := fun a b => ¬ less a b = true) ?_ ?_ l.reverse).imp Bool.eq_false_iff.mpr
  · exact fun a b => (Decidable.em (less a b = true)).elim (fun h => .inr (by simp [hw.asymm a b h])) .inl
  · exact fun {a b c} h1 h2 h3 => (hw.negtrans c b a h3).elim h1 h2

-- `listDbLess` compares the template flags first and the names only when the flags agree.  In every case analysis below
-- `simp` settles the cases with different flags from the flags alone; the two that remain are "both non-templates" and "both
-- templates", where the order is `bytesLt` on the names.  (Some cases do not need every flag: hence the linter option.)
set_option linter.unusedSimpArgs false in
theorem listDbLess_strictWeak : StrictWeak listDbLess := by
  constructor
  · intro a b h
    unfold listDbLess at h ⊢
    cases ha : xcIsTemplate a.name <;> cases hb : xcIsTemplate b.name <;> simp [ha, hb] at h ⊢
    · exact bytesLt_asymm _ _ h
    · exact bytesLt_asymm _ _ h
  · intro a b c h
    unfold listDbLess at h ⊢
    cases ha : xcIsTemplate a.name <;> cases hb : xcIsTemplate b.name <;> cases hc : xcIsTemplate c.name <;>
      simp [ha, hb, hc] at h ⊢
    · exact bytesLt_negtrans _ _ _ h
    · exact bytesLt_negtrans _ _ _ h

theorem listDbLess_false (a b : DatabaseInfo) (h : listDbLess b a = false) :
    (xcIsTemplate a.name = true → xcIsTemplate b.name = true) ∧
    (xcIsTemplate a.name = xcIsTemplate b.name → bytesLe a.name b.name = true) := by
  unfold listDbLess at h
  cases ha : xcIsTemplate a.name <;> cases hb : xcIsTemplate b.name <;> simp [ha, hb, bytesLe] at h ⊢
  · exact h
  · exact h

theorem detectLoop_valid (e : DetectEnv) : ∀ (cands seen : List Bytes), ∀ d ∈ detectLoop e seen cands, e.valid d = true
  | [], _ => by simp [detectLoop]
  | p :: rest, seen => by
    intro d hd
    unfold detectLoop at hd
    simp only at hd
    by_cases h1 : seen.contains (e.expand p) = true
    · rw [if_pos h1] at hd; exact detectLoop_valid e rest seen d hd
    · rw [if_neg h1] at hd
      by_cases h2 : e.valid (e.expand p) = true
      · rw [if_pos h2] at hd
        rcases List.mem_cons.1 hd with rfl | hd
        · exact h2
        · exact detectLoop_valid e rest _ d hd
      · rw [if_neg h2] at hd; exact detectLoop_valid e rest seen d hd

theorem detectAll_valid (e : DetectEnv) : ∀ d ∈ detectAllDataDirs e, e.valid d = true := by
  intro d hd
  unfold detectAllDataDirs at hd
  by_cases h : e.pgdata ≠ [] ∧ e.valid e.pgdata = true
  · rw [if_pos h] at hd
    rcases List.mem_cons.1 hd with rfl | hd
    · exact h.2
    · exact detectLoop_valid e _ _ d hd
  · rw [if_neg h] at hd; exact detectLoop_valid e _ _ d hd

theorem detectLoop_none (e : DetectEnv) : ∀ (cands seen : List Bytes),
    (∀ p ∈ cands, e.valid (e.expand p) = false ∨ seen.contains (e.expand p) = true) → detectLoop e seen cands = []
  | [], _, _ => by simp [detectLoop]
  | p :: rest, seen, h => by
    unfold detectLoop
    simp only
    have ih := detectLoop_none e rest seen (fun q hq => h q (List.mem_cons_of_mem _ hq))
    by_cases h1 : seen.contains (e.expand p) = true
    · rw [if_pos h1]; exact ih
    · rw [if_neg h1]
      rcases h p (List.mem_cons_self ..) with h2 | h2
      · rw [h2]; simpa using ih
      · exact absurd h2 h1

theorem detectAll_pgdata_only (e : DetectEnv) (h1 : e.pgdata ≠ []) (h2 : e.valid e.pgdata = true)
    (h3 : ∀ p ∈ e.candidates, e.valid (e.expand p) = false ∨ e.expand p = e.pgdata) :
    detectAllDataDirs e = [e.pgdata] := by
  unfold detectAllDataDirs
  rw [if_pos ⟨h1, h2⟩, detectLoop_none e e.candidates [e.pgdata]]
  intro p hp
  rcases h3 p hp with h | h
  · exact Or.inl h
  · right; rw [h]; simp

theorem dumpAll_eq (rr : RowReader) (π : MapOrder TableInfo) (e : DetectEnv) (fsAt : Bytes → Bytes → Option Bytes)
    (o : Spec.Options) :
    dumpAll rr π e fsAt o = collectM (fun dir => dumpDataDir rr π (fsAt dir) o) (detectAllDataDirs e) := by
  unfold dumpAll
  simp only
  by_cases h : (detectAllDataDirs e).length = 0
  · rw [if_pos h, List.length_eq_zero_iff.1 h]; rfl
  · rw [if_neg h]; rfl

theorem dumpDataDir_some_of_valid (rr : RowReader) (h : Props.C10.Cluster.TotalReader rr) (π : MapOrder TableInfo)
    (fsAt : Bytes → Bytes → Option Bytes) (o : Spec.Options) (dir : Bytes) (hv : validBy fsAt dir = true) :
    ∃ r, dumpDataDir rr π (fsAt dir) o = .ok (some r) := by
  obtain ⟨r, hr⟩ := Props.C10.Cluster.C10_total_dumpDataDir rr h π (fsAt dir) o
  cases r with
  | some r => exact ⟨r, hr⟩
  | none =>
    -- `none` is the answer only when global/1262 cannot be read, and a valid directory has it
    unfold validBy at hv
    rw [show fsAt dir pathGlobal1262 = none from Proofs.Cluster.dumpDataDir_ok hr] at hv
    cases hv

end PgVerif.Proofs.Extra
