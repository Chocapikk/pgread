/-
  Model/ExtraFS.lean in closed form.  os.Stat and os.ReadFile look at the same snapshot, so readRegularFile and the
  reader `view` depend on the kind of the path alone; an entry the repaired filter selects in a consistent directory is
  a regular file.  Props/C10/EntryFS.lean argues from these.
-/
import PgVerif.Model.ExtraFS
namespace PgVerif.Proofs.ExtraFS
open PgVerif PgVerif.Model.FSKind

theorem isRegular_iff (k : Kind) : k.isRegular = true ↔ ∃ b, k = .regular b := by
  cases k <;> simp [Kind.isRegular]

theorem readRegularFile_eq {π} (fs : FS π) (p : π) :
    readRegularFile fs p = match fs p with | .regular b => .data b | _ => .err := by
  unfold readRegularFile statIsRegular osReadFile
  cases fs p <;> rfl

theorem view_eq {π} (fs : FS π) (p : π) :
    view fs p = match fs p with | .regular b => some b | _ => none := by
  unfold view
  rw [readRegularFile_eq]
  cases fs p <;> rfl

/-- `e.Type().IsRegular()` speaks of the entry, the read of what it resolves to: consistency joins the two. -/
theorem newSelect_target {e : Entry} (hc : e.consistent = true) (hs : newSelect e = true) :
    ∃ b, e.target = .regular b := by
  unfold Entry.consistent at hc
  rw [show e.type = .regular from eq_of_beq hs] at hc
  exact (isRegular_iff _).mp hc

theorem readEntry_regular {e : Entry} {b : Bytes} (h : e.target = .regular b) : readEntry e = .data b := by
  unfold readEntry osReadFile
  rw [h]

end PgVerif.Proofs.ExtraFS
