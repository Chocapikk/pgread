/-
  `RcOK`, the totality half of `Remote.Impl`.  Summary's loop fills a Go map keyed by database oid, which Model/RemoteCold.lean's
  `summaryLoopCold` (a list per database) does not mirror: `summaryTablesCold` is its cache-free meaning.
-/
import PgVerif.Proofs.RemoteCold
import PgVerif.Props.C10.Rows
import PgVerif.Model.ExtraCluster
namespace PgVerif.Proofs.Extra
open PgVerif PgVerif.Model PgVerif.Proofs.Remote PgVerif.Props.C10.Cluster PgVerif.Props.C11

/-- `m` returns from cache `c`, with a consistent cache if `c` was -/
def RcOK (rr : RowReader) (fs : RemoteReader) {α} (c : Cache) (m : M (α × Cache)) : Prop :=
  ∃ r c', m = .ok (r, c') ∧ (CacheOK rr fs c → CacheOK rr fs c')

theorem rcOK_of_impl {rr : RowReader} {fs : RemoteReader} {α} {c : Cache} {m : M (α × Cache)} {cold : M α}
    (h : TotalReader rr) (hi : Impl rr fs c m cold) : RcOK rr fs c m := by
  obtain ⟨⟨r, c'⟩, e⟩ := hi.total h
  exact ⟨r, c', e, fun hc => (hi.warm.spec hc).2 r c' e⟩

variable (rr : RowReader) (π : MapOrder TableInfo) (fs : RemoteReader)

/-- the loop of Summary() without a cache -/
def summaryTablesCold : List DatabaseInfo → List (Nat × List TableInfo) → M (List (Nat × List TableInfo))
  | [], m => pure m
  | db :: rest, m =>
    if Extra.xcIsTemplate db.name then summaryTablesCold rest m
    else do
      let ts ← tablesCold rr π fs db.oid
      summaryTablesCold rest (mapPut m db.oid ts)

theorem impl_summaryTables (dbs : List DatabaseInfo) : ∀ m c,
    Impl rr fs c (Extra.rcSummaryTables rr π fs dbs m c) (summaryTablesCold rr π fs dbs m) := by
  induction dbs with
  | nil => intro m c; exact impl_pure
  | cons db rest ih =>
    intro m c
    unfold Extra.rcSummaryTables summaryTablesCold
    by_cases h1 : Extra.xcIsTemplate db.name = true
    · rw [if_pos h1, if_pos h1]; exact ih m c
    · rw [if_neg h1, if_neg h1]
      exact impl_bind (impl_tables rr π fs db.oid c) fun ts c' => ih _ c'

theorem rcCredentials_total : ∃ r, Extra.rcCredentials fs = .ok r := by
  unfold Extra.rcCredentials
  cases fs (strBytes "global/1260") with
  | none => exact ⟨_, rfl⟩
  | some d => exact Props.C10.Rows.C10_total_parsePGAuthID d

theorem impl_summary (c : Cache) :
    Impl rr fs c (Extra.rcSummary rr π fs c) (do
      let creds ← Extra.rcCredentials fs
      let dbs ← databasesCold rr fs
      let tables ← summaryTablesCold rr π fs dbs []
      pure { version := rcVersion fs, creds, dbs, tables }) := by
  unfold Extra.rcSummary
  refine impl_seq (fun _ => rcCredentials_total fs) fun creds => impl_bind (impl_databases rr fs c) fun dbs c' => ?_
  exact impl_bind (impl_summaryTables rr π fs dbs [] c') fun _ _ => impl_pure

end PgVerif.Proofs.Extra
