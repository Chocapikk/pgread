/-
  The wrappers of search.go / secrets.go (Model/ExtraSearch.lean, Model/ExtraDir.lean).  That the directory-taking forms return
  is the cluster area's totality of DumpDataDir, a property theorem: hence the import of Props/C10/Cluster.lean.
-/
import PgVerif.Model.ExtraDir
import PgVerif.Props.C10.Cluster
namespace PgVerif.Proofs.Extra
open PgVerif PgVerif.Model PgVerif.Model.Extra PgVerif.Spec.Search PgVerif.Model.Search

theorem quoteMeta_cons (b : UInt8) (s : Bytes) :
    quoteMeta (b :: s) = (if quoteMetaSpecial b then [92, b] else [b]) ++ quoteMeta s := by
  simp [quoteMeta, List.flatMap_cons]

theorem unquoteMeta_plain (b : UInt8) (rest : Bytes) (h92 : b ≠ 92) (hb : ¬ quoteMetaSpecial b = true) :
    unquoteMeta (b :: rest) = (unquoteMeta rest).map (b :: ·) := by
  cases rest <;> simp [unquoteMeta, h92, hb]

theorem unquoteMeta_escaped (c : UInt8) (rest : Bytes) (hc : quoteMetaSpecial c = true) :
    unquoteMeta (92 :: c :: rest) = (unquoteMeta rest).map (c :: ·) := by
  simp [unquoteMeta, hc]

theorem unquoteMeta_quoteMeta : ∀ s : Bytes, unquoteMeta (quoteMeta s) = some s
  | [] => by simp [quoteMeta, unquoteMeta]
  | b :: s => by
    rw [quoteMeta_cons]
    by_cases hb : quoteMetaSpecial b = true
    · rw [if_pos hb]
      simp only [List.cons_append, List.nil_append, unquoteMeta_escaped b _ hb, unquoteMeta_quoteMeta s, Option.map_some]
    · rw [if_neg hb]
      have h92 : b ≠ 92 := by
        intro h; rw [h] at hb; exact hb (by decide)
      simp only [List.cons_append, List.nil_append, unquoteMeta_plain b _ h92 hb, unquoteMeta_quoteMeta s, Option.map_some]

theorem quoteMeta_isQuoted (s : Bytes) : (unquoteMeta (quoteMeta s)).isSome = true := by
  rw [unquoteMeta_quoteMeta]; rfl

theorem quickSearch_some (R : Regex) (sh : GoVal → Bytes) (d : Dump) (p : Bytes) :
    quickSearch R sh (some d) p = searchInDump R sh d (quickOpts p) := by
  simp only [quickSearch, search, searchInDump]

theorem dumpedBy_total (rr : RowReader) (h : Props.C10.Cluster.TotalReader rr) (π : MapOrder TableInfo)
    (fs : Bytes → Option Bytes) (o : Spec.Options) : ∃ r, dumpedBy rr π fs o = .ok r :=
  tot_map _ (Props.C10.Cluster.C10_total_dumpDataDir rr h π fs o)

theorem searchDir_total (R : Regex) (sh : GoVal → Bytes) (rr : RowReader) (h : Props.C10.Cluster.TotalReader rr)
    (π : MapOrder TableInfo) (fs : Bytes → Option Bytes) (opts : Option Opts) : ∃ r, searchDir R sh rr π fs opts = .ok r := by
  unfold searchDir
  cases opts with
  | none => exact ⟨_, rfl⟩
  | some o =>
    simp only
    cases R.compile _ with
    | none => exact ⟨_, rfl⟩
    | some re => exact tot_map _ (dumpedBy_total rr h π fs searchDumpOptions)

/-- `r = none`: the tree has no global/1262 -/
theorem searchDir_eq (R : Regex) (sh : GoVal → Bytes) (rr : RowReader) (π : MapOrder TableInfo) (fs : Bytes → Option Bytes)
    (o : Opts) (r : Option Spec.DumpResult) (hd : dumpDataDir rr π fs searchDumpOptions = .ok r) :
    searchDir R sh rr π fs (some o) = .ok (match r with
      | some r => searchInDump R sh (toSearchDump r) o
      | none => none) := by
  unfold searchDir
  simp only
  cases hc : R.compile (if (!o.caseSensitive) = true then ciPrefix ++ o.pattern else o.pattern) with
  | none =>
    simp only
    cases r with
    | none => rfl
    | some r => simp only [searchInDump, hc]; rfl
  | some re =>
    simp only [dumpedBy, hd, ok_bind, pure_eq_ok]
    cases r with
    | none => simp only [Option.map_none, search, hc]
    | some r => simp only [Option.map_some, search, searchInDump]

end PgVerif.Proofs.Extra
