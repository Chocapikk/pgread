/-
  toast.go:AnalyzeTOAST (Model/ExtraToast.lean); the property theorems are in Props/C10/Extra.lean and Props/C08Extra.lean.
-/
import PgVerif.Model.ExtraToast
import PgVerif.Props.C10.Cluster
import PgVerif.Proofs.ToastTotal
namespace PgVerif.Proofs.Extra
open PgVerif PgVerif.Model PgVerif.Model.Extra PgVerif.Model.Toast

/-- AnalyzeTOAST's loop body for one tuple, as a function of the TOAST reader's answers `chunksOf` -/
def analyzeEntryResult (fs : Bytes → Option Bytes) (dbOID : Nat) (e : TupleEntry) (chunksOf : Bytes → List Chunk) : Option TOASTInfo :=
  if e.tuple.data.length < 60 then none
  else
    let relid := rd 4 (e.tuple.data.drop 48)
    if relid = 0 then none
    else match fs (basePath dbOID relid) with
      | none => none
      | some d => if (chunksOf d).length = 0 then none else some (toastTally relid (chunksOf d))

theorem analyzeEntry_eq (fs : Bytes → Option Bytes) (dbOID : Nat) (e : TupleEntry) (chunksOf : Bytes → List Chunk)
    (hc : ∀ d, readTOASTTable d = .ok (chunksOf d)) :
    analyzeEntry fs dbOID e = .ok (analyzeEntryResult fs dbOID e chunksOf) := by
  unfold analyzeEntry analyzeEntryResult
  by_cases h : e.tuple.data.length < 60
  · rw [if_pos h, if_pos h]; rfl
  · rw [if_neg h, if_neg h, uN_ok 4 e.tuple.data 48 (by omega)]
    simp only [ok_bind]
    by_cases h0 : rd 4 (List.drop 48 e.tuple.data) = 0
    · rw [if_pos h0, if_pos h0]; rfl
    · rw [if_neg h0, if_neg h0]
      cases fs (basePath dbOID (rd 4 (List.drop 48 e.tuple.data))) with
      | none => rfl
      | some d =>
        simp only [hc d, ok_bind]
        by_cases hl : (chunksOf d).length = 0
        · rw [if_pos hl, if_pos hl]; rfl
        · rw [if_neg hl, if_neg hl]; rfl

theorem analyzeEntry_total (fs : Bytes → Option Bytes) (dbOID : Nat) (e : TupleEntry) :
    ∃ r, analyzeEntry fs dbOID e = .ok r :=
  ⟨_, analyzeEntry_eq fs dbOID e (fun d => (Proofs.Toast.readTOASTTable_total d).choose)
    fun d => (Proofs.Toast.readTOASTTable_total d).choose_spec⟩

theorem analyzeTOAST_total (rr : RowReader) (h : Props.C10.Cluster.TotalReader rr) (fs : Bytes → Option Bytes) (dbName : Bytes) :
    ∃ r, analyzeTOAST rr fs dbName = .ok r := by
  unfold analyzeTOAST
  cases fs pathGlobal1262 with
  | none => exact ⟨_, rfl⟩
  | some dbData =>
    refine tot_bind (Props.C10.Cluster.C10_total_parsePGDatabase rr h dbData) fun dbs _ =>
      tot_ite (fun _ => ⟨_, rfl⟩) fun _ => ?_
    cases fs (basePath (findDbOID dbs dbName) 1259) with
    | none => exact ⟨_, rfl⟩
    | some classData =>
      exact tot_bind (readTuples_total classData true) fun es _ =>
        tot_bind (collectM_total _ es (analyzeEntry_total fs _)) fun _ _ => ⟨_, rfl⟩

theorem foldl_groupInsert_keys (cs : List Chunk) (m : List (Nat × List Chunk)) :
    (cs.foldl groupInsert m).map (·.1) = cs.foldl (fun seen c => idSetInsert seen c.id) (m.map (·.1)) := by
  simp only [idSetInsert, List.contains_iff_mem]
  exact AssocMap.keys_foldl_upsert (fun c : Chunk => c.id) (fun c => [c]) (fun c l => l ++ [c]) cs m

end PgVerif.Proofs.Extra
