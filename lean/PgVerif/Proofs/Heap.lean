/-
  page.go / tuple.go on arbitrary bytes: ParseHeapTuple as a function of the bytes, ParsePage's tests on one line pointer and its
  header.
-/
import PgVerif.Basic.Lemmas
import PgVerif.Model.Heap
import PgVerif.Spec.Heap
import PgVerif.Proofs.HeapGuard
namespace PgVerif.Proofs
open PgVerif PgVerif.Model

def HeaderConsistent (h : TupleHeader) : Prop :=
  h.xminCommitted = h.infomask.testBit 8 ∧ h.xmaxCommitted = h.infomask.testBit 10 ∧
  h.xmaxInvalid = h.infomask.testBit 11 ∧ h.hasNull = h.infomask.testBit 0

theorem HeaderConsistent.bits {t : HeapTuple} (h : HeaderConsistent t.header) :
    t.isVisible = Spec.liveBits t.header.infomask ∧ t.isDeleted = Spec.deletedBits t.header.infomask := by
  obtain ⟨h8, h10, h11, _⟩ := h
  unfold HeapTuple.isVisible HeapTuple.isDeleted Spec.liveBits Spec.deletedBits
  rw [h8, h10, h11]
  cases t.header.infomask.testBit 8 <;> cases t.header.infomask.testBit 10 <;>
    cases t.header.infomask.testBit 11 <;> exact ⟨rfl, rfl⟩

/-- tuple.go:ParseHeapTuple without the fault monad: the same tests in the same order on the same reads.  It reads the length,
the bytes `[18, 23)` and, if bit 0 of t_infomask is set and they lie inside `d`, the bitmap `[23, 23 + (natts + 7) / 8)`, which it does
not compare with t_hoff (neither does tuple.go); it returns `d.drop hoff` unread; `[0, 18)` is not read. -/
def tupleOf (d : Bytes) : Option HeapTuple :=
  if d.length < 23 then none
  else
    let infomask := rd 2 (d.drop 20)
    let natts := rd 2 (d.drop 18) &&& 0x07FF
    let hoff := (d[22]?.getD 0).toNat
    if hoff > d.length then none
    else some
      ⟨⟨hoff, natts, infomask, infomask.testBit 8, infomask.testBit 11, infomask.testBit 10, infomask.testBit 0⟩,
       if infomask.testBit 0 = true ∧ 23 + (natts + 7) / 8 ≤ d.length then some ((d.take (23 + (natts + 7) / 8)).drop 23)
       else none,
       d.drop hoff⟩

theorem parseHeapTuple_eq (d : Bytes) : parseHeapTuple d = .ok (tupleOf d) := by
  unfold parseHeapTuple tupleOf
  by_cases h : d.length < 23
  · rw [if_pos h, if_pos h]; rfl
  · rw [if_neg h, if_neg h, uN_ok 2 d 20 (by omega), uN_ok 2 d 18 (by omega), idx_getD d 22 (by omega)]
    simp only [ok_bind, pure_eq_ok, land_bit0, land_bit8, land_bit10, land_bit11]
    by_cases hoff : (d[22]?.getD 0).toNat > d.length
    · rw [if_pos hoff, if_pos hoff]
    · rw [if_neg hoff, if_neg hoff, sliceFrom_ok _ _ (Nat.le_of_not_gt hoff)]
      by_cases hbm : (rd 2 (d.drop 20)).testBit 0 = true ∧ 23 + ((rd 2 (d.drop 18) &&& 0x07FF) + 7) / 8 ≤ d.length
      · rw [if_pos hbm, ok_bind, if_pos hbm.1, if_pos hbm.2, slice_ok _ _ _ hbm.2 (by omega)]; rfl
      · rw [if_neg hbm, ok_bind]
        by_cases hnull : (rd 2 (d.drop 20)).testBit 0 = true
        · rw [if_pos hnull, if_neg (fun c => hbm ⟨hnull, c⟩)]
        · rw [if_neg hnull]

theorem tupleOf_some {d : Bytes} {t : HeapTuple} (h : tupleOf d = some t) :
    HeaderConsistent t.header ∧ t.data = d.drop t.header.hoff := by
  simp only [tupleOf] at h
  by_cases h23 : d.length < 23
  · rw [if_pos h23] at h; cases h
  · by_cases hoff : (d[22]?.getD 0).toNat > d.length
    · rw [if_neg h23, if_pos hoff] at h; cases h
    · rw [if_neg h23, if_neg hoff] at h; cases h; exact ⟨⟨rfl, rfl, rfl, rfl⟩, rfl⟩

theorem tupleOf_length {d : Bytes} {t : HeapTuple} (h : tupleOf d = some t) : 23 ≤ d.length := by
  rw [tupleOf] at h
  by_cases hl : d.length < 23
  · rw [if_pos hl] at h; cases h
  · omega

theorem parseHeapTuple_consistent (d : Bytes) (t : HeapTuple)
    (h : parseHeapTuple d = .ok (some t)) : HeaderConsistent t.header := by
  rw [parseHeapTuple_eq, Except.ok.injEq] at h
  exact (tupleOf_some h).1

/-- page.go:ParsePage's tests on one pointer -/
def accepted (upper : Nat) (it : ItemID) : Bool :=
  it.flags == 1 && it.length != 0 && decide (upper ≤ it.offset) && decide (it.offset + it.length ≤ 8192)

theorem accepted_iff (upper : Nat) (it : ItemID) :
    accepted upper it = true ↔ (it.flags = 1 ∧ it.length ≠ 0) ∧ upper ≤ it.offset ∧ it.offset + it.length ≤ 8192 := by
  simp only [accepted, Bool.and_eq_true, beq_iff_eq, bne_iff_ne, ne_eq, decide_eq_true_eq, and_assoc]

/-- page.go:parseHeader on a page of at least 20 bytes -/
def hdrOf (data : Bytes) : PageHeader :=
  ⟨rd 2 (data.drop 12), rd 2 (data.drop 14), rd 2 (data.drop 18) &&& 0xFF00, rd 2 (data.drop 18) &&& 0x00FF⟩

theorem parseHeader_ok (data : Bytes) (h : 20 ≤ data.length) : parseHeader data = .ok (hdrOf data) := by
  unfold parseHeader
  rw [uN_ok 2 data 18 (by omega), uN_ok 2 data 12 (by omega), uN_ok 2 data 14 (by omega)]; rfl

theorem parsePage_items (data : Bytes) (hd : 8192 ≤ data.length) (h : PageHeader) (hh : parseHeader data = .ok h)
    (hv : validHeader h = true) (items : List ItemID) (hi : parseItems data h.lower = .ok items) :
    parsePage data = pageLoop data h.upper items [] := by
  unfold parsePage
  rw [if_neg (by omega), hh]
  simp only [ok_bind, hv, Bool.not_true, Bool.false_eq_true, if_false, hi]

theorem parseHeapTuple_total (data : Bytes) : ∃ r, parseHeapTuple data = .ok r := ⟨_, parseHeapTuple_eq data⟩

end PgVerif.Proofs
