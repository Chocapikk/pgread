/-
  The scan of an encoded heap.  `fileEntriesFrom`, `fileEntries`, `entryOf` and `scan_entries` stand in `namespace Rows`: the file
  theorems of areas rows, toast and cluster cite them as `Rows.…`.
-/
import PgVerif.Proofs.HeapEnc
import PgVerif.Proofs.HeapScan
namespace PgVerif.Proofs
open PgVerif PgVerif.Model PgVerif.Spec

/-- the fields of a scan entry that property C02 names -/
def viewOf (e : TupleEntry) : TupleView :=
  { natts := e.tuple.header.natts, hoff := e.tuple.header.hoff, infomask := e.tuple.header.infomask,
    xminCommitted := e.tuple.header.xminCommitted, xmaxCommitted := e.tuple.header.xmaxCommitted,
    xmaxInvalid := e.tuple.header.xmaxInvalid, hasNull := e.tuple.header.hasNull,
    bitmap := e.tuple.bitmap, data := e.tuple.data, pageOffset := e.pageOffset }

theorem viewOf_mtuple (t : Tuple) (off : Nat) : viewOf ⟨mtuple t, off⟩ = tupleView off t := rfl

theorem isVisible_mtuple (t : Tuple) : (mtuple t).isVisible = liveBits t.infomask :=
  (HeaderConsistent.bits (t := mtuple t) ⟨rfl, rfl, rfl, rfl⟩).1

theorem isDeleted_mtuple (t : Tuple) : (mtuple t).isDeleted = deletedBits t.infomask :=
  (HeaderConsistent.bits (t := mtuple t) ⟨rfl, rfl, rfl, rfl⟩).2

theorem viewOf_shift (k : Nat) (e : TupleEntry) : viewOf (shiftE k e) = { viewOf e with pageOffset := (viewOf e).pageOffset + k } := rfl

theorem block_parse (b : Block) (h : b.WF) : parsePage (encBlock b) = .ok (b.tuples.map mtuple) := by
  cases b with
  | page p => exact parsePage_enc p h
  | zero => exact parsePage_zero

theorem encBlock_length (b : Block) (h : b.WF) : (encBlock b).length = 8192 := by
  cases b with
  | page p => exact encPage_length p h
  | zero => simp [encBlock]

theorem pages_encHeap (bs : List Block) (tail : Bytes) (hb : ∀ b ∈ bs, b.WF) (ht : tail.length < 8192) :
    pages (encHeap bs tail) = bs.map encBlock :=
  pages_flatMap encBlock bs (fun b h => encBlock_length b (hb b h)) tail ht

namespace Rows

/-- the stored tuples in scan order (page, then pointer), each with the byte offset of its page -/
def fileEntriesFrom (off : Nat) : List Block → List (Tuple × Nat)
  | [] => []
  | b :: bs => b.tuples.map (fun t => (t, off)) ++ fileEntriesFrom (off + 8192) bs

def fileEntries (bs : List Block) : List (Tuple × Nat) := fileEntriesFrom 0 bs

def entryOf (p : Tuple × Nat) : TupleEntry := ⟨mtuple p.1, p.2⟩

end Rows
open Rows

theorem scanFrom_encBlocks (vis : Bool) (off : Nat) (bs : List Block) (hb : ∀ b ∈ bs, b.WF) :
    scanFrom vis off (bs.map encBlock) =
      ((fileEntriesFrom off bs).filter fun p => !vis || liveBits p.1.infomask).map entryOf := by
  induction bs generalizing off with
  | nil => rfl
  | cons b bs ih =>
    rw [List.map_cons, scanFrom, pageTuples_of_ok (block_parse b (hb b List.mem_cons_self)),
      ih _ fun x hx => hb x (List.mem_cons_of_mem _ hx)]
    simp only [fileEntriesFrom, List.filter_append, List.map_append, pageEntries, List.map_map, List.filter_map,
      Function.comp_def, entryOf, isVisible_mtuple]

theorem Rows.scan_entries (bs : List Block) (tail : Bytes) (vis : Bool) (hb : ∀ b ∈ bs, b.WF) (ht : tail.length < 8192) :
    scan vis (encHeap bs tail) = ((fileEntries bs).filter fun p => !vis || liveBits p.1.infomask).map entryOf := by
  rw [scan, pages_encHeap bs tail hb ht, scanFrom_encBlocks vis 0 bs hb]
  rfl

theorem scanViewFrom_eq (off : Nat) (bs : List Block) :
    scanViewFrom off bs = (fileEntriesFrom off bs).map fun p => tupleView p.2 p.1 := by
  induction bs generalizing off with
  | nil => rfl
  | cons b bs ih => simp only [scanViewFrom, fileEntriesFrom, List.map_append, List.map_map, ih, Function.comp_def]

theorem scan_enc (bs : List Block) (tail : Bytes) (vis : Bool) (hb : ∀ b ∈ bs, b.WF) (ht : tail.length < 8192) :
    (readTuples (encHeap bs tail) vis).map (fun es => es.map viewOf) =
      .ok ((scanView bs).filter fun v => !vis || liveBits v.infomask) := by
  rw [readTuples_eq, scan_entries bs tail vis hb ht, scanView, scanViewFrom_eq, List.filter_map]
  exact congrArg Except.ok (List.map_map ..)

end PgVerif.Proofs
