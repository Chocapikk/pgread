/-
  ParsePage's overlap guard (pgread's repair heap/02: a NORMAL pointer whose storage overlaps that of an earlier REPORTED tuple
  is skipped), on arbitrary bytes.
-/
import PgVerif.Basic.Lemmas
import PgVerif.Model.Heap
namespace PgVerif.Proofs
open PgVerif PgVerif.Model

def Disj (a b : ItemID) : Prop := a.offset + a.length ≤ b.offset ∨ b.offset + b.length ≤ a.offset

/-- `b` comes later in the pointer array and is tested against the claimed `a` (the order of a `List.Pairwise`) -/
def NormalApart (a b : ItemID) : Prop := a.flags = 1 → b.flags = 1 → b.overlaps a = false

theorem overlaps_false_iff (a b : ItemID) :
    a.overlaps b = false ↔ (b.offset + b.length ≤ a.offset ∨ a.offset + a.length ≤ b.offset) := by
  simp only [ItemID.overlaps, Bool.and_eq_false_iff, decide_eq_false_iff_not, Nat.not_lt]

theorem Disj.of_overlaps {a b : ItemID} (h : a.overlaps b = false) : Disj b a := (overlaps_false_iff a b).mp h

theorem overlaps_comm (a b : ItemID) : a.overlaps b = b.overlaps a := by
  simp only [ItemID.overlaps, Bool.and_comm]

theorem overlapsAny_nil (it : ItemID) : overlapsAny [] it = false := rfl

theorem overlapsAny_append (c d : List ItemID) (it : ItemID) :
    overlapsAny (c ++ d) it = (overlapsAny c it || overlapsAny d it) := by
  simp only [overlapsAny, List.any_append]

theorem overlapsAny_single (c it : ItemID) : overlapsAny [c] it = it.overlaps c := by
  simp [overlapsAny]

theorem overlapsAny_false_iff (claimed : List ItemID) (it : ItemID) :
    overlapsAny claimed it = false ↔ ∀ c ∈ claimed, it.overlaps c = false := by
  simp only [overlapsAny, List.any_eq_false, Bool.not_eq_true]

theorem pageItem_eq_pageItemG (data : Bytes) (upper : Nat) (it : ItemID) :
    pageItem data upper it = pageItemG data upper [] it := rfl

theorem pageItem_some_flags (data : Bytes) (upper : Nat) (it : ItemID) (t : HeapTuple)
    (h : pageItem data upper it = .ok (some t)) : it.flags = 1 := by
  unfold pageItem at h
  by_cases h1 : (it.flags != 1 || it.length == 0) = true
  · rw [if_pos h1] at h; cases h
  · simp only [Bool.or_eq_true, bne_iff_ne, ne_eq, beq_iff_eq, not_or, Decidable.not_not] at h1
    exact h1.1

theorem pageLoop_cons (data : Bytes) (upper : Nat) (it : ItemID) (rest claimed : List ItemID) :
    pageLoop data upper (it :: rest) claimed =
      (do match ← pageItemG data upper claimed it with
          | some t =>
            let ts ← pageLoop data upper rest (claimed ++ [it])
            pure (t :: ts)
          | none => pageLoop data upper rest claimed) := rfl

end PgVerif.Proofs
