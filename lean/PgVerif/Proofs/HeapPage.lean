/-
  page.go:ParsePage as a list function, without the fault monad; each definition has the one equation that ties it to the model.
-/
import PgVerif.Proofs.Heap
namespace PgVerif.Proofs
open PgVerif PgVerif.Model

def itemsFrom (data : Bytes) (lower : Nat) : Nat → Nat → List ItemID
  | 0, _ => []
  | n+1, off =>
    if off < lower ∧ off + 4 ≤ data.length then decItem (rd 4 (data.drop off)) :: itemsFrom data lower n (off + 4) else []

theorem parseItemsLoop_eq (data : Bytes) (lower n off : Nat) :
    parseItemsLoop data lower n off = .ok (itemsFrom data lower n off) := by
  induction n generalizing off with
  | zero => rfl
  | succ n ih =>
    rw [parseItemsLoop, itemsFrom]
    by_cases hc : off < lower ∧ off + 4 ≤ data.length
    · rw [if_pos hc, if_pos hc, uN_ok 4 data off hc.2, ok_bind, ih, ok_bind]; rfl
    · rw [if_neg hc, if_neg hc]; rfl

/-- ParsePage's loop body on one pointer; `claimed` = the pointers reported so far -/
def itemOf (data : Bytes) (upper : Nat) (claimed : List ItemID) (it : ItemID) : Option HeapTuple :=
  if accepted upper it = true ∧ overlapsAny claimed it = false then
    tupleOf ((data.take (it.offset + it.length)).drop it.offset)
  else none

theorem pageItemG_eq (data : Bytes) (hd : 8192 ≤ data.length) (upper : Nat) (claimed : List ItemID) (it : ItemID) :
    pageItemG data upper claimed it = .ok (itemOf data upper claimed it) := by
  unfold pageItemG itemOf
  -- the first two tests of the model are `accepted` negated; a pointer that passes them lies inside the page
  by_cases h1 : (it.flags != 1 || it.length == 0) = true
  · have hna : ¬ accepted upper it = true := fun ha => by
      have := (accepted_iff upper it).mp ha
      simp only [Bool.or_eq_true, bne_iff_ne, beq_iff_eq] at h1; omega
    rw [if_pos h1, if_neg (fun h => hna h.1)]; rfl
  · rw [if_neg h1]
    by_cases h2 : (decide (it.offset < upper) || decide (it.offset + it.length > 8192)) = true
    · have hna : ¬ accepted upper it = true := fun ha => by
        have := (accepted_iff upper it).mp ha
        simp only [Bool.or_eq_true, decide_eq_true_eq] at h2; omega
      rw [if_pos h2, if_neg (fun h => hna h.1)]; rfl
    · have ha : accepted upper it = true := (accepted_iff upper it).mpr (by
        simp only [Bool.or_eq_true, bne_iff_ne, beq_iff_eq, decide_eq_true_eq, not_or, Decidable.not_not] at h1 h2; omega)
      rw [if_neg h2]
      cases ho : overlapsAny claimed it with
      | true => rw [if_pos rfl, if_neg (fun h => nomatch h.2)]; rfl
      | false =>
        have := (accepted_iff upper it).mp ha
        rw [if_neg (by decide), if_pos ⟨ha, rfl⟩, slice_ok _ _ _ (by omega) (by omega), ok_bind]
        exact parseHeapTuple_eq _

theorem itemOf_some {data : Bytes} {upper : Nat} {claimed : List ItemID} {it : ItemID} {t : HeapTuple}
    (h : itemOf data upper claimed it = some t) :
    accepted upper it = true ∧ overlapsAny claimed it = false ∧
      tupleOf ((data.take (it.offset + it.length)).drop it.offset) = some t := by
  unfold itemOf at h
  by_cases hc : accepted upper it = true ∧ overlapsAny claimed it = false
  · rw [if_pos hc] at h; exact ⟨hc.1, hc.2, h⟩
  · rw [if_neg hc] at h; cases h

/-- ParsePage's loop: a reported pointer joins `claimed` -/
def loopOf (data : Bytes) (upper : Nat) : List ItemID → List ItemID → List HeapTuple
  | [], _ => []
  | it :: rest, claimed =>
    match itemOf data upper claimed it with
    | some t => t :: loopOf data upper rest (claimed ++ [it])
    | none => loopOf data upper rest claimed

theorem loopOf_cons_some {data : Bytes} {upper : Nat} {it : ItemID} {claimed : List ItemID} {t : HeapTuple}
    (h : itemOf data upper claimed it = some t) (rest : List ItemID) :
    loopOf data upper (it :: rest) claimed = t :: loopOf data upper rest (claimed ++ [it]) := by
  rw [loopOf, h]

theorem loopOf_cons_none {data : Bytes} {upper : Nat} {it : ItemID} {claimed : List ItemID}
    (h : itemOf data upper claimed it = none) (rest : List ItemID) :
    loopOf data upper (it :: rest) claimed = loopOf data upper rest claimed := by
  rw [loopOf, h]

theorem pageLoop_eq (data : Bytes) (hd : 8192 ≤ data.length) (upper : Nat) :
    ∀ items claimed, pageLoop data upper items claimed = .ok (loopOf data upper items claimed)
  | [], _ => rfl
  | it :: rest, claimed => by
    rw [pageLoop_cons, pageItemG_eq data hd, ok_bind]
    cases h : itemOf data upper claimed it with
    | none => rw [loopOf_cons_none h]; exact pageLoop_eq data hd upper rest claimed
    | some t => rw [loopOf_cons_some h]; exact bind_eq (pageLoop_eq data hd upper rest (claimed ++ [it])) rfl

theorem itemOf_of_not_overlaps {data : Bytes} {upper : Nat} {claimed : List ItemID} {it : ItemID}
    (h : overlapsAny claimed it = false) : itemOf data upper claimed it = itemOf data upper [] it := by
  unfold itemOf; rw [h, overlapsAny_nil]

theorem itemOf_flags {data : Bytes} {upper : Nat} {claimed : List ItemID} {it : ItemID} {t : HeapTuple}
    (h : itemOf data upper claimed it = some t) : it.flags = 1 :=
  ((accepted_iff upper it).mp (itemOf_some h).1).1.1

/-- the guard never fires when NORMAL pointers do not share storage -/
theorem loopOf_eq_filterMap (data : Bytes) (upper : Nat) :
    ∀ (items claimed : List ItemID), (∀ it ∈ items, it.flags = 1 → overlapsAny claimed it = false) →
      items.Pairwise NormalApart → loopOf data upper items claimed = items.filterMap (itemOf data upper [])
  | [], _, _, _ => rfl
  | it :: rest, claimed, hc, hp => by
    rw [List.pairwise_cons] at hp
    have hrest : ∀ x ∈ rest, x.flags = 1 → overlapsAny claimed x = false := fun x hx => hc x (List.mem_cons_of_mem _ hx)
    -- the guard does not fire on `it`: it is not NORMAL (then not accepted either), or nothing claimed overlaps it
    have hg : itemOf data upper claimed it = itemOf data upper [] it := by
      by_cases hf : it.flags = 1
      · exact itemOf_of_not_overlaps (hc it List.mem_cons_self hf)
      · have : ¬ accepted upper it = true := fun ha => hf ((accepted_iff upper it).mp ha).1.1
        unfold itemOf; rw [if_neg (fun h => this h.1), if_neg (fun h => this h.1)]
    rw [List.filterMap_cons, ← hg]
    cases hi : itemOf data upper claimed it with
    | none => rw [loopOf_cons_none hi]; exact loopOf_eq_filterMap data upper rest claimed hrest hp.2
    | some t =>
      rw [loopOf_cons_some hi]
      refine congrArg (t :: ·) (loopOf_eq_filterMap data upper rest (claimed ++ [it]) (fun x hx hxf => ?_) hp.2)
      rw [overlapsAny_append, hrest x hx hxf, overlapsAny_single, hp.1 x hx (itemOf_flags hi) hxf]; rfl

theorem mem_loopOf {data : Bytes} {upper : Nat} {t : HeapTuple} :
    ∀ {items claimed : List ItemID}, t ∈ loopOf data upper items claimed →
      ∃ it ∈ items, accepted upper it = true ∧ tupleOf ((data.take (it.offset + it.length)).drop it.offset) = some t
  | [], _, h => nomatch h
  | it :: rest, claimed, h => by
    have tl : ∀ c, t ∈ loopOf data upper rest c → ∃ x ∈ it :: rest, accepted upper x = true ∧
        tupleOf ((data.take (x.offset + x.length)).drop x.offset) = some t :=
      fun c h => let ⟨x, hx, hp⟩ := mem_loopOf h; ⟨x, List.mem_cons_of_mem _ hx, hp⟩
    cases hi : itemOf data upper claimed it with
    | none => rw [loopOf_cons_none hi] at h; exact tl _ h
    | some t0 =>
      rw [loopOf_cons_some hi] at h
      rcases List.mem_cons.mp h with rfl | h
      · exact ⟨it, List.mem_cons_self, (itemOf_some hi).1, (itemOf_some hi).2.2⟩
      · exact tl _ h

/-- page.go:ParsePage as a function of the bytes -/
def pageTuples (pg : Bytes) : List HeapTuple :=
  if pg.length < 8192 ∨ validHeader (hdrOf pg) = false then []
  else loopOf pg (hdrOf pg).upper (itemsFrom pg (hdrOf pg).lower (itemCount (hdrOf pg).lower) 24) []

theorem parsePage_eq (pg : Bytes) : parsePage pg = .ok (pageTuples pg) := by
  unfold parsePage pageTuples
  by_cases hl : pg.length < 8192
  · rw [if_pos hl, if_pos (.inl hl)]; rfl
  · rw [if_neg hl, parseHeader_ok pg (by omega), ok_bind]
    cases hv : validHeader (hdrOf pg) with
    | false => rw [if_pos (by decide), if_pos (.inr rfl)]; rfl
    | true =>
      rw [if_neg (by decide), if_neg (by simp [hl]), parseItems, parseItemsLoop_eq, ok_bind]
      exact pageLoop_eq pg (by omega) _ _ _

theorem pageTuples_of_ok {pg : Bytes} {ts : List HeapTuple} (h : parsePage pg = .ok ts) : pageTuples pg = ts :=
  (Except.ok.inj ((parsePage_eq pg).symm.trans h))

theorem pageTuples_consistent {pg : Bytes} {t : HeapTuple} (ht : t ∈ pageTuples pg) : HeaderConsistent t.header := by
  unfold pageTuples at ht
  split at ht
  · cases ht
  · obtain ⟨_, _, _, h⟩ := mem_loopOf ht
    exact (tupleOf_some h).1

end PgVerif.Proofs
