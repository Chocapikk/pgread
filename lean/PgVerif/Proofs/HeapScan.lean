/-
  heap.go:ReadTuples as a list function of the whole pages of the file (`pages`, Lib/Pages.lean); only the statements about
  `readTuplesFrom` / `readTuples` speak of the fault monad.
-/
import PgVerif.Proofs.HeapPage
namespace PgVerif.Proofs
open PgVerif PgVerif.Model

def pageEntries (vis : Bool) (off : Nat) (ts : List HeapTuple) : List TupleEntry :=
  (ts.filter fun t => !vis || t.isVisible).map fun t => (⟨t, off⟩ : TupleEntry)

theorem mem_pageEntries {vis : Bool} {off : Nat} {ts : List HeapTuple} {e : TupleEntry} (h : e ∈ pageEntries vis off ts) :
    e.tuple ∈ ts ∧ e.pageOffset = off := by
  simp only [pageEntries, List.mem_map, List.mem_filter] at h
  obtain ⟨t, ⟨ht, _⟩, rfl⟩ := h
  exact ⟨ht, rfl⟩

theorem pageEntries_filter (off : Nat) (ts : List HeapTuple) :
    pageEntries true off ts = (pageEntries false off ts).filter fun e => e.tuple.isVisible := by
  simp [pageEntries, List.filter_map, Function.comp_def]

def shiftE (k : Nat) (e : TupleEntry) : TupleEntry := { e with pageOffset := e.pageOffset + k }

theorem pageEntries_shift (vis : Bool) (off k : Nat) (ts : List HeapTuple) :
    (pageEntries vis off ts).map (shiftE k) = pageEntries vis (off + k) ts := by
  simp only [pageEntries, List.map_map]; rfl

def scanFrom (vis : Bool) (off : Nat) : List Bytes → List TupleEntry
  | [] => []
  | pg :: pgs => pageEntries vis off (pageTuples pg) ++ scanFrom vis (off + 8192) pgs

def scan (vis : Bool) (d : Bytes) : List TupleEntry := scanFrom vis 0 (pages d)

theorem readTuplesFrom_succ (data : Bytes) (vis : Bool) (n off : Nat) :
    readTuplesFrom data vis (n + 1) off =
      if off + 8192 ≤ data.length then do
        let pg ← slice data off (off + 8192)
        let ts ← parsePage pg
        let rest ← readTuplesFrom data vis n (off + 8192)
        pure (pageEntries vis off ts ++ rest)
      else pure [] := rfl

theorem readTuplesFrom_eq (data : Bytes) (vis : Bool) (n off : Nat) (hn : data.length < off + 8192 * n) :
    readTuplesFrom data vis n off = .ok (scanFrom vis off (pages (data.drop off))) := by
  induction n generalizing off with
  | zero => rw [pages_drop_short (by omega)]; rfl
  | succ n ih =>
    rw [readTuplesFrom_succ]
    by_cases hc : off + 8192 ≤ data.length
    · rw [if_pos hc, slice_ok _ _ _ hc (by omega), ok_bind, parsePage_eq, ok_bind, ih _ (by omega), ok_bind,
        pages_drop_step hc, scanFrom]
      rfl
    · rw [if_neg hc, pages_drop_short (Nat.lt_of_not_le hc)]; rfl

theorem readTuples_eq (data : Bytes) (vis : Bool) : readTuples data vis = .ok (scan vis data) :=
  readTuplesFrom_eq data vis _ 0 (by omega)

theorem readTuples_total (data : Bytes) (vis : Bool) : ∃ r, readTuples data vis = .ok r := ⟨_, readTuples_eq data vis⟩

theorem scanFrom_append (vis : Bool) (off : Nat) (ps qs : List Bytes) :
    scanFrom vis off (ps ++ qs) = scanFrom vis off ps ++ scanFrom vis (off + 8192 * ps.length) qs := by
  induction ps generalizing off with
  | nil => rfl
  | cons p ps ih =>
    rw [List.cons_append, scanFrom, scanFrom, ih, List.append_assoc, List.length_cons]
    congr 3; omega

theorem scanFrom_shift (vis : Bool) (off k : Nat) (ps : List Bytes) :
    (scanFrom vis off ps).map (shiftE k) = scanFrom vis (off + k) ps := by
  induction ps generalizing off with
  | nil => rfl
  | cons p ps ih => rw [scanFrom, scanFrom, List.map_append, pageEntries_shift, ih, Nat.add_right_comm]

theorem scanFrom_filter (off : Nat) (ps : List Bytes) :
    scanFrom true off ps = (scanFrom false off ps).filter fun e => e.tuple.isVisible := by
  induction ps generalizing off with
  | nil => rfl
  | cons p ps ih => rw [scanFrom, scanFrom, List.filter_append, pageEntries_filter, ih]

theorem mem_scanFrom {vis : Bool} {off : Nat} {ps : List Bytes} {e : TupleEntry} (h : e ∈ scanFrom vis off ps) :
    ∃ pg ∈ ps, e.tuple ∈ pageTuples pg := by
  induction ps generalizing off with
  | nil => cases h
  | cons p ps ih =>
    rcases List.mem_append.mp h with h | h
    · exact ⟨p, List.mem_cons_self, (mem_pageEntries h).1⟩
    · obtain ⟨pg, hpg, ht⟩ := ih h
      exact ⟨pg, List.mem_cons_of_mem _ hpg, ht⟩

theorem scan_append (a b : Bytes) (vis : Bool) (h : a.length % 8192 = 0) :
    scan vis (a ++ b) = scan vis a ++ (scan vis b).map (shiftE a.length) := by
  unfold scan
  rw [pages_append a b h, scanFrom_append, length_pages, scanFrom_shift]
  congr 2; omega

theorem scan_filter (d : Bytes) : scan true d = (scan false d).filter fun e => e.tuple.isVisible :=
  scanFrom_filter 0 (pages d)

theorem scan_consistent {vis : Bool} {d : Bytes} {e : TupleEntry} (h : e ∈ scan vis d) : HeaderConsistent e.tuple.header :=
  let ⟨_, _, ht⟩ := mem_scanFrom h
  pageTuples_consistent ht

end PgVerif.Proofs
