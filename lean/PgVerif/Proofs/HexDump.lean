/-
  `encoding/hex.Dump` (`hexDump`, Model/CliRender.lean; FormatBinaryDump, Model/ExtraBlock.lean).  The first part stands in the
  namespace `PgVerif.Proofs.CliRender` (Proofs/CliRender.lean is not imported), the FormatBinaryDump part in
  `PgVerif.Proofs.Extra`, the namespace of the Extra* modules.
-/
import PgVerif.Proofs.TxtNumerals
import PgVerif.Model.ExtraBlock
namespace PgVerif.Proofs.CliRender
open PgVerif PgVerif.Export PgVerif.Model.CliRender

theorem hexCh_ne_sp : ∀ a : Fin 16, Txt.hexCh false a.val ≠ 32 := by decide

theorem hex2_inj (x y : UInt8) (h : hex2 x = hex2 y) : x = y := by
  have := Proofs.TxtNumerals.hexBytes_injective [x] [y] (by simpa [Txt.hexBytes, hex2] using h)
  simpa using this

theorem hexCells_length_eq (n : Nat) : ∀ a b : Bytes, (hexCells n a).length = (hexCells n b).length := by
  induction n with
  | zero => intro a b; rfl
  | succ n ih =>
    intro a b
    simp only [hexCells, List.length_append]
    rw [ih (a.drop 1) (b.drop 1)]
    cases a <;> cases b <;> simp [hex2]

theorem hexCells_inj (n : Nat) : ∀ a b : Bytes, a.length ≤ n → b.length ≤ n → hexCells n a = hexCells n b → a = b := by
  induction n with
  | zero =>
    intro a b ha hb _
    rw [List.eq_nil_of_length_eq_zero (by omega : a.length = 0), List.eq_nil_of_length_eq_zero (by omega : b.length = 0)]
  | succ n ih =>
    intro a b ha hb h
    cases a with
    | nil =>
      cases b with
      | nil => rfl
      | cons y t =>
        simp only [hexCells, hex2, List.cons_append, List.nil_append, List.cons.injEq] at h
        exact absurd h.1.symm (hexCh_ne_sp ⟨y.toNat / 16, by have := y.toNat_lt; omega⟩)
    | cons x s =>
      cases b with
      | nil =>
        simp only [hexCells, hex2, List.cons_append, List.nil_append, List.cons.injEq] at h
        exact absurd h.1 (hexCh_ne_sp ⟨x.toNat / 16, by have := x.toNat_lt; omega⟩)
      | cons y t =>
        simp only [hexCells, hex2, List.cons_append, List.nil_append, List.cons.injEq, List.drop_succ_cons, List.drop_zero,
          true_and] at h
        have hxy : x = y := hex2_inj x y (by simp only [hex2, h.1, h.2.1])
        have hrest := List.append_cancel_left h.2.2
        rw [hxy, ih s t (by simp only [List.length_cons] at ha; omega) (by simp only [List.length_cons] at hb; omega) hrest]

theorem hexDumpLine_ne (off : Nat) (c : Bytes) : hexDumpLine off c ≠ [] := by
  intro h
  have := congrArg List.length h
  simp [hexDumpLine] at this

theorem hexDumpLoop_nil (f off : Nat) (b : Bytes) (hb : b.length ≤ 16 * f) (h : hexDumpLoop f off b = []) : b = [] := by
  cases f with
  | zero => exact List.eq_nil_of_length_eq_zero (by omega)
  | succ f =>
    cases b with
    | nil => rfl
    | cons y t =>
      simp only [hexDumpLoop, List.isEmpty_cons, Bool.false_eq_true, if_false] at h
      exact absurd (List.append_eq_nil_iff.mp h).1 (hexDumpLine_ne _ _)

theorem hexDumpLoop_empty (f off : Nat) : hexDumpLoop f off [] = [] := by cases f <;> rfl

theorem hexDumpLoop_inj : ∀ (fa fb off : Nat) (a b : Bytes), a.length ≤ 16 * fa → b.length ≤ 16 * fb →
    hexDumpLoop fa off a = hexDumpLoop fb off b → a = b
  | fa, fb, off, [], b, _, hb, h => (hexDumpLoop_nil fb off b hb (by rw [← h, hexDumpLoop_empty])).symm
  | fa, fb, off, x :: s, [], ha, _, h => hexDumpLoop_nil fa off (x :: s) ha (by rw [h, hexDumpLoop_empty])
  | 0, _, _, _ :: _, _ :: _, ha, _, _ => by simp at ha
  | _ + 1, 0, _, _ :: _, _ :: _, _, hb, _ => by simp at hb
  | fa + 1, fb + 1, off, x :: s, y :: t, ha, hb, h => by
    simp only [hexDumpLoop, List.isEmpty_cons, Bool.false_eq_true, if_false, hexDumpLine, List.append_assoc] at h
    -- offset column, then the sixteen hex cells (same width on both sides), then the character column
    have h1 := List.append_cancel_left (List.append_cancel_left h)
    have h2 := List.append_inj h1 (hexCells_length_eq 16 ((x :: s).take 16) ((y :: t).take 16))
    have hc := hexCells_inj 16 _ _ (by simp [List.length_take]; omega) (by simp [List.length_take]; omega) h2.1
    have h3 := h2.2
    rw [hc] at h3
    have h4 := List.append_cancel_left (List.append_cancel_left h3)
    simp only [List.cons_append, List.nil_append, List.cons.injEq, true_and] at h4
    have ih := hexDumpLoop_inj fa fb (off + 16) ((x :: s).drop 16) ((y :: t).drop 16)
      (by simp only [List.length_drop, List.length_cons] at ha ⊢; omega)
      (by simp only [List.length_drop, List.length_cons] at hb ⊢; omega) h4
    rw [← List.take_append_drop 16 (x :: s), ← List.take_append_drop 16 (y :: t), hc, ih]

end PgVerif.Proofs.CliRender

namespace PgVerif.Proofs.Extra
open PgVerif PgVerif.Model PgVerif.Model.Extra PgVerif.Model.CliRender

theorem flatMap_range_succ {β} (g : Nat → List β) (n : Nat) :
    (List.range (n + 1)).flatMap g = g 0 ++ (List.range n).flatMap fun i => g (i + 1) := by
  rw [List.range_succ_eq_map, List.flatMap_cons, List.flatMap_map]

/-- the lines of a dump, without fuel: line `i` shows `bs[16i : 16i+16]` at offset `off + 16i` -/
def dumpLines (off : Nat) (bs : Bytes) : Bytes :=
  (List.range ((bs.length + 15) / 16)).flatMap fun i => hexDumpLine (off + 16 * i) ((bs.drop (16 * i)).take 16)

theorem dumpLines_nil (off : Nat) : dumpLines off [] = [] := by simp [dumpLines]

theorem dumpLines_step (off : Nat) (bs : Bytes) (hb : bs ≠ []) :
    dumpLines off bs = hexDumpLine off (bs.take 16) ++ dumpLines (off + 16) (bs.drop 16) := by
  have hpos : 0 < bs.length := List.length_pos_iff.2 hb
  have hd : (bs.drop 16).length = bs.length - 16 := List.length_drop
  have hlen : (bs.length + 15) / 16 = ((bs.drop 16).length + 15) / 16 + 1 := by rw [hd]; omega
  unfold dumpLines
  rw [hlen, flatMap_range_succ]
  simp only [Nat.mul_zero, Nat.add_zero, List.drop_zero]
  apply congrArg (hexDumpLine off (List.take 16 bs) ++ ·)
  apply flatMap_congr
  intro i _
  have h1 : off + 16 + 16 * i = off + 16 * (i + 1) := by omega
  have h2 : 16 + 16 * i = 16 * (i + 1) := by omega
  rw [List.drop_drop, h1, h2]

theorem hexDumpLoop_lines : ∀ (f off : Nat) (bs : Bytes), (bs.length + 15) / 16 ≤ f → hexDumpLoop f off bs = dumpLines off bs
  | 0, off, bs, h => by
    have : bs = [] := by
      cases bs with
      | nil => rfl
      | cons b t => simp only [List.length_cons] at h; omega
    subst this; rw [dumpLines_nil]; rfl
  | f + 1, off, bs, h => by
    unfold hexDumpLoop
    by_cases hb : bs = []
    · subst hb; rw [dumpLines_nil]; rfl
    · have hpos : 0 < bs.length := List.length_pos_iff.2 hb
      have hne : bs.isEmpty = false := List.isEmpty_eq_false_iff.mpr hb
      have hd : (bs.drop 16).length = bs.length - 16 := List.length_drop
      have hf : ((bs.drop 16).length + 15) / 16 ≤ f := by rw [hd]; omega
      rw [hne, hexDumpLoop_lines f (off + 16) (bs.drop 16) hf, dumpLines_step off bs hb]
      rfl

theorem formatBinaryDump_lines (data : Bytes) :
    formatBinaryDump data =
      (List.range ((data.length + 15) / 16)).flatMap fun i => hexDumpLine (16 * i) ((data.drop (16 * i)).take 16) := by
  unfold formatBinaryDump hexDump
  rw [hexDumpLoop_lines _ 0 data (by omega)]
  unfold dumpLines
  simp only [Nat.zero_add]

end PgVerif.Proofs.Extra
