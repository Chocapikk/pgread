/-
  Seven defects of pgdump/index.go at commit 48a415a (fixes/index/01 … 07; register ids A36 … A59 of DESIGN.md Appendix A, IDX1 is
  not in it): the frozen old model beside the repaired model on one Spec-encoded page each, read through `okVal` or `isFault`.
  On these closed pages `ok_bind` is applied with `rw`, not `simp`: as a definitional step the kernel would run the parser on the page.
-/
import PgVerif.Proofs.IndexMeta
import PgVerif.Proofs.IndexOrig
import PgVerif.Props.C10.Index
namespace PgVerif.Proofs.IndexDefects
open PgVerif PgVerif.Spec.Index PgVerif.Proofs.Index

def blank (op : Opaque) : Page :=
  { xlogid := 2, xrecoff := 0x3050, checksum := 0, pdflags := 0, lower := 24, upper := 8192 - op.size, psv := 8196, prune := 0,
    body := zeros (8192 - op.size - 24), op }

deriving instance Inhabited for Model.IndexOrig.PageInfo
deriving instance Inhabited for Model.Index.PageInfo

/-- a fault gives `default`, so `okVal m = v` says `m = .ok v` only where `v` is not the default: the conjuncts `= 0` of
`A57_cycle_id` and `IDX1_gin_entry_page_first` are also met by a fault; their proofs compute `.ok 0` -/
def okVal {α} [Inhabited α] : M α → α
  | .ok a => a
  | .error _ => default

def isFault {α} : M α → Bool
  | .ok _ => false
  | .error _ => true

/-- A56: a BRIN metapage is classified as gin (4) by the old code, as brin (6) by the repaired code -/
theorem A56_brin_is_gin :
    okVal (Model.IndexOrig.detectIndexType (encPage (blank (.brin 0 0 0 0xF091)))) = 4 ∧
    okVal (Model.Index.detectIndexType (encPage (blank (.brin 0 0 0 0xF091)))) = 6 := by
  have h : (blank (.brin 0 0 0 0xF091)).WF := wf_of_hdr _ (by decide) (zeros_length _)
  constructor
  · rw [orig_detect_enc _ h]; decide +kernel
  · rw [detect_enc _ h (magicOK_of_not_btree _ (by decide))]; rfl

/-- A57: on a B-tree page with cycle id 0xFF01 the old code gives "unknown" (0; see `okVal`), the repaired code btree (1) -/
theorem A57_cycle_id :
    okVal (Model.IndexOrig.detectIndexType (encPage (blank (.btree 0 0 0 1 0xFF01)))) = 0 ∧
    okVal (Model.Index.detectIndexType (encPage (blank (.btree 0 0 0 1 0xFF01)))) = 1 := by
  have h : (blank (.btree 0 0 0 1 0xFF01)).WF := wf_of_hdr _ (by decide) (zeros_length _)
  constructor
  · rw [orig_detect_enc _ h]; decide +kernel
  · rw [detect_enc _ h (magicOK_of_clear _ _ _ _ _ _ rfl (by decide))]; rfl

/-- A59: the page LSN {xlogid 2, xrecoff 0x3050} is reported as 0x3050·2^32 + 2 by the old code, as 2·2^32 + 0x3050 by the repaired code -/
theorem A59_lsn_halves :
    (okVal (Model.IndexOrig.parseIndexPage (encPage (blank (.gist 0 0 1))) 0 3)).lsn = 0x3050 * 2 ^ 32 + 2 ∧
    (okVal (Model.Index.parseIndexPage (encPage (blank (.gist 0 0 1))) 0 3)).lsn = 2 * 2 ^ 32 + 0x3050 := by
  have h : (blank (.gist 0 0 1)).WF := wf_of_hdr _ (by decide) (zeros_length _)
  have hl := encPage_length _ h
  constructor
  · unfold Model.IndexOrig.parseIndexPage
    simp only [if_neg (Nat.not_lt.mpr (Nat.le_of_eq hl.symm))]
    rw [uN_ok 8 _ 0 (by omega), uN_ok 2 _ 12 (by omega), uN_ok 2 _ 14 (by omega), uN_ok 2 _ 16 (by omega), rd_pd_special _ h,
      rd_hdr _ h 4 12 rfl rfl, rd_hdr _ h 5 14 rfl rfl]
    rw [ok_bind, ok_bind, ok_bind, ok_bind, if_pos (by decide), sliceFrom_ok _ _ (by rw [hl]; decide), encPage_drop_special _ h]
    decide +kernel
  · rw [show (3 : Nat) = code (blank (.gist 0 0 1)).op.am from rfl, parseIndexPage_enc _ h]; decide +kernel

def hashMetaPage : Page :=
  let m : Meta := .hash { magic := 0x6440640, version := 4, ntuples := 0x4059000000000000, ffactor := 307, bsize := 8152,
                          bmsize := 4096, bmshift := 15, maxbucket := 1, highmask := 3, lowmask := 1 }
  { blank (.hash 0xFFFFFFFF 0xFFFFFFFF 0xFFFFFFFF 8) with body := encMeta m ++ zeros (8152 - 36) }

/-- A58 (hash): the old code reports maxbucket 1 / highmask 3 / lowmask 1 / ffactor 307 as 0 / 1079574528 / 987136 / 1 -/
theorem A58_hash_meta :
    okVal (Model.IndexOrig.parseHashMeta (encPage hashMetaPage)) = some (.hash 0x6440640 4 534249779 0 1079574528 987136 1 0) ∧
    okVal (Model.Index.parseHashMeta (encPage hashMetaPage)) = some (.hash 0x6440640 4 2 1 3 1 307 0x4059000000000000) := by
  have h : hashMetaPage.WF := wf_of_hdr _ (by decide) (by show List.length (encMeta _ ++ zeros _) = _; rw [List.length_append, zeros_length]; rfl)
  have hl := encPage_length _ h
  have hd : ((encPage hashMetaPage).drop 24).length = 8168 := by rw [List.length_drop, hl]
  constructor
  · unfold Model.IndexOrig.parseHashMeta
    rw [if_neg (by omega), uN_ok 2 _ 16 (by omega), rd_pd_special _ h, ok_bind, if_neg (by decide), uN_ok 2 _ _ (by rw [hl]; decide),
      rd_opaque _ h rfl 3 12 _ rfl rfl rfl, ok_bind, if_neg (by decide), sliceFrom_ok _ _ (by omega), ok_bind,
      uN_ok 4 _ 0 (by omega), uN_ok 4 _ 4 (by omega), uN_ok 4 _ 16 (by omega), uN_ok 4 _ 8 (by omega), uN_ok 4 _ 12 (by omega),
      uN_ok 4 _ 20 (by omega), uN_ok 2 _ 24 (by omega), encPage_drop24]
    decide +kernel
  · rw [hashMeta_enc hashMetaPage h _ _ _ _ rfl _ _ (fun _ => ⟨by decide, rfl⟩)]; rfl

def ginMetaPage : Page :=
  let m : Meta := .gin { head := 0xFFFFFFFF, tail := 0xFFFFFFFF, tailFree := 0, nPendingPages := 0, nPendingHeapTuples := 0,
                         nTotalPages := 2, nEntryPages := 1, nDataPages := 0, pad := 0, nEntries := 0, version := 2 }
  { blank (.gin 0xFFFFFFFF 0 8) with body := encMeta m ++ zeros (8160 - 52) }

/-- A58 (gin): the old code reads every metapage field one place off (version from `head`, …) -/
theorem A58_gin_meta :
    okVal (Model.IndexOrig.parseGINMeta (encPage ginMetaPage)) = some (.gin 4294967295 4294967295 0 0 0 4294967298 0 0 0 2) ∧
    okVal (Model.Index.parseGINMeta (encPage ginMetaPage)) = some (.gin 2 4294967295 4294967295 0 0 0 2 1 0 0) := by
  have h : ginMetaPage.WF := wf_of_hdr _ (by decide) (by show List.length (encMeta _ ++ zeros _) = _; rw [List.length_append, zeros_length]; rfl)
  have hl := encPage_length _ h
  have hd : ((encPage ginMetaPage).drop 24).length = 8168 := by rw [List.length_drop, hl]
  constructor
  · unfold Model.IndexOrig.parseGINMeta
    rw [if_neg (by omega), uN_ok 2 _ 16 (by omega), rd_pd_special _ h, ok_bind, if_neg (by decide), sliceFrom_ok _ _ (by rw [hl]; decide),
      ok_bind, if_neg (by rw [List.length_drop, hl]; decide), uN_opaque _ h rfl 2 6 rfl rfl, ok_bind, if_neg (by decide),
      sliceFrom_ok _ _ (by omega), ok_bind,
      uN_ok 4 _ 0 (by omega), uN_ok 4 _ 4 (by omega), uN_ok 4 _ 8 (by omega), uN_ok 4 _ 12 (by omega), uN_ok 4 _ 16 (by omega),
      uN_ok 8 _ 24 (by omega), uN_ok 4 _ 32 (by omega), uN_ok 4 _ 36 (by omega), uN_ok 4 _ 40 (by omega), uN_ok 8 _ 48 (by omega),
      encPage_drop24]
    decide +kernel
  · rw [ginMeta_enc ginMetaPage h _ _ _ rfl _ _ (fun _ => ⟨by decide, rfl⟩)]; rfl

/-- the page of A36: a hash page (page id 0xFF80 at the end) whose pd_special is 8179 (`Gen_setSpecial` is local: no generator of
PgVerif/Gen or of the drivers has that name) -/
def a36Page : Bytes := Gen_setSpecial (encPage (blank (.hash 0 0 0 8))) 8179
where Gen_setSpecial (b : Bytes) (v : Nat) : Bytes := b.take 16 ++ le 2 v ++ b.drop 18

/-- A36: the old ParseIndexFile panics on that page, the repaired one returns -/
theorem A36_orig_parseIndexFile_faults :
    isFault (Model.IndexOrig.parseIndexFile a36Page) = true ∧ isFault (Model.Index.parseIndexFile a36Page) = false := by
  have h : (blank (.hash 0 0 0 8)).WF := wf_of_hdr _ (by decide) (zeros_length _)
  have hb := encPage_length _ h
  have hl : a36Page.length = 8192 := by
    simp only [a36Page, a36Page.Gen_setSpecial, List.length_append, List.length_take, List.length_drop, le_length, hb]; rfl
  have h16 : rd 2 (a36Page.drop 16) = 8179 := by
    rw [a36Page, a36Page.Gen_setSpecial, List.append_assoc, List.drop_left' (by rw [List.length_take, hb]; rfl)]
    exact rd_le 2 8179 _ (by decide)
  have h8190 : rd 2 (a36Page.drop 8190) = 0xFF80 := by
    rw [a36Page, a36Page.Gen_setSpecial, show 8190 = (List.take 16 (encPage (blank (.hash 0 0 0 8))) ++ le 2 8179).length + 8172 by
      rw [List.length_append, List.length_take, hb]; rfl, List.drop_length_add_append, List.drop_drop]
    exact rd_opaque _ h rfl 4 14 _ rfl rfl rfl
  have hp0 : slice a36Page 0 8192 = .ok a36Page := by
    rw [slice_ok _ _ _ (by omega) (by omega), ← hl, List.take_length]; rfl
  have hm2 : ∀ d, Model.IndexOrig.parseMeta 2 d = Model.IndexOrig.parseHashMeta d := fun _ => rfl
  constructor
  · -- detectIndexType says hash (page id), parseHashMeta then reads the flag word at 8179 + 12, one byte before the end
    unfold Model.IndexOrig.parseIndexFile
    rw [if_neg (by omega), hp0, ok_bind]
    unfold Model.IndexOrig.detectIndexType
    rw [if_neg (by omega), uN_ok 2 _ 16 (by omega), h16, ok_bind, if_neg (by decide), sliceFrom_ok _ _ (by omega), ok_bind,
      if_pos (by decide), uN_ok 2 _ 8190 (by omega), h8190, ok_bind, if_pos rfl, pure_eq_ok, ok_bind, hm2]
    unfold Model.IndexOrig.parseHashMeta
    rw [if_neg (by omega), uN_ok 2 _ 16 (by omega), h16, ok_bind, if_neg (by decide)]
    unfold uN
    rw [if_neg (by omega), if_pos (by omega)]
    rfl
  · obtain ⟨r, hr⟩ := Props.C10.Index.C10_total_parseIndexFile a36Page
    rw [hr]; rfl

/-- IDX1: on a GIN entry-tree leaf page (flags = GIN_LEAF) as block 0 the old code gives "unknown" (0; see `okVal`), the repaired
code gin (4) -/
theorem IDX1_gin_entry_page_first :
    okVal (Model.IndexOrig.detectIndexType (encPage (blank (.gin 5 0 2)))) = 0 ∧
    okVal (Model.Index.detectIndexType (encPage (blank (.gin 5 0 2)))) = 4 := by
  have h : (blank (.gin 5 0 2)).WF := wf_of_hdr _ (by decide) (zeros_length _)
  constructor
  · rw [orig_detect_enc _ h]; decide +kernel
  · rw [detect_enc _ h (magicOK_of_not_btree _ (by decide))]; rfl

end PgVerif.Proofs.IndexDefects
