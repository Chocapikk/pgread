/-
  detectIndexType on pages with one of the two real special-space sizes.  The decision table in four forms: the model's
  `detectIndexType`, `detectP` (IndexTotal: any pd_special), `detectFn` (what "no confusion" is about), the Spec's `classify`.
-/
import PgVerif.Proofs.IndexTotal
import PgVerif.Proofs.IndexEnc
namespace PgVerif.Proofs.Index
open PgVerif PgVerif.Model.Index PgVerif.Spec.Index

/-- detectIndexType for pd_special = 8176 or 8184, as a function of `pd_special`, the last 16 bytes of the page and the first word
after the page header -/
def detectFn (s : Nat) (l16 : Bytes) (magic : Nat) : Nat :=
  if rd 2 (l16.drop 14) = 0xFF80 then 2
  else if rd 2 (l16.drop 14) = 0xFF81 then 3
  else if rd 2 (l16.drop 14) = 0xFF82 then 5
  else if s = 8184 ∧ rd 2 (l16.drop 14) ≥ 0xF091 ∧ rd 2 (l16.drop 14) ≤ 0xF093 then 6
  else if s = 8176 then
    if rd 2 (l16.drop 14) ≤ BTMaxCycleID then
      if rd 2 (l16.drop 12) &&& 8 != 0 then
        if magic = 0x053162 then 1 else ginP 16 l16
      else 1
    else ginP 16 l16
  else ginP 8 (l16.drop 8)

theorem detect_fn (page : Bytes) (hl : page.length = 8192)
    (hs : rd 2 (page.drop 16) = 8176 ∨ rd 2 (page.drop 16) = 8184) :
    detectIndexType page = .ok (detectFn (rd 2 (page.drop 16)) (page.drop 8176) (rd 4 (page.drop 24))) := by
  rw [detect_eq]
  unfold detectP detectFn
  -- with pd_special known, `8192 - s` evaluates and the guards on length and size resolve; the reads of the special space
  -- become reads of the last 16 bytes by `List.drop_drop`
  rcases hs with hs | hs
  · simp [hs, hl, btreeP, List.drop_drop]
  · simp [hs, hl, btreeP, List.drop_drop]

theorem and_ff00 (x : Nat) (h : x < 256) : x &&& 0xFF00 = 0 := by
  rw [land_FF00]; omega

theorem ginP8_small (sd : Bytes) (h : rd 2 (sd.drop 6) < 256) : ginP 8 sd = 4 := by
  have hz := and_ff00 _ h
  simp [ginP, hz]

theorem detectFn_classify (s : Nat) (l16 : Bytes) (w : Nat) (am : AM) (h : classify s l16 w = some am) :
    detectFn s l16 w = code am := by
  have hg : rd 2 (l16.drop 14) < 256 → ginP 8 (l16.drop 8) = 4 := fun h3 => ginP8_small _ (by rw [List.drop_drop]; exact h3)
  unfold classify at h
  unfold detectFn
  simp only [land_bit3, BTMaxCycleID, hashPageId, gistPageId, btMaxCycleId, btMagic, spgistPageId, brinMeta, brinRevmap, brinRegular] at h ⊢
  -- the Spec's names unfolded: 0xFF80 / 0xFF81 / 0xFF82 are the hash / GiST / SP-GiST page ids, 0xFF7F the largest B-tree cycle id,
  -- 0x053162 BTREE_MAGIC, 0xF091 … 0xF093 the BRIN page types
  generalize rd 2 (l16.drop 14) = x at h hg ⊢
  generalize (rd 2 (l16.drop 12)).testBit 3 = y at h ⊢
  generalize ginP 8 (l16.drop 8) = g8 at hg ⊢
  generalize ginP 16 l16 = g16
  by_cases hs : s = 8176
  · subst hs
    rw [if_pos rfl] at h
    by_cases h1 : x = 0xFF80
    · rw [if_pos h1] at h; cases h; rw [if_pos h1]; rfl
    · rw [if_neg h1] at h
      by_cases h2 : x = 0xFF81
      · rw [if_pos h2] at h; cases h; rw [if_neg h1, if_pos h2]; rfl
      · rw [if_neg h2] at h
        by_cases h3 : x ≤ 0xFF7F ∧ (y = true → w = 0x053162)
        · rw [if_pos h3] at h; cases h
          -- a cycle id lies below the three page ids, and 8176 is not the size BRIN has
          have n3 : x ≠ 0xFF82 := by omega
          have nb : ¬ (8176 = 8184 ∧ x ≥ 0xF091 ∧ x ≤ 0xF093) := fun hb => absurd hb.1 (by decide)
          rw [if_neg h1, if_neg h2, if_neg n3, if_neg nb, if_pos rfl, if_pos h3.1]
          cases y
          · rfl
          · rw [if_pos rfl, if_pos (h3.2 rfl)]; rfl
        · rw [if_neg h3] at h; cases h
  · rw [if_neg hs] at h
    by_cases hs2 : s = 8184
    · subst hs2
      rw [if_pos rfl] at h
      -- in each case `x` is known well enough to be neither the hash nor the GiST page id
      by_cases h1 : x = 0xFF82
      · rw [if_pos h1] at h; cases h
        have nh : x ≠ 0xFF80 := by omega
        have ng : x ≠ 0xFF81 := by omega
        rw [if_neg nh, if_neg ng, if_pos h1]; rfl
      · rw [if_neg h1] at h
        by_cases h2 : x = 0xF091 ∨ x = 0xF092 ∨ x = 0xF093
        · rw [if_pos h2] at h; cases h
          have nh : x ≠ 0xFF80 := by omega
          have ng : x ≠ 0xFF81 := by omega
          rw [if_neg nh, if_neg ng, if_neg h1, if_pos ⟨rfl, by omega, by omega⟩]; rfl
        · rw [if_neg h2] at h
          by_cases h3 : x < 256
          · rw [if_pos h3] at h; cases h
            have nh : x ≠ 0xFF80 := by omega
            have ng : x ≠ 0xFF81 := by omega
            have nb : ¬ (8184 = 8184 ∧ x ≥ 0xF091 ∧ x ≤ 0xF093) := by omega
            rw [if_neg nh, if_neg ng, if_neg h1, if_neg nb, if_neg (show ¬ 8184 = 8176 by decide), hg h3]; rfl
          · rw [if_neg h3] at h; cases h
    · rw [if_neg hs2] at h; cases h

/-- a B-tree page flagged BTP_META carries BTREE_MAGIC in the first word after the page header -/
def MagicOK (p : Page) : Prop :=
  ∀ pr nx lv f c, p.op = .btree pr nx lv f c → f.testBit 3 = true → rd 4 ((encPage p).drop 24) = btMagic

theorem classify_enc (p : Page) (h : p.WF) (hm : MagicOK p) :
    classify p.special ((encPage p).drop 8176) (rd 4 ((encPage p).drop 24)) = some p.op.am := by
  have hop := h.op
  unfold classify
  simp only [List.drop_drop, Nat.reduceAdd]
  -- each case reads the last word of the page (`rd_opaque p h hp i off 8190 …`: field `i` of the opaque record, at `off` in the
  -- special space, at 8190 in the page), for B-tree also the flag word at 8188
  cases hp : p.op with
  | btree pr nx lv f c =>
    have hs : p.special = 8176 := by rw [Page.special, hp]; rfl
    rw [hp] at hop
    have hc : c ≤ 0xFF7F := hop.2.2.2.2
    have n1 : c ≠ hashPageId := by simp only [hashPageId]; omega
    have n2 : c ≠ gistPageId := by simp only [gistPageId]; omega
    rw [hs, rd_opaque p h hp 4 14 8190 rfl rfl (by omega), rd_opaque p h hp 3 12 8188 rfl rfl (by omega), if_pos rfl, if_neg n1, if_neg n2,
      if_pos ⟨hc, hm pr nx lv f c hp⟩]
    rfl
  | hash pr nx b f =>
    have hs : p.special = 8176 := by rw [Page.special, hp]; rfl
    rw [hs, rd_opaque p h hp 4 14 8190 rfl rfl (by omega), if_pos rfl, if_pos rfl]; rfl
  | gist nsn r f =>
    have hs : p.special = 8176 := by rw [Page.special, hp]; rfl
    rw [hs, rd_opaque p h hp 3 14 8190 rfl rfl (by omega), if_pos rfl, if_neg (by decide), if_pos rfl]; rfl
  | gin r m f =>
    have hs : p.special = 8184 := by rw [Page.special, hp]; rfl
    rw [hp] at hop
    have h3 : f < 256 := hop.2.2
    have n1 : f ≠ spgistPageId := by simp only [spgistPageId]; omega
    have n2 : ¬ (f = brinMeta ∨ f = brinRevmap ∨ f = brinRegular) := by simp only [brinMeta, brinRevmap, brinRegular]; omega
    rw [hs, rd_opaque p h hp 2 6 8190 rfl rfl (by omega), if_neg (by decide), if_pos rfl, if_neg n1, if_neg n2, if_pos h3]; rfl
  | spgist f a b =>
    have hs : p.special = 8184 := by rw [Page.special, hp]; rfl
    rw [hs, rd_opaque p h hp 3 6 8190 rfl rfl (by omega), if_neg (by decide), if_pos rfl, if_pos rfl]; rfl
  | brin a b f t =>
    have hs : p.special = 8184 := by rw [Page.special, hp]; rfl
    rw [hp] at hop
    have ht : t = 0xF091 ∨ t = 0xF092 ∨ t = 0xF093 := hop.2.2.2
    have n1 : t ≠ spgistPageId := by simp only [spgistPageId]; omega
    rw [hs, rd_opaque p h hp 3 6 8190 rfl rfl (by omega), if_neg (by decide), if_pos rfl, if_neg n1, if_pos ht]; rfl

theorem detect_enc (p : Page) (h : p.WF) (hm : MagicOK p) : detectIndexType (encPage p) = .ok (code p.op.am) := by
  rw [detect_fn _ (encPage_length p h) (by rw [rd_pd_special p h]; exact special_cases p), rd_pd_special p h,
    detectFn_classify _ _ _ _ (classify_enc p h hm)]

/-- zeros but for `pd_special = s` and the last 16 bytes `t`: the pages of `C18_no_confusion_converse_fails` -/
def trailerPage (s : Nat) (t : Bytes) : Bytes := zeros 16 ++ le 2 s ++ zeros 6 ++ zeros 8152 ++ t

theorem trailerPage_reads (s : Nat) (hs : s < 2 ^ 16) (t : Bytes) (ht : t.length = 16) :
    (trailerPage s t).length = 8192 ∧ rd 2 ((trailerPage s t).drop 16) = s ∧ (trailerPage s t).drop 8176 = t ∧
      rd 4 ((trailerPage s t).drop 24) = 0 := by
  unfold trailerPage
  refine ⟨?_, ?_, ?_, ?_⟩
  · simp only [List.length_append, zeros_length, le_length, ht]
  · simp only [List.append_assoc]
    rw [List.drop_left' (zeros_length 16)]
    exact rd_le 2 s _ hs
  · exact List.drop_left' (by simp only [List.length_append, zeros_length, le_length])
  · rw [List.append_assoc, List.drop_left' (by simp only [List.length_append, zeros_length, le_length]),
      rd_append_left 4 _ _ (by rw [zeros_length]; decide)]
    decide
end PgVerif.Proofs.Index
