/-
  An encoded index page as three records (header, body, special space) and the model's page parsers on it.
  Proofs/SrcTie/IndexReads.lean states the same decompositions of `encPage` / `encOpaque` independently, from the Spec alone.
-/
import PgVerif.Model.Index
import PgVerif.Basic.Lemmas
import PgVerif.Spec.Index
namespace PgVerif.Proofs.Index
open PgVerif PgVerif.Model.Index PgVerif.Spec.Index

/-! `encFields`, `offsetOf`, `read_field`, `encFields_take_length`: the record lemmas of DESIGN.md B.12 under their names; the area reads
its records through `leFields` / `FieldsAt` (`encFields` is the same term) and uses `Field` only. -/

abbrev Field := Nat × Nat            -- (width in bytes, value)
def encFields (fs : List Field) : Bytes := fs.flatMap fun f => le f.1 f.2
def offsetOf (fs : List Field) (i : Nat) : Nat := ((fs.take i).map (·.1)).sum

theorem encFields_take_length (fs : List Field) (i : Nat) : (encFields (fs.take i)).length = offsetOf fs i :=
  leFields_length (fs.take i)

theorem read_field (fs : List Field) (rest : Bytes) (i : Nat) (hi : i < fs.length)
    (hv : fs[i].2 < 256 ^ fs[i].1) :
    rd fs[i].1 ((encFields fs ++ rest).drop (offsetOf fs i)) = fs[i].2 := by
  have := ((at_zero (leFields fs) rest).field i hi).rd hv
  rwa [Nat.zero_add] at this

def hdrFields (p : Page) : List Field :=
  [(4, p.xlogid), (4, p.xrecoff), (2, p.checksum), (2, p.pdflags), (2, p.lower), (2, p.upper), (2, p.special), (2, p.psv), (4, p.prune)]

def opFields : Opaque → List Field
  | .btree p n l f c => [(4, p), (4, n), (4, l), (2, f), (2, c)]
  | .hash p n b f => [(4, p), (4, n), (4, b), (2, f), (2, hashPageId)]
  | .gist nsn r f => [(8, nsn), (4, r), (2, f), (2, gistPageId)]
  | .gin r m f => [(4, r), (2, m), (2, f)]
  | .spgist f a b => [(2, f), (2, a), (2, b), (2, spgistPageId)]
  | .brin a b f t => [(2, a), (2, b), (2, f), (2, t)]

theorem encOpaque_fields (o : Opaque) : encOpaque o = leFields (opFields o) := by
  cases o <;> simp [encOpaque, leFields, opFields]

theorem encPage_split (p : Page) : encPage p = leFields (hdrFields p) ++ (p.body ++ encOpaque p.op) := by
  simp [encPage, leFields, hdrFields, List.append_assoc]

theorem encOpaque_length (o : Opaque) : (encOpaque o).length = o.size := by
  cases o <;> simp [encOpaque, Opaque.size, Opaque.am, AM.opaqueSize]

theorem size_cases (o : Opaque) : o.size = 16 ∨ o.size = 8 := by
  unfold Opaque.size; cases o.am <;> simp [AM.opaqueSize]

theorem special_cases (p : Page) : p.special = 8176 ∨ p.special = 8184 := by
  unfold Page.special; rcases size_cases p.op with h | h <;> rw [h] <;> simp

theorem _root_.PgVerif.Spec.Index.Page.WF.op {p : Page} (h : p.WF) : p.op.WF := h.2.2.2.2.2.2.2.2.2.2

theorem _root_.PgVerif.Spec.Index.Page.WF.body_length {p : Page} (h : p.WF) : p.body.length = p.special - 24 :=
  h.2.2.2.2.2.2.2.2.2.1

theorem opFields_ok (o : Opaque) (h : o.WF) : ∀ f ∈ opFields o, f.2 < 256 ^ f.1 := by
  cases o <;> simp only [Opaque.WF] at h <;>
    simp only [opFields, hashPageId, gistPageId, spgistPageId, List.mem_cons, List.not_mem_nil, or_false, forall_eq_or_imp,
      forall_eq] <;> omega

/-- `pd_lower ≤ pd_upper ≤ pd_special < 8192` -/
theorem hdrFields_ok (p : Page) (h : p.WF) : ∀ f ∈ hdrFields p, f.2 < 256 ^ f.1 := by
  obtain ⟨_, _, _, _, _, _, _, _, _, _, _⟩ := h
  have := special_cases p
  simp only [hdrFields, List.mem_cons, List.not_mem_nil, or_false, forall_eq_or_imp, forall_eq]
  omega

/-- `Page.WF` without its clause on the length of the body: deciding `Page.WF` of a concrete page walks the 8 KiB body,
deciding this does not -/
def HdrWF (p : Page) : Prop :=
  p.xlogid < 2 ^ 32 ∧ p.xrecoff < 2 ^ 32 ∧ p.checksum < 2 ^ 16 ∧ p.pdflags < 2 ^ 16 ∧ p.psv < 2 ^ 16 ∧ p.prune < 2 ^ 32 ∧
  24 ≤ p.lower ∧ p.lower ≤ p.upper ∧ p.upper ≤ p.special ∧ p.op.WF

instance (p : Page) : Decidable (HdrWF p) := by unfold HdrWF; infer_instance

theorem wf_of_hdr (p : Page) (h : HdrWF p) (hb : p.body.length = p.special - 24) : p.WF := by
  obtain ⟨h1, h2, h3, h4, h5, h6, h7, h8, h9, hop⟩ := h
  exact ⟨h1, h2, h3, h4, h5, h6, h7, h8, h9, hb, hop⟩

theorem hdr_length (p : Page) : (leFields (hdrFields p)).length = 24 := by
  simp only [leFields_length, hdrFields, List.map, List.sum_cons, List.sum_nil, Nat.reduceAdd]

theorem encPage_length (p : Page) (h : p.WF) : (encPage p).length = 8192 := by
  rw [encPage_split, List.length_append, List.length_append, hdr_length, encOpaque_length, h.body_length]
  unfold Page.special
  rcases size_cases p.op with hs | hs <;> omega

theorem encPage_drop_special (p : Page) (h : p.WF) : (encPage p).drop p.special = encOpaque p.op := by
  rw [encPage_split, ← List.append_assoc]
  apply List.drop_left'
  rw [List.length_append, hdr_length, h.body_length]
  rcases special_cases p with hs | hs <;> omega

theorem encPage_drop24 (p : Page) : (encPage p).drop 24 = p.body ++ encOpaque p.op := by
  rw [encPage_split]; exact List.drop_left' (hdr_length p)

theorem hdr_at (p : Page) (h : p.WF) : FieldsAt (encPage p) 0 (hdrFields p) := by
  rw [encPage_split]; exact (at_zero _ _).fields (hdrFields_ok p h)

theorem opaque_at (p : Page) (h : p.WF) {o : Opaque} (hp : p.op = o) : FieldsAt ((encPage p).drop p.special) 0 (opFields o) := by
  subst hp
  rw [encPage_drop_special p h, encOpaque_fields]; exact (at_self _).fields (opFields_ok _ h.op)

theorem rd_hdr (p : Page) (h : p.WF) (i off : Nat) {w v : Nat} (hi : (hdrFields p)[i]? = some (w, v))
    (ho : ((hdrFields p).take i).foldl (fun a f => a + f.1) 0 = off) : rd w ((encPage p).drop off) = v :=
  (uN_eq_ok.1 ((hdr_at p h).get i off hi ho)).2

theorem rd_pd_special (p : Page) (h : p.WF) : rd 2 ((encPage p).drop 16) = p.special := rd_hdr p h 6 16 rfl rfl

theorem uN_opaque (p : Page) (h : p.WF) {o : Opaque} (hp : p.op = o) (i off : Nat) {w v : Nat}
    (hi : (opFields o)[i]? = some (w, v)) (ho : ((opFields o).take i).foldl (fun a f => a + f.1) 0 = off) :
    uN w ((encPage p).drop p.special) off = .ok v :=
  (opaque_at p h hp).get i off hi ho

theorem rd_opaque (p : Page) (h : p.WF) {o : Opaque} (hp : p.op = o) (i off k : Nat) {w v : Nat}
    (hi : (opFields o)[i]? = some (w, v)) (ho : ((opFields o).take i).foldl (fun a f => a + f.1) 0 = off) (hk : k = p.special + off) :
    rd w ((encPage p).drop k) = v := by
  rw [hk, ← List.drop_drop]; exact (uN_eq_ok.1 (uN_opaque p h hp i off hi ho)).2

theorem bit4 (m : Nat) : (m &&& 16 != 0) = m.testBit 4 := land_pow_ne_zero m 4
theorem bit0or7 (m : Nat) : (m &&& 129 != 0) = (m.testBit 0 || m.testBit 7) := by
  rw [← land_pow_ne_zero m 0, ← land_pow_ne_zero m 7, show (129 : Nat) = 2 ^ 0 ||| 2 ^ 7 from rfl, Nat.and_or_distrib_left,
    Bool.eq_iff_iff]
  simp only [bne_iff_ne, ne_eq, Nat.or_eq_zero_iff, Bool.or_eq_true]
  omega
theorem bit3z (m : Nat) : (m &&& 8 == 0) = !m.testBit 3 := land_shift_eq_zero m 3

/-- the Go enum value of an access method (IndexTypeBTree = 1 … IndexTypeBRIN = 6) -/
def code : AM → Nat
  | .btree => 1 | .hash => 2 | .gist => 3 | .gin => 4 | .spgist => 5 | .brin => 6

/-- what the special-space parser of the page's access method makes of the record `info` -/
def expectSpecial (info : PageInfo) : Opaque → PageInfo
  | .btree pr nx lv f _ =>
    { info with prevBlock := pr, nextBlock := nx, level := lv, flags := f, isLeaf := f.testBit 0, isRoot := f.testBit 1,
                isMeta := f.testBit 3, isDeleted := f.testBit 2, flagStrings := info.flagStrings ++ flagStrings 1 f }
  | .hash pr nx b f =>
    { info with prevBlock := pr, nextBlock := nx, flags := f, isMeta := f.testBit 3, level := if f.testBit 1 then b else info.level,
                itemCount := if f.testBit 2 then 0 else info.itemCount, flagStrings := info.flagStrings ++ flagStrings 2 f }
  | .gist _ r f =>
    { info with rightLink := r, flags := f, isLeaf := f.testBit 0, isDeleted := f.testBit 1,
                flagStrings := info.flagStrings ++ flagStrings 3 f }
  | .gin r m f =>
    { info with rightLink := r, flags := f, itemCount := if f.testBit 0 || f.testBit 7 then (m : Int) else info.itemCount,
                isLeaf := f.testBit 1, isMeta := f.testBit 3, isDeleted := f.testBit 2,
                flagStrings := info.flagStrings ++ flagStrings 4 f }
  | .spgist f _ _ =>
    { info with flags := f, isLeaf := f.testBit 2, isMeta := f.testBit 0, isDeleted := f.testBit 1,
                flagStrings := info.flagStrings ++ flagStrings 5 f }
  | .brin _ _ f t =>
    { info with flags := f, isMeta := t == 0xF091, itemCount := if t == 0xF092 then 0 else info.itemCount,
                flagStrings := info.flagStrings ++ flagStrings 6 f }

def expectPage (num : Nat) (p : Page) : PageInfo :=
  let t := code p.op.am
  let lsn := p.xlogid <<< 32 ||| p.xrecoff
  metaHasNoItems (expectSpecial
    { pageNumber := num, indexType := t, typeString := typeString t, lsn := lsn, lsnStr := formatLSN lsn,
      freeSpace := (p.upper : Int) - (p.lower : Int), itemCount := Int.tdiv ((p.lower : Int) - 24) 4 } p.op)

/-- as one record update: an `if` between two records would be copied into every projection -/
@[simp] theorem metaHasNoItems_eq (i : PageInfo) :
    metaHasNoItems i = { i with itemCount := if i.isMeta then 0 else i.itemCount } := by
  cases i with | mk _ _ _ m _ _ _ _ _ _ _ _ _ _ _ _ _ => cases m <;> rfl

theorem expectPage_type (num : Nat) (p : Page) :
    (expectPage num p).indexType = code p.op.am ∧ (expectPage num p).typeString = typeString (code p.op.am) := by
  unfold expectPage
  rw [metaHasNoItems_eq]
  cases p.op <;> exact ⟨rfl, rfl⟩

theorem special_enc (info : PageInfo) (o : Opaque) (h : o.WF) :
    (match o with
      | .btree .. => parseBTreePageSpecial | .hash .. => parseHashPageSpecial | .gist .. => parseGiSTPageSpecial
      | .gin .. => parseGINPageSpecial | .spgist .. => parseSPGiSTPageSpecial | .brin .. => parseBRINPageSpecial)
      info (encOpaque o) = .ok (expectSpecial info o) := by
  -- `u i off rfl rfl`: field `i` of the opaque record, read at offset `off`.  The length guard is `¬ (Opaque.btree …).size < 16`
  -- after `rw [hl]`, which `decide` refuses for its free variables: `show` restates it on the literal
  have u := ((at_self _).fields (opFields_ok o h)).get
  have hl := encOpaque_length o
  rw [encOpaque_fields] at hl ⊢
  cases o with
  | btree pr nx lv f c =>
    show parseBTreePageSpecial _ _ = _
    unfold parseBTreePageSpecial
    rw [if_neg (by rw [hl]; show ¬ (16 : Nat) < 16; decide), u 0 0 rfl rfl, u 1 4 rfl rfl, u 2 8 rfl rfl, u 3 12 rfl rfl]
    simp only [ok_bind, pure_eq_ok, land_bit0, land_bit1, land_bit2, land_bit3, expectSpecial]
  | hash pr nx b f =>
    show parseHashPageSpecial _ _ = _
    unfold parseHashPageSpecial
    rw [if_neg (by rw [hl]; show ¬ (16 : Nat) < 14; decide), u 0 0 rfl rfl, u 1 4 rfl rfl, u 2 8 rfl rfl, u 3 12 rfl rfl]
    simp only [ok_bind, pure_eq_ok, land_bit1, land_bit2, land_bit3, expectSpecial]
  | gist nsn r f =>
    show parseGiSTPageSpecial _ _ = _
    unfold parseGiSTPageSpecial
    rw [if_neg (by rw [hl]; show ¬ (16 : Nat) < 16; decide), u 1 8 rfl rfl, u 2 12 rfl rfl]
    simp only [ok_bind, pure_eq_ok, land_bit0, land_bit1, expectSpecial]
  | gin r m f =>
    show parseGINPageSpecial _ _ = _
    unfold parseGINPageSpecial
    rw [if_neg (by rw [hl]; show ¬ (8 : Nat) < 8; decide), u 0 0 rfl rfl, u 1 4 rfl rfl, u 2 6 rfl rfl]
    simp only [ok_bind, pure_eq_ok, land_bit1, land_bit2, land_bit3, bit0or7, expectSpecial]
  | spgist f a b =>
    show parseSPGiSTPageSpecial _ _ = _
    unfold parseSPGiSTPageSpecial
    rw [if_neg (by rw [hl]; show ¬ (8 : Nat) < 6; decide), u 0 0 rfl rfl]
    simp only [ok_bind, pure_eq_ok, land_bit0, land_bit1, land_bit2, expectSpecial]
  | brin a b f t =>
    show parseBRINPageSpecial _ _ = _
    unfold parseBRINPageSpecial
    rw [if_neg (by rw [hl]; show ¬ (8 : Nat) < 8; decide), u 2 4 rfl rfl, u 3 6 rfl rfl]
    simp only [ok_bind, pure_eq_ok, expectSpecial]

theorem parseIndexPage_enc (p : Page) (h : p.WF) (num : Nat) :
    parseIndexPage (encPage p) num (code p.op.am) = .ok (expectPage num p) := by
  have hlen := encPage_length p h
  have hsp : p.special < 8192 := by rcases special_cases p with h | h <;> omega
  have hsd := fun info => special_enc info p.op h.op
  unfold parseIndexPage
  simp only [if_neg (Nat.not_lt.mpr (Nat.le_of_eq hlen.symm))]
  have hh := hdr_at p h
  simp only [hdrFields, FieldsAt, Nat.zero_add, Nat.reduceAdd] at hh
  simp only [hh, ok_bind]
  rw [if_pos hsp, sliceFrom_ok _ _ (by omega), encPage_drop_special p h]
  -- in each case `hsd` becomes the equation of that method's parser, which is the arm `code` selects
  cases hp : p.op <;> simp only [hp] at hsd <;> simp only [code, Opaque.am, hsd, expectPage, hp, ok_bind, pure_eq_ok]

theorem fmtXFuel_eq (fuel n : Nat) (acc : List Char) : fmtXFuel fuel n acc = hexUFuel fuel n acc := by
  induction fuel generalizing n acc with
  | zero => rfl
  | succ k ih => simp only [fmtXFuel, hexUFuel, ih]; rfl

theorem fmtX_eq (n : Nat) : fmtX n = hexU n := by unfold fmtX hexU; rw [fmtXFuel_eq]

theorem formatLSN_eq (lsn : Nat) : formatLSN lsn = lsnText lsn := by
  have hm : lsn &&& 0xFFFFFFFF = lsn % 2 ^ 32 := land_mask lsn 32
  unfold formatLSN lsnText
  rw [fmtX_eq, fmtX_eq, Nat.shiftRight_eq_div_pow, hm]

theorem tdiv_items (l : Nat) (h : 24 ≤ l) : Int.tdiv ((l : Int) - 24) 4 = (((l - 24) / 4 : Nat) : Int) := by
  have e : (l : Int) - 24 = ((l - 24 : Nat) : Int) := by omega
  rw [e]; simp

/-- the model's page record read as the Spec's page view (Go `int` fields as naturals) -/
def viewOf (am : AM) (i : PageInfo) : PageView :=
  { number := i.pageNumber, am := am, flags := i.flags, isMeta := i.isMeta, isLeaf := i.isLeaf, isRoot := i.isRoot,
    isDeleted := i.isDeleted, level := i.level, prev := i.prevBlock, next := i.nextBlock, right := i.rightLink,
    itemCount := i.itemCount.toNat, freeSpace := i.freeSpace.toNat, lsn := i.lsn, lsnStr := i.lsnStr }

theorem ite_ite_same {α} {c d : Prop} [Decidable c] [Decidable d] (a x : α) :
    (if c then a else if d then a else x) = if c ∨ d then a else x := by
  by_cases hc : c <;> by_cases hd : d <;> simp [hc, hd]

/-- the one computed field: the model overwrites the line-pointer count where the page kind has no line pointers, the Spec's
`itemCountOf` decides by the same bits -/
theorem expectPage_itemCount (num : Nat) (p : Page) (h24 : 24 ≤ p.lower) :
    (expectPage num p).itemCount = (itemCountOf p : Int) := by
  have e := tdiv_items p.lower h24
  cases hp : p.op <;>
    simp [expectPage, expectSpecial, itemCountOf, linePointers, hp, e, brinMeta, brinRevmap, apply_ite (Nat.cast : Nat → Int),
      ite_ite_same]

theorem expectPage_freeSpace (num : Nat) (p : Page) : (expectPage num p).freeSpace = (p.upper : Int) - (p.lower : Int) := by
  unfold expectPage
  rw [metaHasNoItems_eq]
  cases p.op <;> rfl

theorem viewOf_expect (p : Page) (h : p.WF) (num : Nat) :
    viewOf p.op.am (expectPage num p) = pageView num p ∧ 0 ≤ (expectPage num p).itemCount ∧ 0 ≤ (expectPage num p).freeSpace := by
  obtain ⟨_, hlo, _, _, _, _, h24, hlu, _, _, _⟩ := h
  have hi := expectPage_itemCount num p h24
  have hf : (expectPage num p).freeSpace = ((p.upper - p.lower : Nat) : Int) := by rw [expectPage_freeSpace]; omega
  have hl : p.xlogid <<< 32 ||| p.xrecoff = p.xlogid * 2 ^ 32 + p.xrecoff := by
    rw [← Nat.shiftLeft_add_eq_or_of_lt hlo, Nat.shiftLeft_eq]
  refine ⟨?_, hi ▸ Int.natCast_nonneg _, hf ▸ Int.natCast_nonneg _⟩
  unfold viewOf
  rw [hi, hf, Int.toNat_natCast, Int.toNat_natCast]
  -- the other fields are copied
  cases hp : p.op <;> simp [expectPage, expectSpecial, pageView, hp, hl, formatLSN_eq, Opaque.am, Opaque.flags, brinMeta]

end PgVerif.Proofs.Index
