/-
  ParseIndexFile on an encoded well-formed index file, and the expected records read as the Spec's views.
-/
import PgVerif.Proofs.IndexMeta
namespace PgVerif.Proofs.Index
open PgVerif PgVerif.Model.Index PgVerif.Spec.Index PgVerif.Proofs

def expectPagesFrom (i : Nat) (ps : List Page) : List PageInfo := (ps.zipIdx i).map fun x => expectPage x.2 x.1

theorem expect_length (ps : List Page) (i : Nat) : (expectPagesFrom i ps).length = ps.length := by
  rw [expectPagesFrom, List.length_map, List.length_zipIdx]

theorem expect_getElem? (ps : List Page) (i k : Nat) : (expectPagesFrom i ps)[k]? = ps[k]?.map (expectPage (i + k)) := by
  rw [expectPagesFrom, List.getElem?_map, List.getElem?_zipIdx, Option.map_map]; rfl

theorem mapM_expect (am : AM) (ps : List Page) (hw : ∀ p ∈ ps, p.WF ∧ p.op.am = am) (i : Nat) (hn : i + ps.length ≤ 2 ^ 32) :
    ((ps.map encPage).zipIdx i).mapM (fun x => parseIndexPage x.1 (x.2 % 2 ^ 32) (code am)) = .ok (expectPagesFrom i ps) := by
  rw [List.zipIdx_map, List.mapM_map]
  refine mapM_eq_map _ (fun x : Page × Nat => expectPage x.2 x.1) _ fun x hx => ?_
  obtain ⟨hp, ha⟩ := hw x.1 (List.fst_mem_of_mem_zipIdx hx)
  have hk := (List.mem_zipIdx hx).2.1
  have hm : x.2 % 2 ^ 32 = x.2 := Nat.mod_eq_of_lt (by omega)
  simp only [Function.comp_apply, Prod.map_fst, Prod.map_snd, id_eq, hm]
  rw [← ha, parseIndexPage_enc x.1 hp x.2]

def expectInfo (f : File) : IndexInfo :=
  { type := code f.am, typeString := typeString (code f.am), totalPages := f.pages.length,
    metaInfo := f.metaPage.map expectMeta, levels := metaLevels (f.metaPage.map expectMeta),
    rootPage := metaRoot (f.metaPage.map expectMeta), pages := expectPagesFrom 0 f.pages }

theorem parseIndexFile_enc (f : File) (hf : f.WF) : parseIndexFile (encFile f) = .ok (some (expectInfo f)) := by
  obtain ⟨hw, hm, ht, hn⟩ := hf
  have hpg : pages (encFile f) = f.pages.map encPage :=
    pages_flatMap encPage f.pages (fun p hp => encPage_length p (hw p hp).1) f.tail ht
  have hdiv : (encFile f).length / 8192 = f.pages.length := by rw [← length_pages, hpg, List.length_map]
  cases hps : f.pages with
  | nil => unfold File.metaOK at hm; simp [hps] at hm
  | cons p0 rest =>
    obtain ⟨hpw, hpa⟩ := hw p0 (by rw [hps]; exact List.mem_cons_self)
    have h8 : 8192 ≤ (encFile f).length := by
      have : 0 < (encFile f).length / 8192 := by rw [hdiv, hps]; exact Nat.succ_pos _
      omega
    have hs0 : slice (encFile f) 0 8192 = .ok (encPage p0) := by
      have := head?_pages (encFile f)
      rw [hpg, hps, if_pos h8] at this
      rw [slice_ok _ _ _ h8 (Nat.zero_le _), List.drop_zero, ← Option.some.inj this]
    have hmeta := parseMeta_enc f p0 (by rw [hps]; rfl) hpw hpa hm
    have hdet := detect_enc p0 hpw (magicOK_of_metaOK f p0 (by rw [hps]; rfl) hpa hm)
    rw [hpa] at hdet
    unfold parseIndexFile
    rw [if_neg (by omega), hs0, ok_bind, hdet, ok_bind, hmeta, ok_bind, parsePages_all, hpg,
      mapM_expect f.am f.pages hw 0 (by omega), hdiv]
    rfl

theorem pagesViewFrom_eq (i : Nat) (ps : List Page) : pagesViewFrom i ps = (ps.zipIdx i).map fun x => pageView x.2 x.1 := by
  induction ps generalizing i with
  | nil => rfl
  | cons p ps ih => rw [pagesViewFrom, ih, List.zipIdx_cons, List.map_cons]

theorem map_expect (am : AM) (ps : List Page) (hw : ∀ p ∈ ps, p.WF ∧ p.op.am = am) (i : Nat) :
    (expectPagesFrom i ps).map (viewOf am) = pagesViewFrom i ps := by
  rw [pagesViewFrom_eq, expectPagesFrom, List.map_map]
  refine List.map_congr_left fun x hx => ?_
  obtain ⟨hp, ha⟩ := hw x.1 (List.fst_mem_of_mem_zipIdx hx)
  exact ha ▸ (viewOf_expect x.1 hp x.2).1

def metaViewOf : MetaInfo → MetaView
  | .btree a b c d e f => .btree a b c d e f
  | .hash a b c d e f g h => .hash a b c d e f g h
  | .gin a b c d e f g h i j => .gin a b c d e f g h i j

theorem expect_flagStrings (i : Nat) (p : Page) :
    (expectPage i p).flagStrings = flagStrings (code p.op.am) p.op.flags := by
  cases hp : p.op <;> simp [expectPage, expectSpecial, hp, Opaque.am, Opaque.flags, code]

/-- the statement of the flag-name property: a name is in the list iff it is the (short) name of a set bit that PostgreSQL defines
for the method; the tool's own table is not mentioned (`shortFlagName` is the Spec's `pgFlagNames`) -/
def NamesOK (am : AM) (flags : Nat) (names : List String) : Prop :=
  ∀ name, name ∈ names ↔ ∃ k, flags.testBit k = true ∧ shortFlagName am k = some name

theorem flagTable_members : ∀ am ∈ AM.all,
    TableKit.sameMembers (flagTable (code am)) ((pgFlagNames am).map fun e => (2 ^ e.1, shortName am e.2)) = true := by
  unfold shortName
  rw [Lit.toList_eq_chars]
  decide +kernel

theorem pgFlagNames_keys : ∀ am ∈ AM.all, ((pgFlagNames am).map (·.1)).Nodup ∧ ∀ e ∈ pgFlagNames am, e.1 < 16 := by decide

theorem am_mem_all (am : AM) : am ∈ AM.all := by cases am <;> decide

theorem mem_flagTable (am : AM) (e : Nat × String) :
    e ∈ flagTable (code am) ↔ ∃ e' ∈ pgFlagNames am, (2 ^ e'.1, shortName am e'.2) = e := by
  rw [TableKit.sameMembers_iff.mp (flagTable_members am (am_mem_all am)) e, List.mem_map]

theorem shortFlagName_eq_some (am : AM) (k : Nat) (name : String) :
    shortFlagName am k = some name ↔ ∃ n, (k, n) ∈ pgFlagNames am ∧ shortName am n = name := by
  rw [shortFlagName, Option.map_eq_some_iff]
  exact ⟨fun ⟨n, hl, hn⟩ => ⟨n, AssocMap.lookup_mem _ _ _ hl, hn⟩,
    fun ⟨n, hm, hn⟩ => ⟨n, AssocMap.lookup_of_mem (pgFlagNames_keys am (am_mem_all am)).1 hm, hn⟩⟩

theorem namesOK_flagStrings (am : AM) (flags : Nat) : NamesOK am flags (flagStrings (code am) flags) := by
  intro name
  simp only [flagStrings, List.mem_map, List.mem_filter, mem_flagTable, shortFlagName_eq_some]
  constructor
  · rintro ⟨_, ⟨⟨e', he', rfl⟩, hb⟩, rfl⟩
    exact ⟨e'.1, by rwa [land_pow_ne_zero] at hb, e'.2, he', rfl⟩
  · rintro ⟨k, hb, n, hn, rfl⟩
    exact ⟨_, ⟨⟨(k, n), hn, rfl⟩, by rw [land_pow_ne_zero]; exact hb⟩, rfl⟩

end PgVerif.Proofs.Index
