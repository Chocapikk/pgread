/-
  The metapage parsers (parseBTreeMeta / parseHashMeta / parseGINMeta) on encoded first pages.
-/
import PgVerif.Proofs.IndexDetect
namespace PgVerif.Proofs.Index
open PgVerif PgVerif.Model.Index PgVerif.Spec.Index

def metaFields : Meta → List Field
  | .btree m => [(4, btMagic), (4, m.version), (4, m.root), (4, m.level), (4, m.fastroot), (4, m.fastlevel)]
  | .hash m => [(4, m.magic), (4, m.version), (8, m.ntuples), (2, m.ffactor), (2, m.bsize), (2, m.bmsize), (2, m.bmshift),
                (4, m.maxbucket), (4, m.highmask), (4, m.lowmask)]
  | .gin m => [(4, m.head), (4, m.tail), (4, m.tailFree), (4, m.nPendingPages), (8, m.nPendingHeapTuples), (4, m.nTotalPages),
               (4, m.nEntryPages), (4, m.nDataPages), (4, m.pad), (8, m.nEntries), (4, m.version)]

theorem encMeta_fields (m : Meta) : encMeta m = leFields (metaFields m) := by
  cases m <;> simp [encMeta, leFields, metaFields]

def expectMeta : Meta → MetaInfo
  | .btree m => .btree btMagic m.version m.root m.level m.fastroot m.fastlevel
  | .hash m => .hash m.magic m.version ((m.maxbucket + 1) % 2 ^ 32) m.maxbucket m.highmask m.lowmask m.ffactor m.ntuples
  | .gin m => .gin m.version m.head m.tail m.tailFree m.nPendingPages m.nPendingHeapTuples m.nTotalPages m.nEntryPages
      m.nDataPages m.nEntries

theorem metaFields_ok (m : Meta) (h : m.WF) : ∀ f ∈ metaFields m, f.2 < 256 ^ f.1 := by
  -- `Meta.WF` is stricter than the widths for GIN's signed counters
  cases m <;> simp only [Meta.WF] at h <;>
    simp only [metaFields, btMagic, List.mem_cons, List.not_mem_nil, or_false, forall_eq_or_imp, forall_eq] <;> omega

theorem drop24_meta (p : Page) (m : Meta) (rest : Bytes) (hbody : p.body = encMeta m ++ rest) :
    (encPage p).drop 24 = leFields (metaFields m) ++ (rest ++ encOpaque p.op) := by
  rw [encPage_drop24, hbody, encMeta_fields, List.append_assoc]

/-- at the offsets in the page, as the closed forms of IndexTotal spell them -/
theorem meta_reads (p : Page) (m : Meta) (rest : Bytes) (hmw : m.WF) (hbody : p.body = encMeta m ++ rest) :
    FieldsAt (encPage p) 24 (metaFields m) := by
  rw [encPage_split, hbody, encMeta_fields, List.append_assoc]
  exact (at_mid _ _ _ (hdr_length p)).fields (metaFields_ok m hmw)

/-! `m` and `rest` say what the body starts with when bit 3 of the flag word is set (`hm`); when it is clear they are not looked at
and the caller passes anything.  parseBTreeMeta and parseHashMeta read the flag word as `page[special+12:]`, parseGINMeta as
`page[special:][6:]`. -/

theorem btreeMeta_enc (p : Page) (h : p.WF) (pr nx lv f c : Nat) (hp : p.op = .btree pr nx lv f c) (m : BtMeta) (rest : Bytes)
    (hm : f.testBit 3 = true → (Meta.btree m).WF ∧ p.body = encMeta (.btree m) ++ rest) :
    parseBTreeMeta (encPage p) = .ok (if f.testBit 3 then some (expectMeta (.btree m)) else none) := by
  have hs : p.special = 8176 := by rw [Page.special, hp]; rfl
  rw [parseBTreeMeta_eq, if_neg (by rw [encPage_length p h]; decide), rd_pd_special p h, if_neg (by rw [hs]; decide),
    rd_opaque p h hp 3 12 _ rfl rfl rfl, bit3z]
  cases hb : f.testBit 3
  · rfl
  · obtain ⟨hmw, hbody⟩ := hm hb
    have hf := meta_reads p _ rest hmw hbody
    simp only [metaFields, FieldsAt, uN_eq_ok, rdAt, Nat.reduceAdd] at hf
    simp only [hf]
    rfl

theorem hashMeta_enc (p : Page) (h : p.WF) (pr nx b f : Nat) (hp : p.op = .hash pr nx b f) (m : HashMeta) (rest : Bytes)
    (hm : f.testBit 3 = true → (Meta.hash m).WF ∧ p.body = encMeta (.hash m) ++ rest) :
    parseHashMeta (encPage p) = .ok (if f.testBit 3 then some (expectMeta (.hash m)) else none) := by
  have hs : p.special = 8176 := by rw [Page.special, hp]; rfl
  rw [parseHashMeta_eq, if_neg (by rw [encPage_length p h]; decide), rd_pd_special p h, if_neg (by rw [hs]; decide),
    rd_opaque p h hp 3 12 _ rfl rfl rfl, bit3z]
  cases hb : f.testBit 3
  · rfl
  · obtain ⟨hmw, hbody⟩ := hm hb
    have hf := meta_reads p _ rest hmw hbody
    simp only [metaFields, FieldsAt, uN_eq_ok, rdAt, Nat.reduceAdd] at hf
    simp only [hf]
    rfl

theorem ginMeta_enc (p : Page) (h : p.WF) (r mo f : Nat) (hp : p.op = .gin r mo f) (m : GinMeta) (rest : Bytes)
    (hm : f.testBit 3 = true → (Meta.gin m).WF ∧ p.body = encMeta (.gin m) ++ rest) :
    parseGINMeta (encPage p) = .ok (if f.testBit 3 then some (expectMeta (.gin m)) else none) := by
  have hl := encPage_length p h
  have hs : p.special = 8184 := by rw [Page.special, hp]; rfl
  rw [parseGINMeta_eq, if_neg (by rw [hl]; decide), rd_pd_special p h, if_neg (by rw [hs]; decide),
    if_neg (by rw [List.length_drop, hl, hs]; decide), rd_opaque p h hp 2 6 _ rfl rfl rfl, bit3z]
  cases hb : f.testBit 3
  · rfl
  · obtain ⟨hmw, hbody⟩ := hm hb
    have hf := meta_reads p _ rest hmw hbody
    simp only [metaFields, FieldsAt, uN_eq_ok, rdAt, Nat.reduceAdd] at hf
    simp only [hf]
    rfl

theorem magicOK_of_not_btree (p : Page) (h : p.op.am ≠ .btree) : MagicOK p := by
  intro pr nx lv f c hp _
  rw [hp] at h; exact absurd rfl h

theorem magicOK_of_clear (p : Page) (pr nx lv f c : Nat) (hp : p.op = .btree pr nx lv f c) (hb : f.testBit 3 = false) :
    MagicOK p := by
  intro pr' nx' lv' f' c' hp' hb'
  have e : f = f' := by rw [hp] at hp'; exact (Opaque.btree.inj hp').2.2.2.1
  rw [← e, hb] at hb'; exact absurd hb' (by decide)

theorem magicOK_of_body (p : Page) (m : BtMeta) (rest : Bytes) (hbody : p.body = encMeta (.btree m) ++ rest) : MagicOK p := by
  intro _ _ _ _ _ _ _
  rw [drop24_meta p _ rest hbody]
  exact ((at_zero _ _).left (x := le 4 btMagic)).rd (by decide)

theorem magicOK_of_metaOK (f : File) (p0 : Page) (hp0 : f.pages.head? = some p0) (ham : p0.op.am = f.am) (hm : f.metaOK) :
    MagicOK p0 := by
  unfold File.metaOK at hm
  rw [hp0, ← ham] at hm
  intro pr nx lv fl c hp hb
  cases hmp : f.metaPage with
  | none =>
    rw [hmp] at hm
    have hc := hm 3 (by rw [hp]; rfl)
    rw [hp, show (Opaque.btree pr nx lv fl c).flags = fl from rfl, hb] at hc
    cases hc
  | some m =>
    rw [hmp] at hm
    obtain ⟨hma, _, _, _, ⟨rest, hbody⟩⟩ := hm
    rw [hp] at hma
    cases m with
    | btree bm => exact magicOK_of_body p0 bm rest hbody.symm _ _ _ _ _ hp hb
    | hash _ => cases hma
    | gin _ => cases hma

/-- the `switch info.Type` of ParseIndexFile, on block 0 of a well-formed file -/
theorem parseMeta_enc (f : File) (p0 : Page) (hp0 : f.pages.head? = some p0) (hw : p0.WF) (ham : p0.op.am = f.am)
    (hm : f.metaOK) : parseMeta (code f.am) (encPage p0) = .ok (f.metaPage.map expectMeta) := by
  unfold File.metaOK at hm
  rw [hp0, ← ham] at hm
  rw [← ham]
  cases hmp : f.metaPage with
  | none =>
    -- the three methods with a metapage: bit 3 of the flag word is clear; the others have no metapage parser
    rw [hmp] at hm
    have clear : ∀ fl, p0.op.flags = fl → p0.op.am.metaBit = some 3 → fl.testBit 3 = false := fun _ e h3 => e ▸ hm 3 h3
    cases hp : p0.op with
    | btree pr nx lv fl c =>
      have hb := clear fl (by rw [hp]; rfl) (by rw [hp]; rfl)
      have e := btreeMeta_enc p0 hw _ _ _ _ _ hp default [] (fun hb' => by rw [hb] at hb'; cases hb')
      rwa [hb] at e
    | hash pr nx b fl =>
      have hb := clear fl (by rw [hp]; rfl) (by rw [hp]; rfl)
      have e := hashMeta_enc p0 hw _ _ _ _ hp default [] (fun hb' => by rw [hb] at hb'; cases hb')
      rwa [hb] at e
    | gin r mo fl =>
      have hb := clear fl (by rw [hp]; rfl) (by rw [hp]; rfl)
      have e := ginMeta_enc p0 hw _ _ _ hp default [] (fun hb' => by rw [hb] at hb'; cases hb')
      rwa [hb] at e
    | gist nsn r fl => rfl
    | spgist fl a b => rfl
    | brin a b fl t => rfl
  | some m =>
    rw [hmp] at hm
    obtain ⟨hma, hmw, _, hb, ⟨rest, hbody⟩⟩ := hm
    -- `hma : m.am = p0.op.am` is false for 15 of the 18 pairs (method of the page, method of the metapage) and closes them
    cases hp : p0.op <;> rw [hp] at hma hb <;> cases m <;> simp only [Meta.am, Opaque.am, reduceCtorEq] at hma
    case btree.btree pr nx lv fl c bm =>
      have e := btreeMeta_enc p0 hw _ _ _ _ _ hp bm rest (fun _ => ⟨hmw, hbody.symm⟩)
      rwa [show fl.testBit 3 = true from hb] at e
    case hash.hash pr nx b fl hmeta =>
      have e := hashMeta_enc p0 hw _ _ _ _ hp hmeta rest (fun _ => ⟨hmw, hbody.symm⟩)
      rwa [show fl.testBit 3 = true from hb] at e
    case gin.gin r mo fl gm =>
      have e := ginMeta_enc p0 hw _ _ _ hp gm rest (fun _ => ⟨hmw, hbody.symm⟩)
      rwa [show fl.testBit 3 = true from hb] at e
end PgVerif.Proofs.Index
