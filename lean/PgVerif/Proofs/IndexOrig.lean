/-
  The model of pgdump/index.go before the fixes (Model/IndexOrig.lean) on encoded pages, for Proofs/IndexDefects.lean.
-/
import PgVerif.Model.IndexOrig
import PgVerif.Proofs.IndexEnc
namespace PgVerif.Proofs.Index
open PgVerif PgVerif.Spec.Index

theorem orig_detect_enc (p : Page) (h : p.WF) :
    Model.IndexOrig.detectIndexType (encPage p) =
      (if rd 2 ((encOpaque p.op).drop (p.op.size - 2)) = 0xFF80 then pure 2
       else if rd 2 ((encOpaque p.op).drop (p.op.size - 2)) = 0xFF81 then pure 3
       else if rd 2 ((encOpaque p.op).drop (p.op.size - 2)) = 0xFF82 then pure 5
       else Model.IndexOrig.detectBTree (encPage p) p.op.size (encOpaque p.op)) := by
  have hl := encPage_length p h
  have hd := encPage_drop_special p h
  have hr := rd_pd_special p h
  have hz := size_cases p.op
  simp only [Page.special] at hd hr
  generalize p.op.size = z at *
  have e : (encPage p).drop 8190 = (encOpaque p.op).drop (z - 2) := by
    rw [show 8190 = 8192 - z + (z - 2) by omega, ← List.drop_drop, hd]
  unfold Model.IndexOrig.detectIndexType
  rw [if_neg (by omega), uN_ok 2 _ 16 (by omega), uN_ok 2 _ 8190 (by omega), hr, e]
  simp only [ok_bind]
  rw [if_neg (by omega), sliceFrom_ok _ _ (by omega), hd, show 8192 - (8192 - z) = z by omega]
  simp only [ok_bind]
  rw [if_pos (by omega)]

end PgVerif.Proofs.Index
