/-
  The parsers of pgdump/index.go on arbitrary bytes, as pure functions of the page.  Every read lies below the guard above it:
  `uN_bind` resolves it, and `omega` finds the guard in its context, where simp's congruence for `if` has put it.
-/
import PgVerif.Model.Index
import PgVerif.Basic.Lemmas
namespace PgVerif.Proofs.Index
open PgVerif PgVerif.Model.Index PgVerif.Proofs

/-- results here and in `btreeP`, `detectP`, `detectFn`: the Go enum `IndexType`, 0 unknown, 1 btree, 2 hash, 3 gist, 4 gin,
5 spgist, 6 brin (`code`) -/
def ginP (ss : Nat) (sd : Bytes) : Nat :=
  if ss ≥ 8 then
    if rd 2 (sd.drop 6) &&& 8 != 0 || rd 2 (sd.drop 6) &&& 1 != 0 || rd 2 (sd.drop 6) &&& 16 != 0 then 4
    else if ss = 8 ∧ rd 2 (sd.drop 6) &&& 0xFF00 = 0 then 4
    else 0
  else 0

theorem detectGIN_eq (ss : Nat) (sd : Bytes) (h : ss ≤ sd.length) : detectGIN ss sd = .ok (ginP ss sd) := by
  simp only [detectGIN, pure_eq_ok]
  simp (disch := omega) only [↓uN_bind, ite_ok, ginP]

def btreeP (page : Bytes) (ss : Nat) (sd : Bytes) : Nat :=
  if ss ≥ 16 then
    if rd 2 (sd.drop 14) ≤ BTMaxCycleID then
      if rd 2 (sd.drop 12) &&& 8 != 0 then
        if rd 4 (page.drop 24) = 0x053162 then 1 else ginP ss sd
      else 1
    else ginP ss sd
  else ginP ss sd

theorem detectBTree_eq (page : Bytes) (ss : Nat) (sd : Bytes) (hp : 28 ≤ page.length) (h : ss ≤ sd.length) :
    detectBTree page ss sd = .ok (btreeP page ss sd) := by
  simp only [detectBTree, pure_eq_ok]
  simp (disch := omega) only [↓uN_bind, detectGIN_eq ss sd h, ite_ok, btreeP]

def detectP (page : Bytes) : Nat :=
  if page.length < 8192 then 0
  else if rd 2 (page.drop 16) = 0 ∨ rd 2 (page.drop 16) ≥ 8192 then 0
  else if 8192 - rd 2 (page.drop 16) ≥ 2 then
    if rd 2 (page.drop 8190) = 0xFF80 then 2
    else if rd 2 (page.drop 8190) = 0xFF81 then 3
    else if rd 2 (page.drop 8190) = 0xFF82 then 5
    else if 8192 - rd 2 (page.drop 16) = 8 ∧ rd 2 (page.drop 8190) ≥ 0xF091 ∧ rd 2 (page.drop 8190) ≤ 0xF093 then 6
    else btreeP page (8192 - rd 2 (page.drop 16)) (page.drop (rd 2 (page.drop 16)))
  else btreeP page (8192 - rd 2 (page.drop 16)) (page.drop (rd 2 (page.drop 16)))

/-- guards by hand: as discharger, `omega` would split on the four `pageID ≠ …` in its context -/
theorem detect_eq (page : Bytes) : detectIndexType page = .ok (detectP page) := by
  unfold detectIndexType detectP
  by_cases hl : page.length < 8192
  · rw [if_pos hl, if_pos hl]; rfl
  · rw [if_neg hl, if_neg hl, uN_bind 2 page 16 _ (by omega)]
    by_cases hs : rd 2 (page.drop 16) = 0 ∨ rd 2 (page.drop 16) ≥ 8192
    · rw [if_pos hs, if_pos hs]; rfl
    · have hb := detectBTree_eq page (8192 - rd 2 (page.drop 16)) (page.drop (rd 2 (page.drop 16))) (by omega)
        (by rw [List.length_drop]; omega)
      rw [if_neg hs, if_neg hs, sliceFrom_bind page _ _ (by omega), uN_bind 2 page 8190 _ (by omega)]
      simp only [pure_eq_ok, hb, ite_ok]

theorem parseBTreeMeta_eq (page : Bytes) : parseBTreeMeta page = .ok (
    if page.length < 8192 then none
    else if rd 2 (page.drop 16) + 14 > 8192 then none
    else if rd 2 (page.drop (rd 2 (page.drop 16) + 12)) &&& 8 == 0 then none
    else if rd 4 (page.drop 24) != 0x053162 then none
    else some (.btree (rd 4 (page.drop 24)) (rd 4 (page.drop 28)) (rd 4 (page.drop 32)) (rd 4 (page.drop 36))
      (rd 4 (page.drop 40)) (rd 4 (page.drop 44)))) := by
  simp only [parseBTreeMeta, pure_eq_ok]
  -- for the discharger: the reads of `data = page[24:]` are bounded by the length of `page`
  have hd : (page.drop 24).length = page.length - 24 := List.length_drop
  simp (disch := omega) only [↓uN_bind, ↓sliceFrom_bind, ite_ok, List.drop_drop, Nat.reduceAdd]

theorem parseHashMeta_eq (page : Bytes) : parseHashMeta page = .ok (
    if page.length < 8192 then none
    else if rd 2 (page.drop 16) + 14 > 8192 then none
    else if rd 2 (page.drop (rd 2 (page.drop 16) + 12)) &&& 8 == 0 then none
    else some (.hash (rd 4 (page.drop 24)) (rd 4 (page.drop 28)) ((rd 4 (page.drop 48) + 1) % 2 ^ 32) (rd 4 (page.drop 48))
      (rd 4 (page.drop 52)) (rd 4 (page.drop 56)) (rd 2 (page.drop 40)) (rd 8 (page.drop 32)))) := by
  simp only [parseHashMeta, pure_eq_ok]
  have hd : (page.drop 24).length = page.length - 24 := List.length_drop
  simp (disch := omega) only [↓uN_bind, ↓sliceFrom_bind, ite_ok, List.drop_drop, Nat.reduceAdd]

theorem parseGINMeta_eq (page : Bytes) : parseGINMeta page = .ok (
    if page.length < 8192 then none
    else if rd 2 (page.drop 16) ≥ 8192 then none
    else if (page.drop (rd 2 (page.drop 16))).length < 8 then none
    else if rd 2 (page.drop (rd 2 (page.drop 16) + 6)) &&& 8 == 0 then none
    else some (.gin (rd 4 (page.drop 72)) (rd 4 (page.drop 24)) (rd 4 (page.drop 28)) (rd 4 (page.drop 32)) (rd 4 (page.drop 36))
      (rd 8 (page.drop 40)) (rd 4 (page.drop 48)) (rd 4 (page.drop 52)) (rd 4 (page.drop 56)) (rd 8 (page.drop 64)))) := by
  simp only [parseGINMeta, pure_eq_ok]
  have hd : (page.drop 24).length = page.length - 24 := List.length_drop
  simp (disch := omega) only [↓uN_bind, ↓sliceFrom_bind, ite_ok, List.drop_drop, Nat.reduceAdd]

theorem parsePagesFast_eq (t n i : Nat) (rest : Bytes) (h : n * 8192 ≤ rest.length) :
    parsePagesFast t n i rest = (((pages rest).take n).zipIdx i).mapM fun x => parseIndexPage x.1 (x.2 % 2 ^ 32) t := by
  induction n generalizing i rest with
  | zero => rfl
  | succ n ih =>
    obtain ⟨hl, hr⟩ := pages_fuel h
    have he : (rest.drop 8191).isEmpty = false := by
      rw [List.isEmpty_eq_false_iff, ← List.length_pos_iff, List.length_drop]; omega
    rw [parsePagesFast, he, pages_step hl, List.take_succ_cons, List.zipIdx_cons, List.mapM_cons, ih _ _ hr]
    rfl

theorem parsePages_eq (data : Bytes) (t n i : Nat) (h : (i + n) * 8192 ≤ data.length) :
    parsePages data t n i =
      ((((pages data).drop i).take n).zipIdx i).mapM fun x => parseIndexPage x.1 (x.2 % 2 ^ 32) t := by
  rw [parsePages_eq_impl, parsePagesImpl, parsePagesFast_eq _ _ _ _ (by
    rw [List.length_drop]; exact Nat.le_sub_of_add_le (by rw [← Nat.add_mul, Nat.add_comm n i]; exact h)), pages_drop]

theorem parsePages_all (data : Bytes) (t : Nat) :
    parsePages data t (data.length / 8192) 0 = (pages data).zipIdx.mapM fun x => parseIndexPage x.1 (x.2 % 2 ^ 32) t := by
  rw [parsePages_eq _ _ _ _ (by rw [Nat.zero_add]; exact Nat.div_mul_le_self _ _), List.drop_zero,
    List.take_of_length_le (by rw [length_pages]; exact Nat.le_refl _)]

end PgVerif.Proofs.Index
