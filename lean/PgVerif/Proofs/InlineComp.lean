/-
  The inline-compressed branch of types.go:ReadVarlena (fixes/rows/09; `Model.inlineDecompress`, shared by the models of areas rows
  and toast).  Its result has at most 255 bytes per stream byte (LZ4's densest encoding; pglz: 91), whatever va_tcinfo claims.
-/
import PgVerif.Proofs.DecompLoops
import PgVerif.Model.InlineComp
import PgVerif.Spec.Rows
namespace PgVerif.Proofs.InlineComp
open PgVerif PgVerif.Model PgVerif.Proofs PgVerif.Proofs.Toast

theorem acceptRaw_len (n : Nat) (r : Option Bytes) (d : Bytes) (h : acceptRaw n r = some d) : r = some d ∧ d.length = n := by
  cases r with
  | none => simp [acceptRaw] at h
  | some out =>
    simp only [acceptRaw] at h
    split at h
    · simp only [Option.some.injEq] at h; subst h; exact ⟨rfl, by assumption⟩
    · cases h

/-- under ReadVarlena's guards (8 ≤ total ≤ len(data)) -/
theorem inlineDecompress_eq (data : Bytes) (total : Nat) (h8 : 8 ≤ total) (hl : total ≤ data.length) :
    inlineDecompress data total =
      (if rd 4 (data.drop 4) / 2 ^ 30 = 0 then Pglz.decompressPGLZ ((data.take total).drop 8) (rd 4 (data.drop 4) % 2 ^ 30)
       else if rd 4 (data.drop 4) / 2 ^ 30 = 1 then Lz4.decompressLZ4 ((data.take total).drop 8) (rd 4 (data.drop 4) % 2 ^ 30)
       else pure none) >>= fun r => pure (acceptRaw (rd 4 (data.drop 4) % 2 ^ 30) r) := by
  unfold inlineDecompress
  rw [uN_ok 4 data 4 (by omega), slice_ok _ _ _ hl h8]
  rfl

theorem inlineDecompress_total (data : Bytes) (total : Nat) (h8 : 8 ≤ total) (hl : total ≤ data.length) :
    ∃ r, inlineDecompress data total = .ok r := by
  rw [inlineDecompress_eq data total h8 hl]
  exact tot_bind (tot_ite (fun _ => decompressPGLZ_total ..) fun _ => tot_ite (fun _ => decompressLZ4_total ..) fun _ => ⟨_, rfl⟩)
    fun _ _ => ⟨_, rfl⟩

theorem inlineDecompress_append (hdr stream rest : Bytes) (tc : Nat) (hh : hdr.length = 4) (htc : tc < 256 ^ 4) :
    inlineDecompress (hdr ++ ((le 4 tc ++ stream) ++ rest)) ((le 4 tc ++ stream).length + 4) =
      (if tc / 2 ^ 30 = 0 then Pglz.decompressPGLZ stream (tc % 2 ^ 30)
       else if tc / 2 ^ 30 = 1 then Lz4.decompressLZ4 stream (tc % 2 ^ 30)
       else pure none) >>= fun r => pure (acceptRaw (tc % 2 ^ 30) r) := by
  have h8 : (hdr ++ le 4 tc).length = 8 := by simp only [List.length_append, le_length, hh]
  have hlen : (hdr ++ ((le 4 tc ++ stream) ++ rest)).length = 8 + stream.length + rest.length := by
    simp only [List.length_append, le_length, hh]; omega
  have hd4 : (hdr ++ ((le 4 tc ++ stream) ++ rest)).drop 4 = le 4 tc ++ (stream ++ rest) := by
    rw [List.drop_left' hh, List.append_assoc]
  have hmid : ((hdr ++ ((le 4 tc ++ stream) ++ rest)).take (stream.length + 8)).drop 8 = stream := by
    rw [List.append_assoc, ← List.append_assoc hdr]
    exact PgVerif.take_drop_mid (hdr ++ le 4 tc) stream rest 8 h8
  have htot : (le 4 tc ++ stream).length + 4 = stream.length + 8 := by
    simp only [List.length_append, le_length]; omega
  rw [htot, inlineDecompress_eq _ _ (by omega) (by omega), hd4, rd_le 4 _ _ htc, hmid]

theorem inlineDecompress_enc (z : Spec.Comp) (hdr rest : Bytes) (hh : hdr.length = 4) (hz : z.WF) :
    inlineDecompress (hdr ++ (z.stored ++ rest)) (z.stored.length + 4) = .ok (some z.original) := by
  obtain ⟨h30, hwf⟩ := hz
  cases z with
  | pglz ts =>
    have hL : (Spec.Pglz.expand ts).length < 2 ^ 30 := h30
    refine (inlineDecompress_append hdr (Spec.Pglz.renderPglz ts) rest (Spec.Pglz.expand ts).length hh (by omega)).trans ?_
    rw [if_pos (Nat.div_eq_of_lt hL), Nat.mod_eq_of_lt hL, Proofs.Pglz.decompressPGLZ_render ts hwf.1 hwf.2]
    exact congrArg Except.ok (if_pos rfl)
  | lz4 b =>
    have hL : (Spec.Lz4.expand b).length < 2 ^ 30 := h30
    refine (inlineDecompress_append hdr (Spec.Lz4.render b) rest ((Spec.Lz4.expand b).length + 2 ^ 30) hh (by omega)).trans ?_
    rw [if_neg (by omega), if_pos (by omega),
      show ((Spec.Lz4.expand b).length + 2 ^ 30) % 2 ^ 30 = (Spec.Lz4.expand b).length by omega,
      Proofs.Lz4.decompressLZ4_render b hwf]
    exact congrArg Except.ok (if_pos rfl)

theorem inlineDecompress_size (data : Bytes) (total : Nat) (v : Bytes) (h8 : 8 ≤ total) (hl : total ≤ data.length)
    (h : inlineDecompress data total = .ok (some v)) : v.length ≤ 255 * (total - 8) ∧ v.length < 2 ^ 30 := by
  rw [inlineDecompress_eq data total h8 hl] at h
  have hslen : ((data.take total).drop 8).length = total - 8 := by simp; omega
  have hmod : rd 4 (data.drop 4) % 2 ^ 30 < 2 ^ 30 := Nat.mod_lt _ (by decide)
  -- `v` is what the chosen decompressor returned, and has the length va_tcinfo claims
  obtain ⟨r, hr, h⟩ := bind_eq_ok h
  obtain ⟨rfl, hlen⟩ := acceptRaw_len _ _ _ (Except.ok.inj h)
  split at hr
  · have := (Proofs.ToastSize.decompressPGLZ_bound _ _ _ hr).2
    rw [hslen] at this; omega
  · split at hr
    · have := (Proofs.ToastSize.decompressLZ4_len _ _ _ hr).2
      rw [hslen] at this; omega
    · cases hr

end PgVerif.Proofs.InlineComp
