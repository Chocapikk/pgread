/-
  C10, tuple level (for Props/C10/Isolation.lean): two pages that agree outside the storage `[a, b)` of ONE tuple, damaged in any
  way (`AgreeOutside`), give the same reads on every window that does not meet it; `loopOf` on two such pages.
-/
import PgVerif.Proofs.HeapPage
namespace PgVerif.Proofs.Isolation
open PgVerif PgVerif.Model PgVerif.Proofs

def AgreeOutside (data data' : Bytes) (a b : Nat) : Prop :=
  data'.length = data.length ∧ ∀ i, i < a ∨ b ≤ i → data'[i]? = data[i]?

theorem AgreeOutside.refl (data : Bytes) (a b : Nat) : AgreeOutside data data a b := ⟨rfl, fun _ _ => rfl⟩

theorem AgreeOutside.on {data data' : Bytes} {a b : Nat} (h : AgreeOutside data data' a b) {lo hi : Nat}
    (hd : hi ≤ a ∨ b ≤ lo) : AgreeOn data data' lo hi :=
  ⟨h.1, fun i _ _ => h.2 i (by omega)⟩

theorem parseHeader_congr {data data' : Bytes} (h : AgreeOn data data' 0 20) : parseHeader data' = parseHeader data := by
  unfold parseHeader
  rw [h.uN 2 18 (by omega) (by omega), h.uN 2 12 (by omega) (by omega), h.uN 2 14 (by omega) (by omega)]

/-- the loop reads `[off, off + 4)` for `off`, `off + 4`, … -/
theorem parseItemsLoop_congr {data data' : Bytes} {hi : Nat} (h : AgreeOn data data' 0 hi) (lower : Nat) :
    ∀ (n off : Nat), off + 4 * n ≤ hi → parseItemsLoop data' lower n off = parseItemsLoop data lower n off
  | 0, _, _ => rfl
  | n+1, off, hn => by
    simp only [parseItemsLoop]
    rw [h.1, h.uN 4 off (by omega) (by omega), parseItemsLoop_congr h lower n (off + 4) (by omega)]

theorem parseItems_congr {data data' : Bytes} (lower : Nat) (h : AgreeOn data data' 0 (24 + 4 * itemCount lower)) :
    parseItems data' lower = parseItems data lower :=
  parseItemsLoop_congr h lower _ 24 (Nat.le_refl _)

theorem itemOf_congr {data data' : Bytes} (upper : Nat) (c c' : List ItemID) (it : ItemID)
    (hw : accepted upper it = true → (data'.take (it.offset + it.length)).drop it.offset = (data.take (it.offset + it.length)).drop it.offset)
    (hov : accepted upper it = true → overlapsAny c' it = overlapsAny c it) :
    itemOf data' upper c' it = itemOf data upper c it := by
  unfold itemOf
  by_cases ha : accepted upper it = true
  · rw [hw ha, hov ha]
  · rw [if_neg (fun h => ha h.1), if_neg (fun h => ha h.1)]

theorem loopOf_congr {data data' : Bytes} (upper : Nat) :
    ∀ (items c c' : List ItemID),
      (∀ it ∈ items, accepted upper it = true →
        (data'.take (it.offset + it.length)).drop it.offset = (data.take (it.offset + it.length)).drop it.offset) →
      (∀ it ∈ items, accepted upper it = true → overlapsAny c' it = overlapsAny c it) →
      loopOf data' upper items c' = loopOf data upper items c
  | [], _, _, _, _ => rfl
  | it :: rest, c, c', hw, hov => by
    have hw' := fun x (hx : x ∈ rest) => hw x (List.mem_cons_of_mem _ hx)
    have hov' := fun x (hx : x ∈ rest) => hov x (List.mem_cons_of_mem _ hx)
    rw [loopOf, loopOf, itemOf_congr upper c c' it (hw it List.mem_cons_self) (hov it List.mem_cons_self)]
    cases itemOf data upper c it with
    | none => exact loopOf_congr upper rest c c' hw' hov'
    | some t =>
      exact congrArg (t :: ·) (loopOf_congr upper rest (c ++ [it]) (c' ++ [it]) hw' fun x hx ha => by
        rw [overlapsAny_append, overlapsAny_append, hov' x hx ha])

/-- the storage claimed after the loop has run over `items`, starting from `c` -/
def claimedOf (data : Bytes) (upper : Nat) : List ItemID → List ItemID → List ItemID
  | [], c => c
  | it :: rest, c =>
    match itemOf data upper c it with
    | some _ => claimedOf data upper rest (c ++ [it])
    | none => claimedOf data upper rest c

theorem claimedOf_congr {data data' : Bytes} (upper : Nat) :
    ∀ (items c : List ItemID),
      (∀ it ∈ items, accepted upper it = true →
        (data'.take (it.offset + it.length)).drop it.offset = (data.take (it.offset + it.length)).drop it.offset) →
      claimedOf data' upper items c = claimedOf data upper items c
  | [], _, _ => rfl
  | it :: rest, c, hw => by
    have hw' := fun x (hx : x ∈ rest) => hw x (List.mem_cons_of_mem _ hx)
    rw [claimedOf, claimedOf, itemOf_congr upper c c it (hw it List.mem_cons_self) fun _ => rfl]
    cases itemOf data upper c it with
    | none => exact claimedOf_congr upper rest c hw'
    | some t => exact claimedOf_congr upper rest _ hw'

theorem loopOf_append (data : Bytes) (upper : Nat) :
    ∀ (xs ys c : List ItemID), loopOf data upper (xs ++ ys) c =
      loopOf data upper xs c ++ loopOf data upper ys (claimedOf data upper xs c)
  | [], _, _ => rfl
  | it :: rest, ys, c => by
    rw [List.cons_append, loopOf, loopOf, claimedOf]
    cases itemOf data upper c it with
    | none => exact loopOf_append data upper rest ys c
    | some t => exact congrArg (t :: ·) (loopOf_append data upper rest ys (c ++ [it]))

/-- a pointer that no accepted pointer behind it overlaps splits the loop, whether or not it is itself claimed -/
theorem loopOf_split (data : Bytes) (upper : Nat) (pre post : List ItemID) (bad : ItemID) (c : List ItemID)
    (hdis : ∀ it ∈ post, accepted upper it = true → it.overlaps bad = false) :
    loopOf data upper (pre ++ bad :: post) c =
      loopOf data upper pre c ++ (itemOf data upper (claimedOf data upper pre c) bad).toList ++
        loopOf data upper post (claimedOf data upper pre c) := by
  rw [loopOf_append, loopOf, List.append_assoc]
  cases itemOf data upper (claimedOf data upper pre c) bad with
  | none => rfl
  | some t =>
    refine congrArg (_ ++ t :: ·) (loopOf_congr upper post _ _ (fun _ _ _ => rfl) fun it hit ha => ?_)
    rw [overlapsAny_append, overlapsAny_single, hdis it hit ha, Bool.or_false]

/-- the same on a second page whose other accepted pointers see the same bytes: only `bad`'s own entry is read from `data'` -/
theorem loopOf_split_congr {data data' : Bytes} (upper : Nat) (pre post : List ItemID) (bad : ItemID) (c : List ItemID)
    (hw : ∀ it ∈ pre ++ post, accepted upper it = true →
      (data'.take (it.offset + it.length)).drop it.offset = (data.take (it.offset + it.length)).drop it.offset)
    (hdis : ∀ it ∈ post, accepted upper it = true → it.overlaps bad = false) :
    loopOf data' upper (pre ++ bad :: post) c =
      loopOf data upper pre c ++ (itemOf data' upper (claimedOf data upper pre c) bad).toList ++
        loopOf data upper post (claimedOf data upper pre c) := by
  have hpre := fun it (hit : it ∈ pre) => hw it (List.mem_append_left _ hit)
  have hpost := fun it (hit : it ∈ post) => hw it (List.mem_append_right _ hit)
  rw [loopOf_split data' upper pre post bad c hdis, claimedOf_congr upper pre c hpre,
    loopOf_congr upper pre c c hpre fun _ _ _ => rfl, loopOf_congr upper post _ _ hpost fun _ _ _ => rfl]

end PgVerif.Proofs.Isolation
