/-
  C10, value level: a damaged value of a tuple and the columns in front of and behind it.  Damaged and undamaged data agree on
  a window (`AgreeOn`, Lib/Reads.lean): `[o, length)` behind the damage, `[0, e)` in front of it.
-/
import PgVerif.Proofs.Rows
namespace PgVerif.Proofs.Isolation
open PgVerif PgVerif.Model PgVerif.Proofs

/-- DecodeTuple's column loop with the data offset behind the last column -/
def decodeColsOff (dec : Dec) (t : HeapTuple) : List Column → Nat → Nat → M (List (Bytes × GoVal) × Nat)
  | [], _, offset => pure ([], offset)
  | col :: cs, i, offset =>
    let num : Int := if col.num = 0 then (i : Int) + 1 else col.num
    if t.isNull num then do
      let rest ← decodeColsOff dec t cs (i + 1) offset
      pure ((col.name, GoVal.nil) :: rest.1, rest.2)
    else do
      let a ← chooseAlign col t.data offset
      let off := align offset a
      let r ← readValue dec t.data off col.typid col.len
      let rest ← decodeColsOff dec t cs (i + 1) (off + r.2)
      pure ((col.name, r.1) :: rest.1, rest.2)

theorem decodeColsOff_cons (dec : Dec) (t : HeapTuple) (col : Column) (cs : List Column) (i offset : Nat) :
    decodeColsOff dec t (col :: cs) i offset =
      (do let s ← Rows.colStep dec t col (if col.num = 0 then (i : Int) + 1 else col.num) offset
          let rest ← decodeColsOff dec t cs (i + 1) s.2
          pure ((col.name, s.1) :: rest.1, rest.2)) := by
  rw [Rows.colStep_bind]; rfl

theorem decodeCols_eq (dec : Dec) (t : HeapTuple) (cs : List Column) (i offset : Nat) :
    decodeCols dec t cs i offset = (decodeColsOff dec t cs i offset).map (·.1) := by
  induction cs generalizing i offset with
  | nil => rfl
  | cons col cs ih =>
    rw [Rows.decodeCols_cons, decodeColsOff_cons]
    cases Rows.colStep dec t col (if col.num = 0 then (i : Int) + 1 else col.num) offset with
    | error e => rfl
    | ok s =>
      simp only [ok_bind]
      rw [ih]; cases decodeColsOff dec t cs (i + 1) s.2 <;> rfl

theorem decodeCols_append (dec : Dec) (t : HeapTuple) (cs₁ cs₂ : List Column) (i offset : Nat) :
    decodeCols dec t (cs₁ ++ cs₂) i offset =
      (do let r ← decodeColsOff dec t cs₁ i offset
          let rest ← decodeCols dec t cs₂ (i + cs₁.length) r.2
          pure (r.1 ++ rest)) := by
  induction cs₁ generalizing i offset with
  | nil =>
    simp only [List.nil_append, decodeColsOff, pure_eq_ok, ok_bind, List.length_nil, Nat.add_zero]
    cases decodeCols dec t cs₂ i offset <;> rfl
  | cons col cs ih =>
    rw [List.cons_append, Rows.decodeCols_cons, decodeColsOff_cons, List.length_cons,
      show i + (cs.length + 1) = i + 1 + cs.length by omega]
    cases Rows.colStep dec t col (if col.num = 0 then (i : Int) + 1 else col.num) offset with
    | error e => rfl
    | ok s =>
      simp only [ok_bind]
      rw [ih]
      cases decodeColsOff dec t cs (i + 1) s.2 with
      | error e => rfl
      | ok r =>
        simp only [ok_bind, pure_eq_ok]
        cases decodeCols dec t cs₂ (i + 1 + cs.length) r.2 <;> rfl

theorem decodeCols_append_of_ok {dec : Dec} {t : HeapTuple} {cs₁ : List Column} {ps : List (Bytes × GoVal)} {e : Nat}
    (h : decodeColsOff dec t cs₁ 0 0 = .ok (ps, e)) (cs₂ : List Column) :
    decodeCols dec t (cs₁ ++ cs₂) 0 0 = (do let rest ← decodeCols dec t cs₂ cs₁.length e; pure (ps ++ rest)) := by
  rw [decodeCols_append, h]; simp only [ok_bind, Nat.zero_add]

theorem alignAt_congr {data data' : Bytes} {lo hi : Nat} (h : AgreeOn data data' lo hi) (col : Column) (off : Nat)
    (ha : lo ≤ off) (hb : col.len = -1 ∧ off < data.length → off < hi) : Rows.alignAt col data' off = Rows.alignAt col data off := by
  unfold Rows.alignAt
  by_cases hl : col.len = -1
  · by_cases ho : off < data.length
    · rw [h.2 off ha (hb ⟨hl, ho⟩)]
    · rw [List.getElem?_eq_none (Nat.le_of_not_lt ho), List.getElem?_eq_none (by rw [h.1]; exact Nat.le_of_not_lt ho)]
  · rw [if_neg fun hc => hl hc.1, if_neg fun hc => hl hc.1]

theorem readValue_suffix (dec : Dec) {data data' : Bytes} {o : Nat} (h : AgreeOn data data' o data.length) (off : Nat)
    (ho : o ≤ off) (typid len : Int) : readValue dec data' off typid len = readValue dec data off typid len := by
  rw [Rows.readValue_eq, Rows.readValue_eq, h.1, h.drop (Nat.le_refl _) off ho]

theorem colStep_suffix (dec : Dec) (hdr : TupleHeader) (bm : Option Bytes) {data data' : Bytes} {o : Nat}
    (h : AgreeOn data data' o data.length) (col : Column) (num : Int) (off : Nat) (ho : o ≤ off) :
    Rows.colStep dec ⟨hdr, bm, data'⟩ col num off = Rows.colStep dec ⟨hdr, bm, data⟩ col num off := by
  have ha := Rows.align_ge off (Rows.alignAt col data off)
  rw [Rows.colStep_eq, Rows.colStep_eq]
  -- the NULL test does not look at the data
  show (if (⟨hdr, bm, data⟩ : HeapTuple).isNull num then _ else _) = _
  simp only [alignAt_congr h col off ho fun hc => hc.2, readValue_suffix dec h _ (Nat.le_trans ho ha)]

theorem decodeCols_suffix (dec : Dec) (hdr : TupleHeader) (bm : Option Bytes) {data data' : Bytes} {o : Nat}
    (h : AgreeOn data data' o data.length) :
    ∀ (cs : List Column) (i off : Nat), o ≤ off →
      decodeCols dec ⟨hdr, bm, data'⟩ cs i off = decodeCols dec ⟨hdr, bm, data⟩ cs i off
  | [], _, _, _ => rfl
  | col :: cs, i, off, ho => by
    rw [Rows.decodeCols_cons, Rows.decodeCols_cons, colStep_suffix dec hdr bm h col _ off ho]
    refine bind_congr_ok fun s hstep => ?_
    have := Rows.colStep_mono hstep
    rw [decodeCols_suffix dec hdr bm h cs (i + 1) s.2 (by omega)]

/-- same length, same bytes below `e`, and the byte AT `e` is 18 (VARTAG_ONDISK) in both or in neither: ReadVarlena looks at the
tag byte behind a `0x01` header even when it consumes only the header, so the first damaged byte can move the END of the column in
front of it, never its value (`C10_value_before_lookahead`, Props/C10/Isolation.lean) -/
def SameUpTo (data data' : Bytes) (e : Nat) : Prop :=
  data'.length = data.length ∧ (∀ j, j < e → data'[j]? = data[j]?) ∧ (data'[e]? = some 18 ↔ data[e]? = some 18)

theorem SameUpTo.agreeOn {data data' : Bytes} {e : Nat} (h : SameUpTo data data' e) : AgreeOn data data' 0 e :=
  ⟨h.1, fun j _ hj => h.2.1 j hj⟩

theorem SameUpTo.drop {data data' : Bytes} {e : Nat} (h : SameUpTo data data' e) (off : Nat) (ho : off ≤ e) :
    SameUpTo (data.drop off) (data'.drop off) (e - off) := by
  have hA := h.agreeOn.shift off
  refine ⟨hA.1, fun j hj => hA.2 j (by omega) hj, ?_⟩
  rw [List.getElem?_drop, List.getElem?_drop, show off + (e - off) = e by omega]
  exact h.2.2

/-- an equation between propositions, so that it rewrites the tag test inside the unfolded `varlenaOf` -/
theorem SameUpTo.tag {data data' : Bytes} {e : Nat} (h : SameUpTo data data' e) (j : Nat) (hj : j ≤ e) :
    ((data'[j]?.getD 0).toNat = 18) = ((data[j]?.getD 0).toNat = 18) := by
  have tag : ∀ o : Option UInt8, ((o.getD 0).toNat = 18) = (o = some 18) := by
    intro o; cases o <;> simp [← UInt8.toNat_inj]
  rw [tag, tag]
  rcases Nat.lt_or_eq_of_le hj with hlt | rfl
  · rw [h.2.1 j hlt]
  · exact propext h.2.2

/-- ReadVarlena depends on the length of its input, the bytes it consumes and, behind a `0x01` header, whether the next byte is 18 -/
theorem varlenaOf_prefix {R R' : Bytes} {k : Nat} (h : SameUpTo R R' k) (hk : max (Rows.varlenaOf R).2 1 ≤ k) :
    Rows.varlenaOf R' = Rows.varlenaOf R := by
  have h0 : R'[0]? = R[0]? := h.2.1 0 (by omega)
  have hA := h.agreeOn
  unfold Rows.varlenaOf at hk ⊢
  simp only [h.1, h0, h.tag 1 (by omega)] at hk ⊢
  generalize (R[0]?.getD 0).toNat = first at hk ⊢
  by_cases hl0 : R.length = 0
  · simp only [if_pos hl0]
  simp only [if_neg hl0] at hk ⊢
  by_cases hs : first % 2 = 1 ∧ first ≠ 1
  · simp only [if_pos hs] at hk ⊢
    by_cases hf : R.length < first / 2
    · simp only [if_pos hf]
    · simp only [if_neg hf] at hk ⊢
      rw [hA.take _ (by omega)]
  simp only [if_neg hs] at hk ⊢
  by_cases h1 : first = 1
  · simp only [if_pos h1]
  simp only [if_neg h1] at hk ⊢
  by_cases h4 : R.length < 4
  · simp only [if_pos h4]
  simp only [if_neg h4] at hk ⊢
  -- the length word lies inside the consumed bytes whichever way the header is judged
  have hk4 : 4 ≤ k := by
    by_cases hf : rd 4 R / 4 < 4 ∨ R.length < rd 4 R / 4
    · rw [if_pos hf] at hk; omega
    · rw [if_neg hf] at hk; omega
  have hrd : rd 4 R' = rd 4 R := hA.rd 4 0 (Nat.le_refl _) hk4
  simp only [hrd] at hk ⊢
  by_cases hf : rd 4 R / 4 < 4 ∨ R.length < rd 4 R / 4
  · simp only [if_pos hf]
  simp only [if_neg hf] at hk ⊢
  rw [hA.take _ (by omega)]
  by_cases hz : rd 4 R % 4 = 2 ∧ 8 ≤ rd 4 R / 4
  · -- the inline-compressed branch reads va_tcinfo and the stream, all inside the consumed bytes
    have hinl : inlineDecompress R' (rd 4 R / 4) = inlineDecompress R (rd 4 R / 4) := by
      unfold inlineDecompress
      rw [hA.uN 4 4 (by omega) (by omega), hA.slice 8 _ (by omega) (by omega)]
    rw [hinl]
  · simp only [if_neg hz]

theorem readCString_prefix {R R' : Bytes} {k : Nat} (h : SameUpTo R R' k) (hc : (readCString R).2 ≤ k) :
    readCString R' = readCString R := by
  unfold readCString at hc ⊢
  by_cases hl : (R.takeWhile (· != 0)).length < R.length
  · rw [if_pos hl] at hc
    simp only at hc
    have ht := takeWhile_prefix (· != 0) R R' hl (h.agreeOn.take _ hc)
    rw [ht, h.1, if_pos hl, if_pos hl]
  · rw [if_neg hl] at hc
    rw [show R' = R from h.agreeOn.drop hc 0 (Nat.le_refl 0)]

theorem snd_of_bind_pure {α β} {x : M α} {n c : β} {w : α} (h : (x >>= fun v => pure (v, n)) = .ok (w, c)) : c = n := by
  obtain ⟨_, -, h⟩ := map_eq_ok h
  exact (Prod.mk.inj h).2.symm

theorem varlena_consumed {dec : Dec} {R : Bytes} {typid : Int} {v : GoVal} {c : Nat}
    (hr : (match (Rows.varlenaOf R).1 with
      | none => (.ok (GoVal.nil, max (Rows.varlenaOf R).2 1) : M (GoVal × Nat))
      | some val => varlenaVal dec val typid >>= fun v => pure (v, (Rows.varlenaOf R).2)) = .ok (v, c)) :
    c = max (Rows.varlenaOf R).2 1 := by
  cases hx : (Rows.varlenaOf R).1 with
  | none => rw [hx] at hr; exact (Prod.mk.inj (Except.ok.inj hr)).2.symm
  | some val =>
    rw [hx] at hr
    have := (Rows.varlenaOf_some (Prod.ext hx rfl : Rows.varlenaOf R = (some val, (Rows.varlenaOf R).2))).2
    rw [snd_of_bind_pure hr]
    rcases this with ⟨k, _, _, _⟩ | ⟨_, _⟩ <;> omega

theorem readValue_prefix (dec : Dec) {data data' : Bytes} {e : Nat} (h : SameUpTo data data' e) (off : Nat)
    (typid len : Int) (v : GoVal) (c : Nat) (hr : readValue dec data off typid len = .ok (v, c)) (hc : off + c ≤ e) :
    readValue dec data' off typid len = .ok (v, c) := by
  have hR := h.drop off (by omega)
  rw [Rows.readValue_eq] at hr ⊢
  rw [h.1, hR.1]
  by_cases ho : data.length ≤ off
  · rw [if_pos ho] at hr ⊢; exact hr
  rw [if_neg ho] at hr ⊢
  by_cases hp : 0 < len
  · rw [if_pos hp] at hr ⊢
    by_cases hs : ((data.drop off).length : Int) < len
    · rw [if_pos hs] at hr ⊢; exact hr
    · rw [if_neg hs] at hr ⊢
      have := snd_of_bind_pure hr
      rw [hR.agreeOn.take len.toNat (by omega)]; exact hr
  rw [if_neg hp] at hr ⊢
  by_cases hm : len = -1
  · rw [if_pos hm] at hr ⊢
    have := varlena_consumed hr
    rw [varlenaOf_prefix hR (by omega)]; exact hr
  · rw [if_neg hm] at hr ⊢
    have hc' : (readCString (data.drop off)).2 ≤ e - off := by
      rw [Except.ok.inj hr]; simp only; omega
    rw [readCString_prefix hR hc', hr]

theorem readValue_varlena_pos (dec : Dec) (data : Bytes) (off : Nat) (typid : Int) (v : GoVal) (c : Nat)
    (ho : off < data.length) (hr : readValue dec data off typid (-1) = .ok (v, c)) : 1 ≤ c := by
  rw [Rows.readValue_eq, if_neg (by omega), if_neg (by omega), if_pos rfl] at hr
  have := varlena_consumed hr
  omega

theorem decodeColsOff_mono (dec : Dec) (t : HeapTuple) : ∀ (cs : List Column) (i off : Nat) (ps : List (Bytes × GoVal)) (e : Nat),
    decodeColsOff dec t cs i off = .ok (ps, e) → off ≤ e
  | [], _, off, ps, e, hr => by
    obtain rfl := (Prod.mk.inj (Except.ok.inj hr)).2
    exact Nat.le_refl _
  | col :: cs, i, off, ps, e, hr => by
    rw [decodeColsOff_cons] at hr
    obtain ⟨s, hs, hr⟩ := bind_eq_ok hr
    obtain ⟨rest, hrest, hr⟩ := bind_eq_ok hr
    obtain rfl := (Prod.mk.inj (Except.ok.inj hr)).2
    have := decodeColsOff_mono dec t cs (i + 1) _ rest.1 rest.2 hrest
    have := Rows.colStep_mono hs
    omega

theorem colStep_prefix (dec : Dec) (hdr : TupleHeader) (bm : Option Bytes) {data data' : Bytes} {e : Nat}
    (h : SameUpTo data data' e) (col : Column) (num : Int) (off : Nat) (s : GoVal × Nat)
    (hr : Rows.colStep dec ⟨hdr, bm, data⟩ col num off = .ok s) (he : s.2 ≤ e) :
    Rows.colStep dec ⟨hdr, bm, data'⟩ col num off = .ok s := by
  have hnull : (⟨hdr, bm, data'⟩ : HeapTuple).isNull num = (⟨hdr, bm, data⟩ : HeapTuple).isNull num := rfl
  rw [Rows.colStep_eq] at hr ⊢
  rw [hnull]
  by_cases hn : (⟨hdr, bm, data⟩ : HeapTuple).isNull num = true
  · rw [if_pos hn] at hr ⊢; exact hr
  · rw [if_neg hn] at hr ⊢
    generalize ha : Rows.alignAt col data off = a at hr
    obtain ⟨r, hv, hr⟩ := bind_eq_ok hr
    obtain rfl := Except.ok.inj hr
    have hge := Rows.align_ge off a
    -- the byte chooseAlign looks at lies inside this column's own storage
    have hlook : col.len = -1 ∧ off < data.length → off < e := by
      intro ⟨hl, hlt⟩
      by_cases hlt2 : off < align off a
      · simp only at he; omega
      · have heq : align off a = off := by omega
        rw [heq, hl] at hv
        have := readValue_varlena_pos dec data off col.typid r.1 r.2 hlt hv
        simp only at he; omega
    show (readValue dec data' _ _ _ >>= _) = _
    rw [alignAt_congr h.agreeOn col off (Nat.zero_le _) hlook, ha,
      readValue_prefix dec h (align off a) col.typid col.len r.1 r.2 hv (by simp only at he; omega)]
    rfl

theorem decodeColsOff_prefix (dec : Dec) (hdr : TupleHeader) (bm : Option Bytes) {data data' : Bytes} {e : Nat}
    (h : SameUpTo data data' e) : ∀ (cs : List Column) (i off : Nat) (ps : List (Bytes × GoVal)) (e' : Nat),
    decodeColsOff dec ⟨hdr, bm, data⟩ cs i off = .ok (ps, e') → e' ≤ e →
    decodeColsOff dec ⟨hdr, bm, data'⟩ cs i off = .ok (ps, e')
  | [], _, off, ps, e', hr, _ => hr
  | col :: cs, i, off, ps, e', hr, he => by
    rw [decodeColsOff_cons] at hr ⊢
    obtain ⟨s, hs, hr⟩ := bind_eq_ok hr
    obtain ⟨rest, hrest, hr⟩ := bind_eq_ok hr
    have he' : rest.2 = e' := (Prod.mk.inj (Except.ok.inj hr)).2
    have hmono := decodeColsOff_mono dec ⟨hdr, bm, data⟩ cs (i + 1) _ rest.1 rest.2 hrest
    rw [colStep_prefix dec hdr bm h col _ off s hs (by omega), ok_bind,
      decodeColsOff_prefix dec hdr bm h cs (i + 1) _ rest.1 rest.2 hrest (by omega)]
    exact hr

end PgVerif.Proofs.Isolation
