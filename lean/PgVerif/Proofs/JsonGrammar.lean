/-
  The RFC 8259 parser of Spec/ExportJson on its own: the grammar it accepts as a relation (`Reads`); the parser finds every
  derivation, and a derivation is longer than the fuel it needs.  A renderer is read back as soon as its text derives its value.
-/
import PgVerif.Spec.ExportJson
namespace PgVerif.Proofs.JsonGrammar
open PgVerif PgVerif.Spec.Json

def AllWs (w : Bytes) : Prop := ∀ c ∈ w, isWs c = true

theorem AllWs.append {a b : Bytes} (ha : AllWs a) (hb : AllWs b) : AllWs (a ++ b) := fun c hc =>
  (List.mem_append.mp hc).elim (ha c) (hb c)

theorem skipWs_nonws (c : UInt8) (t : Bytes) (h : isWs c = false) : skipWs (c :: t) = c :: t := by
  simp [skipWs, h]

theorem skipWs_allWs (w bs : Bytes) (h : AllWs w) : skipWs (w ++ bs) = skipWs bs := by
  induction w with
  | nil => rfl
  | cons c w ih =>
    simp only [List.cons_append, skipWs, h c (by simp), if_true]
    exact ih (fun d hd => h d (by simp [hd]))

theorem map_some_length {t : Bytes} {g : Bytes × Bytes → Bytes} {s rest : Bytes}
    (ih : ∀ s rest, scanStr t = some (s, rest) → rest.length < t.length)
    (h : ((scanStr t).map fun r => (g r, r.2)) = some (s, rest)) : rest.length < t.length := by
  cases hs : scanStr t with
  | none => simp [hs] at h
  | some r =>
    simp only [hs, Option.map_some, Option.some.injEq, Prod.mk.injEq] at h
    exact h.2 ▸ ih r.1 r.2 hs

theorem scanStr_length (t : Bytes) : ∀ s rest, scanStr t = some (s, rest) → rest.length < t.length := by
  fun_induction scanStr t <;> intro s rest h
  case case2 => cases h; exact Nat.lt_succ_self _
  -- the four branches that go on: a surrogate pair, one `\uXXXX`, a two-character escape, a plain byte
  case case4 ih | case9 ih | case10 ih | case14 ih =>
    have := map_some_length ih h
    simp only [List.length_cons]; omega
  all_goals cases h

/-! fuel: one unit per nesting level and per list position -/
mutual
def depth : J → Nat
  | .arr xs => 1 + depthList xs
  | .obj kvs => 1 + depthKvs kvs
  | _ => 1
def depthList : List J → Nat
  | [] => 0
  | x :: xs => 1 + max (depth x) (depthList xs)
def depthKvs : List (Bytes × J) → Nat
  | [] => 0
  | (_, v) :: rest => 1 + max (depth v) (depthKvs rest)
end

theorem depth_pos (j : J) : 0 < depth j := by cases j <;> simp only [depth] <;> omega

mutual
/-- `Reads bs j rest`: `bs` is a text of `j` followed by `rest` -/
inductive Reads : Bytes → J → Bytes → Prop
  | null {rest} : Reads (110 :: 117 :: 108 :: 108 :: rest) .null rest
  | tt {rest} : Reads (116 :: 114 :: 117 :: 101 :: rest) (.bool true) rest
  | ff {rest} : Reads (102 :: 97 :: 108 :: 115 :: 101 :: rest) (.bool false) rest
  | str {t s rest} : scanStr t = some (s, rest) → Reads (34 :: t) (.str s) rest
  | num {c t rest} : c = 45 ∨ isDigit c = true → scanNum (c :: t ++ rest) = some (c :: t, rest) →
      Reads (c :: t ++ rest) (.num (c :: t)) rest
  | arrNil {w rest} : AllWs w → Reads (91 :: (w ++ 93 :: rest)) (.arr []) rest
  | arr {w t js rest} : AllWs w → Elems t js rest → Reads (91 :: (w ++ t)) (.arr js) rest
  | objNil {w rest} : AllWs w → Reads (123 :: (w ++ 125 :: rest)) (.obj []) rest
  | obj {w t kjs rest} : AllWs w → Members t kjs rest → Reads (123 :: (w ++ t)) (.obj kjs) rest
/-- one or more values separated by commas, and the closing bracket -/
inductive Elems : Bytes → List J → Bytes → Prop
  | last {t j w rest} : Reads t j (w ++ 93 :: rest) → AllWs w → Elems t [j] rest
  | more {t j w w' m js rest} : Reads t j (w ++ 44 :: (w' ++ m)) → AllWs w → AllWs w' → Elems m js rest →
      Elems t (j :: js) rest
/-- one or more `"key" : value` members separated by commas, and the closing brace -/
inductive Members : Bytes → List (Bytes × J) → Bytes → Prop
  | last {t k w0 w1 vt j w rest} : scanStr t = some (k, w0 ++ 58 :: (w1 ++ vt)) →
      AllWs w0 → AllWs w1 → Reads vt j (w ++ 125 :: rest) → AllWs w → Members (34 :: t) [(k, j)] rest
  | more {t k w0 w1 vt j w w' m kjs rest} : scanStr t = some (k, w0 ++ 58 :: (w1 ++ vt)) →
      AllWs w0 → AllWs w1 → Reads vt j (w ++ 44 :: (w' ++ m)) → AllWs w → AllWs w' → Members m kjs rest →
      Members (34 :: t) ((k, j) :: kjs) rest
end

theorem Reads.numText {text rest : Bytes} (hh : ∃ c t, text = c :: t ∧ (c = 45 ∨ isDigit c = true))
    (hscan : scanNum (text ++ rest) = some (text, rest)) : Reads (text ++ rest) (.num text) rest := by
  obtain ⟨c, t, rfl, hc⟩ := hh
  exact .num hc hscan

theorem parseV_congr (f : Nat) (a b : Bytes) (h : skipWs a = skipWs b) : parseV f a = parseV f b := by
  cases f with
  | zero => simp [parseV]
  | succ f => simp only [parseV, h]

theorem parseElems_congr (f : Nat) (a b : Bytes) (h : skipWs a = skipWs b) : parseElems f a = parseElems f b := by
  cases f with
  | zero => simp [parseElems]
  | succ f => simp only [parseElems, parseV_congr f a b h]

theorem parseMembers_congr (f : Nat) (a b : Bytes) (h : skipWs a = skipWs b) : parseMembers f a = parseMembers f b := by
  cases f with
  | zero => simp [parseMembers]
  | succ f => simp only [parseMembers, h]

theorem digit_or_minus_facts (c : UInt8) (hc : c = 45 ∨ isDigit c = true) :
    isWs c = false ∧ c ≠ 110 ∧ c ≠ 116 ∧ c ≠ 102 ∧ c ≠ 34 ∧ c ≠ 91 ∧ c ≠ 123 := by
  rcases hc with h | h
  · subst h; decide
  · simp only [isDigit, isWs, Bool.and_eq_true, decide_eq_true_eq, UInt8.le_iff_toNat_le, Bool.or_eq_false_iff,
      beq_eq_false_iff_ne, ne_eq, ← UInt8.toNat_inj, UInt8.toNat_ofNat] at h ⊢
    omega

theorem parseV_num (f : Nat) (c : UInt8) (t : Bytes) (hc : c = 45 ∨ isDigit c = true) :
    parseV (f + 1) (c :: t) = (scanNum (c :: t)).map fun r => (.num r.1, r.2) := by
  obtain ⟨hws, h110, h116, h102, h34, h91, h123⟩ := digit_or_minus_facts c hc
  simp only [parseV, skipWs_nonws c _ hws, h110, h116, h102, h34, h91, h123, if_false, hc, if_true]

theorem parseV_lbrack (f : Nat) (t : Bytes) : parseV (f + 1) (91 :: t) =
    match skipWs t with
    | 93 :: t' => some (.arr [], t')
    | _ => (parseElems f t).map fun r => (.arr r.1, r.2) := rfl

theorem parseV_lbrace (f : Nat) (t : Bytes) : parseV (f + 1) (123 :: t) =
    match skipWs t with
    | 125 :: t' => some (.obj [], t')
    | _ => (parseMembers f t).map fun r => (.obj r.1, r.2) := rfl

/-- no value starts with `]` -/
theorem parseV_ne93 (f : Nat) (bs t' : Bytes) (r : J × Bytes) (h : parseV f bs = some r) : skipWs bs ≠ 93 :: t' := by
  intro e
  cases f with
  | zero => simp [parseV] at h
  | succ f => simp [parseV, e, isDigit] at h

theorem parseV_arr (f : Nat) (w body : Bytes) (js : List J) (rest : Bytes) (hw : AllWs w)
    (h : parseElems f body = some (js, rest)) : parseV (f + 1) (91 :: (w ++ body)) = some (.arr js, rest) := by
  have h93 : ∀ t', skipWs body ≠ 93 :: t' := by
    intro t'
    cases f with
    | zero => simp [parseElems] at h
    | succ f =>
      cases hv : parseV f body with
      | none => simp [parseElems, hv] at h
      | some r => exact parseV_ne93 f body t' r hv
  rw [parseV_lbrack, skipWs_allWs _ _ hw]
  split
  · rename_i heq; exact absurd heq (h93 _)
  · rw [parseElems_congr f _ _ (skipWs_allWs _ _ hw), h]; rfl

theorem parseV_obj (f : Nat) (w body : Bytes) (kjs : List (Bytes × J)) (rest : Bytes) (hw : AllWs w)
    (h : parseMembers f body = some (kjs, rest)) : parseV (f + 1) (123 :: (w ++ body)) = some (.obj kjs, rest) := by
  have h125 : ∀ t', skipWs body ≠ 125 :: t' := by
    intro t' e
    cases f with
    | zero => simp [parseMembers] at h
    | succ f => simp [parseMembers, e] at h
  rw [parseV_lbrace, skipWs_allWs _ _ hw]
  split
  · rename_i heq; exact absurd heq (h125 _)
  · rw [parseMembers_congr f _ _ (skipWs_allWs _ _ hw), h]; rfl

/-! applied to a bound on `depth (.arr js)` or `depthList (j :: js)`, unification unfolds the definition -/
theorem le_of_one_add {a f : Nat} (h : 1 + a ≤ f + 1) : a ≤ f := by omega
theorem le_of_max_left {a b f : Nat} (h : 1 + max a b ≤ f + 1) : a ≤ f := by omega
theorem le_of_max_right {a b f : Nat} (h : 1 + max a b ≤ f + 1) : b ≤ f := by omega

mutual
theorem Reads.parse : ∀ {bs : Bytes} {j : J} {rest : Bytes}, Reads bs j rest → ∀ f, depth j ≤ f →
    parseV f bs = some (j, rest)
  | _, _, _, .null, f + 1, _ => rfl
  | _, _, _, .tt, f + 1, _ => rfl
  | _, _, _, .ff, f + 1, _ => rfl
  | _, _, _, .str hs, f + 1, _ => by simp [parseV, skipWs, isWs, hs]
  | _, _, _, .num (c := c) hc hs, f + 1, _ => by
    simp only [List.cons_append] at hs ⊢
    rw [parseV_num f c _ hc, hs]; rfl
  | _, _, _, .arrNil hw, f + 1, _ => by
    rw [parseV_lbrack, skipWs_allWs _ _ hw, skipWs_nonws 93 _ (by decide)]; rfl
  | _, _, _, .arr hw he, f + 1, hf => parseV_arr f _ _ _ _ hw (he.parse f (le_of_one_add hf))
  | _, _, _, .objNil hw, f + 1, _ => by
    rw [parseV_lbrace, skipWs_allWs _ _ hw, skipWs_nonws 125 _ (by decide)]; rfl
  | _, _, _, .obj hw hm, f + 1, hf => parseV_obj f _ _ _ _ hw (hm.parse f (le_of_one_add hf))
  | _, j, _, _, 0, hf => absurd (depth_pos j) (by omega)
theorem Elems.parse : ∀ {bs : Bytes} {js : List J} {rest : Bytes}, Elems bs js rest → ∀ f, depthList js ≤ f →
    parseElems f bs = some (js, rest)
  | _, _, _, .last hv hw, f + 1, hf => by
    simp only [parseElems, hv.parse f (le_of_max_left hf), skipWs_allWs _ _ hw, skipWs_nonws 93 _ (by decide)]
  | _, _, _, .more hv hw hw' he, f + 1, hf => by
    simp only [parseElems, hv.parse f (le_of_max_left hf), skipWs_allWs _ _ hw, skipWs_nonws 44 _ (by decide),
      parseElems_congr f _ _ (skipWs_allWs _ _ hw'), he.parse f (le_of_max_right hf), Option.map_some]
  | _, _, _, .last .., 0, hf => by simp [depthList] at hf
  | _, _, _, .more .., 0, hf => by simp [depthList] at hf
theorem Members.parse : ∀ {bs : Bytes} {kjs : List (Bytes × J)} {rest : Bytes}, Members bs kjs rest → ∀ f,
    depthKvs kjs ≤ f → parseMembers f bs = some (kjs, rest)
  | _, _, _, .last hs h0 h1 hv hw, f + 1, hf => by
    simp only [parseMembers, skipWs_nonws 34 _ (by decide), hs, skipWs_allWs _ _ h0, skipWs_nonws 58 _ (by decide),
      parseV_congr f _ _ (skipWs_allWs _ _ h1), hv.parse f (le_of_max_left hf), skipWs_allWs _ _ hw,
      skipWs_nonws 125 _ (by decide)]
  | _, _, _, .more hs h0 h1 hv hw hw' hm, f + 1, hf => by
    simp only [parseMembers, skipWs_nonws 34 _ (by decide), hs, skipWs_allWs _ _ h0, skipWs_nonws 58 _ (by decide),
      parseV_congr f _ _ (skipWs_allWs _ _ h1), hv.parse f (le_of_max_left hf), skipWs_allWs _ _ hw,
      skipWs_nonws 44 _ (by decide), parseMembers_congr f _ _ (skipWs_allWs _ _ hw'), hm.parse f (le_of_max_right hf),
      Option.map_some]
  | _, _, _, .last .., 0, hf => by simp [depthKvs] at hf
  | _, _, _, .more .., 0, hf => by simp [depthKvs] at hf
end

mutual
theorem Reads.length : ∀ {bs : Bytes} {j : J} {rest : Bytes}, Reads bs j rest → rest.length + depth j ≤ bs.length
  | _, _, _, .null => by simp [depth]
  | _, _, _, .tt => by simp [depth]
  | _, _, _, .ff => by simp [depth]
  | _, _, _, .str hs => by
    have := scanStr_length _ _ _ hs
    simp only [depth, List.length_cons]; omega
  | _, _, _, .num _ _ => by simp [depth]
  | _, _, _, .arrNil _ => by simp only [depth, depthList, List.length_cons, List.length_append]; omega
  | _, _, _, .arr _ he => by
    have := he.length
    simp only [depth, List.length_cons, List.length_append]; omega
  | _, _, _, .objNil _ => by simp only [depth, depthKvs, List.length_cons, List.length_append]; omega
  | _, _, _, .obj _ hm => by
    have := hm.length
    simp only [depth, List.length_cons, List.length_append]; omega
theorem Elems.length : ∀ {bs : Bytes} {js : List J} {rest : Bytes}, Elems bs js rest → rest.length + depthList js ≤ bs.length
  | _, _, _, .last hv _ => by
    have := hv.length
    simp only [depthList, List.length_cons, List.length_append] at this ⊢; omega
  | _, _, _, .more hv _ _ he => by
    have h1 := hv.length
    have h2 := he.length
    simp only [depthList, List.length_cons, List.length_append] at h1 ⊢; omega
theorem Members.length : ∀ {bs : Bytes} {kjs : List (Bytes × J)} {rest : Bytes}, Members bs kjs rest →
    rest.length + depthKvs kjs ≤ bs.length
  | _, _, _, .last hs _ _ hv _ => by
    have hl := scanStr_length _ _ _ hs
    have := hv.length
    simp only [depthKvs, List.length_cons, List.length_append] at hl this ⊢; omega
  | _, _, _, .more hs _ _ hv _ _ hm => by
    have hl := scanStr_length _ _ _ hs
    have h1 := hv.length
    have h2 := hm.length
    simp only [depthKvs, List.length_cons, List.length_append] at hl h1 ⊢; omega
end

theorem Reads.parse_text {bs : Bytes} {j : J} {w : Bytes} (h : Reads bs j w) (hw : AllWs w) :
    Spec.Json.parse bs = some j := by
  have hl := h.length
  simp only [Spec.Json.parse, h.parse (2 * bs.length + 2) (by omega)]
  have := skipWs_allWs w [] hw
  rw [List.append_nil] at this
  rw [this]; rfl

end PgVerif.Proofs.JsonGrammar
