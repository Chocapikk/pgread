/-
  The parser of the JSONB model (jsonb.go): closed forms of decodeJEntry and of ParseJSONB's body; totality and independence of the
  fuel in one induction (`Same`), hence ParseJSONB's recursion without the fuel (`parseJSONB_unfold`).
-/
import PgVerif.Proofs.Numeric
import PgVerif.Proofs.JsonbOffsets
namespace PgVerif.Proofs
open PgVerif PgVerif.Model

theorem sliceL_eq (data : Bytes) (lo hi : Nat) : sliceL data data.length lo hi = slice data lo hi := by
  unfold sliceL slice
  rw [List.drop_take]

theorem align4_eq (off : Nat) : align4 off = roundUp off 4 := goAlign_pow off 2

theorem drop3_nonempty (d : Bytes) (h : 4 ≤ d.length) : (d.drop 3).isEmpty = false := by
  rw [Bool.eq_false_iff, ne_eq, List.isEmpty_iff, List.drop_eq_nil_iff]; omega

theorem readEntries_succ (n : Nat) (d : Bytes) (h : 4 ≤ d.length) :
    readEntries (n+1) d = (readEntries n (d.drop 4) >>= fun rest => pure (rd 4 d :: rest)) := by
  rw [readEntries, drop3_nonempty d h]; rfl

theorem readEntries_total (n : Nat) (d : Bytes) (h : n * 4 ≤ d.length) :
    ∃ es, readEntries n d = .ok es ∧ es.length = n := by
  induction n generalizing d with
  | zero => exact ⟨[], rfl, rfl⟩
  | succ n ih =>
    obtain ⟨es, hes, hl⟩ := ih (d.drop 4) (by simp only [List.length_drop]; omega)
    refine ⟨rd 4 d :: es, ?_, by simp [hl]⟩
    rw [readEntries_succ n d (by omega), hes]; rfl

theorem entryOffLen_ok (es : List Nat) (idx base : Nat) (h : idx < es.length) :
    entryOffLen es idx base = .ok (entryOffLenPure es idx base) := by
  unfold entryOffLen; rw [if_pos h]; rfl

/-- decodeJEntry on a numeric or container child: behind its guard the slice from the aligned offset on goes to `k`, else nil -/
def withChild (data : Bytes) (off : Nat) (length : Int) (k : Bytes → M JV) : M JV :=
  if ((align4 off - off : Nat) : Int) < length ∧ align4 off + length.toNat - (align4 off - off) ≤ data.length then
    slice data (align4 off) (align4 off + length.toNat - (align4 off - off)) >>= k
  else .ok .nil

theorem decodeJEntry_eq (rec : Bytes → M JV) (data : Bytes) (off : Nat) (length : Int) (je : Nat) :
    decodeJEntry rec data off length je =
      match je / 0x10000000 % 8 with
      | 0 => if length ≥ 0 ∧ off + length.toNat ≤ data.length then
          slice data off (off + length.toNat) >>= fun s => .ok (.str s) else .ok .nil
      | 1 => withChild data off length fun s => decodeJNumeric s >>= fun r => .ok (JV.ofNum r)
      | 5 => withChild data off length rec
      | 2 => .ok (.bool false)
      | 3 => .ok (.bool true)
      | _ => .ok .nil := by
  have hty : je / 0x10000000 % 8 < 8 := Nat.mod_lt _ (by decide)
  unfold decodeJEntry decodeJEntryN withChild
  simp only [land_70000000, sliceL_eq]
  generalize je / 0x10000000 % 8 = ty at hty
  -- the model's chain of tests `ty == …` on each of the eight values of the field
  match ty, hty with
  | 0, _ | 1, _ | 2, _ | 3, _ | 4, _ | 5, _ | 6, _ | 7, _ => simp <;> rfl

/-! Every stage of the parser maps recursive parsers that are `Same` (Lib/Fault.lean) on all strictly shorter inputs to `Same`
results: with `rec1 = rec2` this is totality, with two amounts of fuel it is independence of the fuel. -/

/-- the child slice is strictly shorter than the data because something precedes it (`0 < off` at every call: `off ≥ dataStart ≥ 8`) -/
theorem withChild_same {data : Bytes} {off : Nat} {length : Int} {k1 k2 : Bytes → M JV} (hoff : 0 < off)
    (h : ∀ s : Bytes, s.length < data.length → Same (k1 s) (k2 s)) :
    Same (withChild data off length k1) (withChild data off length k2) := by
  have hal := roundUp_ge off 4 (by decide)
  rw [← align4_eq] at hal
  refine Same.ite (fun hg => ?_) fun _ => Same.ok _
  rw [slice_ok data (align4 off) _ hg.2 (by omega)]
  apply h
  simp only [List.length_drop, List.length_take]
  omega

theorem decodeJEntry_same (rec1 rec2 : Bytes → M JV) (data : Bytes) (off : Nat) (length : Int) (je : Nat)
    (hoff : 0 < off) (h : ∀ d : Bytes, d.length < data.length → Same (rec1 d) (rec2 d)) :
    Same (decodeJEntry rec1 data off length je) (decodeJEntry rec2 data off length je) := by
  rw [decodeJEntry_eq, decodeJEntry_eq]
  split
  · exact Same.ite (fun hg => by rw [slice_ok data off _ hg.2 (by omega)]; exact Same.ok _) fun _ => Same.ok _
  · exact withChild_same hoff fun s _ => Same.bind ⟨rfl, decodeJNumeric_total s⟩ fun _ _ => Same.ok _
  · exact withChild_same hoff h
  all_goals exact Same.ok _

/-- what ParseJSONB returns for an array whose elements decoded to `rs` (`sc`: SCALAR flag) -/
def unwrapScalar (sc : Bool) (rs : List JV) : JV :=
  if sc then (match rs with | [x] => x | _ => .arr rs) else .arr rs

theorem getEntry_ok (entries : List Nat) (i : Nat) (h : i < entries.length) :
    getEntry entries i = .ok entries[i] := by
  unfold getEntry; rw [List.getElem?_eq_getElem h]; rfl

theorem dropM_ok (xs : List Nat) (n : Nat) (h : n ≤ xs.length) : dropM xs n = .ok (xs.drop n) := by
  unfold dropM; rw [if_neg (by omega)]; rfl

theorem parseArrayLoop_zero (rec : Bytes → M JV) (data : Bytes) (dataStart off : Nat) (es ends : List Nat) :
    parseArrayLoop rec data data.length dataStart 0 off es ends = .ok [] := by
  unfold parseArrayLoop; rfl

theorem parseArrayLoop_cons (rec : Bytes → M JV) (data : Bytes) (dataStart n off je e : Nat) (es ends : List Nat) :
    parseArrayLoop rec data data.length dataStart (n+1) off (je :: es) (e :: ends) =
      (decodeJEntry rec data (dataStart + off) ((e : Int) - off) je >>= fun v =>
        parseArrayLoop rec data data.length dataStart n e es ends >>= fun rest => pure (v :: rest)) := by
  rw [parseArrayLoop]; rfl

theorem parseObjectLoop_zero (rec : Bytes → M JV) (data : Bytes) (dataStart kOff vOff : Nat) (kEnds vals valEnds : List Nat) :
    parseObjectLoop rec data data.length dataStart 0 kOff vOff kEnds vals valEnds = .ok [] := by
  unfold parseObjectLoop; rfl

theorem parseObjectLoop_cons (rec : Bytes → M JV) (data : Bytes) (dataStart n kOff vOff ke je ve : Nat)
    (kEnds vals valEnds : List Nat) :
    parseObjectLoop rec data data.length dataStart (n+1) kOff vOff (ke :: kEnds) (je :: vals) (ve :: valEnds) =
      (objKey data dataStart kOff ((ke : Int) - kOff) >>= fun key =>
        decodeJEntry rec data (dataStart + vOff) ((ve : Int) - vOff) je >>= fun v =>
          parseObjectLoop rec data data.length dataStart n ke ve kEnds vals valEnds >>= fun rest => pure ((key, v) :: rest)) := by
  rw [parseObjectLoop]; rfl

theorem objKey_total (data : Bytes) (dataStart kOff : Nat) (kLen : Int) : ∃ key, objKey data dataStart kOff kLen = .ok key := by
  unfold objKey objKeyN
  rw [sliceL_eq]
  split
  · rename_i hg
    rw [slice_ok _ _ _ hg.2 (by omega)]; exact ⟨_, rfl⟩
  · exact ⟨_, rfl⟩

theorem parseArrayLoop_same (rec1 rec2 : Bytes → M JV) (data : Bytes) (dataStart : Nat)
    (hds : 0 < dataStart) (h : ∀ d : Bytes, d.length < data.length → Same (rec1 d) (rec2 d))
    (n off : Nat) (es ends : List Nat) (h1 : n ≤ es.length) (h2 : n ≤ ends.length) :
    Same (parseArrayLoop rec1 data data.length dataStart n off es ends)
      (parseArrayLoop rec2 data data.length dataStart n off es ends) := by
  induction n generalizing off es ends with
  | zero => rw [parseArrayLoop_zero, parseArrayLoop_zero]; exact Same.ok _
  | succ n ih =>
    match es, ends, h1, h2 with
    | je :: es, e :: ends, h1, h2 =>
      rw [parseArrayLoop_cons, parseArrayLoop_cons]
      exact (decodeJEntry_same rec1 rec2 data _ _ je (by omega) h).bind fun v _ =>
        (ih e es ends (by simpa using h1) (by simpa using h2)).bind fun rest _ => Same.ok _
    | [], _, h1, _ => simp at h1
    | _ :: _, [], _, h2 => simp at h2

theorem parseObjectLoop_same (rec1 rec2 : Bytes → M JV) (data : Bytes) (dataStart : Nat)
    (hds : 0 < dataStart) (h : ∀ d : Bytes, d.length < data.length → Same (rec1 d) (rec2 d))
    (n kOff vOff : Nat) (kEnds vals valEnds : List Nat)
    (h1 : n ≤ kEnds.length) (h2 : n ≤ vals.length) (h3 : n ≤ valEnds.length) :
    Same (parseObjectLoop rec1 data data.length dataStart n kOff vOff kEnds vals valEnds)
      (parseObjectLoop rec2 data data.length dataStart n kOff vOff kEnds vals valEnds) := by
  induction n generalizing kOff vOff kEnds vals valEnds with
  | zero => rw [parseObjectLoop_zero, parseObjectLoop_zero]; exact Same.ok _
  | succ n ih =>
    match kEnds, vals, valEnds, h1, h2, h3 with
    | ke :: kEnds, je :: vals, ve :: valEnds, h1, h2, h3 =>
      rw [parseObjectLoop_cons, parseObjectLoop_cons]
      exact Same.bind ⟨rfl, objKey_total data dataStart kOff _⟩ fun key _ =>
        (decodeJEntry_same rec1 rec2 data _ _ je (by omega) h).bind fun v _ =>
          (ih ke ve kEnds vals valEnds (by simpa using h1) (by simpa using h2) (by simpa using h3)).bind fun rest _ =>
            Same.ok _
    | [], _, _, h1, _, _ => simp at h1
    | _ :: _, [], _, _, h2, _ => simp at h2
    | _ :: _, _ :: _, [], _, _, h3 => simp at h3

theorem parseObject_same (rec1 rec2 : Bytes → M JV) (data : Bytes) (entries ends : List Nat) (dataStart count : Nat)
    (hds : 0 < dataStart) (h : ∀ d : Bytes, d.length < data.length → Same (rec1 d) (rec2 d))
    (hc : 0 < count) (he : entries.length = count * 2) (hn : ends.length = count * 2) :
    Same (parseObject rec1 data data.length entries ends dataStart count)
      (parseObject rec2 data data.length entries ends dataStart count) := by
  unfold parseObject
  refine Same.bind_ok (dropM_ok entries count (by omega)) (Same.bind_ok (dropM_ok ends count (by omega))
    (Same.bind_ok (getEntry_ok ends (count - 1) (by omega)) ?_))
  exact parseObjectLoop_same rec1 rec2 data dataStart hds h count 0 _ ends _ _ (by omega)
    (by simp only [List.length_drop]; omega) (by simp only [List.length_drop]; omega)

/-- the body of ParseJSONB in terms of what the masks take from the header word `H`; `n`: the JEntries the count announces -/
theorem parseContainer_eq (rec : Bytes → M JV) (data : Bytes) (H count n : Nat) (isObj isArr sc : Bool)
    (hu : uN 4 data 0 = .ok H) (hcount : H &&& 0x0FFFFFFF = count)
    (hO : (H &&& 0x20000000 != 0) = isObj) (hA : (H &&& 0x40000000 != 0) = isArr) (hS : (H &&& 0x10000000 != 0) = sc)
    (hn : (if isObj = true then count * 2 else count) = n) :
    parseContainer rec data =
      if (!isObj && !isArr) = true then .ok .nil
      else if (count == 0) = true then .ok (if isObj = true then .obj [] else .arr [])
      else if 4 + n * 4 > data.length then .ok .nil
      else readEntries n (data.drop 4) >>= fun es =>
        match endsFrom 0 es with
        | none => .ok .nil
        | some ends =>
          if isObj = true then
            parseObject rec data data.length es ends (4 + n * 4) count >>= fun kvs => .ok (.obj (buildMap kvs))
          else parseArrayLoop rec data data.length (4 + n * 4) count 0 es ends >>= fun xs => .ok (unwrapScalar sc xs) := by
  have h4 := (uN_eq_ok.1 hu).1
  unfold parseContainer
  simp only [show ¬ data.length < 4 by omega, if_false, hu]
  rw [ok_bind]
  simp only [hcount, hO, hA, hS, hn]
  by_cases hbad : (!isObj && !isArr) = true
  · rw [if_pos hbad, if_pos hbad]; rfl
  rw [if_neg hbad, if_neg hbad]
  by_cases hc0 : (count == 0) = true
  · rw [if_pos hc0, if_pos hc0]; rfl
  rw [if_neg hc0, if_neg hc0]
  by_cases hsz : 4 + n * 4 > data.length
  · rw [if_pos hsz, if_pos hsz]; rfl
  rw [if_neg hsz, if_neg hsz, sliceFrom_ok data 4 (by omega), ok_bind]
  congr 1; funext es
  cases endsFrom 0 es with
  | none => rfl
  | some ends =>
    cases isObj with
    | true => rfl
    | false =>
      show (parseArrayLoop rec data data.length (4 + n * 4) count 0 es ends >>= _) = _
      congr 1; funext xs
      unfold unwrapScalar
      cases sc
      · rfl
      · cases xs with
        | nil => rfl
        | cons x t => cases t <;> rfl

/-- no fault of its own: the entry array fits the data before it is read, both loops get as many entries and end offsets as they
read; the recursive parser is reached only through decodeJEntry -/
theorem parseContainer_same (rec1 rec2 : Bytes → M JV) (data : Bytes)
    (h : ∀ d : Bytes, d.length < data.length → Same (rec1 d) (rec2 d)) :
    Same (parseContainer rec1 data) (parseContainer rec2 data) := by
  by_cases hl : data.length < 4
  · unfold parseContainer; simp only [hl, if_true]; exact Same.ok _
  have hu := uN_ok 4 data 0 (by omega)
  generalize rd 4 (List.drop 0 data) = H at hu
  rw [parseContainer_eq rec1 data H _ _ _ _ _ hu rfl rfl rfl rfl rfl,
    parseContainer_eq rec2 data H _ _ _ _ _ hu rfl rfl rfl rfl rfl]
  generalize H &&& 0x0FFFFFFF = count
  generalize (H &&& 0x20000000 != 0) = isObj
  refine Same.ite (fun _ => Same.ok _) fun _ => Same.ite (fun _ => Same.ok _) fun hc0 =>
    Same.ite (fun _ => Same.ok _) fun hsz => ?_
  have hc : count ≠ 0 := by simpa using hc0
  obtain ⟨es, hes, hesl⟩ := readEntries_total (if isObj = true then count * 2 else count) (data.drop 4)
    (by simp only [List.length_drop]; omega)
  refine Same.bind_ok hes ?_
  cases hends : endsFrom 0 es with
  | none => exact Same.ok _
  | some ends =>
    have hel := endsFrom_length 0 es ends hends
    refine Same.ite (fun hobj => ?_) fun hobj => ?_
    · rw [if_pos hobj] at hesl
      exact (parseObject_same rec1 rec2 data es ends _ count (by omega) h (by omega) hesl (by omega)).bind
        fun kvs _ => Same.ok _
    · rw [if_neg hobj] at hesl
      exact (parseArrayLoop_same rec1 rec2 data _ (by omega) h count 0 es ends (by omega) (by omega)).bind
        fun xs _ => Same.ok _

theorem parseJSONBFuel_same (f1 : Nat) : ∀ (f2 : Nat) (data : Bytes), data.length < f1 → data.length < f2 →
    Same (parseJSONBFuel f1 data) (parseJSONBFuel f2 data) := by
  induction f1 with
  | zero => intro f2 data h; omega
  | succ f1 ih =>
    intro f2 data h1 h2
    cases f2 with
    | zero => omega
    | succ f2 => exact parseContainer_same _ _ data (fun d hd => ih f2 d (by omega) (by omega))

theorem parseJSONB_unfold (data : Bytes) : parseJSONB data = parseContainer parseJSONB data :=
  (parseContainer_same (parseJSONBFuel data.length) parseJSONB data fun d hd =>
    parseJSONBFuel_same data.length (d.length + 1) d hd (by omega)).1

theorem parseJSONB_total (data : Bytes) : ∃ r, parseJSONB data = .ok r :=
  (parseJSONBFuel_same (data.length + 1) (data.length + 1) data (by omega) (by omega)).2

/-- `case OidJSONB` of DecodeType (types.go) once ParseJSONB has answered `v` -/
theorem decodeTypeJSONB_eq (data : Bytes) (v : JV) (hp : parseJSONB data = .ok v) :
    decodeTypeJSONB data = .ok (
      if data.length = 0 then .val .nil
      else if isNil v = false then .val v
      else if data.length = 8 ∧ rdAt 4 0 data = 0x50000001 ∧ rdAt 4 4 data &&& 0x70000000 = 0x40000000 then .val .nil
      else .raw data) := by
  unfold decodeTypeJSONB
  by_cases h0 : data.length = 0
  · simp [h0]
  · by_cases hn : isNil v = false
    · simp [h0, hp, hn]
    · by_cases h8 : data.length = 8
      · simp [hp, hn, h8, uN_ok 4 data 0 (by omega), uN_ok 4 data 4 (by omega), rdAt]
        split <;> rfl
      · simp [h0, hp, hn, h8]

end PgVerif.Proofs
