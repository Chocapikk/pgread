/-
  Round trip for whole documents: the nested induction over Spec.Json (arrays and objects to any
  depth) and the top-level statements.
-/
import PgVerif.Proofs.JsonbObj
namespace PgVerif.Proofs
open PgVerif PgVerif.Model

theorem ofNum_toView {r : NumRes} {v : Spec.NumView} (h : r.toView = some v) : (JV.ofNum r).toView = .num v := by
  cases r with
  | none => cases h
  | _ => simp only [JV.ofNum, JV.toView, h]

theorem decodesAs_num (n : Spec.Numeric) (long : Bool) : DecodesAs (.num n long) := by
  intro hs pos data off e hat hp hsm he
  have hwf : n.WF := by simpa [covered] using hs
  have henc : Spec.encValue pos (.num n long) =
    (1, zeros (Spec.padTo4 pos) ++ Spec.varlena4 (Spec.encNumeric (Spec.formOf n long) n)) := rfl
  rw [henc] at hat hsm he ⊢
  simp only [List.length_append, zeros_length] at hsm ⊢
  have hvl : (Spec.varlena4 (Spec.encNumeric (Spec.formOf n long) n)).length =
      (Spec.encNumeric (Spec.formOf n long) n).length + 4 := by
    simp [Spec.varlena4, le_length]; omega
  rw [decodeJEntry_num _ pos e hat he hp (by omega),
    decodeJNumeric_varlena4 _ (encNumeric_pos (Spec.formOf n long) n) (by omega)]
  obtain ⟨r0, hd, hv⟩ := map_eq_ok (decodeNumeric_enc n hwf (Spec.formOf n long) (formOf_admits n long))
  rw [hd]
  exact ⟨JV.ofNum r0, rfl, ofNum_toView hv⟩

/-- a container child decodes to its view if ParseJSONB returns that view on its bytes `body pos` -/
theorem decodesAs_container (x : Spec.Json) (body : Nat → Bytes)
    (henc : ∀ pos, Spec.encValue pos x = (5, zeros (Spec.padTo4 pos) ++ body pos))
    (hbody : ∀ pos, 0 < (body pos).length)
    (hparse : covered x = true → ∀ pos, (pos + Spec.padTo4 pos) % 4 = 0 → (body pos).length < 0x10000000 →
      ∃ r, parseJSONB (body pos) = .ok r ∧ r.toView = x.view) :
    DecodesAs x := by
  intro hs pos data off e hat hp hsm he
  rw [henc pos] at hat hsm he ⊢
  simp only [List.length_append, zeros_length] at hsm ⊢
  rw [decodeJEntry_container _ pos e hat he hp (hbody pos)]
  exact hparse hs pos (padTo4_aligned pos).1 (by omega)

theorem decodesAs_arr (xs : List Spec.Json) (ih : ∀ x ∈ xs, DecodesAs x) : DecodesAs (.arr xs) := by
  refine decodesAs_container _ (fun pos => arrBytes (childEncs (pos + Spec.padTo4 pos + 4 + 4 * xs.length) xs) false)
    (fun pos => encValue_arr pos xs) (fun pos => ?_) (fun hs pos hpa hsm => ?_)
  · rw [show (arrBytes _ false).length = _ from contBytes_length _ _]; omega
  · exact parse_arr xs _ (by omega) ih hs hsm

theorem decodesAs_obj (kvs : List (Bytes × Spec.Json)) (ih : ∀ kv ∈ kvs, DecodesAs kv.2) : DecodesAs (.obj kvs) := by
  refine decodesAs_container _ (fun pos => objCont (pos + Spec.padTo4 pos + 4 + 8 * kvs.length + (keyBytes kvs).length) kvs)
    (fun pos => encValue_obj pos kvs) (fun pos => ?_) (fun hs pos hpa hsm => ?_)
  · rw [show (objCont _ kvs).length = _ from contBytes_length _ _]; omega
  · simp only [covered, Bool.and_eq_true, decide_eq_true_eq] at hs
    exact parse_obj kvs _ (by omega) ih hs.1 hs.2 hsm

/-- by the recursor of the nested type `Spec.Json`.  Motives: a document, a list of documents (all its members), a list of pairs
(all their values), one pair (its value); minor premises in the recursor's order: `null`, `bool`, `num`, `str`, `arr`, `obj`, then
`[]` and `::` for element lists, `[]` and `::` for pair lists, and the pair -/
theorem decodesAs_all (x : Spec.Json) : DecodesAs x := by
  refine Spec.Json.rec (motive_1 := DecodesAs) (motive_2 := fun xs => ∀ x ∈ xs, DecodesAs x)
    (motive_3 := fun kvs => ∀ kv ∈ kvs, DecodesAs kv.2) (motive_4 := fun p => DecodesAs p.2)
    ?_ ?_ decodesAs_num ?_ decodesAs_arr decodesAs_obj ?_ ?_ ?_ ?_ ?_ x
  · intro _ pos data off e _ _ _ he
    exact ⟨.nil, by rw [decodeJEntry_eq, he]; rfl, rfl⟩
  · intro b _ pos data off e _ _ _ he
    cases b
    · exact ⟨.bool false, by rw [decodeJEntry_eq, he]; rfl, rfl⟩
    · exact ⟨.bool true, by rw [decodeJEntry_eq, he]; rfl, rfl⟩
  · intro s _ pos data off e hat _ _ he
    exact ⟨_, decodeJEntry_str _ hat e he, rfl⟩
  · intro x hx; simp at hx
  · intro x xs ihx ihxs y hy
    rcases List.mem_cons.mp hy with e | m
    · subst e; exact ihx
    · exact ihxs y m
  · intro x hx; simp at hx
  · intro p ps ihp ihps y hy
    rcases List.mem_cons.mp hy with e | m
    · subst e; exact ihp
    · exact ihps y m
  · intro k v ihv; exact ihv

/-- positions count from the start of the jsonb varlena, whose 4-byte header the payload `Spec.encJsonb j` omits: a root container
stands at position 4 (`roundtrip_array`, `roundtrip_object`), the one child of a scalar document at 12 = 4 + 4 + 4 (varlena header,
container header, its JEntry) -/
theorem encJsonb_scalar (j : Spec.Json) (h : j.isContainer = false) :
    Spec.encJsonb j = arrBytes (childEncs 12 [j]) true := by
  unfold Spec.encJsonb
  rw [h]
  simp only [Bool.false_eq_true, if_false]
  rw [encElems_eq]
  simp only [arrBytes, contBytes, arrHeader, childEncs_length, List.length_singleton, List.append_assoc, if_true]

theorem roundtrip_scalar (j : Spec.Json) (hc : j.isContainer = false) (hs : covered j = true)
    (hsize : (Spec.encJsonb j).length < 0x10000000) :
    (parseJSONB (Spec.encJsonb j)).map JV.toView = .ok j.view := by
  rw [encJsonb_scalar j hc] at hsize ⊢
  obtain ⟨rs, h1, h3⟩ := parse_arrBytes [j] 12 true (by simp) (fun x _ => decodesAs_all x) (by simp [coveredList, hs]) hsize
  rw [h1]
  match rs, h3 with
  | [r], h3 =>
    simp only [toViewList, Spec.viewList, List.cons.injEq, and_true] at h3
    simp only [Except.map, unwrapScalar, if_true, h3]
  | [], h3 => simp [toViewList, Spec.viewList] at h3
  | _ :: _ :: _, h3 => simp [toViewList, Spec.viewList] at h3

theorem roundtrip_array (xs : List Spec.Json) (hs : covered (.arr xs) = true)
    (hsize : (Spec.encJsonb (.arr xs)).length < 0x10000000) :
    (parseJSONB (Spec.encJsonb (.arr xs))).map JV.toView = .ok (Spec.Json.arr xs).view := by
  have e : Spec.encJsonb (.arr xs) = (Spec.encValue 4 (.arr xs)).2 := rfl
  rw [e, encValue_arr] at hsize ⊢
  have hp : Spec.padTo4 4 = 0 := rfl
  simp only [hp, zeros, List.replicate_zero, List.nil_append, Nat.add_zero] at hsize ⊢
  obtain ⟨r, h1, h2⟩ := parse_arr xs _ (by omega) (fun x _ => decodesAs_all x) hs hsize
  rw [h1]
  exact congrArg Except.ok h2

theorem roundtrip_object (kvs : List (Bytes × Spec.Json)) (hs : covered (.obj kvs) = true)
    (hsize : (Spec.encJsonb (.obj kvs)).length < 0x10000000) :
    (parseJSONB (Spec.encJsonb (.obj kvs))).map JV.toView = .ok (Spec.Json.obj kvs).view := by
  have e : Spec.encJsonb (.obj kvs) = (Spec.encValue 4 (.obj kvs)).2 := rfl
  rw [e, encValue_obj] at hsize ⊢
  have hp : Spec.padTo4 4 = 0 := rfl
  simp only [hp, zeros, List.replicate_zero, List.nil_append, Nat.add_zero] at hsize ⊢
  simp only [covered, Bool.and_eq_true, decide_eq_true_eq] at hs
  obtain ⟨r, h1, h2⟩ := parse_obj kvs _ (by omega) (fun kv _ => decodesAs_all kv.2) hs.1 hs.2 hsize
  rw [h1]
  exact congrArg Except.ok h2

end PgVerif.Proofs
