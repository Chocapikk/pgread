/-
  From the exact reading of a decoded JSONB document (`JV.toView`) to the Go value `ParseJSONB` returns
  (`JV.toGo pf`, numbers = `strconv.ParseFloat` of the decimal text) under ParseFloat's contract.
-/
import PgVerif.Model.JsonbView
namespace PgVerif.Proofs.JsonbGo
open PgVerif PgVerif.Model PgVerif.Spec

theorem num_toGo (pf : ParseFloat) (hpf : ParseFloatOK pf) (r : NumRes) (v : NumView)
    (h : r.toView = some v) : numAsF64 (r.toGo pf) = v.toGo := by
  cases r with
  | none => simp [NumRes.toView] at h
  | int0 => simp only [NumRes.toView, Option.some.injEq] at h; subst h; rfl
  | fzero => simp only [NumRes.toView, Option.some.injEq] at h; subst h; rfl
  | special s => cases s <;> (simp only [NumRes.toView, Option.some.injEq] at h; subst h; rfl)
  | num t =>
    simp only [NumRes.toView] at h
    cases hr : readDecimal t with
    | none => rw [hr] at h; simp at h
    | some x =>
      obtain ⟨a, b, c⟩ := x
      rw [hr] at h
      simp only [Option.map_some, Option.some.injEq] at h
      subst h
      show GoVal.f64 (pf t) = GoVal.f64 (f64OfDec a b c)
      rw [hpf t a b c hr]

mutual
theorem view_decodable : (j : Json) → j.view.decodable = true
  | .null => rfl
  | .bool _ => rfl
  | .num _ _ => rfl
  | .str _ => rfl
  | .arr xs => by simp only [Json.view, JView.decodable]; exact viewList_decodable xs
  | .obj kvs => by simp only [Json.view, JView.decodable]; exact viewKvs_decodable kvs
theorem viewList_decodable : (xs : List Json) → JView.decodableList (viewList xs) = true
  | [] => rfl
  | x :: xs => by simp only [viewList, JView.decodableList, view_decodable x, viewList_decodable xs, Bool.and_self]
theorem viewKvs_decodable : (kvs : List (Bytes × Json)) → JView.decodableKvs (viewKvs kvs) = true
  | [] => rfl
  | (_, v) :: rest => by simp only [viewKvs, JView.decodableKvs, view_decodable v, viewKvs_decodable rest, Bool.and_self]
end

mutual
theorem jv_toGo (pf : ParseFloat) (hpf : ParseFloatOK pf) : (jv : JV) → jv.toView.decodable = true →
    numAsF64 (jv.toGo pf) = jv.toView.toGo
  | .nil, _ => rfl
  | .bool _, _ => rfl
  | .str _, _ => rfl
  | .num r, h => by
    cases hr : r.toView with
    | none => simp [JV.toView, hr, JView.decodable] at h
    | some v =>
      simp only [JV.toView, hr, JV.toGo, JView.toGo]
      exact num_toGo pf hpf r v hr
  | .arr xs, h => by
    simp only [JV.toView, JView.decodable] at h
    simp only [JV.toGo, JV.toView, JView.toGo, numAsF64, jvList_toGo pf hpf xs h]
  | .obj kvs, h => by
    simp only [JV.toView, JView.decodable] at h
    simp only [JV.toGo, JV.toView, JView.toGo, numAsF64, jvKvs_toGo pf hpf kvs h]
theorem jvList_toGo (pf : ParseFloat) (hpf : ParseFloatOK pf) : (xs : List JV) → JView.decodableList (toViewList xs) = true →
    numAsF64List (toGoList pf xs) = JView.toGoList (toViewList xs)
  | [], _ => rfl
  | x :: xs, h => by
    simp only [toViewList, JView.decodableList, Bool.and_eq_true] at h
    simp only [toGoList, toViewList, numAsF64List, JView.toGoList, jv_toGo pf hpf x h.1, jvList_toGo pf hpf xs h.2]
theorem jvKvs_toGo (pf : ParseFloat) (hpf : ParseFloatOK pf) : (kvs : List (Bytes × JV)) → JView.decodableKvs (toViewKvs kvs) = true →
    numAsF64Kvs (toGoKvs pf kvs) = JView.toGoKvs (toViewKvs kvs)
  | [], _ => rfl
  | (k, v) :: rest, h => by
    simp only [toViewKvs, JView.decodableKvs, Bool.and_eq_true] at h
    simp only [toGoKvs, toViewKvs, numAsF64Kvs, JView.toGoKvs, jv_toGo pf hpf v h.1, jvKvs_toGo pf hpf rest h.2]
end

end PgVerif.Proofs.JsonbGo
