/-
  PostgreSQL's key order (length, then bytes) is a strict order: keys stored strictly increasing are
  pairwise distinct.  Links Spec.Json.wf to the hypothesis `covered` of the round-trip theorem.
-/
import PgVerif.Proofs.JsonbRound
namespace PgVerif.Proofs
open PgVerif PgVerif.Model

/-- the Spec's bytewise (memcmp) order is the one of Basic/Canon.lean, written a second time -/
theorem bytesLt_eq : ∀ a b : Bytes, Spec.bytesLt a b = bytesLt a b
  | [], [] => rfl
  | [], _ :: _ => rfl
  | _ :: _, [] => rfl
  | x :: xs, y :: ys => by rw [Spec.bytesLt, bytesLt, bytesLt_eq xs ys]

theorem specBytesLt_iff (a b : Bytes) : Spec.bytesLt a b = true ↔ a < b := by
  rw [bytesLt_eq]; exact bytesLt_iff a b

theorem bytesLt_irrefl (a : Bytes) : Spec.bytesLt a a = false := by
  rw [← Bool.not_eq_true, specBytesLt_iff]; exact List.lt_irrefl a

theorem bytesLt_trans (a b c : Bytes) (h1 : Spec.bytesLt a b = true) (h2 : Spec.bytesLt b c = true) :
    Spec.bytesLt a c = true :=
  (specBytesLt_iff a c).2 (List.lt_trans ((specBytesLt_iff a b).1 h1) ((specBytesLt_iff b c).1 h2))

theorem keyLt_irrefl (a : Bytes) : Spec.keyLt a a = false := by
  simp [Spec.keyLt, bytesLt_irrefl]

theorem keyLt_trans (a b c : Bytes) (h1 : Spec.keyLt a b = true) (h2 : Spec.keyLt b c = true) :
    Spec.keyLt a c = true := by
  simp only [Spec.keyLt, Bool.or_eq_true, decide_eq_true_eq, Bool.and_eq_true, beq_iff_eq] at h1 h2 ⊢
  rcases h1 with h1 | ⟨e1, l1⟩
  · rcases h2 with h2 | ⟨e2, l2⟩
    · left; omega
    · left; omega
  · rcases h2 with h2 | ⟨e2, l2⟩
    · left; omega
    · right; exact ⟨by omega, bytesLt_trans a b c l1 l2⟩

theorem keysSorted_lt_all (k : Bytes) (ks : List Bytes) (h : Spec.keysSorted (k :: ks) = true) :
    ∀ x ∈ ks, Spec.keyLt k x = true := by
  induction ks generalizing k with
  | nil => intro x hx; simp at hx
  | cons y ys ih =>
    simp only [Spec.keysSorted, Bool.and_eq_true] at h
    intro x hx
    rcases List.mem_cons.mp hx with e | m
    · subst e; exact h.1
    · exact keyLt_trans k y x h.1 (ih y h.2 x m)

theorem keysSorted_tail (k : Bytes) (ks : List Bytes) (h : Spec.keysSorted (k :: ks) = true) :
    Spec.keysSorted ks = true := by
  cases ks with
  | nil => rfl
  | cons y ys => simp only [Spec.keysSorted, Bool.and_eq_true] at h; exact h.2

theorem keysSorted_nodup (ks : List Bytes) (h : Spec.keysSorted ks = true) : ks.Nodup := by
  induction ks with
  | nil => exact List.nodup_nil
  | cons k ks ih =>
    rw [List.nodup_cons]
    refine ⟨?_, ih (keysSorted_tail k ks h)⟩
    intro hm
    have := keysSorted_lt_all k ks h k hm
    rw [keyLt_irrefl] at this
    exact Bool.false_ne_true this

theorem covered_of_wf (j : Spec.Json) : j.wf = true → covered j = true := by
  refine Spec.Json.rec
    (motive_1 := fun j => j.wf = true → covered j = true)
    (motive_2 := fun xs => Spec.wfList xs = true → coveredList xs = true)
    (motive_3 := fun kvs => Spec.wfKvs kvs = true → coveredKvs kvs = true)
    (motive_4 := fun p => p.2.wf = true → covered p.2 = true)
    ?_ ?_ ?_ ?_ ?_ ?_ ?_ ?_ ?_ ?_ ?_ j
  · intro _; rfl
  · intro b _; rfl
  · intro n l h
    simp only [Spec.Json.wf] at h
    simp only [covered, h]
  · intro s _; rfl
  · intro xs ih h
    simp only [Spec.Json.wf] at h
    simp only [covered]
    exact ih h
  · intro kvs ih h
    simp only [Spec.Json.wf, Bool.and_eq_true] at h
    simp only [covered, Bool.and_eq_true, decide_eq_true_eq]
    exact ⟨keysSorted_nodup _ h.1, ih h.2⟩
  · intro _; rfl
  · intro x xs ihx ihxs h
    simp only [Spec.wfList, Bool.and_eq_true] at h
    simp only [coveredList, Bool.and_eq_true]
    exact ⟨ihx h.1, ihxs h.2⟩
  · intro _; rfl
  · intro p ps ihp ihps h
    obtain ⟨k, v⟩ := p
    simp only [Spec.wfKvs, Bool.and_eq_true] at h
    simp only [coveredKvs, Bool.and_eq_true]
    exact ⟨ihp h.1.2, ihps h.2⟩
  · intro k v ih; exact ih

end PgVerif.Proofs
