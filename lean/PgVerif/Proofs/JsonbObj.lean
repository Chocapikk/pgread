/-
  Round trip, objects: the combined key/value entry array, parseJSONBObject's loop, the Go map built
  from pairwise distinct keys.
-/
import PgVerif.Proofs.JsonbRound
namespace PgVerif.Proofs
open PgVerif PgVerif.Model

def keyChildren (ks : List Bytes) : List Child := ks.map fun k => (0, k)

theorem keyChildren_length (ks : List Bytes) : (keyChildren ks).length = ks.length := by simp [keyChildren]

theorem keyChildren_cons (k : Bytes) (ks : List Bytes) : keyChildren (k :: ks) = (0, k) :: keyChildren ks := rfl

theorem keyChildren_ty (ks : List Bytes) : ∀ c ∈ keyChildren ks, c.1 < 8 := by
  intro c hc
  obtain ⟨k, _, rfl⟩ := List.mem_map.mp hc
  show (0 : Nat) < 8; decide

theorem encKeys_eq (idx total : Nat) (ks : List Bytes) :
    Spec.encKeys idx total ks = (entriesOf idx total (keyChildren ks), bodyOf (keyChildren ks)) := by
  induction ks generalizing idx total with
  | nil => rfl
  | cons k ks ih => rw [Spec.encKeys, ih]; rfl

theorem encVals_eq (pos idx total : Nat) (kvs : List (Bytes × Spec.Json)) :
    Spec.encVals pos idx total kvs = Spec.encElems pos idx total (kvs.map (·.2)) := by
  induction kvs generalizing pos idx total with
  | nil => rfl
  | cons kv rest ih => obtain ⟨k, x⟩ := kv; rw [Spec.encVals, ih, List.map_cons, Spec.encElems]

theorem bodyOf_append (a b : List Child) : bodyOf (a ++ b) = bodyOf a ++ bodyOf b := by
  induction a with
  | nil => rfl
  | cons c rest ih => simp [bodyOf, ih]

def objHeader (n : Nat) : Nat := n + 0x20000000

/-- `cs`: the combined children, `n` keys then `n` values -/
def objBytes (n : Nat) (cs : List Child) : Bytes := contBytes (objHeader n) cs

def keyBytes (kvs : List (Bytes × Spec.Json)) : Bytes := bodyOf (keyChildren (kvs.map (·.1)))

/-- the object container PostgreSQL writes for the pairs `kvs`, the first value being written at position `P` -/
def objCont (P : Nat) (kvs : List (Bytes × Spec.Json)) : Bytes :=
  objBytes kvs.length (keyChildren (kvs.map (·.1)) ++ childEncs P (kvs.map (·.2)))

theorem encValue_obj (pos : Nat) (kvs : List (Bytes × Spec.Json)) :
    Spec.encValue pos (.obj kvs) =
      (5, zeros (Spec.padTo4 pos) ++ objCont (pos + Spec.padTo4 pos + 4 + 8 * kvs.length + (keyBytes kvs).length) kvs) := by
  rw [Spec.encValue, encKeys_eq, encVals_eq, encElems_eq]
  simp only [objCont, keyBytes, objBytes, contBytes, objHeader, entriesOf_append, bodyOf_append, keyChildren_length,
    List.length_map, Nat.zero_add, List.append_assoc]

theorem objHeader_fields (n : Nat) (hn : n < 0x10000000) :
    objHeader n < 256 ^ 4 ∧ objHeader n &&& 0x0FFFFFFF = n ∧ (objHeader n &&& 0x20000000 != 0) = true := by
  rw [land_0FFFFFFF, show (objHeader n &&& 0x20000000 != 0) = _ from land_pow_flag _ 29, beq_iff_eq]
  unfold objHeader
  omega

theorem parseContainer_empty_obj (rec : Bytes → M JV) : parseContainer rec (objBytes 0 []) = .ok (.obj []) := by
  obtain ⟨a1, a2, a3⟩ := objHeader_fields 0 (by decide)
  have := parseContainer_empty rec (objHeader 0) [] a1 a2 (by rw [a3]; rfl)
  rw [a3] at this
  exact this

theorem parseContainer_object (rec : Bytes → M JV) (n : Nat) (cs : List Child) (hcs : cs.length = n * 2) (h0 : 0 < n)
    (hsmall : (objBytes n cs).length < 0x10000000) (hty : ∀ c ∈ cs, c.1 < 8) (kvs : List (Bytes × JV))
    (hloop : parseObject rec (objBytes n cs) (objBytes n cs).length (entriesOf 0 0 cs) (endsOf 0 cs) (4 + n * 2 * 4) n =
      .ok kvs) :
    parseContainer rec (objBytes n cs) = .ok (.obj (buildMap kvs)) := by
  have hlen := contBytes_length (objHeader n) cs
  obtain ⟨a1, a2, a3⟩ := objHeader_fields n (by unfold objBytes at hsmall; omega)
  obtain ⟨hu, hre, hm⟩ := contBytes_read _ cs a1 hsmall hty
  unfold objBytes at hloop ⊢
  rw [hcs] at hre
  have c2 : ¬ (n == 0) = true := by rw [beq_iff_eq]; omega
  rw [parseContainer_eq rec _ _ n (n * 2) true _ _ hu a2 a3 rfl rfl rfl,
    if_neg (by simp), if_neg c2, if_neg (by omega), hre, ok_bind]
  simp only [hm, if_true]
  rw [hloop, ok_bind]

theorem objKey_enc {data k : Bytes} {dataStart kOff : Nat} (h : At data (dataStart + kOff) k) :
    objKey data dataStart kOff (k.length : Int) = .ok k := by
  unfold objKey objKeyN
  simp only [sliceL_eq, Int.toNat_natCast]
  rw [if_pos ⟨by omega, h.length_le⟩, h.slice]

/-- the keys' bytes stand behind `kTot` bytes of the data area, the values' (written from position `P` on) behind `vTot`; `tail`:
whatever follows the keys' end offsets in `ends` -/
theorem parseObjectLoop_enc (dataStart : Nat) (kvs : List (Bytes × Spec.Json)) (ih : ∀ kv ∈ kvs, DecodesAs kv.2)
    (hs : coveredKvs kvs = true) (P kTot vIdx vTot : Nat) (data : Bytes) (tail : List Nat)
    (hk : At data (dataStart + kTot) (keyBytes kvs))
    (hv : At data (dataStart + vTot) (bodyOf (childEncs P (kvs.map (·.2)))))
    (hP : P % 4 = (dataStart + vTot) % 4)
    (hsmall : vTot + (bodyOf (childEncs P (kvs.map (·.2)))).length < 0x10000000) :
    ∃ rs, parseObjectLoop parseJSONB data data.length dataStart kvs.length kTot vTot
        (endsOf kTot (keyChildren (kvs.map (·.1))) ++ tail) (entriesOf vIdx vTot (childEncs P (kvs.map (·.2))))
        (endsOf vTot (childEncs P (kvs.map (·.2)))) = .ok rs ∧
      toViewKvs rs = Spec.viewKvs kvs ∧ rs.map (·.1) = kvs.map (·.1) := by
  induction kvs generalizing P kTot vIdx vTot with
  | nil => exact ⟨[], parseObjectLoop_zero .., rfl, rfl⟩
  | cons kv kvs ihk =>
    obtain ⟨k, x⟩ := kv
    simp only [coveredKvs, Bool.and_eq_true] at hs
    simp only [keyBytes, List.map_cons, keyChildren_cons, childEncs, bodyOf, List.length_append] at hsmall hk hv
    have hknext := hk.right
    have hvnext := hv.right
    rw [Nat.add_assoc] at hknext hvnext
    have ihx : DecodesAs x := ih (k, x) (by simp)
    obtain ⟨r, hr, hrv⟩ := ihx hs.1 P data _
      (Spec.strideEntry vIdx (Spec.encValue P x).1 (Spec.encValue P x).2.length (vTot + (Spec.encValue P x).2.length))
      hv.left hP (by omega) (strideEntry_ty _ _ _ _ (encValue_ty_lt P x) (by omega) (by omega))
    obtain ⟨rs, hrs, hrsv, hrsk⟩ := ihk (fun y hy => ih y (by simp [hy])) hs.2 (P + (Spec.encValue P x).2.length)
      (kTot + k.length) (vIdx + 1) (vTot + (Spec.encValue P x).2.length) hknext hvnext
      (by rw [← Nat.add_assoc, Nat.add_mod, hP, ← Nat.add_mod])
      (by rw [Nat.add_assoc]; exact hsmall)
    refine ⟨(k, r) :: rs, ?_, by simp only [toViewKvs, Spec.viewKvs, hrv, hrsv], by simp only [List.map_cons, hrsk]⟩
    simp only [List.length_cons, List.map_cons, keyChildren_cons, childEncs, entriesOf, endsOf, List.cons_append]
    rw [parseObjectLoop_cons, show ((kTot + k.length : Nat) : Int) - (kTot : Int) = (k.length : Int) by omega,
      objKey_enc hk.left, ok_bind,
      show ((vTot + (Spec.encValue P x).2.length : Nat) : Int) - (vTot : Int) = ((Spec.encValue P x).2.length : Int) by omega,
      hr, ok_bind]
    rw [hrs]
    rfl

/-- on the combined entry array parseJSONBObject enters its loop at the first key and the first value -/
theorem parseObject_split (rec : Bytes → M JV) (data : Bytes) (dataStart : Nat) (K V : List Child) (h0 : 0 < K.length) :
    parseObject rec data data.length (entriesOf 0 0 (K ++ V)) (endsOf 0 (K ++ V)) dataStart K.length =
      parseObjectLoop rec data data.length dataStart K.length 0 (bodyOf K).length
        (endsOf 0 K ++ endsOf (bodyOf K).length V) (entriesOf K.length (bodyOf K).length V) (endsOf (bodyOf K).length V) := by
  unfold parseObject
  have hel : (entriesOf 0 0 K).length = K.length := entriesOf_length 0 0 K
  have hnl : (endsOf 0 K).length = K.length := endsOf_length 0 K
  rw [entriesOf_append, endsOf_append]
  simp only [Nat.zero_add]
  rw [dropM_ok _ _ (by simp [hel]), dropM_ok _ _ (by simp [hnl]), ok_bind, ok_bind, List.drop_left' hel, List.drop_left' hnl,
    getEntry_ok _ _ (by simp [hnl]; omega), ok_bind]
  have hlast : (endsOf 0 K ++ endsOf (bodyOf K).length V)[K.length - 1]'(by simp [hnl]; omega) = (bodyOf K).length := by
    have := getD_endsOf_last 0 K h0
    simp only [Nat.zero_add, List.getD, List.getElem?_eq_getElem (show K.length - 1 < (endsOf 0 K).length by omega),
      Option.getD_some] at this
    rw [List.getElem_append_left (by omega), this]
  rw [hlast]

theorem jvInsert_eq (m : List (Bytes × JV)) (k : Bytes) (v : JV) : jvInsert m k v = AssocMap.upsert m k v fun _ => v :=
  AssocMap.upsert_const m k v

theorem buildMap_nodup (kvs : List (Bytes × JV)) (h : (kvs.map (·.1)).Nodup) : buildMap kvs = kvs := by
  unfold buildMap
  simp only [jvInsert_eq]
  exact AssocMap.foldl_upsert_fresh kvs [] (fun e _ => e.2) h

/-- `P`: the position of the first value, which agrees mod 4 with that value's offset in the container (`hP`) -/
theorem parse_obj (kvs : List (Bytes × Spec.Json)) (P : Nat)
    (hP : P % 4 = (4 + kvs.length * 2 * 4 + (keyBytes kvs).length) % 4)
    (ih : ∀ kv ∈ kvs, DecodesAs kv.2) (hnd : (kvs.map (·.1)).Nodup) (hs : coveredKvs kvs = true)
    (hsmall : (objCont P kvs).length < 0x10000000) :
    ∃ r, parseJSONB (objCont P kvs) = .ok r ∧ r.toView = (Spec.Json.obj kvs).view := by
  rw [parseJSONB_unfold]
  by_cases hnil : kvs = []
  · subst hnil
    exact ⟨_, parseContainer_empty_obj _, rfl⟩
  have h0 : 0 < kvs.length := List.length_pos_iff.mpr hnil
  have hKl : (keyChildren (kvs.map (·.1))).length = kvs.length := by rw [keyChildren_length, List.length_map]
  have hVl : (childEncs P (kvs.map (·.2))).length = kvs.length := by rw [childEncs_length, List.length_map]
  have hcl : (keyChildren (kvs.map (·.1)) ++ childEncs P (kvs.map (·.2))).length = kvs.length * 2 := by
    rw [List.length_append, hKl, hVl]; omega
  have hty : ∀ c ∈ keyChildren (kvs.map (·.1)) ++ childEncs P (kvs.map (·.2)), c.1 < 8 := fun c hc =>
    (List.mem_append.mp hc).elim (keyChildren_ty _ c) (childEncs_ty _ _ c)
  have hlen := contBytes_length (objHeader kvs.length) (keyChildren (kvs.map (·.1)) ++ childEncs P (kvs.map (·.2)))
  have hbody := contBytes_body (objHeader kvs.length) (keyChildren (kvs.map (·.1)) ++ childEncs P (kvs.map (·.2)))
  rw [bodyOf_append, hcl] at hbody hlen
  rw [List.length_append] at hlen
  have hsm : (keyBytes kvs).length + (bodyOf (childEncs P (kvs.map (·.2)))).length < 0x10000000 :=
    Nat.lt_of_le_of_lt (by rw [objCont, objBytes, hlen, keyBytes]; omega) hsmall
  obtain ⟨rs, hrs, hv, hk⟩ := parseObjectLoop_enc (4 + kvs.length * 2 * 4) kvs ih hs P 0 kvs.length
    (keyBytes kvs).length (objCont P kvs) (endsOf (keyBytes kvs).length (childEncs P (kvs.map (·.2))))
    hbody.left hbody.right hP hsm
  have hsp := parseObject_split parseJSONB (objCont P kvs) (4 + kvs.length * 2 * 4) (keyChildren (kvs.map (·.1)))
    (childEncs P (kvs.map (·.2))) (by omega)
  rw [hKl] at hsp
  refine ⟨_, parseContainer_object _ kvs.length _ hcl h0 hsmall hty rs (hsp.trans hrs), ?_⟩
  rw [buildMap_nodup rs (by rw [hk]; exact hnd)]
  exact congrArg Spec.JView.obj hv

end PgVerif.Proofs
