/-
  The JEntry words of the JSONB model (jsonb.go): for ANY placement of HAS_OFF flags, endOffset / entryOffLen and ParseJSONB's
  forward pass (`endsFrom`) give the prefix sums of the lengths, and the two agree on every entry array.
-/
import PgVerif.Model.JsonbView
import PgVerif.Basic.Lemmas
namespace PgVerif.Proofs
open PgVerif PgVerif.Model

theorem land_0FFFFFFF (x : Nat) : x &&& 0x0FFFFFFF = x % 0x10000000 := land_mask x 28
theorem land_70000000 (x : Nat) : x &&& 0x70000000 = (x / 0x10000000 % 8) * 0x10000000 := land_field x 3 28

theorem jeOffLen_eq (je : Nat) : jeOffLen je = je % 0x10000000 := land_0FFFFFFF je

theorem jeHasOff_eq (je : Nat) : jeHasOff je = (je / 0x80000000 % 2 == 1) := land_pow_flag je 31

theorem mkEntry_type (ty v : Nat) (f : Bool) (hv : v < 0x10000000) (ht : ty < 8) :
    Spec.mkEntry ty f v / 0x10000000 % 8 = ty := by
  unfold Spec.mkEntry
  cases f
  · simp only [Bool.false_eq_true, if_false]; omega
  · simp only [if_true]; omega

theorem jeOffLen_mk (ty v : Nat) (f : Bool) (hv : v < 0x10000000) : jeOffLen (Spec.mkEntry ty f v) = v := by
  rw [jeOffLen_eq]
  unfold Spec.mkEntry
  cases f
  · simp only [Bool.false_eq_true, if_false]; omega
  · simp only [if_true]; omega

theorem jeHasOff_mk (ty v : Nat) (f : Bool) (hv : v < 0x10000000) (ht : ty < 8) : jeHasOff (Spec.mkEntry ty f v) = f := by
  rw [jeHasOff_eq]
  unfold Spec.mkEntry
  cases f
  · have e : (ty * 0x10000000 + v + (if false = true then 0x80000000 else 0)) / 0x80000000 % 2 = 0 := by
      simp only [Bool.false_eq_true, if_false]; omega
    rw [e]; rfl
  · have e : (ty * 0x10000000 + v + (if true = true then 0x80000000 else 0)) / 0x80000000 % 2 = 1 := by
      simp only [if_true]; omega
    rw [e]; rfl

theorem jeType_mk (ty v : Nat) (f : Bool) (hv : v < 0x10000000) (ht : ty < 8) :
    Spec.mkEntry ty f v &&& 0x70000000 = ty * 0x10000000 :=
  (land_70000000 _).trans (congrArg (· * 0x10000000) (mkEntry_type ty v f hv ht))

/-! ### `pre`, `encE`: entry arrays with any placement of HAS_OFF flags -/

def pre (lens : List Nat) (n : Nat) : Nat := (lens.take n).sum

/-- HAS_OFF, and then the end offset instead of the length, wherever `flags` says so -/
def encE (lens tys : List Nat) (flags : Nat → Bool) : List Nat :=
  (List.range lens.length).map fun i =>
    if flags i then Spec.mkEntry (tys.getD i 0) true (pre lens (i+1)) else Spec.mkEntry (tys.getD i 0) false (lens.getD i 0)

theorem pre_succ (lens : List Nat) (i : Nat) (h : i < lens.length) :
    pre lens (i+1) = pre lens i + lens.getD i 0 := by
  unfold pre
  rw [List.take_add_one, List.getElem?_eq_getElem h]
  simp only [Option.toList, List.sum_append, List.sum_cons, List.sum_nil, List.getD, Option.getD, Nat.add_zero,
    List.getElem?_eq_getElem h]

theorem pre_le_total (lens : List Nat) (i : Nat) : pre lens i ≤ pre lens lens.length := by
  unfold pre
  rw [List.take_length]
  exact sum_take_le lens i

theorem len_le_total (lens : List Nat) (i : Nat) (h : i < lens.length) : lens.getD i 0 ≤ pre lens lens.length := by
  have := pre_succ lens i h
  have := pre_le_total lens (i+1)
  omega

theorem getD_encE (lens tys : List Nat) (flags : Nat → Bool) (i : Nat) (h : i < lens.length) :
    (encE lens tys flags).getD i 0 =
      if flags i then Spec.mkEntry (tys.getD i 0) true (pre lens (i+1)) else Spec.mkEntry (tys.getD i 0) false (lens.getD i 0) := by
  simp [encE, List.getD, h]

theorem encE_length (lens tys : List Nat) (flags : Nat → Bool) : (encE lens tys flags).length = lens.length := by
  simp [encE]

-- In this section and the two later ones with the same variables every lemma is called as `L lens tys flags hsmall hty <own args>`
-- (without `hty` under `omit hty in`).  `hsmall`: PostgreSQL's 2^28 bound on the data area, so that every length and end offset fits
-- its 28-bit field; `hty`: a type fits its 3-bit field.
section
variable (lens tys : List Nat) (flags : Nat → Bool)
variable (hsmall : pre lens lens.length < 0x10000000) (hty : ∀ i, tys.getD i 0 < 8)
include hsmall hty

omit hty in
theorem offLen_encE (i : Nat) (h : i < lens.length) :
    jeOffLen ((encE lens tys flags).getD i 0) = if flags i then pre lens (i+1) else lens.getD i 0 := by
  rw [getD_encE lens tys flags i h]
  have h1 := pre_le_total lens (i+1)
  have h2 := len_le_total lens i h
  cases flags i
  · simp only [Bool.false_eq_true, if_false]; exact jeOffLen_mk _ _ _ (by omega)
  · simp only [if_true]; exact jeOffLen_mk _ _ _ (by omega)

theorem hasOff_encE (i : Nat) (h : i < lens.length) :
    jeHasOff ((encE lens tys flags).getD i 0) = flags i := by
  rw [getD_encE lens tys flags i h]
  have h1 := pre_le_total lens (i+1)
  have h2 := len_le_total lens i h
  cases flags i
  · simp only [Bool.false_eq_true, if_false]; exact jeHasOff_mk _ _ _ (by omega) (hty i)
  · simp only [if_true]; exact jeHasOff_mk _ _ _ (by omega) (hty i)

/-! ### `endOffset` on `encE` by its own backward scan (`endOffset_encE` goes through the forward pass; nothing rests on these two) -/

omit hty in
theorem sumFrom_unflagged (a n : Nat)
    (hb : a + n ≤ lens.length) (hu : ∀ j, a ≤ j → j < a + n → flags j = false) :
    sumFrom (encE lens tys flags) a n + pre lens a = pre lens (a + n) := by
  induction n generalizing a with
  | zero => simp [sumFrom]
  | succ n ih =>
    have ha : a < lens.length := by omega
    have := ih (a+1) (by omega) (fun j h1 h2 => hu j (by omega) (by omega))
    simp only [sumFrom, offLen_encE lens tys flags hsmall a ha, hu a (Nat.le_refl a) (by omega)]
    rw [pre_succ lens a ha] at this
    simp at this ⊢
    rw [show a + (n + 1) = a + 1 + n by omega]
    omega

theorem scan_spec (idx : Nat) (hidx : idx < lens.length)
    (k : Nat) (hk : k ≤ idx + 1) (hu : ∀ j, k ≤ j → j ≤ idx → flags j = false) :
    (match scan (encE lens tys flags) idx k with
     | some v => v
     | none => sumFrom (encE lens tys flags) 0 (idx+1)) = pre lens (idx+1) := by
  induction k with
  | zero =>
    simp only [scan]
    have := sumFrom_unflagged lens tys flags hsmall 0 (idx+1) (by omega) (fun j _ h2 => hu j (by omega) (by omega))
    simpa [pre] using this
  | succ k ih =>
    have hkl : k < lens.length := by omega
    simp only [scan, hasOff_encE lens tys flags hsmall hty k hkl, offLen_encE lens tys flags hsmall k hkl]
    cases hf : flags k with
    | true =>
      simp only [if_true]
      have := sumFrom_unflagged lens tys flags hsmall (k+1) (idx - k) (by omega)
        (fun j h1 h2 => hu j (by omega) (by omega))
      rw [show k + 1 + (idx - k) = idx + 1 by omega] at this
      show pre lens (k + 1) + sumFrom (encE lens tys flags) (k + 1) (idx - k) = pre lens (idx + 1)
      omega
    | false =>
      simp only [Bool.false_eq_true, if_false]
      exact ih (by omega) (fun j h1 h2 => by
        by_cases hj : j = k
        · subst hj; exact hf
        · exact hu j (by omega) h2)

end

def presFrom (lens : List Nat) (a m : Nat) : List Nat := (List.range' a m).map fun i => pre lens (i+1)

theorem presFrom_length (lens : List Nat) (a m : Nat) : (presFrom lens a m).length = m := by
  simp [presFrom]

theorem getD_presFrom (lens : List Nat) (a m k : Nat) (h : k < m) :
    (presFrom lens a m).getD k 0 = pre lens (a + k + 1) := by
  simp [presFrom, List.getD, h]

theorem encE_eq_range' (lens tys : List Nat) (flags : Nat → Bool) :
    encE lens tys flags = (List.range' 0 lens.length).map fun i =>
      if flags i then Spec.mkEntry (tys.getD i 0) true (pre lens (i+1)) else Spec.mkEntry (tys.getD i 0) false (lens.getD i 0) := by
  unfold encE; rw [List.range_eq_range']

theorem endsFrom_cons (e0 je : Nat) (rest ends : List Nat) (h : endsFrom e0 (je :: rest) = some ends) :
    ∃ t, ends = (if jeHasOff je then jeOffLen je else e0 + jeOffLen je) :: t ∧
      endsFrom (if jeHasOff je then jeOffLen je else e0 + jeOffLen je) rest = some t ∧
      e0 ≤ (if jeHasOff je then jeOffLen je else e0 + jeOffLen je) := by
  simp only [endsFrom] at h
  cases hf : jeHasOff je with
  | false =>
    simp only [hf, Bool.not_false, if_true, Bool.false_eq_true, if_false] at h ⊢
    obtain ⟨t, ht, rfl⟩ := Option.map_eq_some_iff.mp h
    exact ⟨t, rfl, ht, by omega⟩
  | true =>
    simp only [hf, Bool.not_true, Bool.false_eq_true, if_false, if_true] at h ⊢
    split at h
    · cases h
    · obtain ⟨t, ht, rfl⟩ := Option.map_eq_some_iff.mp h
      exact ⟨t, rfl, ht, by omega⟩

theorem endsFrom_length (end_ : Nat) (es ends : List Nat) (h : endsFrom end_ es = some ends) :
    ends.length = es.length := by
  induction es generalizing end_ ends with
  | nil => simp only [endsFrom, Option.some.injEq] at h; subst h; rfl
  | cons je rest ih =>
    obtain ⟨t, rfl, ht, _⟩ := endsFrom_cons end_ je rest ends h
    simp [ih _ _ ht]

section
variable (lens tys : List Nat) (flags : Nat → Bool)
variable (hsmall : pre lens lens.length < 0x10000000) (hty : ∀ i, tys.getD i 0 < 8)
include hsmall hty

theorem endsFrom_range' (m a : Nat) (h : a + m ≤ lens.length) :
    endsFrom (pre lens a) ((List.range' a m).map fun i =>
      if flags i then Spec.mkEntry (tys.getD i 0) true (pre lens (i+1)) else Spec.mkEntry (tys.getD i 0) false (lens.getD i 0)) =
    some (presFrom lens a m) := by
  induction m generalizing a with
  | zero => rfl
  | succ m ih =>
    have ha : a < lens.length := by omega
    have hoff := offLen_encE lens tys flags hsmall a ha
    have hhas := hasOff_encE lens tys flags hsmall hty a ha
    rw [getD_encE lens tys flags a ha] at hoff hhas
    have hps := pre_succ lens a ha
    have ihr := ih (a + 1) (by omega)
    simp only [List.range'_succ, List.map_cons, endsFrom, presFrom, hoff, hhas]
    cases hf : flags a with
    | false =>
      simp only [Bool.not_false, if_true, Bool.false_eq_true, if_false]
      rw [← hps, ihr]; rfl
    | true =>
      simp only [Bool.not_true, Bool.false_eq_true, if_false, if_true]
      rw [if_neg (by omega), ihr]; rfl

theorem endsFrom_encE : endsFrom 0 (encE lens tys flags) = some (presFrom lens 0 lens.length) := by
  rw [encE_eq_range']
  have := endsFrom_range' lens tys flags hsmall hty lens.length 0 (by omega)
  simpa [pre] using this

end

/-- what the loops of parseJSONBArray / parseJSONBObject hand to decodeJEntry for entry `idx`: it starts at `ends[idx-1]` (0 for the
first) and is `ends[idx] - start` long -/
def spanAt (ends : List Nat) (idx : Nat) : Nat × Int :=
  let start := if idx > 0 then ends.getD (idx-1) 0 else 0
  (start, (ends.getD idx 0 : Int) - start)

theorem spanAt_presFrom (lens : List Nat) (idx : Nat) (h : idx < lens.length) :
    spanAt (presFrom lens 0 lens.length) idx = (pre lens idx, (lens.getD idx 0 : Int)) := by
  unfold spanAt
  have hps := pre_succ lens idx h
  rw [getD_presFrom lens 0 _ idx h]
  by_cases h0 : idx > 0
  · rw [if_pos h0, getD_presFrom lens 0 _ (idx-1) (by omega)]
    simp only [Nat.zero_add, show idx - 1 + 1 = idx by omega, hps]
    congr 1; omega
  · rw [if_neg h0]
    have : idx = 0 := by omega
    subst this
    have hp0 : pre lens 0 = 0 := by simp [pre]
    simp only [Nat.zero_add, hps, hp0]
    congr 1

theorem sumFrom_snoc (es : List Nat) (a n : Nat) :
    sumFrom es a (n+1) = sumFrom es a n + jeOffLen (es.getD (a+n) 0) := by
  induction n generalizing a with
  | zero => simp [sumFrom]
  | succ n ih =>
    rw [sumFrom, ih (a+1), sumFrom]
    rw [show a + 1 + n = a + (n + 1) by omega]
    omega

/-- what `endOffset` returns when its backward scan has `k` positions left (`scan_spec` writes it out as a `match`) -/
def scanOr (es : List Nat) (idx k : Nat) : Nat :=
  match scan es idx k with
  | some v => v
  | none => sumFrom es 0 (idx+1)

theorem endOffset_eq_scanOr (es : List Nat) (idx : Nat) : endOffset es idx = scanOr es idx (idx+1) := rfl

theorem scanOr_zero (es : List Nat) (idx : Nat) : scanOr es idx 0 = sumFrom es 0 (idx+1) := rfl

theorem scanOr_succ (es : List Nat) (idx k : Nat) :
    scanOr es idx (k+1) = if jeHasOff (es.getD k 0) then jeOffLen (es.getD k 0) + sumFrom es (k+1) (idx - k)
      else scanOr es idx k := by
  unfold scanOr
  rw [scan]
  by_cases hf : jeHasOff (es.getD k 0) = true
  · rw [if_pos hf, if_pos hf]
  · rw [if_neg hf, if_neg hf]

theorem scanOr_succ_idx (es : List Nat) (i k : Nat) (hk : k ≤ i + 1) :
    scanOr es (i+1) k = scanOr es i k + jeOffLen (es.getD (i+1) 0) := by
  induction k with
  | zero =>
    rw [scanOr_zero, scanOr_zero, sumFrom_snoc es 0 (i+1), Nat.zero_add]
  | succ k ih =>
    rw [scanOr_succ, scanOr_succ]
    by_cases hf : jeHasOff (es.getD k 0) = true
    · rw [if_pos hf, if_pos hf, show i + 1 - k = (i - k) + 1 by omega, sumFrom_snoc,
        show k + 1 + (i - k) = i + 1 by omega]
      omega
    · rw [if_neg hf, if_neg hf]
      exact ih (by omega)

theorem endOffset_zero (es : List Nat) : endOffset es 0 = jeOffLen (es.getD 0 0) := by
  rw [endOffset_eq_scanOr, scanOr_succ, scanOr_zero]
  simp [sumFrom]

theorem endOffset_succ (es : List Nat) (i : Nat) :
    endOffset es (i+1) = if jeHasOff (es.getD (i+1) 0) then jeOffLen (es.getD (i+1) 0)
      else endOffset es i + jeOffLen (es.getD (i+1) 0) := by
  rw [endOffset_eq_scanOr, scanOr_succ, scanOr_succ_idx es i (i+1) (by omega), ← endOffset_eq_scanOr]
  simp [sumFrom]

theorem endsFrom_getD (e0 : Nat) (es ends : List Nat) (h : endsFrom e0 es = some ends) (i : Nat) (hi : i < es.length) :
    ends.getD i 0 = (if jeHasOff (es.getD i 0) then jeOffLen (es.getD i 0)
      else (if i > 0 then ends.getD (i-1) 0 else e0) + jeOffLen (es.getD i 0)) ∧
    (if i > 0 then ends.getD (i-1) 0 else e0) ≤ ends.getD i 0 := by
  induction es generalizing e0 ends i with
  | nil => simp at hi
  | cons je rest ih =>
    obtain ⟨t, rfl, ht, hle⟩ := endsFrom_cons e0 je rest ends h
    cases i with
    | zero => simpa using hle
    | succ i =>
      have := ih _ t ht i (by simpa using hi)
      -- split once more only so that `i + 1 - 1` and `i + 1 > 0` in `this` reduce
      cases i with
      | zero => simpa using this
      | succ i => simpa using this

theorem endsFrom_eq_endOffset (es ends : List Nat) (h : endsFrom 0 es = some ends) (idx : Nat) (hidx : idx < es.length) :
    ends.getD idx 0 = endOffset es idx := by
  induction idx with
  | zero =>
    rw [(endsFrom_getD 0 es ends h 0 hidx).1, endOffset_zero]
    simp
  | succ i ih =>
    rw [(endsFrom_getD 0 es ends h (i+1) hidx).1, endOffset_succ, ← ih (by omega)]
    simp

theorem spanAt_eq_entryOffLen (es ends : List Nat) (h : endsFrom 0 es = some ends) (idx : Nat) (hidx : idx < es.length) :
    spanAt ends idx = entryOffLenPure es idx 0 := by
  have hrec := (endsFrom_getD 0 es ends h idx hidx).1
  have hstart : (if idx > 0 then ends.getD (idx-1) 0 else 0) = (if idx > 0 then endOffset es (idx-1) else 0) := by
    by_cases h0 : idx > 0
    · rw [if_pos h0, if_pos h0, endsFrom_eq_endOffset es ends h (idx-1) (by omega)]
    · rw [if_neg h0, if_neg h0]
  unfold spanAt entryOffLenPure
  simp only [Nat.zero_add]
  rw [← hstart, hrec]
  by_cases hf : jeHasOff (es.getD idx 0) = true
  · simp only [hf, if_true]
  · simp only [hf, Bool.false_eq_true, if_false]
    congr 1
    omega

theorem entryOffLenPure_base (es : List Nat) (idx base : Nat) :
    entryOffLenPure es idx base = (base + (entryOffLenPure es idx 0).1, (entryOffLenPure es idx 0).2) := by
  unfold entryOffLenPure
  by_cases hf : jeHasOff (es.getD idx 0) = true
  · simp only [hf, if_true, Nat.zero_add]
  · simp only [hf, Bool.false_eq_true, if_false, Nat.zero_add]

section
variable (lens tys : List Nat) (flags : Nat → Bool)
variable (hsmall : pre lens lens.length < 0x10000000) (hty : ∀ i, tys.getD i 0 < 8)
include hsmall hty

theorem endOffset_encE (idx : Nat) (hidx : idx < lens.length) :
    endOffset (encE lens tys flags) idx = pre lens (idx+1) := by
  rw [← endsFrom_eq_endOffset _ _ (endsFrom_encE lens tys flags hsmall hty) idx (by rw [encE_length]; exact hidx),
    getD_presFrom lens 0 _ idx hidx, Nat.zero_add]

theorem entryOffLenPure_encE (idx base : Nat) (hidx : idx < lens.length) :
    entryOffLenPure (encE lens tys flags) idx base = (base + pre lens idx, (lens.getD idx 0 : Int)) := by
  rw [entryOffLenPure_base, ← spanAt_eq_entryOffLen _ _ (endsFrom_encE lens tys flags hsmall hty) idx
    (by rw [encE_length]; exact hidx), spanAt_presFrom lens idx hidx]

end

end PgVerif.Proofs
