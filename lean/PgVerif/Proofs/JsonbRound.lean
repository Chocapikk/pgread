/-
  Round trip of the JSONB parser model on PostgreSQL's encoding (Spec.encJsonb): containers in general, and arrays.  A child's
  bytes stand at an offset of the data (`At`, Lib/Reads.lean) that agrees mod 4 with the position PostgreSQL padded for; the
  parser's recursion enters through `parseJSONB_unfold` alone: no fuel.
-/
import PgVerif.Proofs.Jsonb
namespace PgVerif.Proofs
open PgVerif PgVerif.Model

abbrev Child := Nat × Bytes

/-- HAS_OFF on every 32nd entry: PostgreSQL's JB_OFFSET_STRIDE, the placement `Spec.strideEntry` writes (`entriesOf_eq_encE`) -/
def stride : Nat → Bool := fun i => i % 32 == 0

/-- the JEntries convertJsonb* writes for `cs`; `idx`: index of the first in the entry array, `total`: data bytes already emitted -/
def entriesOf (idx total : Nat) : List Child → List Nat
  | [] => []
  | c :: rest => Spec.strideEntry idx c.1 c.2.length (total + c.2.length) :: entriesOf (idx + 1) (total + c.2.length) rest

def bodyOf : List Child → Bytes
  | [] => []
  | c :: rest => c.2 ++ bodyOf rest

def lensOf (cs : List Child) : List Nat := cs.map (·.2.length)
def tysOf (cs : List Child) : List Nat := cs.map (·.1)

theorem entriesOf_length (idx total : Nat) (cs : List Child) : (entriesOf idx total cs).length = cs.length := by
  induction cs generalizing idx total with
  | nil => rfl
  | cons c rest ih => simp [entriesOf, ih]

theorem entriesOf_append (idx total : Nat) (a b : List Child) :
    entriesOf idx total (a ++ b) = entriesOf idx total a ++ entriesOf (idx + a.length) (total + (bodyOf a).length) b := by
  induction a generalizing idx total with
  | nil => simp [entriesOf, bodyOf]
  | cons c rest ih =>
    simp only [List.cons_append, entriesOf, ih, bodyOf, List.length_cons, List.length_append]
    rw [show idx + 1 + rest.length = idx + (rest.length + 1) by omega,
      show total + c.2.length + (bodyOf rest).length = total + (c.2.length + (bodyOf rest).length) by omega]

theorem getD_entriesOf (idx total : Nat) (cs : List Child) (i : Nat) (h : i < cs.length) :
    (entriesOf idx total cs).getD i 0 =
      Spec.strideEntry (idx + i) ((tysOf cs).getD i 0) ((lensOf cs).getD i 0) (total + pre (lensOf cs) (i + 1)) := by
  induction cs generalizing idx total i with
  | nil => simp at h
  | cons c rest ih =>
    cases i with
    | zero => simp [entriesOf, tysOf, lensOf, pre]
    | succ i =>
      have := ih (idx + 1) (total + c.2.length) i (by simpa using h)
      simp only [entriesOf, List.getD_cons_succ, this, tysOf, lensOf, List.map_cons, pre, List.take_succ_cons,
        List.sum_cons]
      congr 1 <;> omega

/-- what makes the offset theorems about `encE` (`C06_offsets`) speak of the entry arrays PostgreSQL writes -/
theorem entriesOf_eq_encE (cs : List Child) :
    entriesOf 0 0 cs = encE (lensOf cs) (tysOf cs) stride := by
  apply ext_getD
  · simp [entriesOf_length, encE_length, lensOf]
  · intro i hi
    rw [entriesOf_length] at hi
    rw [getD_entriesOf 0 0 cs i hi, getD_encE _ _ _ i (by simpa [lensOf] using hi)]
    simp only [Spec.strideEntry, Nat.zero_add]
    by_cases h : (i % 32 == 0) = true
    · have h' : stride i = true := h
      rw [if_pos h, if_pos h']
    · have h' : ¬ stride i = true := h
      rw [if_neg h, if_neg h']

theorem encEntries_length (es : List Nat) : (Spec.encEntries es).length = 4 * es.length := by
  induction es with
  | nil => rfl
  | cons e es ih => simp [Spec.encEntries, ih]; omega

theorem readEntries_enc (es : List Nat) (rest : Bytes) (hlt : ∀ e ∈ es, e < 256 ^ 4) :
    readEntries es.length (Spec.encEntries es ++ rest) = .ok es := by
  induction es with
  | nil => rfl
  | cons e es ih =>
    simp only [List.length_cons, Spec.encEntries]
    rw [readEntries_succ _ _ (by simp [le_length])]
    simp only [List.append_assoc]
    rw [rd_le 4 e _ (hlt e (by simp)), List.drop_left' (by simp [le_length])]
    rw [ih (fun x hx => hlt x (by simp [hx]))]; rfl

theorem mkEntry_lt (ty v : Nat) (f : Bool) (hv : v < 0x10000000) (ht : ty < 8) : Spec.mkEntry ty f v < 256 ^ 4 := by
  unfold Spec.mkEntry
  rw [show (256 : Nat) ^ 4 = 0x100000000 from rfl]
  cases f
  · simp only [Bool.false_eq_true, if_false]; omega
  · simp only [if_true]; omega

theorem entriesOf_lt (idx total : Nat) (cs : List Child) (hsmall : total + (bodyOf cs).length < 0x10000000)
    (hty : ∀ c ∈ cs, c.1 < 8) : ∀ e ∈ entriesOf idx total cs, e < 256 ^ 4 := by
  induction cs generalizing idx total with
  | nil => intro e he; simp [entriesOf] at he
  | cons c rest ih =>
    intro e he
    simp only [entriesOf, List.mem_cons] at he
    simp only [bodyOf, List.length_append] at hsmall
    rcases he with he | he
    · subst he
      unfold Spec.strideEntry
      split
      · exact mkEntry_lt _ _ _ (by omega) (hty c (by simp))
      · exact mkEntry_lt _ _ _ (by omega) (hty c (by simp))
    · exact ih (idx + 1) (total + c.2.length) (by omega) (fun x hx => hty x (by simp [hx])) e he

def endsOf (total : Nat) : List Child → List Nat
  | [] => []
  | c :: rest => (total + c.2.length) :: endsOf (total + c.2.length) rest

theorem endsOf_length (total : Nat) (cs : List Child) : (endsOf total cs).length = cs.length := by
  induction cs generalizing total with
  | nil => rfl
  | cons c rest ih => simp [endsOf, ih]

theorem endsOf_append (total : Nat) (a b : List Child) :
    endsOf total (a ++ b) = endsOf total a ++ endsOf (total + (bodyOf a).length) b := by
  induction a generalizing total with
  | nil => simp [endsOf, bodyOf]
  | cons c rest ih =>
    simp only [List.cons_append, endsOf, ih, bodyOf, List.length_append]
    rw [show total + c.2.length + (bodyOf rest).length = total + (c.2.length + (bodyOf rest).length) by omega]

theorem getD_endsOf (total : Nat) (cs : List Child) (i : Nat) (h : i < cs.length) :
    (endsOf total cs).getD i 0 = total + pre (lensOf cs) (i + 1) := by
  induction cs generalizing total i with
  | nil => simp at h
  | cons c rest ih =>
    cases i with
    | zero => simp [endsOf, lensOf, pre]
    | succ i =>
      have := ih (total + c.2.length) i (by simpa using h)
      simp only [endsOf, List.getD_cons_succ, this, lensOf, List.map_cons, pre, List.take_succ_cons, List.sum_cons]
      omega

theorem bodyOf_length (cs : List Child) : (bodyOf cs).length = pre (lensOf cs) cs.length := by
  induction cs with
  | nil => rfl
  | cons c rest ih =>
    simp only [bodyOf, List.length_append, ih, lensOf, pre, List.map_cons, List.length_cons, List.take_succ_cons,
      List.sum_cons]

theorem getD_endsOf_last (total : Nat) (cs : List Child) (h : 0 < cs.length) :
    (endsOf total cs).getD (cs.length - 1) 0 = total + (bodyOf cs).length := by
  rw [getD_endsOf total cs _ (by omega), show cs.length - 1 + 1 = cs.length by omega, bodyOf_length]

theorem endsOf_eq_presFrom (cs : List Child) : endsOf 0 cs = presFrom (lensOf cs) 0 cs.length := by
  apply ext_getD
  · rw [endsOf_length, presFrom_length]
  · intro i hi
    rw [endsOf_length] at hi
    rw [getD_endsOf 0 cs i hi, getD_presFrom _ 0 _ i hi, Nat.zero_add, Nat.zero_add]

theorem tysOf_lt (cs : List Child) (hty : ∀ c ∈ cs, c.1 < 8) (i : Nat) : (tysOf cs).getD i 0 < 8 := by
  by_cases hi : i < cs.length
  · simp only [tysOf, List.getD, List.getElem?_map, List.getElem?_eq_getElem hi, Option.map_some, Option.getD_some]
    exact hty _ (List.getElem_mem hi)
  · have hn : (tysOf cs)[i]? = none := List.getElem?_eq_none (by simp only [tysOf, List.length_map]; omega)
    simp [List.getD, hn]

theorem endsFrom_entriesOf (cs : List Child) (hsmall : (bodyOf cs).length < 0x10000000) (hty : ∀ c ∈ cs, c.1 < 8) :
    endsFrom 0 (entriesOf 0 0 cs) = some (endsOf 0 cs) := by
  have hl : (lensOf cs).length = cs.length := by simp [lensOf]
  rw [entriesOf_eq_encE, endsFrom_encE (lensOf cs) (tysOf cs) stride (by rw [hl, ← bodyOf_length]; exact hsmall)
    (tysOf_lt cs hty), hl, endsOf_eq_presFrom]

/-- a container: header word `H`, the JEntries of the children `cs`, their bytes -/
def contBytes (H : Nat) (cs : List Child) : Bytes :=
  le 4 H ++ (Spec.encEntries (entriesOf 0 0 cs) ++ bodyOf cs)

theorem contBytes_length (H : Nat) (cs : List Child) :
    (contBytes H cs).length = 4 + 4 * cs.length + (bodyOf cs).length := by
  simp [contBytes, le_length, encEntries_length, entriesOf_length]; omega

theorem contBytes_body (H : Nat) (cs : List Child) : At (contBytes H cs) (4 + cs.length * 4) (bodyOf cs) := by
  rw [contBytes, ← List.append_assoc]
  exact at_end _ _ (by simp [le_length, encEntries_length, entriesOf_length]; omega)

/-- what ParseJSONB reads before its loops; `hsmall`: the count and every offset fit their 28-bit fields -/
theorem contBytes_read (H : Nat) (cs : List Child) (hH : H < 256 ^ 4)
    (hsmall : (contBytes H cs).length < 0x10000000) (hty : ∀ c ∈ cs, c.1 < 8) :
    uN 4 (contBytes H cs) 0 = .ok H ∧
    readEntries cs.length ((contBytes H cs).drop 4) = .ok (entriesOf 0 0 cs) ∧
    endsFrom 0 (entriesOf 0 0 cs) = some (endsOf 0 cs) := by
  have hlen := contBytes_length H cs
  refine ⟨?_, ?_, endsFrom_entriesOf cs (by omega) hty⟩
  · exact (at_zero (le 4 H) _).uN hH
  · have := readEntries_enc (entriesOf 0 0 cs) (bodyOf cs) (entriesOf_lt 0 0 cs (by omega) hty)
    rw [entriesOf_length] at this
    rw [contBytes, List.drop_left' (le_length 4 H)]
    exact this

theorem parseContainer_empty (rec : Bytes → M JV) (H : Nat) (cs : List Child) (hH : H < 256 ^ 4)
    (h0 : H &&& 0x0FFFFFFF = 0) (hflag : (!(H &&& 0x20000000 != 0) && !(H &&& 0x40000000 != 0)) = false) :
    parseContainer rec (contBytes H cs) = .ok (if (H &&& 0x20000000 != 0) = true then .obj [] else .arr []) := by
  have hu : uN 4 (contBytes H cs) 0 = .ok H := (at_zero (le 4 H) _).uN hH
  rw [parseContainer_eq rec _ H 0 _ _ _ _ hu h0 rfl rfl rfl rfl, hflag]
  rfl

/-- `sc`: the SCALAR flag -/
def arrHeader (n : Nat) (sc : Bool) : Nat := n + 0x40000000 + (if sc then 0x10000000 else 0)

theorem arrHeader_fields (n : Nat) (sc : Bool) (hn : n < 0x10000000) :
    arrHeader n sc < 256 ^ 4 ∧ arrHeader n sc &&& 0x0FFFFFFF = n ∧ (arrHeader n sc &&& 0x20000000 != 0) = false ∧
    (arrHeader n sc &&& 0x40000000 != 0) = true ∧ (arrHeader n sc &&& 0x10000000 != 0) = sc := by
  rw [land_0FFFFFFF, show (arrHeader n sc &&& 0x20000000 != 0) = _ from land_pow_flag _ 29,
    show (arrHeader n sc &&& 0x40000000 != 0) = _ from land_pow_flag _ 30,
    show (arrHeader n sc &&& 0x10000000 != 0) = _ from land_pow_flag _ 28]
  -- the word is n + 4·2^28 + s·2^28 with n < 2^28, s ≤ 1
  unfold arrHeader
  cases sc <;> simp only [Bool.false_eq_true, if_false, if_true, beq_iff_eq, beq_eq_false_iff_ne] <;> omega

def arrBytes (cs : List Child) (sc : Bool) : Bytes := contBytes (arrHeader cs.length sc) cs

theorem parseContainer_array (rec : Bytes → M JV) (cs : List Child) (sc : Bool) (h0 : 0 < cs.length)
    (hsmall : (arrBytes cs sc).length < 0x10000000) (hty : ∀ c ∈ cs, c.1 < 8) (rs : List JV)
    (hloop : parseArrayLoop rec (arrBytes cs sc) (arrBytes cs sc).length (4 + cs.length * 4) cs.length 0
      (entriesOf 0 0 cs) (endsOf 0 cs) = .ok rs) :
    parseContainer rec (arrBytes cs sc) = .ok (unwrapScalar sc rs) := by
  have hlen := contBytes_length (arrHeader cs.length sc) cs
  -- the count fits the 28-bit field of the header because the whole container is below 2^28 bytes
  obtain ⟨a1, a2, a3, a4, a5⟩ := arrHeader_fields cs.length sc (by unfold arrBytes at hsmall; omega)
  obtain ⟨hu, hre, hm⟩ := contBytes_read _ cs a1 hsmall hty
  unfold arrBytes at hloop ⊢
  have c2 : ¬ (cs.length == 0) = true := by rw [beq_iff_eq]; omega
  rw [parseContainer_eq rec _ _ cs.length cs.length false true sc hu a2 a3 a4 a5 rfl,
    if_neg (by decide), if_neg c2, if_neg (by omega), hre, ok_bind]
  simp only [hm]
  rw [if_neg (by decide), hloop, ok_bind]

theorem parseContainer_empty_arr (rec : Bytes → M JV) (sc : Bool) :
    parseContainer rec (arrBytes [] sc) = .ok (.arr []) := by
  obtain ⟨a1, a2, a3, a4, _⟩ := arrHeader_fields 0 sc (by decide)
  have := parseContainer_empty rec (arrHeader 0 sc) [] a1 a2 (by rw [a3, a4]; rfl)
  rw [a3] at this
  exact this

theorem decodeJEntry_str (rec : Bytes → M JV) {data s : Bytes} {off : Nat} (h : At data off s) (e : Nat)
    (he0 : e / 0x10000000 % 8 = 0) : decodeJEntry rec data off (s.length : Int) e = .ok (.str s) := by
  rw [decodeJEntry_eq, he0]
  simp only [Int.toNat_natCast]
  rw [if_pos ⟨by omega, h.length_le⟩, h.slice]
  rfl

theorem padTo4_aligned (pos : Nat) : (pos + Spec.padTo4 pos) % 4 = 0 ∧ Spec.padTo4 pos < 4 := by
  unfold Spec.padTo4; omega

/-- PostgreSQL's padding (counted from the start of the varlena, `pos`) is the reader's (counted from the start of the data, `off`)
when the two agree mod 4 -/
theorem withChild_enc {data body : Bytes} {off : Nat} (pos : Nat) (h : At data off (zeros (Spec.padTo4 pos) ++ body))
    (hp : pos % 4 = off % 4) (hb : 0 < body.length) (k : Bytes → M JV) :
    withChild data off ((Spec.padTo4 pos + body.length : Nat) : Int) k = k body := by
  have h1 : align4 off = off + Spec.padTo4 pos := by rw [align4_eq]; unfold roundUp Spec.padTo4; omega
  have hl := h.length_le
  have hs := h.right.slice
  rw [List.length_append, zeros_length] at hl
  rw [zeros_length] at hs
  unfold withChild
  rw [Int.toNat_natCast, h1, show off + Spec.padTo4 pos + (Spec.padTo4 pos + body.length) - (off + Spec.padTo4 pos - off) =
    off + Spec.padTo4 pos + body.length by omega, if_pos ⟨by omega, by omega⟩, hs]
  rfl

theorem decodeJEntry_num (rec : Bytes → M JV) {data body : Bytes} {off : Nat} (pos e : Nat)
    (h : At data off (zeros (Spec.padTo4 pos) ++ body))
    (he0 : e / 0x10000000 % 8 = 1) (hp : pos % 4 = off % 4) (hb : 0 < body.length) :
    decodeJEntry rec data off ((Spec.padTo4 pos + body.length : Nat) : Int) e =
      decodeJNumeric body >>= fun r => .ok (JV.ofNum r) := by
  rw [decodeJEntry_eq, he0]
  exact withChild_enc pos h hp hb _

theorem decodeJEntry_container (rec : Bytes → M JV) {data body : Bytes} {off : Nat} (pos e : Nat)
    (h : At data off (zeros (Spec.padTo4 pos) ++ body))
    (he0 : e / 0x10000000 % 8 = 5) (hp : pos % 4 = off % 4) (hb : 0 < body.length) :
    decodeJEntry rec data off ((Spec.padTo4 pos + body.length : Nat) : Int) e = rec body := by
  rw [decodeJEntry_eq, he0]
  exact withChild_enc pos h hp hb _

def childEncs (pos : Nat) : List Spec.Json → List Child
  | [] => []
  | x :: xs => Spec.encValue pos x :: childEncs (pos + (Spec.encValue pos x).2.length) xs

theorem childEncs_length (pos : Nat) (xs : List Spec.Json) : (childEncs pos xs).length = xs.length := by
  induction xs generalizing pos with
  | nil => rfl
  | cons x xs ih => simp [childEncs, ih]

theorem encElems_eq (pos idx total : Nat) (xs : List Spec.Json) :
    Spec.encElems pos idx total xs = (entriesOf idx total (childEncs pos xs), bodyOf (childEncs pos xs)) := by
  induction xs generalizing pos idx total with
  | nil => rfl
  | cons x xs ih => rw [Spec.encElems, ih]; rfl

theorem encValue_arr (pos : Nat) (xs : List Spec.Json) :
    Spec.encValue pos (.arr xs) =
      (5, zeros (Spec.padTo4 pos) ++ arrBytes (childEncs (pos + Spec.padTo4 pos + 4 + 4 * xs.length) xs) false) := by
  rw [Spec.encValue, encElems_eq]
  simp only [arrBytes, contBytes, arrHeader, childEncs_length, List.append_assoc, Bool.false_eq_true, if_false, Nat.add_zero]

theorem encValue_ty_lt (pos : Nat) (x : Spec.Json) : (Spec.encValue pos x).1 < 8 := by
  cases x with
  | null => show (4 : Nat) < 8; decide
  | bool b =>
    cases b
    · show (2 : Nat) < 8; decide
    · show (3 : Nat) < 8; decide
  | num n l => show (1 : Nat) < 8; decide
  | str s => show (0 : Nat) < 8; decide
  | arr xs => show (5 : Nat) < 8; decide
  | obj kvs => show (5 : Nat) < 8; decide

theorem childEncs_ty (pos : Nat) (xs : List Spec.Json) : ∀ c ∈ childEncs pos xs, c.1 < 8 := by
  induction xs generalizing pos with
  | nil => intro c hc; simp [childEncs] at hc
  | cons x xs ih =>
    intro c hc
    rcases List.mem_cons.mp hc with e | m
    · rw [e]; exact encValue_ty_lt pos x
    · exact ih _ c m

theorem strideEntry_ty (idx ty len total : Nat) (ht : ty < 8) (hl : len < 0x10000000) (htot : total < 0x10000000) :
    Spec.strideEntry idx ty len total / 0x10000000 % 8 = ty := by
  unfold Spec.strideEntry
  split
  · exact mkEntry_type _ _ _ htot ht
  · exact mkEntry_type _ _ _ hl ht

mutual
/-- the documents of the round-trip theorem: numerics well-formed, the keys of every object pairwise
distinct (no limit on the number of elements / pairs of a container) -/
def covered : Spec.Json → Bool
  | .null => true
  | .bool _ => true
  | .num n _ => decide n.WF
  | .str _ => true
  | .arr xs => coveredList xs
  | .obj kvs => decide ((kvs.map (·.1)).Nodup) && coveredKvs kvs
def coveredList : List Spec.Json → Bool
  | [] => true
  | x :: xs => covered x && coveredList xs
def coveredKvs : List (Bytes × Spec.Json) → Bool
  | [] => true
  | (_, v) :: rest => covered v && coveredKvs rest
end

theorem formOf_admits (n : Spec.Numeric) (long : Bool) : (Spec.formOf n long).admits n := by
  unfold Spec.formOf
  cases long
  · simp only [Bool.false_eq_true, if_false]
    split
    · assumption
    · cases n <;> simp [Spec.HeaderForm.admits]
  · simp only [if_true]
    cases n <;> simp [Spec.HeaderForm.admits]

/-- the JEntry `e` of a child written at `pos` decodes to the child's view, wherever its bytes stand in the data (at an offset that
agrees with `pos` mod 4) -/
def DecodesAs (x : Spec.Json) : Prop :=
  covered x = true → ∀ (pos : Nat) (data : Bytes) (off e : Nat),
    At data off (Spec.encValue pos x).2 → pos % 4 = off % 4 →
    (Spec.encValue pos x).2.length < 0x10000000 →
    e / 0x10000000 % 8 = (Spec.encValue pos x).1 →
    ∃ r, decodeJEntry parseJSONB data off ((Spec.encValue pos x).2.length : Int) e = .ok r ∧ r.toView = x.view

/-- `P`: the position the elements are written from; `idx` / `total`: entry index and end offset reached so far -/
theorem parseArrayLoop_enc (dataStart : Nat) (xs : List Spec.Json) (ih : ∀ x ∈ xs, DecodesAs x)
    (hs : coveredList xs = true) (P idx total : Nat) (data : Bytes)
    (hdata : At data (dataStart + total) (bodyOf (childEncs P xs)))
    (hP : P % 4 = (dataStart + total) % 4)
    (hsmall : total + (bodyOf (childEncs P xs)).length < 0x10000000) :
    ∃ rs, parseArrayLoop parseJSONB data data.length dataStart xs.length total
        (entriesOf idx total (childEncs P xs)) (endsOf total (childEncs P xs)) = .ok rs ∧
      toViewList rs = Spec.viewList xs := by
  induction xs generalizing P idx total with
  | nil => exact ⟨[], parseArrayLoop_zero .., rfl⟩
  | cons x xs ihx =>
    simp only [coveredList, Bool.and_eq_true] at hs
    simp only [childEncs, bodyOf, List.length_append] at hsmall hdata
    have hnext := hdata.right
    rw [Nat.add_assoc] at hnext
    obtain ⟨r, hr, hrv⟩ := ih x (by simp) hs.1 P data _
      (Spec.strideEntry idx (Spec.encValue P x).1 (Spec.encValue P x).2.length (total + (Spec.encValue P x).2.length))
      hdata.left hP (by omega) (strideEntry_ty _ _ _ _ (encValue_ty_lt P x) (by omega) (by omega))
    obtain ⟨rs, hrs, hrsv⟩ := ihx (fun y hy => ih y (by simp [hy])) hs.2 (P + (Spec.encValue P x).2.length) (idx + 1)
      (total + (Spec.encValue P x).2.length) hnext (by rw [← Nat.add_assoc, Nat.add_mod, hP, ← Nat.add_mod])
      (by rw [Nat.add_assoc]; exact hsmall)
    refine ⟨r :: rs, ?_, by simp only [toViewList, Spec.viewList, hrv, hrsv]⟩
    simp only [List.length_cons, childEncs, entriesOf, endsOf]
    rw [parseArrayLoop_cons, show ((total + (Spec.encValue P x).2.length : Nat) : Int) - (total : Int) =
      ((Spec.encValue P x).2.length : Int) by omega, hr]
    simp only [ok_bind, hrs, pure_eq_ok]

/-- `P`: the position of the data area, which agrees mod 4 with its offset in the container (`hP`) -/
theorem parse_arrBytes (xs : List Spec.Json) (P : Nat) (sc : Bool)
    (hP : P % 4 = (4 + xs.length * 4) % 4) (ih : ∀ x ∈ xs, DecodesAs x) (hs : coveredList xs = true)
    (hsmall : (arrBytes (childEncs P xs) sc).length < 0x10000000) :
    ∃ rs, parseJSONB (arrBytes (childEncs P xs) sc) = .ok (unwrapScalar sc rs) ∧
      toViewList rs = Spec.viewList xs := by
  rw [parseJSONB_unfold]
  by_cases h0 : xs = []
  · subst h0
    exact ⟨[], by rw [show unwrapScalar sc [] = .arr [] by cases sc <;> rfl]; exact parseContainer_empty_arr _ sc, rfl⟩
  have hcl := childEncs_length P xs
  have hlen : (arrBytes (childEncs P xs) sc).length = _ := contBytes_length _ _
  obtain ⟨rs, hrs, hv⟩ := parseArrayLoop_enc (4 + (childEncs P xs).length * 4) xs ih hs P 0 0 _
    (contBytes_body _ _) (by rw [hcl]; exact hP) (by omega)
  rw [← hcl] at hrs
  exact ⟨rs, parseContainer_array _ _ sc (by rw [hcl]; exact List.length_pos_iff.mpr h0) hsmall (childEncs_ty P xs) rs hrs, hv⟩

theorem parse_arr (xs : List Spec.Json) (P : Nat) (hP : P % 4 = (4 + xs.length * 4) % 4) (ih : ∀ x ∈ xs, DecodesAs x)
    (hs : coveredList xs = true) (hsmall : (arrBytes (childEncs P xs) false).length < 0x10000000) :
    ∃ r, parseJSONB (arrBytes (childEncs P xs) false) = .ok r ∧ r.toView = (Spec.Json.arr xs).view := by
  obtain ⟨rs, h1, h3⟩ := parse_arrBytes xs P false hP ih hs hsmall
  exact ⟨_, h1, congrArg Spec.JView.arr h3⟩

end PgVerif.Proofs
