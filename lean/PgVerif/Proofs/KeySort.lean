/-
  `Model.keySort` (a Go map visited in key order) is `insertionSort (byKey key)` of Lib/Sorting.lean; its corollaries under the
  names the C11 statements for FindSequences and GetTOASTVerboseInfo cite.
-/
import PgVerif.Model.KeySort
import PgVerif.Lib.Sorting
namespace PgVerif.Proofs.KeySort
open PgVerif.Model PgVerif.Sorting List

theorem keySort_eq {α} (key : α → Nat) (l : List α) : keySort key l = insertionSort (byKey key) l :=
  foldr_eq_insertionSort (f := keyInsert key) _ (fun _ => rfl) (fun _ _ _ => rfl) l

theorem keySort_perm {α} (key : α → Nat) (l : List α) : keySort key l ~ l :=
  keySort_eq key l ▸ insertionSort_perm _ l

/-- pairwise distinct keys: `(l.map key).Nodup` written out, the hypothesis of the lemmas of Lib/Sorting.lean about keys -/
def DistinctKeys {α} (key : α → Nat) (l : List α) : Prop := (l.map key).Pairwise (· ≠ ·)

theorem DistinctKeys.perm {α} {key : α → Nat} {l₁ l₂ : List α} (hp : l₁ ~ l₂) (h : DistinctKeys key l₁) :
    DistinctKeys key l₂ :=
  (hp.map key).nodup_iff.mp h

theorem keySort_perm_invariant {α} (key : α → Nat) (l₁ l₂ : List α) (hp : l₁ ~ l₂) (hd : DistinctKeys key l₁) :
    keySort key l₁ = keySort key l₂ := by
  rw [keySort_eq, keySort_eq, byKey_eq_of_perm key hp (antisymmOn_key key hd)]

theorem keySort_strict {α} (key : α → Nat) (l : List α) (hd : DistinctKeys key l) :
    (keySort key l).Pairwise fun x y => key x < key y :=
  keySort_eq key l ▸ byKey_sorted_strict hd

theorem keySort_of_strict {α} (key : α → Nat) (l : List α) (h : l.Pairwise fun x y => key x < key y) :
    keySort key l = l :=
  (keySort_eq key l).trans (insertionSort_of_sorted _ (h.imp Nat.le_of_lt))

end PgVerif.Proofs.KeySort
