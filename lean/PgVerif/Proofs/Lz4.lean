/-
  toast.go:decompressLZ4 on rendered blocks.
-/
import PgVerif.Proofs.Pglz
import PgVerif.Model.Lz4
import PgVerif.Spec.Lz4
namespace PgVerif.Proofs.Lz4
open PgVerif PgVerif.Model.Lz4 PgVerif.Spec.Lz4

theorem readExt_255 (rest : Bytes) (acc : Nat) : readExt (255 :: rest) acc = readExt rest (acc + 255) := by
  simp [readExt]

theorem readExt_small (b : UInt8) (rest : Bytes) (acc : Nat) (h : b.toNat ≠ 255) :
    readExt (b :: rest) acc = (acc + b.toNat, rest) := by
  simp [readExt, h]

theorem readExt_extBytes (fuel : Nat) : ∀ (n acc : Nat) (rest : Bytes), n ≤ 254 * fuel →
    readExt (extBytes fuel n ++ rest) acc = (acc + n, rest) := by
  induction fuel with
  | zero =>
    intro n acc rest h
    have : n = 0 := by omega
    subst this
    simp only [extBytes, List.cons_append, List.nil_append]
    rw [readExt_small _ _ _ (by simp)]
    simp
  | succ fuel ih =>
    intro n acc rest h
    simp only [extBytes]
    by_cases hn : n < 255
    · rw [if_pos hn]
      have := u8_toNat n (by omega)
      simp only [List.cons_append, List.nil_append]
      rw [readExt_small _ _ _ (by omega), this]
    · rw [if_neg hn]
      simp only [List.cons_append]
      rw [readExt_255, ih (n - 255) (acc + 255) rest (by omega)]
      have e : acc + 255 + (n - 255) = acc + n := by omega
      rw [e]

/-- reading a length as the loop does (literals: `base = 0`; match: `base = 4`, where the Go code adds the 4 before it tests
for 19): nibble, then extension bytes iff the nibble is 15 -/
theorem read_len (n base : Nat) (rest : Bytes) :
    (if nib n + base = 15 + base then readExt (lenExt n ++ rest) (15 + base) else (nib n + base, lenExt n ++ rest))
      = (n + base, rest) := by
  unfold nib lenExt
  by_cases h : n < 15
  · simp only [h, if_true]
    rw [if_neg (by omega)]; rfl
  · simp only [h, if_false, if_true]
    rw [readExt_extBytes _ _ _ _ (by omega)]
    congr 1; omega

theorem nib_le (n : Nat) : nib n ≤ 15 := by unfold nib; split <;> omega

theorem token_fields (a b : Nat) (ha : a ≤ 15) (hb : b ≤ 15) :
    (UInt8.ofNat (a * 16 + b)).toNat >>> 4 = a ∧ (UInt8.ofNat (a * 16 + b)).toNat &&& 0x0F = b := by
  rw [u8_toNat _ (by omega), show a * 16 + b = b + 2 ^ 4 * a by omega]
  exact (unpack b a 4 (by omega)).symm

theorem le2_bytes (v : Nat) (rest : Bytes) : le 2 v ++ rest = UInt8.ofNat (v % 256) :: UInt8.ofNat (v / 256 % 256) :: rest := by
  simp [le]

theorem off_decode (v : Nat) (h : v < 65536) :
    (UInt8.ofNat (v % 256)).toNat ||| ((UInt8.ofNat (v / 256 % 256)).toNat <<< 8) = v := by
  rw [u8_toNat _ (Nat.mod_lt _ (by decide)), u8_toNat _ (Nat.mod_lt _ (by decide)), Nat.mod_eq_of_lt (by omega : v / 256 < 256),
    Nat.or_comm,
    ← Nat.shiftLeft_add_eq_or_of_lt (Nat.mod_lt _ (by decide)), Nat.shiftLeft_eq, Nat.mul_comm]
  exact Nat.div_add_mod v 256

theorem expandSeq_length (out : Bytes) (s : Seq) : (expandSeq out s).length = out.length + s.produces := by
  simp [expandSeq, Pglz.expandMatch_length, Seq.produces]; omega

def producesAll (ss : List Seq) : Nat := (ss.map Seq.produces).sum

theorem expandFrom_length (ss : List Seq) (out : Bytes) : (expandFrom ss out).length = out.length + producesAll ss := by
  induction ss generalizing out with
  | nil => simp [expandFrom, producesAll]
  | cons s ss ih =>
    simp only [expandFrom, List.foldl_cons] at ih ⊢
    rw [ih, expandSeq_length]; simp [producesAll]; omega

theorem loop_seq (raw f : Nat) (s : Seq) (rest out : Bytes) (hwf : s.WF out.length)
    (hraw : out.length + s.produces ≤ raw) :
    loop raw (f+1) (renderSeq s ++ rest) out = loop raw f rest (expandSeq out s) := by
  obtain ⟨h1, h2, h3, h4⟩ := hwf
  simp only [Seq.produces] at hraw
  obtain ⟨t1, t2⟩ := token_fields (nib s.lits.length) (nib (s.len - 4)) (nib_le _) (nib_le _)
  have hl := read_len s.lits.length 0 (s.lits ++ (le 2 s.off ++ (lenExt (s.len - 4) ++ rest)))
  simp only [Nat.add_zero] at hl
  have hm := read_len (s.len - 4) 4 rest
  simp only [loop, renderSeq, List.cons_append, List.append_assoc]
  rw [if_neg (by simp; omega)]
  simp only [t1, t2, hl]
  have hlit : (if s.lits.length > (s.lits ++ (le 2 s.off ++ (lenExt (s.len - 4) ++ rest))).length
      then (s.lits ++ (le 2 s.off ++ (lenExt (s.len - 4) ++ rest))).length else s.lits.length) = s.lits.length :=
    if_neg (by simp)
  simp only [hlit]
  rw [List.take_left' rfl, List.drop_left' rfl, le2_bytes]
  rw [if_neg (by simp; omega)]
  simp only [off_decode s.off (by omega)]
  rw [if_neg (by omega)]
  simp only [show 19 = 15 + 4 from rfl, hm]
  rw [if_neg (by simp; omega), show s.len - 4 + 4 = s.len by omega]
  have := Pglz.copyLoop_match (out ++ s.lits) s.off s.len raw h1 (by simp; omega) (by simp; omega)
  rw [this]
  rfl

theorem loop_last (raw f : Nat) (l out : Bytes) (hraw : raw = out.length + l.length) :
    loop raw (f+1) (renderLast l) out = .ok (some (out ++ l)) := by
  by_cases hl : l = []
  · subst hl
    simp only [loop, renderLast]
    rw [if_pos (by simp at hraw; omega)]
    simp
  · have hpos : 0 < l.length := List.length_pos_iff.mpr hl
    obtain ⟨t1, _⟩ := token_fields (nib l.length) 0 (nib_le _) (by omega)
    have hr := read_len l.length 0 l
    simp only [Nat.add_zero] at hr t1
    simp only [loop, renderLast]
    rw [if_neg (by simp; omega)]
    simp only [t1, hr]
    have hlit : (if l.length > l.length then l.length else l.length) = l.length := if_neg (by omega)
    simp only [hlit]
    rw [List.take_of_length_le (by omega), List.drop_of_length_le (by omega)]
    simp

theorem loop_block (raw : Nat) (ss : List Seq) : ∀ (f : Nat) (out last : Bytes), ss.length + 1 ≤ f →
    SeqsWF ss out.length → raw = out.length + producesAll ss + last.length →
    loop raw f (ss.flatMap renderSeq ++ renderLast last) out = .ok (some (expandFrom ss out ++ last)) := by
  induction ss with
  | nil =>
    intro f out last hf _ hraw
    cases f with
    | zero => omega
    | succ f =>
      simp only [List.flatMap_nil, List.nil_append, expandFrom, List.foldl_nil]
      exact loop_last raw f last out (by simpa [producesAll] using hraw)
  | cons s ss ih =>
    intro f out last hf hwf hraw
    obtain ⟨hs, hrest⟩ := hwf
    cases f with
    | zero => omega
    | succ f =>
      have hp : producesAll (s :: ss) = s.produces + producesAll ss := by simp [producesAll]
      simp only [List.flatMap_cons, List.append_assoc]
      rw [loop_seq raw f s _ out hs (by omega)]
      rw [ih f (expandSeq out s) last (by simpa using hf) (by rw [expandSeq_length]; exact hrest)
        (by rw [expandSeq_length]; omega)]
      rfl

theorem decompressLZ4_render (b : Block) (h : Lz4WF b) :
    decompressLZ4 (render b) (expand b).length = .ok (some (expand b)) := by
  unfold decompressLZ4
  have hlen : 1 ≤ (render b).length := by simp [render, renderLast]; omega
  rw [if_neg (by omega)]
  have hfuel : b.seqs.length ≤ (b.seqs.flatMap renderSeq).length := by
    clear h hlen
    induction b.seqs with
    | nil => simp
    | cons s ss ih => simp only [List.flatMap_cons, List.length_append, List.length_cons, renderSeq]; omega
  unfold render expand
  exact loop_block _ b.seqs _ [] b.last
    (by simp only [List.length_append, renderLast, List.length_cons]; omega) h
    (by simp [expandFrom_length])

end PgVerif.Proofs.Lz4
