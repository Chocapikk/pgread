/-
  For Props/C11Maps: FindSequences and ScanAllSequences do not depend on the order in which Go ranges over the pg_class map; the
  models of the code before fixes/control/08 and fixes/toast/05, in which the order leaked.  (GetTOASTVerboseInfo's own independence
  is `Toast.getTOASTVerboseInfoWith_order_independent`, Proofs/ToastStats.lean.)
-/
import PgVerif.Proofs.Sequence
import PgVerif.Model.Toast
namespace PgVerif.Proofs.MapOrderR1
open PgVerif PgVerif.Model

def withOrder (env : SeqEnv) (π : List ClassInfo → List ClassInfo) : SeqEnv := { env with order := π }

theorem findSeqLoop_withOrder (env : SeqEnv) (π : List ClassInfo → List ClassInfo) (base : String) (cs : List ClassInfo) :
    findSeqLoop (withOrder env π) base cs = findSeqLoop env base cs := by
  induction cs with
  | nil => rfl
  | cons c t ih =>
    unfold findSeqLoop
    rw [ih]
    rfl

/-- FindSequences sees the iteration order only here, and what it sees does not depend on it -/
theorem seqVisitOrder_withOrder (env : SeqEnv) (π : List ClassInfo → List ClassInfo) (hπ : ∀ l, (π l).Perm l)
    (hmap : ∀ data, KeySort.DistinctKeys (fun c : ClassInfo => c.filenode) (env.parseClass data)) (data : Bytes) :
    seqVisitOrder (withOrder env π) ((withOrder env π).parseClass data) = keySort (·.filenode) (env.parseClass data) :=
  seqVisitOrder_eq (withOrder env π) (env.parseClass data) (hπ _) (hmap data)

theorem findSequences_order_independent (env : SeqEnv) (π π' : List ClassInfo → List ClassInfo)
    (hπ : ∀ l, (π l).Perm l) (hπ' : ∀ l, (π' l).Perm l)
    (hmap : ∀ data, KeySort.DistinctKeys (fun c : ClassInfo => c.filenode) (env.parseClass data))
    (dir : String) (db : Bytes) :
    findSequences (withOrder env π) dir db = findSequences (withOrder env π') dir db := by
  unfold findSequences
  simp only [findSeqLoop_withOrder, seqVisitOrder_withOrder env _ hπ hmap, seqVisitOrder_withOrder env _ hπ' hmap]
  rfl

theorem scanLoop_congr (env env' : SeqEnv) (dir : String)
    (h : ∀ db, findSequences env dir db = findSequences env' dir db) (dbs : List DbInfo) :
    scanLoop env dir dbs = scanLoop env' dir dbs := by
  induction dbs with
  | nil => rfl
  | cons d t ih =>
    unfold scanLoop
    rw [ih, h]

theorem scanAllSequences_order_independent (env : SeqEnv) (π π' : List ClassInfo → List ClassInfo)
    (hπ : ∀ l, (π l).Perm l) (hπ' : ∀ l, (π' l).Perm l)
    (hmap : ∀ data, KeySort.DistinctKeys (fun c : ClassInfo => c.filenode) (env.parseClass data)) (dir : String) :
    scanAllSequences (withOrder env π) dir = scanAllSequences (withOrder env π') dir := by
  unfold scanAllSequences
  simp only [scanLoop_congr (withOrder env π) (withOrder env π') dir (findSequences_order_independent env π π' hπ hπ' hmap dir)]
  rfl

/-- FindSequences as written before fixes/control/08: the loop ran over the map in iteration order -/
def findSequencesUnsorted (env : SeqEnv) (dataDir : String) (dbName : Bytes) : M (Option (List SequenceData)) := do
  match env.fs (dataDir ++ "/global/1262") with
  | none => return none
  | some dbData =>
    let dbOID := match (env.parseDatabase dbData).find? (·.name == dbName) with
      | some d => d.oid | none => 0
    if dbOID = 0 then return none
    let basePath := dataDir ++ "/base/" ++ toString dbOID
    match env.fs (basePath ++ "/1259") with
    | none => return none
    | some classData => return some (← findSeqLoop env basePath (env.order (env.parseClass classData)))

theorem findSequencesUnsorted_enc (env : SeqEnv) (dir : String) (dbName dbData classData : Bytes) (d : DbInfo)
    (pageOf : ClassInfo → Spec.SeqPage) (hπ : (env.order (env.parseClass classData)).Perm (env.parseClass classData))
    (h1 : env.fs (dir ++ "/global/1262") = some dbData)
    (h2 : (env.parseDatabase dbData).find? (·.name == dbName) = some d) (h3 : d.oid ≠ 0)
    (h4 : env.fs (dir ++ "/base/" ++ toString d.oid ++ "/1259") = some classData)
    (h5 : ∀ c ∈ env.parseClass classData, c.kind = [83] → (pageOf c).WF ∧
      env.fs (dir ++ "/base/" ++ toString d.oid ++ "/" ++ toString c.filenode) = some (Spec.encSeqPage (pageOf c))) :
    findSequencesUnsorted env dir dbName =
      .ok (some (((env.order (env.parseClass classData)).filter fun c => c.kind == [83]).map fun c => Proofs.listed c (pageOf c))) := by
  unfold findSequencesUnsorted
  simp only [h1, h2, if_neg h3, h4, pure_eq_ok]
  rw [findSeqLoop_enc env _ pageOf _ (fun c hc => h5 c (hπ.subset hc))]
  rfl

open PgVerif.Model.Toast in
/-- `Values` as built before fixes/toast/05: one entry per value in map iteration order -/
def valuesUnsorted (π : GroupOrder) (chunks : List Chunk) : List ValueInfo :=
  (π (chunks.foldl groupInsert [])).map fun g => ⟨g.1, g.2.length, (g.2.map (·.data.length)).sum⟩

end PgVerif.Proofs.MapOrderR1
