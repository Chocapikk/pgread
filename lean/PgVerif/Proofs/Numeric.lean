/-
  `DecodeNumeric` and `decodeJNumeric` (jsonb.go): closed forms over the common tail of the short and the long decoder
  (`digitsTail`), totality, and the stored value read back from PostgreSQL's payload in both header forms.
-/
import PgVerif.Model.JsonbView
import PgVerif.Proofs.NumericValue
namespace PgVerif.Proofs
open PgVerif PgVerif.Model

theorem land_C000 (h : Nat) : h &&& 0xC000 = (h / 0x4000 % 4) * 0x4000 := land_field h 2 14
theorem land_003F (h : Nat) : h &&& 0x003F = h % 64 := land_mask h 6
theorem land_3 (h : Nat) : h &&& 3 = h % 4 := land_mask h 2

theorem field_beq (q v c : Nat) (hc : 0 < c) : (q * c == v * c) = (q == v) := by
  by_cases h : q = v
  · rw [h]; simp only [beq_self_eq_true]
  · have : q * c ≠ v * c := fun e => h (Nat.eq_of_mul_eq_mul_right hc e)
    rw [beq_eq_false_iff_ne.mpr h, beq_eq_false_iff_ne.mpr this]

/-- the masks 0xC000, 0x8000, 0x2000, 0x0040, 0x003F of the numeric decoders as quotients and remainders, for every `h`: the form in
which `C05_header` compares them with `Spec.classifyHeader` -/
theorem header_masks (h : Nat) :
    ((h &&& 0xC000) == 0xC000) = (h / 0x4000 % 4 == 3) ∧
    (h &&& 0x8000 != 0) = (h / 0x8000 % 2 == 1) ∧
    ((h &&& 0xC000) == 0x4000) = (h / 0x4000 % 4 == 1) ∧
    shortHeaderFields h = ⟨h / 0x2000 % 2 == 1, if h / 64 % 2 == 1 then ((h % 64 : Nat) : Int) - 64 else (h % 64 : Nat)⟩ := by
  refine ⟨?_, land_pow_flag h 15, ?_, ?_⟩
  · rw [land_C000]; exact field_beq (h / 0x4000 % 4) 3 0x4000 (by decide)
  · rw [land_C000]; exact field_beq (h / 0x4000 % 4) 1 0x4000 (by decide)
  · unfold shortHeaderFields
    rw [land_003F, show (h &&& 0x2000 != 0) = _ from land_pow_flag h 13, show (h &&& 0x0040 != 0) = _ from land_pow_flag h 6]

theorem readDigits_total (raw : Bytes) (base n i : Nat) (h : base + (i + n) * 2 ≤ raw.length) :
    ∃ ds, readDigits raw base n i = .ok ds ∧ ds.length = n := by
  induction n generalizing i with
  | zero => exact ⟨[], rfl, rfl⟩
  | succ n ih =>
    obtain ⟨ds, hds, hl⟩ := ih (i + 1) (by omega)
    refine ⟨rd 2 (raw.drop (base + i * 2)) :: ds, ?_, by simp [hl]⟩
    unfold readDigits
    rw [uN_ok 2 raw (base + i * 2) (by omega)]
    simp only [ok_bind, hds, pure_eq_ok]

theorem encDigits_length (ds : List Nat) : (Spec.encDigits ds).length = 2 * ds.length := by
  induction ds with
  | nil => rfl
  | cons d ds ih => simp [Spec.encDigits, ih]; omega

theorem readDigits_enc (ds : List Nat) (front : Bytes) (base i : Nat) (hb : base + i * 2 = front.length)
    (hd : ∀ d ∈ ds, d < 65536) :
    readDigits (front ++ Spec.encDigits ds) base ds.length i = .ok ds := by
  induction ds generalizing front i with
  | nil => rfl
  | cons d ds ih =>
    simp only [List.length_cons, readDigits, Spec.encDigits]
    rw [(at_mid front _ _ hb.symm).uN (by have := hd d (by simp); omega)]
    have := ih (front ++ le 2 d) (i + 1) (by simp [le_length]; omega) (fun x hx => hd x (by simp [hx]))
    rw [List.append_assoc] at this
    simp only [ok_bind]
    rw [this]; rfl

theorem mantOf_eq (ds : List Nat) (acc : Nat) :
    Spec.mantOf ds acc = ds.foldl (fun r d => r * 10000 + d) acc := by
  induction ds generalizing acc with
  | nil => rfl
  | cons d ds ih => simp [Spec.mantOf, ih]

theorem computeNumeric_text (ds : List Nat) (w : Int) (neg : Bool) (h : ∀ d ∈ ds, d < 10000) (hne : ds ≠ []) :
    computeNumeric ds w neg = .num (numericText ds w neg) := by
  have hl : (ds.length == 0) = false := by
    rw [beq_eq_false_iff_ne]
    exact fun e => hne (List.eq_nil_of_length_eq_zero e)
  have hany : ds.any (fun d => decide (d ≥ 10000)) = false := List.any_eq_false.mpr fun d hd => by simpa using h d hd
  simp only [computeNumeric, hl, hany, Bool.false_eq_true, if_false]

/-- `Numeric.view` does not look at the display scale: any `dscale` -/
theorem computeNumeric_view (ds : List Nat) (w : Int) (neg : Bool) (dscale : Nat) (h : ∀ d ∈ ds, d < 10000)
    (hne : ds ≠ []) :
    (computeNumeric ds w neg).toView = some (Spec.Numeric.fin neg w dscale ds).view := by
  have he : ds.isEmpty = false := by
    cases ds with
    | nil => exact absurd rfl hne
    | cons _ _ => rfl
  rw [computeNumeric_text ds w neg h hne]
  simp only [NumRes.toView, NumericValue.readDecimal_numericText ds w neg h hne, Option.map_some, Spec.Numeric.view, he,
    Bool.false_eq_true, if_false]

/-- what decodeNumericShort and decodeNumericLong both end in: no digits give `int(0)`, else the digit words from `base` on go to
computeNumeric -/
def digitsTail (raw : Bytes) (base ndigits : Nat) (w : Int) (neg : Bool) : M NumRes :=
  if (ndigits == 0) = true then pure .int0
  else readDigits raw base ndigits 0 >>= fun ds => pure (computeNumeric ds w neg)

theorem digitsTail_total (raw : Bytes) (base ndigits : Nat) (w : Int) (neg : Bool) (h : base + ndigits * 2 ≤ raw.length) :
    ∃ r, digitsTail raw base ndigits w neg = .ok r :=
  tot_ite (fun _ => tot_ok _) fun _ =>
    tot_bind (let ⟨ds, hds, _⟩ := readDigits_total raw base ndigits 0 (by omega); ⟨ds, hds⟩) fun _ _ => tot_ok _

theorem decodeNumericShort_eq (raw : Bytes) (header : Nat) :
    decodeNumericShort raw header =
      digitsTail raw 2 ((raw.length - 2) / 2) (shortHeaderFields header).weight (shortHeaderFields header).neg := rfl

theorem decodeNumericLong_eq (raw : Bytes) (h : 4 ≤ raw.length) :
    decodeNumericLong raw =
      digitsTail raw 4 ((raw.length - 4) / 2) (toSigned 16 (rdAt 2 2 raw)) ((rdAt 2 0 raw &&& 0xC000) == 0x4000) := by
  unfold decodeNumericLong
  rw [if_neg (by omega), uN_ok 2 raw 2 (by omega), ok_bind, uN_ok 2 raw 0 (by omega), ok_bind]
  rfl

theorem decodeNumeric_eq (raw : Bytes) (h : 2 ≤ raw.length) :
    decodeNumeric raw =
      if rdAt 2 0 raw / 0x4000 % 4 == 3 then .ok (.special (specialOf (rdAt 2 0 raw)))
      else if rdAt 2 0 raw / 0x8000 % 2 == 1 then decodeNumericShort raw (rdAt 2 0 raw)
      else decodeNumericLong raw := by
  obtain ⟨m1, m2, _, _⟩ := header_masks (rdAt 2 0 raw)
  unfold decodeNumeric
  rw [if_neg (by omega), uN_ok 2 raw 0 (by omega), ok_bind]
  show (if ((rdAt 2 0 raw &&& 0xC000) == 0xC000) = true then _ else if (rdAt 2 0 raw &&& 0x8000 != 0) = true then _ else _) = _
  rw [m1, m2]
  rfl

theorem decodeNumericShort_total (raw : Bytes) (header : Nat) (h : 2 ≤ raw.length) :
    ∃ r, decodeNumericShort raw header = .ok r :=
  digitsTail_total raw 2 _ _ _ (by omega)

theorem decodeNumericLong_total (raw : Bytes) : ∃ r, decodeNumericLong raw = .ok r := by
  by_cases hl : raw.length < 4
  · exact ⟨.none, by unfold decodeNumericLong; rw [if_pos hl]; rfl⟩
  · rw [decodeNumericLong_eq raw (by omega)]; exact digitsTail_total raw 4 _ _ _ (by omega)

theorem decodeNumeric_total (raw : Bytes) : ∃ r, decodeNumeric raw = .ok r := by
  by_cases hl : raw.length < 2
  · exact ⟨.none, by unfold decodeNumeric; rw [if_pos hl]; rfl⟩
  · rw [decodeNumeric_eq raw (by omega)]
    exact tot_iteB (fun _ => tot_ok _) fun _ =>
      tot_iteB (fun _ => decodeNumericShort_total raw _ (by omega)) fun _ => decodeNumericLong_total raw

theorem decodeNumeric_dispatch (H : Nat) (body : Bytes) (hH : H < 65536) :
    decodeNumeric (le 2 H ++ body) =
      if H / 0x4000 % 4 == 3 then .ok (.special (specialOf H))
      else if H / 0x8000 % 2 == 1 then decodeNumericShort (le 2 H ++ body) H
      else decodeNumericLong (le 2 H ++ body) := by
  rw [decodeNumeric_eq _ (by simp [le_length]), (at_zero (le 2 H) body).rd (by omega)]

theorem ofSigned7 (w : Int) (h1 : -64 ≤ w) (h2 : w ≤ 63) :
    ofSigned 7 w < 128 ∧ (0 ≤ w → (ofSigned 7 w : Int) = w) ∧ (w < 0 → (ofSigned 7 w : Int) = w + 128) := by
  unfold ofSigned
  simp only [show ((2 ^ 7 : Nat) : Int) = 128 by decide]
  omega

theorem digitsTail_enc (front : Bytes) (base : Nat) (digits : List Nat) (hb : base = front.length)
    (hd : ∀ d ∈ digits, d < 10000) (w : Int) (neg : Bool) (dscale : Nat) :
    (digitsTail (front ++ Spec.encDigits digits) base digits.length w neg).map NumRes.toView =
      .ok (some (Spec.Numeric.fin neg w dscale digits).view) := by
  unfold digitsTail
  cases digits with
  | nil => rfl
  | cons d rest =>
    have hne : ((d :: rest).length == 0) = false := by simp
    simp only [hne, Bool.false_eq_true, if_false]
    rw [readDigits_enc (d :: rest) front base 0 (by omega) (fun x hx => by have := hd x hx; omega), ok_bind]
    simp only [pure_eq_ok, Except.map]
    rw [computeNumeric_view (d :: rest) w neg dscale hd (by simp)]

theorem decodeNumericShort_enc (H : Nat) (neg : Bool) (w : Int) (dscale : Nat) (digits : List Nat)
    (hd : ∀ d ∈ digits, d < 10000) (hf : shortHeaderFields H = ⟨neg, w⟩) :
    (decodeNumericShort (le 2 H ++ Spec.encDigits digits) H).map NumRes.toView =
      .ok (some (Spec.Numeric.fin neg w dscale digits).view) := by
  have hn : ((le 2 H ++ Spec.encDigits digits).length - 2) / 2 = digits.length := by
    simp [le_length, encDigits_length]
  rw [decodeNumericShort_eq, hf, hn]
  exact digitsTail_enc (le 2 H) 2 digits (by simp [le_length]) hd w neg dscale

theorem decodeNumericLong_enc (H W : Nat) (hH : H < 65536) (hW : W < 65536) (dscale : Nat) (digits : List Nat)
    (hd : ∀ d ∈ digits, d < 10000) :
    (decodeNumericLong (le 2 H ++ (le 2 W ++ Spec.encDigits digits))).map NumRes.toView =
      .ok (some (Spec.Numeric.fin ((H &&& 0xC000) == 0x4000) (toSigned 16 W) dscale digits).view) := by
  have hn : ((le 2 H ++ (le 2 W ++ Spec.encDigits digits)).length - 4) / 2 = digits.length := by
    simp [le_length, encDigits_length]; omega
  rw [decodeNumericLong_eq _ (by simp [le_length]; omega), hn, (at_zero (le 2 H) _).rd (by omega),
    (at_mid (le 2 H) (le 2 W) _ (le_length 2 H)).rd (by omega), ← List.append_assoc]
  exact digitsTail_enc (le 2 H ++ le 2 W) 4 digits (by simp [le_length]) hd _ _ dscale

theorem shortWord_fields (s dscale u : Nat) (hs : s ≤ 1) (hds : dscale ≤ 63) (hu : u < 128) :
    0x8000 + s * 0x2000 + dscale * 128 + u < 65536 ∧ (0x8000 + s * 0x2000 + dscale * 128 + u) / 0x4000 % 4 = 2 ∧
    (0x8000 + s * 0x2000 + dscale * 128 + u) / 0x2000 % 2 = s ∧ (0x8000 + s * 0x2000 + dscale * 128 + u) / 64 % 2 = u / 64 ∧
    (0x8000 + s * 0x2000 + dscale * 128 + u) % 64 = u % 64 := by
  omega

theorem shortHeader_fields (neg : Bool) (w : Int) (dscale : Nat) (h1 : -64 ≤ w) (h2 : w ≤ 63) (h3 : dscale ≤ 63) :
    Spec.shortHeader neg w dscale < 65536 ∧ Spec.shortHeader neg w dscale / 0x4000 % 4 = 2 ∧
    shortHeaderFields (Spec.shortHeader neg w dscale) = ⟨neg, w⟩ := by
  obtain ⟨u1, u2, u3⟩ := ofSigned7 w h1 h2
  have hs : (if neg = true then 0x2000 else 0) = (if neg = true then 1 else 0) * 0x2000 := by cases neg <;> rfl
  have hs1 : (if neg = true then 1 else 0 : Nat) ≤ 1 := by cases neg <;> decide
  obtain ⟨f0, fc, f1, f2, f3⟩ := shortWord_fields (if neg = true then 1 else 0) dscale (ofSigned 7 w) hs1 h3 u1
  rw [(header_masks _).2.2.2]
  unfold Spec.shortHeader
  rw [hs, f1, f2, f3]
  refine ⟨f0, fc, ?_⟩
  congr 1
  · cases neg <;> rfl
  · by_cases hw : 0 ≤ w
    · have := u2 hw
      have e : ofSigned 7 w / 64 = 0 := by omega
      rw [e, if_neg (by decide)]; omega
    · have := u3 (by omega)
      have e : ofSigned 7 w / 64 = 1 := by omega
      rw [e, if_pos (by decide)]; omega

theorem longHeader_fields (neg : Bool) (dscale : Nat) (h : dscale < 16384) :
    Spec.longHeader neg dscale < 65536 ∧ Spec.longHeader neg dscale / 0x4000 % 4 ≠ 3 ∧
    Spec.longHeader neg dscale / 0x8000 % 2 = 0 ∧ ((Spec.longHeader neg dscale &&& 0xC000) == 0x4000) = neg := by
  rw [(header_masks _).2.2.1]
  unfold Spec.longHeader
  cases neg
  · simp only [Bool.false_eq_true, if_false, beq_eq_false_iff_ne]; omega
  · simp only [if_true, beq_iff_eq]; omega

theorem decodeNumeric_enc (n : Spec.Numeric) (h : n.WF) (form : Spec.HeaderForm) (hf : form.admits n) :
    (decodeNumeric (Spec.encNumeric form n)).map NumRes.toView = .ok (some n.view) := by
  cases n with
  | nan => cases form <;> rfl
  | pinf => cases form <;> rfl
  | ninf => cases form <;> rfl
  | fin neg w dscale digits =>
    obtain ⟨hd, h1, h2, h3⟩ := h
    cases form with
    | short =>
      show (decodeNumeric (le 2 (Spec.shortHeader neg w dscale) ++ Spec.encDigits digits)).map NumRes.toView = _
      obtain ⟨hH, hc, hfld⟩ := shortHeader_fields neg w dscale hf.1 hf.2.1 hf.2.2
      have c2 : Spec.shortHeader neg w dscale / 0x8000 % 2 = 1 := by omega
      rw [decodeNumeric_dispatch _ _ hH, hc, c2]
      exact decodeNumericShort_enc _ neg w dscale digits hd hfld
    | long =>
      show (decodeNumeric (le 2 (Spec.longHeader neg dscale) ++ le 2 (ofSigned 16 w) ++ Spec.encDigits digits)).map
        NumRes.toView = _
      obtain ⟨hH, c1, c2, hneg⟩ := longHeader_fields neg dscale h3
      rw [List.append_assoc, decodeNumeric_dispatch _ _ hH, beq_eq_false_iff_ne.mpr c1, c2]
      have := decodeNumericLong_enc (Spec.longHeader neg dscale) (ofSigned 16 w) hH (ofSigned_lt 16 w) dscale digits hd
      rwa [hneg, toSigned_ofSigned 16 (by decide) w (by omega) (by omega)] at this

theorem encNumeric_pos (form : Spec.HeaderForm) (n : Spec.Numeric) : 0 < (Spec.encNumeric form n).length := by
  -- every payload starts with a two-byte header word
  cases n with
  | fin neg w dscale digits => cases form <;> simp [Spec.encNumeric, le_length] <;> omega
  | _ => cases form <;> simp [Spec.encNumeric, le_length]

theorem decodeJNumeric_eq (data : Bytes) (hdr : Nat) (hu : uN 4 data 0 = .ok hdr) :
    decodeJNumeric data =
      if (hdr % 4 == 0) = true then
        (if hdr / 4 > 4 ∧ data.length ≥ hdr / 4 then slice data 4 (hdr / 4) >>= decodeNumeric else decodeNumeric [])
      else (if hdr % 256 / 2 > 1 ∧ data.length ≥ hdr % 256 / 2 then slice data 1 (hdr % 256 / 2) >>= decodeNumeric
        else decodeNumeric []) := by
  have h4 := (uN_eq_ok.1 hu).1
  unfold decodeJNumeric
  simp only [show ¬ data.length < 4 by omega, if_false, hu]
  rw [ok_bind]
  simp only [land_3, land_FF, Nat.shiftRight_eq_div_pow, Nat.reducePow, Nat.pow_one]

theorem decodeJNumeric_total (data : Bytes) : ∃ r, decodeJNumeric data = .ok r := by
  by_cases hl : data.length < 4
  · exact ⟨.none, by unfold decodeJNumeric; rw [if_pos hl]; rfl⟩
  · rw [decodeJNumeric_eq data _ (uN_ok 4 data 0 (by omega))]
    exact tot_ite
      (fun _ => tot_ite (fun hg => tot_bind (slice_total data 4 _ hg.2 (by omega)) fun _ _ => decodeNumeric_total _)
        fun _ => decodeNumeric_total _)
      fun _ => tot_ite (fun hg => tot_bind (slice_total data 1 _ hg.2 (by omega)) fun _ _ => decodeNumeric_total _)
        fun _ => decodeNumeric_total _

theorem decodeJNumeric_varlena4 (p : Bytes) (h1 : 0 < p.length) (h2 : p.length + 4 < 2 ^ 30) :
    decodeJNumeric (Spec.varlena4 p) = decodeNumeric p := by
  unfold Spec.varlena4
  have hlen : (le 4 ((p.length + 4) * 4) ++ p).length = p.length + 4 := by simp [le_length]; omega
  have e1 : (p.length + 4) * 4 / 4 = 4 + p.length := by omega
  rw [decodeJNumeric_eq _ _ ((at_zero _ p).uN (by omega)), if_pos (by simp), e1, if_pos ⟨by omega, by omega⟩,
    (at_end _ p (le_length 4 _)).slice, ok_bind]

theorem decodeJNumeric_varlena1 (p : Bytes) (h1 : 3 ≤ p.length) (h2 : p.length + 1 ≤ 127) :
    decodeJNumeric (Spec.varlena1 p) = decodeNumeric p := by
  unfold Spec.varlena1
  have hb : (UInt8.ofNat ((p.length + 1) * 2 + 1)).toNat = (p.length + 1) * 2 + 1 := u8_toNat _ (by omega)
  -- the header word read is the length byte plus 256 times something: only its low byte matters
  obtain ⟨hi, hu⟩ : ∃ hi, uN 4 (UInt8.ofNat ((p.length + 1) * 2 + 1) :: p) 0 = .ok (((p.length + 1) * 2 + 1) + 256 * hi) := by
    rw [uN_ok 4 _ 0 (by simp; omega)]
    match p, h1 with
    | a :: b :: c :: rest, _ =>
      exact ⟨a.toNat + 256 * (b.toNat + 256 * (c.toNat + 256 * 0)), by simp only [List.drop_zero, rd, hb]⟩
  have e0 : ¬ (((p.length + 1) * 2 + 1 + 256 * hi) % 4 == 0) = true := by rw [beq_iff_eq]; omega
  have e1 : ((p.length + 1) * 2 + 1 + 256 * hi) % 256 / 2 = 1 + p.length := by omega
  rw [decodeJNumeric_eq _ _ hu, if_neg e0, e1, if_pos ⟨by omega, by simp; omega⟩]
  exact bind_eq (at_end [_] p rfl).slice rfl

end PgVerif.Proofs
