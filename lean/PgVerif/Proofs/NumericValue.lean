/-
  C05, the value level: the decimal text `computeNumeric` builds for `strconv.ParseFloat` denotes the stored value (mantissa
  Σ dᵢ·10000^(k−1−i), exponent 4·(w−k+1)), and that decimal is PostgreSQL's positional sum Σ dᵢ·10000^(w−i).
-/
import PgVerif.Model.Numeric
import PgVerif.Spec.Numeric
import PgVerif.Basic.Lemmas
import PgVerif.Proofs.TxtNumerals
namespace PgVerif.Proofs.NumericValue
open PgVerif PgVerif.Model PgVerif.Spec PgVerif.Proofs.TxtNumerals

theorem digitsOnto_eq (acc : Nat) (s : Bytes) : digitsOnto acc s = valAux decDigit 10 acc s := by
  induction s generalizing acc with
  | nil => rfl
  | cons c cs ih =>
    unfold digitsOnto valAux decDigit isDigitCh
    by_cases h : 48 ≤ c.toNat ∧ c.toNat ≤ 57
    · have hb : (decide (48 ≤ c.toNat) && decide (c.toNat ≤ 57)) = true := by simp [h.1, h.2]
      rw [if_pos hb, if_pos h]
      exact ih _
    · have hb : ¬ ((decide (48 ≤ c.toNat) && decide (c.toNat ≤ 57)) = true) := by
        simp only [Bool.and_eq_true, decide_eq_true_eq]; exact h
      rw [if_neg hb, if_neg h]

theorem natOfText_eq (s : Bytes) : natOfText s = decVal s := by
  unfold natOfText decVal numVal
  split
  · rfl
  · exact digitsOnto_eq 0 s

theorem intOfText_eq (s : Bytes) : intOfText s = decIntVal s := by
  cases s with
  | nil => rfl
  | cons c t => simp only [intOfText, decIntVal, natOfText_eq]

/-- the integer that `strconv.AppendInt(…, 10)` wrote is read back -/
theorem intOfText_decInt (i : Int) : intOfText (Txt.decInt i) = some i := by
  rw [intOfText_eq]; exact decInt_val i

theorem digitsOnto_digitCh (acc k : Nat) (hk : k < 10) (rest : Bytes) :
    digitsOnto acc (Txt.digitCh k :: rest) = digitsOnto (acc * 10 + k) rest := by
  rw [digitsOnto_eq, digitsOnto_eq, valAux, decSys.val_ch k hk]

theorem digitsOnto_digit4 (acc d : Nat) (hd : d < 10000) (rest : Bytes) :
    digitsOnto acc (digit4 d ++ rest) = digitsOnto (acc * 10000 + d) rest := by
  show digitsOnto acc (Txt.digitCh (d / 1000) :: Txt.digitCh (d / 100 % 10) :: Txt.digitCh (d / 10 % 10) ::
    Txt.digitCh (d % 10) :: rest) = _
  rw [digitsOnto_digitCh _ _ (by omega), digitsOnto_digitCh _ _ (by omega), digitsOnto_digitCh _ _ (by omega),
    digitsOnto_digitCh _ _ (by omega)]
  congr 1
  omega

theorem digitsOnto_flatMap (ds : List Nat) (hd : ∀ d ∈ ds, d < 10000) (acc : Nat) :
    digitsOnto acc (ds.flatMap digit4) = some (mantOf ds acc) := by
  induction ds generalizing acc with
  | nil => rfl
  | cons d ds ih =>
    rw [List.flatMap_cons, digitsOnto_digit4 acc d (hd d (by simp))]
    exact ih (fun x hx => hd x (by simp [hx])) _

/-- `[-]D e E`: 45 is `-`, 101 is `e` -/
theorem readDecimal_parts (neg : Bool) (D E : Bytes) (m : Nat) (e : Int)
    (hm : natOfText D = some m) (he : intOfText E = some e) :
    readDecimal ((if neg then [45] else []) ++ (D ++ 101 :: E)) = some (neg, m, e) := by
  -- a string that reads as a number holds digits only: neither `e` nor `-`
  have hD : ∀ c ∈ D, 48 ≤ c.toNat ∧ c.toNat ≤ 57 := by
    have hv := hm
    rw [natOfText_eq, decVal, numVal] at hv
    split at hv
    · cases hv
    · exact (valAux_dec _ _ _ hv).1
  have hp : ∀ c ∈ D, (c != 101) = true := by
    intro c hc
    have := hD c hc
    have : c ≠ 101 := by intro h; subst h; simp at this
    simpa using this
  obtain ⟨h1, h2⟩ := takeWhile_dropWhile_stop (· != 101) D 101 E hp (by decide)
  cases neg with
  | true =>
    show readDecimal (45 :: (D ++ 101 :: E)) = _
    unfold readDecimal
    have hh : ((45 :: (D ++ 101 :: E)).head? == some (45 : UInt8)) = true := rfl
    simp only [hh, if_true, List.drop_succ_cons, List.drop_zero, h1, h2, hm, he]
  | false =>
    show readDecimal (D ++ 101 :: E) = _
    cases D with
    | nil => simp [natOfText] at hm
    | cons c0 t0 =>
      have hc0 := hD c0 (by simp)
      have hh : (((c0 :: t0) ++ 101 :: E).head? == some (45 : UInt8)) = false := by
        have : c0 ≠ 45 := by intro h; subst h; simp at hc0
        simpa using this
      unfold readDecimal
      simp only [hh, Bool.false_eq_true, if_false, h1, h2, hm, he]

/-- the text handed to ParseFloat denotes (sign, Σ dᵢ·10000^(k−1−i), 4·(w−k+1)) -/
theorem readDecimal_numericText (ds : List Nat) (w : Int) (neg : Bool) (hd : ∀ d ∈ ds, d < 10000) (hne : ds ≠ []) :
    readDecimal (numericText ds w neg) = some (neg, mantOf ds 0, 4 * (w - ds.length + 1)) := by
  have hD : ds.flatMap digit4 ≠ [] := by
    cases ds with
    | nil => exact absurd rfl hne
    | cons d rest => simp [List.flatMap_cons, digit4]
  have hn : natOfText (ds.flatMap digit4) = some (mantOf ds 0) := by
    unfold natOfText; rw [if_neg hD]; exact digitsOnto_flatMap ds hd 0
  have := readDecimal_parts neg _ _ _ _ hn (intOfText_decInt (4 * (w - ds.length + 1)))
  unfold numericText
  simpa using this

theorem mantOf_acc (ds : List Nat) (acc : Nat) : mantOf ds acc = acc * 10000 ^ ds.length + mantOf ds 0 := by
  induction ds generalizing acc with
  | nil => simp [mantOf]
  | cons d ds ih =>
    rw [mantOf, ih, mantOf, ih (0 * 10000 + d)]
    simp only [List.length_cons, Nat.pow_succ, Nat.zero_mul, Nat.zero_add]
    rw [Nat.add_mul, Nat.mul_assoc, Nat.mul_comm 10000 (10000 ^ ds.length), Nat.add_assoc]

theorem pow_10000_eq (n : Nat) : (10000 : Nat) ^ n = 10 ^ (4 * n) := by
  rw [Nat.pow_mul]

/-- scaled by any 10^S that makes every exponent non-negative, PostgreSQL's Σ dᵢ·10000^(w−i) is the Spec's mant·10^exp10 -/
theorem posValue_eq (S : Nat) (ds : List Nat) (w : Int) (h : 0 ≤ 4 * (w - ds.length + 1) + S) :
    posValue S w ds = mantOf ds 0 * 10 ^ (4 * (w - ds.length + 1) + S).toNat := by
  induction ds generalizing w with
  | nil => simp [posValue, mantOf]
  | cons d ds ih =>
    have h' : 0 ≤ 4 * ((w - 1) - ds.length + 1) + S := by simp only [List.length_cons] at h; omega
    rw [posValue, ih (w - 1) h', mantOf, mantOf_acc ds (0 * 10000 + d)]
    simp only [Nat.zero_mul, Nat.zero_add, List.length_cons]
    have e1 : (4 * (w - 1 - (ds.length : Int) + 1) + (S : Int)).toNat = (4 * (w - ((ds.length + 1 : Nat) : Int) + 1) + (S : Int)).toNat := by
      congr 1; omega
    have e2 : (4 * w + (S : Int)).toNat = 4 * ds.length + (4 * (w - ((ds.length + 1 : Nat) : Int) + 1) + (S : Int)).toNat := by
      simp only [List.length_cons] at h; omega
    rw [e1, e2, Nat.pow_add, pow_10000_eq, Nat.add_mul, Nat.mul_assoc]

theorem ratPositional_eq (ds : List Nat) (w : Int) :
    ratPositional w ds = (mantOf ds 0 : Rat) * (10 : Rat) ^ (4 * (w - ds.length + 1)) := by
  induction ds generalizing w with
  | nil => simp [ratPositional, mantOf]
  | cons d ds ih =>
    rw [ratPositional, ih (w - 1), mantOf, mantOf_acc ds (0 * 10000 + d)]
    simp only [Nat.zero_mul, Nat.zero_add, List.length_cons]
    rw [Rat.natCast_add, Rat.natCast_mul, pow_10000_eq, Rat.natCast_pow, Rat.add_mul]
    have e1 : (4 * (w - 1 - (ds.length : Int) + 1)) = 4 * (w - ((ds.length + 1 : Nat) : Int) + 1) := by omega
    rw [e1]
    congr 1
    rw [Rat.mul_assoc]
    congr 1
    have e2 : ((10 : Nat) : Rat) = (10 : Rat) := by simp
    rw [e2, ← Rat.zpow_natCast, ← Rat.zpow_add (by decide : (10 : Rat) ≠ 0)]
    congr 1
    omega

end PgVerif.Proofs.NumericValue
