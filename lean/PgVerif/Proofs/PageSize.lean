/-
  C10, resource clause (for `C10_size_parsePage`): the tuples ParsePage reports occupy pairwise disjoint pieces of `[0, 8192)`
  (overlap guard, fix heap/02), and a tuple's data is a suffix of its pointer's storage.
-/
import PgVerif.Proofs.HeapScan
namespace PgVerif.Proofs.PageSize
open PgVerif PgVerif.Model PgVerif.Proofs

theorem tupleOf_window_le {data : Bytes} {upper : Nat} {it : ItemID} {t : HeapTuple} (ha : accepted upper it = true)
    (h : tupleOf ((data.take (it.offset + it.length)).drop it.offset) = some t) : t.data.length ≤ it.length := by
  have := (accepted_iff upper it).mp ha
  rw [(tupleOf_some h).2, List.length_drop, List.length_drop, List.length_take]
  omega

def dataSum (ts : List HeapTuple) : Nat := (ts.map fun t => t.data.length).sum

def storage (xs : List ItemID) : Nat := (xs.map (·.length)).sum

theorem storage_filter (p : ItemID → Bool) (xs : List ItemID) :
    storage xs = storage (xs.filter p) + storage (xs.filter fun x => !p x) := by
  induction xs with
  | nil => rfl
  | cons x xs ih =>
    simp only [storage, List.map_cons, List.sum_cons, List.filter_cons] at ih ⊢
    cases p x
    · simp only [Bool.false_eq_true, if_false, Bool.not_false, if_true, List.map_cons, List.sum_cons]; omega
    · simp only [if_true, Bool.not_true, Bool.false_eq_true, if_false, List.map_cons, List.sum_cons]; omega

/-- the first interval splits the others into those before it and those behind it -/
theorem storage_le : ∀ (xs : List ItemID) (M N : Nat), M ≤ N →
    (∀ x ∈ xs, M ≤ x.offset ∧ x.offset + x.length ≤ N) → xs.Pairwise Disj → storage xs + M ≤ N
  | [], M, N, hMN, _, _ => by simpa [storage] using hMN
  | h :: tl, M, N, _, hb, hp => by
    rw [List.pairwise_cons] at hp
    obtain ⟨hM, hN⟩ := hb h List.mem_cons_self
    -- the intervals before `h` lie in `[M, h.offset)`, the others behind it in `[h.offset + h.length, N)`
    have hL := storage_le (tl.filter fun x => decide (x.offset + x.length ≤ h.offset)) M h.offset hM
      (fun x hx => by
        rw [List.mem_filter, decide_eq_true_eq] at hx
        exact ⟨(hb x (List.mem_cons_of_mem _ hx.1)).1, hx.2⟩)
      (hp.2.filter _)
    have hR := storage_le (tl.filter fun x => !decide (x.offset + x.length ≤ h.offset)) (h.offset + h.length) N hN
      (fun x hx => by
        rw [List.mem_filter, Bool.not_eq_true', decide_eq_false_iff_not] at hx
        exact ⟨(hp.1 x hx.1).resolve_right hx.2, (hb x (List.mem_cons_of_mem _ hx.1)).2⟩)
      (hp.2.filter _)
    have := storage_filter (fun x => decide (x.offset + x.length ≤ h.offset)) tl
    simp only [storage, List.map_cons, List.sum_cons] at this hL hR ⊢
    omega
termination_by xs => xs.length
decreasing_by all_goals exact Nat.lt_succ_of_le (List.length_filter_le ..)

/-- the invariant of ParsePage's loop: `claimed` = accepted pointers with pairwise disjoint storage (a pointer joins only when
nothing claimed overlaps it) -/
theorem loopOf_weight (data : Bytes) (upper : Nat) :
    ∀ (items claimed : List ItemID), (∀ c ∈ claimed, accepted upper c = true) → claimed.Pairwise Disj →
      dataSum (loopOf data upper items claimed) + storage claimed ≤ 8192
  | [], claimed, hacc, hp => by
    have := storage_le claimed 0 8192 (Nat.zero_le _)
      (fun c hc => ⟨Nat.zero_le _, ((accepted_iff upper c).mp (hacc c hc)).2.2⟩) hp
    simp only [loopOf, dataSum, List.map_nil, List.sum_nil]; omega
  | it :: rest, claimed, hacc, hp => by
    cases hi : itemOf data upper claimed it with
    | none => rw [loopOf_cons_none hi]; exact loopOf_weight data upper rest claimed hacc hp
    | some t =>
      obtain ⟨ha, hno, ht⟩ := itemOf_some hi
      have hl := tupleOf_window_le ha ht
      have hacc' : ∀ c ∈ claimed ++ [it], accepted upper c = true := by
        intro c hc
        rcases List.mem_append.mp hc with hc | hc
        · exact hacc c hc
        · rw [List.mem_singleton.mp hc]; exact ha
      have hp' : (claimed ++ [it]).Pairwise Disj := by
        rw [List.pairwise_append]
        refine ⟨hp, List.pairwise_singleton _ _, ?_⟩
        intro a ham b hb
        rw [List.mem_singleton.mp hb]
        exact Disj.of_overlaps ((overlapsAny_false_iff claimed it).mp hno a ham)
      have ih := loopOf_weight data upper rest (claimed ++ [it]) hacc' hp'
      rw [loopOf_cons_some hi]
      simp only [storage, dataSum, List.map_append, List.sum_append, List.map_cons, List.map_nil, List.sum_cons,
        List.sum_nil] at ih ⊢
      omega

theorem pageTuples_dataSum_le (data : Bytes) : dataSum (pageTuples data) ≤ 8192 := by
  unfold pageTuples
  split
  · exact Nat.zero_le _
  · have := loopOf_weight data (hdrOf data).upper (itemsFrom data (hdrOf data).lower (itemCount (hdrOf data).lower) 24) []
      (fun _ hc => nomatch hc) List.Pairwise.nil
    omega

theorem parsePage_dataSum_le (data : Bytes) (ts : List HeapTuple) (hp : parsePage data = .ok ts) : dataSum ts ≤ 8192 :=
  pageTuples_of_ok hp ▸ pageTuples_dataSum_le data

def dataSumE (es : List TupleEntry) : Nat := (es.map fun e => e.tuple.data.length).sum

theorem dataSum_filter_le (ts : List HeapTuple) (f : HeapTuple → Bool) : dataSum (ts.filter f) ≤ dataSum ts := by
  induction ts with
  | nil => simp
  | cons t ts ih =>
    simp only [List.filter_cons]
    split
    · simp only [dataSum, List.map_cons, List.sum_cons] at ih ⊢; omega
    · simp only [dataSum, List.map_cons, List.sum_cons] at ih ⊢; omega

theorem dataSumE_pageEntries (vis : Bool) (off : Nat) (ts : List HeapTuple) :
    dataSumE (pageEntries vis off ts) = dataSum (ts.filter fun t => !vis || t.isVisible) := by
  simp [dataSumE, pageEntries, dataSum, List.map_map, Function.comp_def]

theorem dataSumE_append (a b : List TupleEntry) : dataSumE (a ++ b) = dataSumE a + dataSumE b := by
  simp [dataSumE]

theorem scanFrom_dataSum_le (vis : Bool) (off : Nat) (ps : List Bytes) : dataSumE (scanFrom vis off ps) ≤ 8192 * ps.length := by
  induction ps generalizing off with
  | nil => exact Nat.le_refl 0
  | cons p ps ih =>
    have h1 := pageTuples_dataSum_le p
    have h2 := dataSum_filter_le (pageTuples p) (fun t => !vis || t.isVisible)
    have := ih (off + 8192)
    rw [scanFrom, dataSumE_append, dataSumE_pageEntries, List.length_cons]
    omega

theorem readTuples_dataSum_le (data : Bytes) (vis : Bool) (es : List TupleEntry) (h : readTuples data vis = .ok es) :
    (es.map fun e => e.tuple.data.length).sum ≤ 8192 * (data.length / 8192) := by
  rw [readTuples_eq] at h; cases h
  exact length_pages data ▸ scanFrom_dataSum_le vis 0 (pages data)

end PgVerif.Proofs.PageSize
