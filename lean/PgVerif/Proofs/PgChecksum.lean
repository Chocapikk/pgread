/-
  The page checksum (C19): the model of `computePageChecksum` (fix 11 of /verif/fixes/block) is the Spec's `pg_checksum_page` on
  every 8192-byte page; `Orig`: the function of the code before fix 11, with the witness page of finding
  `C19-checksum-not-postgres`, on which it gave 0.
-/
import PgVerif.Spec.PgChecksum
import PgVerif.Proofs.ChecksumAcct
namespace PgVerif.Proofs.PgChecksum
open PgVerif PgVerif.Spec.PgChecksum

theorem pgChecksumPage_range (page : Bytes) (blkno : Nat) :
    1 ≤ pgChecksumPage page blkno ∧ pgChecksumPage page blkno ≤ 65535 := by
  unfold pgChecksumPage
  omega

theorem clearChecksumField_field (page : Bytes) (x y : UInt8) (h : 10 ≤ page.length) :
    clearChecksumField (page.take 8 ++ [x, y] ++ page.drop 10) = clearChecksumField page := by
  unfold clearChecksumField
  rw [Proofs.Block.splice_take page _ 8 10 (by omega), Proofs.Block.splice_drop page _ 8 10 (by omega) rfl]

theorem pgChecksumPage_field (page : Bytes) (blkno : Nat) (x y : UInt8) (h : 10 ≤ page.length) :
    pgChecksumPage (page.take 8 ++ [x, y] ++ page.drop 10) blkno = pgChecksumPage page blkno := by
  unfold pgChecksumPage
  rw [clearChecksumField_field page x y h]

theorem clearChecksumField_length (page : Bytes) (h : 10 ≤ page.length) :
    (clearChecksumField page).length = page.length := by
  unfold clearChecksumField
  simp only [List.length_append, List.length_take, List.length_drop, List.length_cons, List.length_nil]
  omega

/-- `pg_checksum_page` is at least 1 -/
theorem zero_beq_pgChecksumPage (page : Bytes) (blkno : Nat) : (0 == pgChecksumPage page blkno) = false := by
  have := (pgChecksumPage_range page blkno).1
  cases hc : pgChecksumPage page blkno with
  | zero => omega
  | succ n => rfl

theorem pageVerdict_stored_zero (page : Bytes) (blkno : Nat)
    (hz : allZero page = false) (hu : pdUpper page ≠ 0) (hs : pdChecksum page = 0) :
    pageVerdict page blkno = some false := by
  unfold pageVerdict
  rw [hz, if_neg Bool.false_ne_true, if_neg hu, hs, zero_beq_pgChecksumPage]

theorem storedCk_eq_pdChecksum (page : Bytes) : ChecksumAcct.storedCk page = pdChecksum page := rfl

theorem words32_eq (bs : Bytes) : Model.words32 bs = words bs := by
  induction bs using Model.words32.induct with
  | case1 a b c d rest ih => simp only [Model.words32, words, ih]
  | case2 bs h =>
    rw [Model.words32, words]
    · exact h
    · exact h

theorem checksumComp_eq (c v : Nat) : Model.checksumComp c v = comp c v := rfl

theorem baseOffsets_eq : Model.checksumBaseOffsets = checksumBaseOffsets := rfl

/-- the word loop of `pgChecksumBlock` from word number `i` on -/
def stepFrom : Nat → List Nat → List Nat → List Nat
  | _, sums, [] => sums
  | i, sums, w :: ws => stepFrom (i + 1) (Model.pgSumsStep sums (i, w)) ws

theorem foldl_zip_range' (ws : List Nat) : ∀ (i : Nat) (sums : List Nat),
    ((List.range' i ws.length).zip ws).foldl Model.pgSumsStep sums = stepFrom i sums ws := by
  induction ws with
  | nil => intro i sums; rfl
  | cons w ws ih =>
    intro i sums
    simp only [List.length_cons, List.range'_succ, List.zip_cons_cons, List.foldl_cons, stepFrom]
    exact ih _ _

theorem stepFrom_length (ws : List Nat) : ∀ (i : Nat) (sums : List Nat), (stepFrom i sums ws).length = sums.length := by
  induction ws with
  | nil => intro i sums; rfl
  | cons w ws ih =>
    intro i sums
    simp only [stepFrom]
    rw [ih]
    simp only [Model.pgSumsStep, List.length_set]

theorem stepFrom_append (a b : List Nat) : ∀ (i : Nat) (sums : List Nat),
    stepFrom i sums (a ++ b) = stepFrom (i + a.length) (stepFrom i sums a) b := by
  induction a with
  | nil => intro i sums; rfl
  | cons w ws ih =>
    intro i sums
    simp only [List.cons_append, stepFrom, List.length_cons]
    rw [ih]
    have : i + 1 + ws.length = i + (ws.length + 1) := by omega
    rw [this]

/-- inside one row of 32 words: the words `r`, taken from word number `32k + |A|` on, are mixed into the partial sums
`mid` that follow the first `|A|` ones -/
theorem stepFrom_mid (k : Nat) (r : List Nat) : ∀ (mid A B : List Nat), mid.length = r.length → A.length + r.length ≤ 32 →
    stepFrom (32 * k + A.length) (A ++ mid ++ B) r = A ++ List.zipWith comp mid r ++ B := by
  induction r with
  | nil =>
    intro mid A B hm _
    have : mid = [] := List.eq_nil_of_length_eq_zero hm
    subst this
    rfl
  | cons w ws ih =>
    intro mid A B hm hA
    match mid, hm with
    | m :: ms, hm =>
      have hms : ms.length = ws.length := by simpa using hm
      simp only [List.length_cons] at hA
      have hidx : (32 * k + A.length) % 32 = A.length := by omega
      have hstep : Model.pgSumsStep (A ++ m :: ms ++ B) (32 * k + A.length, w) =
          (A ++ [comp m w]) ++ ms ++ B := by
        unfold Model.pgSumsStep
        simp only [hidx]
        have hg : (A ++ m :: ms ++ B).getD A.length 0 = m := by
          simp [List.getD_eq_getElem?_getD, List.append_assoc]
        rw [hg, checksumComp_eq]
        simp [List.append_assoc]
      simp only [stepFrom]
      rw [hstep]
      have := ih ms (A ++ [comp m w]) B hms (by simp only [List.length_append, List.length_cons, List.length_nil]; omega)
      simp only [List.length_append, List.length_cons, List.length_nil] at this
      have e : 32 * k + A.length + 1 = 32 * k + (A.length + (0 + 1)) := by omega
      rw [e, this]
      simp [List.append_assoc]

theorem stepFrom_row (k : Nat) (sums row : List Nat) (hs : sums.length = 32) (hr : row.length = 32) :
    stepFrom (32 * k) sums row = round sums row := by
  have := stepFrom_mid k row sums [] [] (by omega) (by simp only [List.length_nil]; omega)
  simpa [round] using this

theorem round_length (sums row : List Nat) (hs : sums.length = 32) (hr : row.length = 32) :
    (round sums row).length = 32 := by
  simp only [round, List.length_zipWith, hs, hr, Nat.min_self]

/-- `32 * k` is the word number at which the remaining rows start, so that the column index `% 32` of `stepFrom_row` restarts at
0 after each `take 32` -/
theorem stepFrom_rows : ∀ (fuel : Nat) (ws : List Nat) (k : Nat) (sums : List Nat), sums.length = 32 →
    ws.length ≤ fuel → ws.length % 32 = 0 → stepFrom (32 * k) sums ws = (rowsFuel fuel ws).foldl round sums := by
  intro fuel
  induction fuel with
  | zero =>
    intro ws k sums _ hf _
    have : ws = [] := List.eq_nil_of_length_eq_zero (by omega)
    subst this
    rfl
  | succ fuel ih =>
    intro ws k sums hs hf hm
    unfold rowsFuel
    by_cases hlt : ws.length < nSums
    · have : ws = [] := List.eq_nil_of_length_eq_zero (by simp only [nSums] at hlt; omega)
      subst this
      simp only [hlt, if_true]
      rfl
    · simp only [hlt, if_false, List.foldl_cons]
      simp only [nSums] at hlt ⊢
      have hsplit : ws = ws.take 32 ++ ws.drop 32 := (List.take_append_drop 32 ws).symm
      have htl : (ws.take 32).length = 32 := by simp only [List.length_take]; omega
      have hdl : (ws.drop 32).length = ws.length - 32 := List.length_drop
      conv => lhs; rw [hsplit]
      rw [stepFrom_append, htl, stepFrom_row k sums _ hs htl]
      have e : 32 * k + 32 = 32 * (k + 1) := by omega
      rw [e]
      exact ih (ws.drop 32) (k + 1) _ (round_length sums _ hs htl) (by omega) (by omega)

theorem zeroRound_eq (sums : List Nat) (hs : sums.length = 32) : Model.zeroRound sums = round sums zeroRow := by
  have gen : ∀ l : List Nat, l.map (comp · 0) = List.zipWith comp l (List.replicate l.length 0) := by
    intro l
    induction l with
    | nil => rfl
    | cons a l ih => simp only [List.map_cons, List.length_cons, List.replicate_succ, List.zipWith_cons_cons, ih]
  show sums.map (comp · 0) = List.zipWith comp sums (List.replicate nSums 0)
  rw [gen, hs]
  rfl

theorem zeroRound_length (sums : List Nat) : (Model.zeroRound sums).length = sums.length := by
  simp only [Model.zeroRound, List.length_map]

theorem pageCopy_eq_clear (page : Bytes) (hlen : page.length = 8192) : Model.pageCopy page = clearChecksumField page := by
  unfold Model.pageCopy clearChecksumField
  have h1 : page.take 8192 = page := List.take_of_length_le (by omega)
  have h2 : zeros (8192 - page.length) = [] := by rw [hlen]; rfl
  simp only [h1, h2, List.append_nil]

theorem pgChecksumBlock_eq (c : Bytes) (bn : Nat) (hlen : c.length = 8192) :
    Model.pgChecksumBlock c bn = pgChecksumPage c bn := by
  have hc : (clearChecksumField c).length = 8192 := by rw [clearChecksumField_length c (by omega)]; exact hlen
  have hw : (words (clearChecksumField c)).length = 2048 := by
    rw [← words32_eq, Proofs.Block.words32_length, hc]
  unfold Model.pgChecksumBlock pgChecksumPage pgChecksumBlock
  have h9 : c.length > 9 := by omega
  simp only [h9, if_true]
  have hcl : c.take 8 ++ [0, 0] ++ c.drop 10 = clearChecksumField c := rfl
  rw [hcl, words32_eq, List.range_eq_range', foldl_zip_range', baseOffsets_eq]
  have hb : checksumBaseOffsets.length = 32 := rfl
  have hS : (stepFrom 0 checksumBaseOffsets (words (clearChecksumField c))).length = 32 := by rw [stepFrom_length]; exact hb
  have hrows : stepFrom 0 checksumBaseOffsets (words (clearChecksumField c)) =
      (rows (words (clearChecksumField c))).foldl round checksumBaseOffsets := by
    have := stepFrom_rows (words (clearChecksumField c)).length (words (clearChecksumField c)) 0 checksumBaseOffsets hb
      (Nat.le_refl _) (by rw [hw])
    simpa [rows] using this
  rw [zeroRound_eq _ hS, zeroRound_eq _ (round_length _ _ hS rfl), hrows]
  -- Go's `uint16(…)` of a value that is at most 65535
  exact Nat.mod_eq_of_lt (by omega)

/-- for EVERY 8192-byte page and block number, the uint32 wrap-around of the products included (`Model.mask32`) -/
theorem computePageChecksum_eq_pg (page : Bytes) (bn : Nat) (hlen : page.length = 8192) :
    Model.computePageChecksum page bn = pgChecksumPage page bn := by
  unfold Model.computePageChecksum
  rw [pageCopy_eq_clear page hlen]
  have hc : (clearChecksumField page).length = 8192 := by rw [clearChecksumField_length page (by omega)]; exact hlen
  rw [pgChecksumBlock_eq _ bn hc]
  unfold pgChecksumPage
  have : clearChecksumField (clearChecksumField page) = clearChecksumField page :=
    clearChecksumField_field page 0 0 (by omega)
  rw [this]

/-! ### known values

The empty heap page as `PageInit` writes it (pd_lower 24, pd_upper = pd_special = 8192, pd_pagesize_version 0x2004, else
zero) has `pg_checksum_page` 0x6560, 0x655F, 0x655D as block 0, 1, 7: the values known from two independent computations.  They
check the structure of the algorithm, not the 32 `checksumBaseOffsets`: one table written from memory on all sides (TRUSTED.md). -/

def emptyHeapPage : Bytes := zeros 12 ++ [24, 0, 0, 32, 0, 32, 4, 32] ++ zeros 8172

theorem emptyHeapPage_length : emptyHeapPage.length = 8192 := by
  unfold emptyHeapPage
  rw [List.length_append, List.length_append, zeros_length, zeros_length]
  rfl

/-! The sample pages are zero almost everywhere: their 2048 words are written down by rewriting (`words_zeros`), so
that the kernel evaluates the checksum loops on a list of numbers and never walks the 8192 bytes. -/

theorem words_zeros (n : Nat) (rest : Bytes) : words (zeros (4 * n) ++ rest) = List.replicate n 0 ++ words rest := by
  induction n with
  | zero => rfl
  | succ n ih =>
    have : zeros (4 * (n + 1)) = 0 :: 0 :: 0 :: 0 :: zeros (4 * n) := by rw [Nat.mul_succ]; rfl
    rw [this]
    simp only [List.cons_append, words, ih, List.replicate_succ]
    rfl

theorem clearChecksumField_zeros (rest : Bytes) : clearChecksumField (zeros 12 ++ rest) = zeros 12 ++ rest := by
  unfold clearChecksumField
  rw [List.take_append_of_le_length (by simp), List.drop_append_of_le_length (by simp)]
  rfl

theorem words_emptyHeapPage :
    words (clearChecksumField emptyHeapPage) =
      List.replicate 3 0 ++ (536870936 :: 537141248 :: List.replicate 2043 0) := by
  unfold emptyHeapPage
  rw [List.append_assoc, clearChecksumField_zeros, words_zeros 3]
  simp only [List.cons_append, List.nil_append, words]
  rw [← List.append_nil (zeros 8172), words_zeros 2043]
  simp only [words, List.append_nil]
  rfl

theorem emptyHeapPage_block : pgChecksumBlock (clearChecksumField emptyHeapPage) = 50487901 := by
  unfold pgChecksumBlock
  rw [words_emptyHeapPage]
  decide +kernel

theorem emptyHeapPage_checksums :
    pgChecksumPage emptyHeapPage 0 = 0x6560 ∧ pgChecksumPage emptyHeapPage 1 = 0x655F ∧
    pgChecksumPage emptyHeapPage 7 = 0x655D := by
  have key : ∀ bn, pgChecksumPage emptyHeapPage bn = (50487901 ^^^ bn) % 65535 + 1 := fun bn => by
    rw [pgChecksumPage, emptyHeapPage_block]
  rw [key, key, key]
  decide

namespace Orig

/-- checksum.go:checksumComp before fix 11 -/
def checksumComp (checksum value : Nat) : Nat :=
  let lo := value &&& 0xFFFF
  let hi := value >>> 16
  let shift := checksum &&& 0x1F
  let c := if shift > 0 then Model.mask32 ((checksum >>> shift) ||| Model.mask32 (checksum <<< (32 - shift))) else checksum
  let c := c ^^^ lo
  c ^^^ Model.mask32 (hi <<< 1)

def fold16 (c : Nat) : Nat := ((c >>> 16) ^^^ (c &&& 0xFFFF)) % 65536

/-- checksum.go:computePageChecksum before fix 11: a rotate/xor fold over the words, `^ blockNumber`, folded to 16 bits -/
def computePageChecksum (page : Bytes) (blockNumber : Nat) : Nat :=
  let c := (Model.words32 (Model.pageCopy page)).foldl checksumComp 0
  fold16 (c ^^^ blockNumber)

end Orig

/-- the empty heap page with stored `pd_checksum` 0 and the bytes 78 48 00 00 at the very end (inside its free space) -/
def witnessPage : Bytes := zeros 12 ++ [24, 0, 0, 32, 0, 32, 4, 32] ++ zeros 8168 ++ [0x78, 0x48, 0, 0]

theorem witnessPage_length : witnessPage.length = 8192 := by
  unfold witnessPage
  rw [List.length_append, List.length_append, List.length_append, zeros_length, zeros_length]
  rfl

/- The next three facts are about bytes 8..15 only; the evaluation walks the literal lazily and stops there (the twelve
leading zeros and the eight header bytes), it never reaches the 8168 zeros behind them. -/

theorem witnessPage_not_zero : Model.allZero witnessPage = false := by decide +kernel

theorem witnessPage_upper : pdUpper witnessPage = 8192 := by decide +kernel

theorem witnessPage_stored : pdChecksum witnessPage = 0 := by decide +kernel

theorem words_witnessPage :
    Model.words32 (Model.pageCopy witnessPage) =
      List.replicate 3 0 ++ (536870936 :: 537141248 :: (List.replicate 2042 0 ++ [18552])) := by
  rw [pageCopy_eq_clear _ witnessPage_length, words32_eq]
  unfold witnessPage
  rw [List.append_assoc, List.append_assoc, clearChecksumField_zeros, words_zeros 3]
  simp only [List.cons_append, List.nil_append, words]
  rw [words_zeros 2042]
  rfl

/-- `List.foldl` on numbers that looks at the accumulator at every step: evaluating it, the kernel computes each
intermediate value before going on, instead of first building a term nested as deep as the list is long -/
def foldlStrict (f : Nat → Nat → Nat) : Nat → List Nat → Nat
  | a, [] => a
  | a, x :: xs =>
    match f a x with
    | 0 => foldlStrict f 0 xs
    | v + 1 => foldlStrict f (v + 1) xs

theorem foldlStrict_eq (f : Nat → Nat → Nat) (l : List Nat) : ∀ a, foldlStrict f a l = l.foldl f a := by
  induction l with
  | nil => intro a; rfl
  | cons x xs ih =>
    intro a
    rw [foldlStrict, List.foldl_cons]
    cases f a x <;> exact ih _

theorem witnessPage_tool_orig : Orig.computePageChecksum witnessPage 0 = 0 := by
  unfold Orig.computePageChecksum
  rw [words_witnessPage, ← foldlStrict_eq]
  decide +kernel

end PgVerif.Proofs.PgChecksum
