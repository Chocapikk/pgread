/-
  toast.go:decompressPGLZ on rendered token streams (DESIGN.md Appendix B.6).
-/
import PgVerif.Basic.Lemmas
import PgVerif.Model.Pglz
import PgVerif.Spec.Pglz
namespace PgVerif.Proofs.Pglz
open PgVerif PgVerif.Model.Pglz PgVerif.Spec.Pglz

theorem copyLoopM_eq (start off raw : Nat) (hoff : 0 < off) (n : Nat) :
    ∀ (i : Nat) (out : Bytes), start + off ≤ out.length →
      copyLoopM start off raw n i out = .ok (copyLoop start off raw n i out) := by
  induction n with
  | zero => intro i out _; rfl
  | succ n ih =>
    intro i out hlen
    simp only [copyLoopM, copyLoop]
    split
    · rw [if_neg (by omega)]
      have hlt : i % off < off := Nat.mod_lt _ hoff
      have hi : start + i % off < out.length := by omega
      rw [idx_ok _ _ hi]
      simp only [ok_bind]
      have hg : out.getD (start + i % off) 0 = out[start + i % off] := by
        simp [List.getD, hi]
      rw [hg]
      exact ih (i+1) _ (by simp; omega)
    · rfl

/-- the invariant of the copy loop: what is written from `start` on is `off`-periodic -/
def Periodic (out : Bytes) (start off : Nat) : Prop :=
  ∀ j, start + j < out.length → out.getD (start + j) 0 = out.getD (start + j % off) 0

theorem getD_append_left (a b : Bytes) (i : Nat) (h : i < a.length) : (a ++ b).getD i 0 = a.getD i 0 := by
  simp [List.getD, List.getElem?_append_left h]

theorem getD_append_at (a : Bytes) (x : UInt8) : (a ++ [x]).getD a.length 0 = x := by
  simp [List.getD]

theorem copyLoop_eq (start off raw : Nat) (hoff : 0 < off) (n : Nat) :
    ∀ (i : Nat) (out : Bytes), out.length = start + off + i → out.length + n ≤ raw →
      Periodic out start off →
      copyLoop start off raw n i out = expandMatch off n out := by
  induction n with
  | zero => intro i out _ _ _; rfl
  | succ n ih =>
    intro i out hlen hraw hper
    have h1 : out.length - off = start + i := by omega
    have hi : start + i < out.length := by omega
    have hlt : i % off < off := Nat.mod_lt _ hoff
    simp only [copyLoop, expandMatch]
    -- the loop reads `start + i % off`, the byte-by-byte copy `start + i`: the same byte by periodicity
    rw [if_pos (by omega), ← hper i hi, ← h1]
    apply ih (i+1)
    · rw [List.length_append, hlen]; rfl
    · rw [List.length_append, List.length_singleton]; omega
    · intro j hj
      rw [List.length_append, List.length_singleton] at hj
      by_cases hjl : start + j < out.length
      · rw [getD_append_left _ _ _ hjl, getD_append_left _ _ _ (by have := Nat.mod_le j off; omega)]
        exact hper j hjl
      · -- the new byte sits at `start + (off + i)`, and `(off + i) % off = i % off`
        have hj' : j = off + i := by omega
        rw [hj', Nat.add_mod_left, ← Nat.add_assoc, ← hlen, getD_append_at, getD_append_left _ _ _ (by omega), h1]
        exact hper i hi

/-- a match as both decompressors run it: start = len − off, i = 0 -/
theorem copyLoop_match (out : Bytes) (off len raw : Nat) (h1 : 0 < off) (h2 : off ≤ out.length)
    (hraw : out.length + len ≤ raw) :
    copyLoopM (out.length - off) off raw len 0 out = .ok (expandMatch off len out) := by
  rw [copyLoopM_eq _ _ _ h1 _ _ _ (by omega)]
  congr 1
  apply copyLoop_eq (out.length - off) off raw h1 len 0 out (by omega) hraw
  intro j hj
  have : j < off := by omega
  rw [Nat.mod_eq_of_lt this]

/-- over `Fin 256` because `dec_tag` has the tag byte with its bound; below 256 the quotient by 16 is a nibble -/
theorem and240 : ∀ x : Fin 256, x.val &&& 0xF0 = x.val / 16 * 16 := fun x => by
  have h := land_field x.val 4 4
  rwa [Nat.mod_eq_of_lt (by have := x.isLt; omega : x.val / 2 ^ 4 < 2 ^ 4)] at h

theorem and15 (x : Nat) : x &&& 0x0F = x % 16 := land_mask x 4

theorem dec_tag (off l : Nat) (ho : off ≤ 4095) (hl : l ≤ 15) :
    decLen (UInt8.ofNat (off / 256 * 16 + l)) = l + 3 ∧
    decOff (UInt8.ofNat (off / 256 * 16 + l)) (UInt8.ofNat (off % 256)) = off := by
  -- off = 256 * hi + lo with hi a nibble: the tag byte is hi * 16 + l, the second byte lo
  have hdiv := Nat.div_add_mod off 256
  have hlo : off % 256 < 256 := Nat.mod_lt _ (by decide)
  generalize off / 256 = hi at *
  generalize off % 256 = lo at *
  have hx : hi * 16 + l < 256 := by omega
  unfold decLen decOff
  rw [u8_toNat _ hx, u8_toNat _ hlo, and15, and240 ⟨hi * 16 + l, hx⟩]
  refine ⟨by omega, ?_⟩
  rw [show (hi * 16 + l) / 16 * 16 = hi * 16 by omega, Nat.shiftLeft_eq, Nat.mul_assoc,
    ← Nat.shiftLeft_eq hi 8, ← Nat.shiftLeft_add_eq_or_of_lt (by omega : lo < 2 ^ 8) hi, Nat.shiftLeft_eq]
  omega

theorem expandMatch_length (off n : Nat) (out : Bytes) : (expandMatch off n out).length = out.length + n := by
  induction n generalizing out with
  | zero => rfl
  | succ n ih => simp [expandMatch, ih]; omega

theorem expandTok_length (out : Bytes) (t : Tok) : (expandTok out t).length = out.length + t.produces := by
  cases t <;> simp [expandTok, Tok.produces, expandMatch_length]

def producesAll (ts : List Tok) : Nat := (ts.map Tok.produces).sum

theorem producesAll_cons (t : Tok) (ts : List Tok) : producesAll (t :: ts) = t.produces + producesAll ts := by
  simp [producesAll]

theorem expandFrom_length (ts : List Tok) (out : Bytes) : (expandFrom ts out).length = out.length + producesAll ts := by
  induction ts generalizing out with
  | nil => simp [expandFrom, producesAll]
  | cons t ts ih =>
    simp only [expandFrom, List.foldl_cons] at ih ⊢
    rw [ih, expandTok_length]; simp [producesAll]; omega

theorem producesAll_append (a b : List Tok) : producesAll (a ++ b) = producesAll a + producesAll b := by
  simp [producesAll]

theorem offsOK_append (a b : List Tok) (n : Nat) : OffsOK (a ++ b) n ↔ OffsOK a n ∧ OffsOK b (n + producesAll a) := by
  induction a generalizing n with
  | nil => simp [OffsOK, producesAll]
  | cons t ts ih => simp only [List.cons_append, OffsOK, ih, producesAll_cons, and_assoc, Nat.add_assoc]

theorem items_tok (raw n ctrl bit : Nat) (t : Tok) (rest out : Bytes)
    (hwf : t.WF) (hoff : t.offOK out.length)
    (hbit : ctrl.testBit bit = t.isMatch) (hraw : out.length + t.produces ≤ raw) :
    items raw (n+1) ctrl bit (renderTok t ++ rest) out = items raw n ctrl (bit+1) rest (expandTok out t) := by
  cases t with
  | lit b =>
    simp only [Tok.produces] at hraw
    simp only [items, renderTok, List.cons_append, List.nil_append, hbit, Tok.isMatch, expandTok]
    rw [if_neg (by simp; omega)]; simp
  | mat off len =>
    obtain ⟨h1, h2, h3, h4⟩ := hwf
    simp only [Tok.produces] at hraw
    simp only [Tok.offOK] at hoff
    by_cases hl : len < 18
    · obtain ⟨dl, dof⟩ := dec_tag off (len - 3) h2 (by omega)
      simp only [items, renderTok, hl, if_true, List.cons_append, List.nil_append, hbit, Tok.isMatch, expandTok]
      rw [if_neg (by simp; omega)]
      simp only [dl, dof]
      rw [if_neg (by omega), if_neg (by omega), show len - 3 + 3 = len by omega,
        copyLoop_match out off len raw h1 hoff hraw]
      rfl
    · obtain ⟨dl, dof⟩ := dec_tag off 15 h2 (by omega)
      have hb2 := u8_toNat (len - 18) (by omega)
      simp only [items, renderTok, hl, if_false, List.cons_append, List.nil_append, hbit, Tok.isMatch, expandTok]
      rw [if_neg (by simp; omega)]
      simp only [dl, dof, if_true, hb2]
      rw [if_neg (by omega), show 15 + 3 + (len - 18) = len by omega,
        copyLoop_match out off len raw h1 hoff hraw]
      rfl

theorem ctrlOf_eq (g : List Tok) : ctrlOf g = ofBits (g.map Tok.isMatch) := by
  induction g with
  | nil => rfl
  | cons t ts ih => rw [ctrlOf, ih, List.map_cons, ofBits]; cases t.isMatch <;> rfl

theorem ctrlOf_lt (g : List Tok) : ctrlOf g < 2 ^ g.length := by
  have := ofBits_lt (g.map Tok.isMatch)
  rwa [← ctrlOf_eq, List.length_map] at this

theorem ctrlOf_testBit (g : List Tok) (i : Nat) (h : i < g.length) :
    (ctrlOf g).testBit i = g[i].isMatch := by
  rw [ctrlOf_eq, ofBits_testBit, List.getD_eq_getElem?_getD, List.getElem?_map, List.getElem?_eq_getElem h]; rfl

theorem items_group (raw ctrl : Nat) (g : List Tok) :
    ∀ (n bit : Nat) (rest out : Bytes), g.length ≤ n → (∀ t ∈ g, t.WF) → OffsOK g out.length →
      (∀ i (h : i < g.length), ctrl.testBit (bit + i) = g[i].isMatch) →
      out.length + producesAll g ≤ raw →
      items raw n ctrl bit (g.flatMap renderTok ++ rest) out
        = items raw (n - g.length) ctrl (bit + g.length) rest (expandFrom g out) := by
  induction g with
  | nil => intro n bit rest out _ _ _ _ _; simp [expandFrom]
  | cons t ts ih =>
    intro n bit rest out hn hwf hoffs hbits hraw
    obtain ⟨ho, hos⟩ := hoffs
    rw [producesAll_cons] at hraw
    cases n with
    | zero => simp at hn
    | succ n =>
      simp only [List.flatMap_cons, List.append_assoc]
      rw [items_tok raw n ctrl bit t _ out (hwf t (by simp)) ho
        (by have := hbits 0 (by simp); simpa using this) (by omega)]
      have := ih n (bit+1) rest (expandTok out t) (by simpa using hn)
        (fun u hu => hwf u (by simp [hu]))
        (by rw [expandTok_length]; exact hos)
        (fun i h => by
          have := hbits (i+1) (by simpa using h)
          simpa [Nat.add_assoc, Nat.add_comm 1 i] using this)
        (by rw [expandTok_length]; omega)
      rw [this]
      simp only [expandFrom, List.foldl_cons, List.length_cons]
      congr 1 <;> omega

theorem items_nil (raw n ctrl bit : Nat) (out : Bytes) : items raw n ctrl bit [] out = .ok ([], out) := by
  cases n <;> simp [items]

theorem produces_pos (t : Tok) (h : t.WF) : 1 ≤ t.produces := by
  cases t with
  | lit b => simp [Tok.produces]
  | mat off len => obtain ⟨_, _, h3, _⟩ := h; simp [Tok.produces]; omega

theorem decompress_render (raw : Nat) (gs : List (List Tok)) :
    ∀ (fuel : Nat) (out : Bytes), gs.length ≤ fuel →
      (∀ g ∈ gs, g ≠ [] ∧ g.length ≤ 8 ∧ ∀ t ∈ g, t.WF) →
      (∀ g ∈ gs.dropLast, g.length = 8) →
      OffsOK gs.flatten out.length →
      raw = out.length + producesAll gs.flatten →
      decompress raw fuel (gs.flatMap renderGroup) out = .ok (expandFrom gs.flatten out) := by
  induction gs with
  | nil => intro fuel out _ _ _ _ _; cases fuel <;> simp [decompress, expandFrom]
  | cons g gs ih =>
    intro fuel out hf hg hfull hoffs hraw
    obtain ⟨hne, hle, hwf⟩ := hg g (by simp)
    cases fuel with
    | zero => simp at hf
    | succ fuel =>
      have hsplit : producesAll (g :: gs).flatten = producesAll g + producesAll gs.flatten := producesAll_append g _
      have hpos : 1 ≤ producesAll g := by
        cases g with
        | nil => exact absurd rfl hne
        | cons t ts => rw [producesAll_cons]; have := produces_pos t (hwf t (by simp)); omega
      have hoffs' := (offsOK_append g gs.flatten out.length).mp hoffs
      have hc : (UInt8.ofNat (ctrlOf g)).toNat = ctrlOf g :=
        u8_toNat _ (Nat.lt_of_lt_of_le (ctrlOf_lt g) (Nat.pow_le_pow_right (by omega) hle))
      simp only [List.flatMap_cons, renderGroup, List.cons_append, decompress]
      rw [if_neg (by simp; omega)]
      simp only [hc]
      rw [items_group raw (ctrlOf g) g 8 0 _ out hle hwf hoffs'.1
        (fun i h => by simpa using ctrlOf_testBit g i h) (by omega)]
      -- `items` has 8 turns.  A group that is not the last is full (`hfull`): the turns are used up exactly at the next control
      -- byte and the outer loop goes on.  A shorter group can only be the last: `items` meets the end of the stream (`items_nil`).
      cases gs with
      | nil =>
        simp only [List.flatMap_nil, items_nil, ok_bind, List.flatten_cons, List.flatten_nil, List.append_nil]
        cases fuel <;> simp [decompress]
      | cons g2 gs2 =>
        have h8 : g.length = 8 := hfull g (by simp [List.dropLast])
        simp only [h8, Nat.sub_self, items, ok_bind, pure_eq_ok, List.flatten_cons]
        have := ih fuel (expandFrom g out) (by simpa using hf)
          (fun g' hg' => hg g' (by simp [hg']))
          (fun g' hg' => hfull g' (by simp [List.dropLast] at hg' ⊢; exact Or.inr hg'))
          (by rw [expandFrom_length]; exact hoffs'.2)
          (by rw [expandFrom_length]; omega)
        rw [this]
        simp [expandFrom, List.foldl_append]

theorem group8_eq (ts : List Tok) (h : ts ≠ []) : group8 ts = ts.take 8 :: group8 (ts.drop 8) := by
  rcases ts with _ | ⟨a, _ | ⟨b, _ | ⟨c, _ | ⟨d, _ | ⟨e, _ | ⟨f, _ | ⟨g, _ | ⟨h, rest⟩⟩⟩⟩⟩⟩⟩⟩
  · exact absurd rfl h
  all_goals rfl

theorem group8_spec : ∀ (ts : List Tok),
    (group8 ts).flatten = ts ∧ (∀ g ∈ group8 ts, g ≠ [] ∧ g.length ≤ 8) ∧ ∀ g ∈ (group8 ts).dropLast, g.length = 8
  | [] => ⟨rfl, nofun, nofun⟩
  | t :: ts => by
    obtain ⟨ih1, ih2, ih3⟩ := group8_spec ((t :: ts).drop 8)
    rw [group8_eq _ (List.cons_ne_nil t ts)]
    refine ⟨by rw [List.flatten_cons, ih1, List.take_append_drop], ?_, ?_⟩
    · intro g hg
      rcases List.mem_cons.mp hg with rfl | hg
      · exact ⟨List.cons_ne_nil t (ts.take 7), List.length_take_le ..⟩
      · exact ih2 g hg
    · intro g hg
      -- a group that is not the last is followed by a non-empty rest of the list
      cases hgs : group8 ((t :: ts).drop 8) with
      | nil => rw [hgs] at hg; cases hg
      | cons g2 gs2 =>
        rw [hgs, List.dropLast_cons_cons, List.mem_cons] at hg
        rcases hg with rfl | hg
        · have hne : (t :: ts).drop 8 ≠ [] := fun e => by rw [e] at hgs; cases hgs
          have := List.length_pos_iff.mpr hne
          rw [List.length_drop] at this
          rw [List.length_take]; omega
        · exact ih3 g (hgs ▸ hg)
termination_by ts => ts.length
decreasing_by rw [List.length_drop, List.length_cons]; omega

theorem renderTok_length_pos (t : Tok) : 1 ≤ (renderTok t).length := by
  cases t with
  | lit b => simp [renderTok]
  | mat off len => simp only [renderTok]; split <;> simp

theorem flatMap_renderTok_ge (g : List Tok) : g.length ≤ (g.flatMap renderTok).length := by
  induction g with
  | nil => simp
  | cons t ts ih =>
    have := renderTok_length_pos t
    simp only [List.flatMap_cons, List.length_append, List.length_cons]; omega

theorem render_groups_ge (gs : List (List Tok)) : gs.flatten.length + gs.length ≤ (gs.flatMap renderGroup).length := by
  induction gs with
  | nil => simp
  | cons g gs ih =>
    have := flatMap_renderTok_ge g
    simp only [List.flatten_cons, List.flatMap_cons, List.length_append, List.length_cons, renderGroup]; omega

/-- at least 4 stream bytes: the Go function rejects shorter input -/
theorem decompressPGLZ_render (ts : List Tok) (h : PglzWF ts) (h4 : 4 ≤ (renderPglz ts).length) :
    decompressPGLZ (renderPglz ts) (expand ts).length = .ok (some (expand ts)) := by
  obtain ⟨hwf, hoffs⟩ := h
  unfold decompressPGLZ
  rw [if_neg (by omega)]
  obtain ⟨hfl, hwf8, hfull⟩ := group8_spec ts
  have := decompress_render (expand ts).length (group8 ts) ((renderPglz ts).length + 1) []
    (by have := render_groups_ge (group8 ts); unfold renderPglz; omega)
    (fun g hg => ⟨(hwf8 g hg).1, (hwf8 g hg).2,
      fun t ht => hwf t (by rw [← hfl]; exact List.mem_flatten.mpr ⟨g, hg, ht⟩)⟩)
    hfull
    (by rw [hfl]; exact hoffs)
    (by rw [hfl]; simp [expand, expandFrom_length])
  unfold renderPglz at this ⊢
  rw [this, hfl]
  rfl

theorem renderPglz_ge (ts : List Tok) (hne : ts ≠ []) : ts.length + 1 ≤ (renderPglz ts).length := by
  have h := render_groups_ge (group8 ts)
  rw [(group8_spec ts).1] at h
  have : 1 ≤ (group8 ts).length := by rw [group8_eq ts hne]; exact Nat.le_add_left ..
  unfold renderPglz; omega

/-- the compressed form of a value is only kept when it is smaller (`4 + |stream| < |original|`); such a stream has at
least 4 bytes — a shorter one is a control byte and at most two literals -/
theorem pglz_stream_ge4 (ts : List Tok) (h : PglzWF ts) (hc : 4 + (renderPglz ts).length < (expand ts).length) :
    4 ≤ (renderPglz ts).length := by
  obtain ⟨hwf, hoffs⟩ := h
  rw [show (expand ts).length = producesAll ts by simp [expand, expandFrom_length]] at hc
  rcases ts with _ | ⟨t1, rest⟩
  · simp [producesAll] at hc
  · cases t1 with
    | mat off len =>
      -- a match cannot come first: it would copy from output that does not exist yet
      have h1 : 1 ≤ off := (hwf _ List.mem_cons_self).1
      have h0 : off ≤ 0 := hoffs.1
      omega
    | lit b =>
      rcases rest with _ | ⟨t2, _ | ⟨t3, rest⟩⟩
      · simp [producesAll, Tok.produces] at hc
      · cases t2 with
        | lit b2 => simp [producesAll, Tok.produces] at hc; omega
        | mat off len =>
          have : (renderPglz [.lit b, .mat off len]).length = 1 + 1 + (renderTok (.mat off len)).length := by
            simp [renderPglz, group8, renderGroup, renderTok]; omega
          have h2 : 2 ≤ (renderTok (.mat off len)).length := by simp only [renderTok]; split <;> simp
          omega
      · have := renderPglz_ge (.lit b :: t2 :: t3 :: rest) (by simp)
        simp only [List.length_cons] at this; omega

end PgVerif.Proofs.Pglz
