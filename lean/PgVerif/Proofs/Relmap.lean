/-
  relmap.go for C20: relMapIsV16 through the Spec's crc check, ParseRelMapFile on every byte string and on an encoded
  pg_filenode.map of either layout, the overlap of the two layouts.
-/
import PgVerif.Model.Relmap
import PgVerif.Spec.Relmap
import PgVerif.Proofs.Crc
import PgVerif.Basic.Lemmas
import PgVerif.Gen.Control
namespace PgVerif.Proofs
open PgVerif PgVerif.Spec

def toMapping (e : Nat × Nat) : Model.RelMapping := ⟨e.1, e.2⟩

/-- what ParseRelMapFile reports on the encoding of `m` -/
def reportOf (m : RelMap) : Model.RelMapFile :=
  { magic := relmapMagic, numMappings := m.mappings.length, mappings := m.mappings.map toMapping, crc := m.crc }

theorem flatMap_encMapping_length (ms : List (Nat × Nat)) : (ms.flatMap encMapping).length = 8 * ms.length :=
  length_flatMap_const encMapping ms fun e _ => by simp [encMapping]

/-- the loop of ParseRelMapFile: up to `n` entries from `off` on, as long as 8 bytes are left -/
def mappingsFrom (bs : Bytes) : Nat → Nat → List Model.RelMapping
  | 0, _ => []
  | n+1, off => if off + 8 > bs.length then [] else ⟨rd 4 (bs.drop off), rd 4 (bs.drop (off + 4))⟩ :: mappingsFrom bs n (off + 8)

theorem relMapLoop_eq (bs : Bytes) (n off : Nat) : Model.relMapLoop bs n off = .ok (mappingsFrom bs n off) := by
  induction n generalizing off with
  | zero => rfl
  | succ n ih =>
    unfold Model.relMapLoop mappingsFrom
    by_cases h : off + 8 > bs.length
    · rw [if_pos h, if_pos h]; rfl
    · rw [if_neg h, if_neg h, uN_ok 4 bs off (by omega), ok_bind, uN_ok 4 bs (off + 4) (by omega), ok_bind, ih, ok_bind]; rfl

theorem mappingsFrom_length (bs : Bytes) (n off : Nat) : (mappingsFrom bs n off).length ≤ n := by
  induction n generalizing off with
  | zero => exact Nat.le_refl 0
  | succ n ih =>
    unfold mappingsFrom
    split
    · exact Nat.zero_le _
    · exact Nat.succ_le_succ (ih _)

theorem mappingsFrom_at (ms : List (Nat × Nat)) (bs : Bytes) (off : Nat) (h : At bs off (ms.flatMap encMapping))
    (hwf : ∀ e ∈ ms, e.1 < 2 ^ 32 ∧ e.2 < 2 ^ 32) : mappingsFrom bs ms.length off = ms.map toMapping := by
  induction ms generalizing off with
  | nil => rfl
  | cons e t ih =>
    have he := hwf e List.mem_cons_self
    have h' : At bs off ((le 4 e.1 ++ le 4 e.2) ++ t.flatMap encMapping) := h
    have hl := h'.left.length_le
    have := ih (off + 8) (by simpa using h'.right) fun x hx => hwf x (List.mem_cons_of_mem _ hx)
    rw [List.length_append, le_length, le_length] at hl
    rw [List.length_cons, mappingsFrom, if_neg (by omega), ← rdAt, ← rdAt, h'.left.left.rd (by omega),
      (by simpa using h'.left.right : At bs (off + 4) (le 4 e.2)).rd (by omega), this]
    rfl

theorem layout_nums (l : RelMapLayout) :
    (l.size = 512 ∧ l.maxMappings = 62 ∧ l.crcOffset = 504 ∧ (l == .v16) = false) ∨
    (l.size = 524 ∧ l.maxMappings = 64 ∧ l.crcOffset = 520 ∧ (l == .v16) = true) := by
  cases l
  · exact Or.inl (by decide)
  · exact Or.inr (by decide)

theorem enc_reads (l : RelMapLayout) (m : RelMap) (h : m.WFL l) (tail : Bytes) :
    (encRelMap m ++ tail).length = l.size + tail.length ∧ rdAt 4 0 (encRelMap m ++ tail) = relmapMagic ∧
    rdAt 4 4 (encRelMap m ++ tail) = m.mappings.length ∧ rdAt 4 l.crcOffset (encRelMap m ++ tail) = m.crc ∧
    mappingsFrom (encRelMap m ++ tail) m.mappings.length 8 = m.mappings.map toMapping := by
  obtain ⟨h1, h2, h3, h4, h5⟩ := h
  have e : encRelMap m ++ tail = le 4 relmapMagic ++ (le 4 m.mappings.length ++
      (m.mappings.flatMap encMapping ++ (m.unused ++ (le 4 m.crc ++ (m.pad ++ tail))))) := by
    simp [encRelMap, encRelMapRaw, List.append_assoc]
  have hmx : l.maxMappings ≤ 64 := by cases l <;> decide
  -- the members of the struct, each where it stands
  have a := at_self (encRelMap m ++ tail)
  rw [e] at a ⊢
  have a4 := a.right
  have a8 := a4.right
  have ac := a8.right.right
  simp only [le_length, flatMap_encMapping_length, h2, Nat.zero_add] at a4 a8 ac
  refine ⟨?_, rd_le 4 _ _ (by decide), a4.left.rd (by omega), ?_, mappingsFrom_at _ _ 8 a8.left h5⟩
  · simp only [List.length_append, le_length, flatMap_encMapping_length, h2, h4, RelMapLayout.size, RelMapLayout.crcOffset]
    omega
  · rw [show l.crcOffset = 4 + 4 + 8 * m.mappings.length + 8 * (l.maxMappings - m.mappings.length) by
      rw [RelMapLayout.crcOffset]; omega]
    exact ac.left.rd h3

theorem crcOk_eq (l : RelMapLayout) (bs : Bytes) (h : l.size ≤ bs.length) :
    relmapCrcOk l bs = (rd 4 (bs.drop l.crcOffset) == crc32c (bs.take l.crcOffset)) := by
  unfold relmapCrcOk relmapBody rdAt
  rw [decide_eq_true h, Bool.true_and]

/-- what relMapIsV16 answers, in the Spec's crc checks -/
def isV16Of (bs : Bytes) (n : Int) : Bool :=
  decide (524 ≤ bs.length) && (decide (n > 62) || relmapCrcOk .v16 bs || (!relmapCrcOk .v12 bs && bs.length == 524))

theorem relMapIsV16_eq (bs : Bytes) (n : Int) : Model.relMapIsV16 bs n = .ok (isV16Of bs n) := by
  unfold Model.relMapIsV16 isV16Of
  by_cases hl : bs.length < 524
  · rw [if_pos hl, decide_eq_false (by omega), Bool.false_and]; rfl
  · rw [if_neg hl, decide_eq_true (by omega), Bool.true_and]
    by_cases hn : n > 62
    · rw [if_pos hn, decide_eq_true hn]; rfl
    · rw [if_neg hn, decide_eq_false hn, Bool.false_or]
      simp (disch := omega) only [slice_ok, uN_ok, ok_bind, pure_eq_ok, List.drop_zero]
      -- the offsets 520 / 504 of the code are `crcOffset` of the two layouts
      have c16 : relmapCrcOk .v16 bs = (rd 4 (bs.drop 520) == crc32c (bs.take 520)) :=
        crcOk_eq .v16 bs (by show 524 ≤ bs.length; omega)
      have c12 : relmapCrcOk .v12 bs = (rd 4 (bs.drop 504) == crc32c (bs.take 504)) :=
        crcOk_eq .v12 bs (by show 512 ≤ bs.length; omega)
      rw [verifyCRC32C_eq, verifyCRC32C_eq, ← c16, ← c12]
      cases relmapCrcOk .v16 bs
      · cases relmapCrcOk .v12 bs <;> simp
      · simp

theorem isV16Of_len (bs : Bytes) (n : Int) (h : isV16Of bs n = true) : 524 ≤ bs.length := by
  unfold isV16Of at h
  simp only [Bool.and_eq_true, decide_eq_true_eq] at h
  exact h.1

theorem isV16Of_count (bs : Bytes) (n : Int) (h : isV16Of bs n = false) (hl : 524 ≤ bs.length) : n ≤ 62 := by
  unfold isV16Of at h
  rw [decide_eq_true hl, Bool.true_and] at h
  simp only [Bool.or_eq_false_iff, decide_eq_false_iff_not] at h
  omega

theorem enc_crcOk (l : RelMapLayout) (m : RelMap) (h : m.WFL l) (tail : Bytes) :
    relmapCrcOk l (encRelMap m ++ tail) = (m.crc == crc32c (relmapBody l (encRelMap m))) := by
  obtain ⟨hlen, _, _, rcrc, _⟩ := enc_reads l m h tail
  have hl : (encRelMap m).length = l.crcOffset + 4 + l.padLen := by
    have := (enc_reads l m h []).1
    rwa [List.append_nil, List.length_nil, Nat.add_zero] at this
  rw [crcOk_eq l _ (by omega), ← rdAt, rcrc, relmapBody, List.take_append_of_le_length (by omega)]

/-! `m.WF` / `m.WF16` are `m.WFL .v12` / `m.WFL .v16` by definition (`Spec.RelMap.WF_iff`, `WF16_iff`); the lemmas about one
layout below are stated with them and with the literal sizes, which is what the property statements and `omega` use. -/

theorem enc12_length (m : RelMap) (h : m.WF) (tail : Bytes) : (encRelMap m ++ tail).length = 512 + tail.length :=
  (enc_reads .v12 m h tail).1

theorem enc16_length (m : RelMap) (h : m.WF16) (tail : Bytes) : (encRelMap m ++ tail).length = 524 + tail.length :=
  (enc_reads .v16 m h tail).1

theorem isV16Of_enc12 (m : RelMap) (h : m.WF) (tail : Bytes)
    (h16 : relmapCrcOk .v16 (encRelMap m ++ tail) = false) (hor : m.Intact .v12 ∨ tail.length ≠ 12) :
    isV16Of (encRelMap m ++ tail) (m.mappings.length : Int) = false := by
  have hn : ¬ ((m.mappings.length : Int) > 62) := by have := h.1; unfold relmapMax at this; omega
  unfold isV16Of
  rw [decide_eq_false hn, h16, Bool.false_or, Bool.false_or, enc_crcOk .v12 m h tail, enc12_length m h tail]
  rcases hor with hi | ht
  · unfold RelMap.Intact at hi
    rw [← hi]; simp
  · have : (512 + tail.length == 524) = false := by simp; omega
    rw [this]; simp

theorem isV16Of_enc12_short (m : RelMap) (h : m.WF) (tail : Bytes) (ht : tail.length < 12) :
    isV16Of (encRelMap m ++ tail) (m.mappings.length : Int) = false := by
  unfold isV16Of
  rw [enc12_length m h tail, decide_eq_false (by omega), Bool.false_and]

theorem isV16Of_enc16 (m : RelMap) (h : m.WF16) (tail : Bytes)
    (hor : m.Intact .v16 ∨ m.mappings.length > 62 ∨ (tail = [] ∧ relmapCrcOk .v12 (encRelMap m ++ tail) = false)) :
    isV16Of (encRelMap m ++ tail) (m.mappings.length : Int) = true := by
  unfold isV16Of
  rw [enc16_length m h tail, decide_eq_true (by omega), Bool.true_and, enc_crcOk .v16 m h tail]
  rcases hor with hi | hn | ⟨ht, h12⟩
  · unfold RelMap.Intact at hi
    rw [← hi]; simp
  · have : decide ((m.mappings.length : Int) > 62) = true := decide_eq_true (by omega)
    rw [this]; simp
  · rw [h12, ht]; simp

/-- the PostgreSQL 16 map that the image of the 12–15 map `m` followed by `tail` (≥ 12 bytes) is, member by member: slots 62
and 63 are the old crc, the padding and the next 8 bytes; crc = the four bytes at 520 -/
def as16 (m : RelMap) (tail : Bytes) : RelMap :=
  { mappings := m.mappings, unused := m.unused ++ (le 4 m.crc ++ (m.pad ++ tail.take 8)), crc := rd 4 (tail.drop 8), pad := [] }

theorem as16_wf (m : RelMap) (h : m.WF) (tail : Bytes) (ht : 12 ≤ tail.length) : (as16 m tail).WF16 := by
  obtain ⟨h1, h2, _, h4, h5⟩ := h
  unfold relmapMax at h1 h2
  refine ⟨?_, ?_, ?_, rfl, h5⟩
  · show m.mappings.length ≤ relmapMax16
    unfold relmapMax16; omega
  · show (m.unused ++ (le 4 m.crc ++ (m.pad ++ tail.take 8))).length = 8 * (relmapMax16 - m.mappings.length)
    unfold relmapMax16
    simp only [List.length_append, le_length, List.length_take, h2, h4]
    omega
  · exact rd_lt 4 _

theorem as16_enc (m : RelMap) (tail : Bytes) (ht : 12 ≤ tail.length) :
    encRelMap m ++ tail = encRelMap (as16 m tail) ++ tail.drop 12 := by
  have hsplit : tail = tail.take 8 ++ (le 4 (rd 4 (tail.drop 8)) ++ tail.drop 12) := by
    rw [le_rd 4 (tail.drop 8) (by simp; omega)]
    have : tail.drop 12 = (tail.drop 8).drop 4 := by simp
    rw [this, List.take_append_drop, List.take_append_drop]
  conv => lhs; rw [hsplit]
  simp [encRelMap, encRelMapRaw, as16, List.append_assoc]

/-- an intact 12–15 map, any 8 bytes, then the CRC-32C of everything so far: it verifies under both layouts -/
theorem collision_both (m : RelMap) (h : m.WF) (hi : m.Intact .v12) (t8 : Bytes) (h8 : t8.length = 8) :
    relmapCrcOk .v12 (encRelMap m ++ (t8 ++ le 4 (crc32c (encRelMap m ++ t8)))) = true ∧
    relmapCrcOk .v16 (encRelMap m ++ (t8 ++ le 4 (crc32c (encRelMap m ++ t8)))) = true := by
  constructor
  · rw [enc_crcOk .v12 m h]
    unfold RelMap.Intact at hi
    rw [← hi]; simp
  · have hl := enc12_length m h []
    simp only [List.append_nil, List.length_nil, Nat.add_zero] at hl
    have hp : (encRelMap m ++ t8).length = 520 := by rw [List.length_append, hl, h8]
    rw [crcOk_eq .v16 _ (by show 524 ≤ _; simp [hl, h8]), show RelMapLayout.v16.crcOffset = 520 from rfl, ← List.append_assoc,
      List.take_left' hp, ← rdAt, (at_end _ _ hp).rd (crc32c_lt _)]
    exact beq_self_eq_true _

theorem relmapCountOk_iff (len : Nat) (n : Int) :
    relmapCountOk len n ↔ (512 ≤ len ∧ 0 ≤ n ∧ n ≤ 62) ∨ (524 ≤ len ∧ 0 ≤ n ∧ n ≤ 64) := by
  have s12 : RelMapLayout.v12.size = 512 := by decide
  have s16 : RelMapLayout.v16.size = 524 := by decide
  unfold relmapCountOk relmapCountFits
  rw [s12, s16]
  rfl

/-- "16" is answered only when the 16 struct fits, and "12–15" in an image where it fits only for counts up to 62 -/
theorem count_guard_iff (bs : Bytes) (n : Int) (hl : 512 ≤ bs.length) :
    ¬ (n < 0 ∨ n > ((if isV16Of bs n = true then 64 else 62 : Nat) : Int)) ↔ relmapCountOk bs.length n := by
  rw [relmapCountOk_iff]
  cases hv : isV16Of bs n with
  | true =>
    have := isV16Of_len bs n hv
    simp only [if_true]
    omega
  | false =>
    have := isV16Of_count bs n hv
    simp only [Bool.false_eq_true, if_false]
    omega

/-- what ParseRelMapFile reports when it accepts -/
def relMapOf (bs : Bytes) : Model.RelMapFile :=
  { magic := rdAt 4 0 bs, numMappings := toSigned 32 (rdAt 4 4 bs),
    mappings := mappingsFrom bs (toSigned 32 (rdAt 4 4 bs)).toNat 8,
    crc := if isV16Of bs (toSigned 32 (rdAt 4 4 bs)) then rdAt 4 520 bs else rdAt 4 504 bs }

theorem parseRelMapFile_eq (bs : Bytes) :
    Model.parseRelMapFile bs = .ok (if 512 ≤ bs.length ∧ rdAt 4 0 bs = 0x592717 ∧
      relmapCountOk bs.length (toSigned 32 (rdAt 4 4 bs)) then some (relMapOf bs) else none) := by
  unfold Model.parseRelMapFile relMapOf rdAt
  by_cases hl : bs.length < 512
  · rw [if_pos hl, if_neg (fun h => by omega)]; rfl
  rw [if_neg hl, uN_ok 4 bs 0 (by omega), ok_bind]
  by_cases hm : rd 4 (bs.drop 0) ≠ 0x592717
  · rw [if_pos hm, if_neg (fun h => hm h.2.1)]; rfl
  rw [if_neg hm, uN_ok 4 bs 4 (by omega), ok_bind]
  dsimp only
  rw [relMapIsV16_eq, ok_bind]
  have hg := count_guard_iff bs (toSigned 32 (rd 4 (bs.drop 4))) (by omega)
  by_cases hc : toSigned 32 (rd 4 (bs.drop 4)) < 0 ∨
      toSigned 32 (rd 4 (bs.drop 4)) > ((if isV16Of bs (toSigned 32 (rd 4 (bs.drop 4))) = true then 64 else 62 : Nat) : Int)
  · rw [if_pos hc, if_neg (fun h => (hg.mpr h.2.2) hc)]; rfl
  have hacc : 512 ≤ bs.length ∧ rd 4 (bs.drop 0) = 0x592717 ∧ relmapCountOk bs.length (toSigned 32 (rd 4 (bs.drop 4))) :=
    ⟨by omega, by simpa using hm, hg.mp hc⟩
  rw [if_neg hc, relMapLoop_eq, ok_bind, if_pos hacc]
  cases hv : isV16Of bs (toSigned 32 (rd 4 (bs.drop 4)))
  · rw [if_neg Bool.false_ne_true, if_neg Bool.false_ne_true, uN_ok 4 bs 504 (by omega)]; rfl
  · have := isV16Of_len _ _ hv
    rw [if_pos rfl, if_pos rfl, uN_ok 4 bs 520 (by omega)]; rfl

theorem parseRelMapFile_total (bs : Bytes) : ∃ r, Model.parseRelMapFile bs = .ok r :=
  ⟨_, parseRelMapFile_eq bs⟩

theorem parseRelMapFile_some_iff (bs : Bytes) (rm : Model.RelMapFile) :
    Model.parseRelMapFile bs = .ok (some rm) ↔
      (512 ≤ bs.length ∧ rdAt 4 0 bs = 0x592717 ∧ relmapCountOk bs.length (toSigned 32 (rdAt 4 4 bs))) ∧ relMapOf bs = rm := by
  rw [parseRelMapFile_eq]
  split <;> simp [*]

theorem parseRelMapFile_enc (l : RelMapLayout) (m : RelMap) (h : m.WFL l) (tail : Bytes)
    (hv : isV16Of (encRelMap m ++ tail) (m.mappings.length : Int) = (l == .v16)) :
    Model.parseRelMapFile (encRelMap m ++ tail) = .ok (some (reportOf m)) := by
  obtain ⟨hlen, r0, r4, rcrc, hms⟩ := enc_reads l m h tail
  have hmax := h.1
  have hn : toSigned 32 (rdAt 4 4 (encRelMap m ++ tail)) = (m.mappings.length : Int) := by
    have : l.maxMappings ≤ 64 := by cases l <;> decide
    rw [r4]; exact toSigned_small 32 _ (by omega)
  have hacc : 512 ≤ (encRelMap m ++ tail).length ∧ rdAt 4 0 (encRelMap m ++ tail) = 0x592717 ∧
      relmapCountOk (encRelMap m ++ tail).length (toSigned 32 (rdAt 4 4 (encRelMap m ++ tail))) := by
    rw [hn, relmapCountOk_iff, hlen]
    rcases layout_nums l with ⟨hs, hm, _, _⟩ | ⟨hs, hm, _, _⟩
    · exact ⟨by omega, r0, Or.inl ⟨by omega, by omega, by omega⟩⟩
    · exact ⟨by omega, r0, Or.inr ⟨by omega, by omega, by omega⟩⟩
  have hcrc : (if isV16Of (encRelMap m ++ tail) (m.mappings.length : Int) = true then rdAt 4 520 (encRelMap m ++ tail)
      else rdAt 4 504 (encRelMap m ++ tail)) = m.crc := by
    rw [hv]
    rcases layout_nums l with ⟨_, _, ho, hb⟩ | ⟨_, _, ho, hb⟩
    · rw [hb, if_neg Bool.false_ne_true, ← ho, rcrc]
    · rw [hb, if_pos rfl, ← ho, rcrc]
  rw [parseRelMapFile_eq, if_pos hacc]
  unfold relMapOf reportOf
  rw [r0, hn, Int.toNat_natCast, hms, hcrc]

/-- ParseRelMapFile reads the image of `collision_both` as the 16 map it also is (`as16`): the crc it reports is the last four bytes -/
theorem collision_parse (m : RelMap) (h : m.WF) (hi : m.Intact .v12) (t8 : Bytes) (h8 : t8.length = 8) :
    Model.parseRelMapFile (encRelMap m ++ (t8 ++ le 4 (crc32c (encRelMap m ++ t8)))) =
      .ok (some { reportOf m with crc := crc32c (encRelMap m ++ t8) }) := by
  have ht : 12 ≤ (t8 ++ le 4 (crc32c (encRelMap m ++ t8))).length := by simp [h8]
  have hd : (t8 ++ le 4 (crc32c (encRelMap m ++ t8))).drop 12 = [] := List.drop_eq_nil_of_le (by simp [h8])
  have hw := as16_wf m h _ ht
  have he := as16_enc m _ ht
  rw [hd] at he
  -- the image verifies at 520, so as a 16 map it is intact
  have hint : (as16 m (t8 ++ le 4 (crc32c (encRelMap m ++ t8)))).Intact .v16 := by
    have := enc_crcOk .v16 _ hw []
    rw [← he, (collision_both m h hi t8 h8).2] at this
    exact beq_iff_eq.mp this.symm
  have hc : (as16 m (t8 ++ le 4 (crc32c (encRelMap m ++ t8)))).crc = crc32c (encRelMap m ++ t8) :=
    (at_end t8 _ h8).rd (crc32c_lt _)
  rw [he, parseRelMapFile_enc .v16 _ hw [] (isV16Of_enc16 _ hw [] (Or.inl hint)), reportOf, hc]
  rfl

/-- `Gen.withTrueCrc` stores the crc PostgreSQL computes; the crc member lies behind the bytes it covers, so storing it does not
change them -/
theorem withTrueCrc_intact (l : RelMapLayout) (m : RelMap) (h : m.WFL l) :
    (Gen.withTrueCrc m).WFL l ∧ (Gen.withTrueCrc m).Intact l := by
  obtain ⟨h1, h2, _, h4, h5⟩ := h
  have hoff : 8 + (m.mappings.flatMap encMapping).length + m.unused.length = l.crcOffset := by
    rw [flatMap_encMapping_length, h2, RelMapLayout.crcOffset]; omega
  have hpre : ∀ crc, (encRelMap { m with crc := crc }).take l.crcOffset =
      le 4 relmapMagic ++ (le 4 m.mappings.length ++ (m.mappings.flatMap encMapping ++ m.unused)) := by
    intro crc
    have e : encRelMap { m with crc := crc } =
        (le 4 relmapMagic ++ (le 4 m.mappings.length ++ (m.mappings.flatMap encMapping ++ m.unused))) ++ (le 4 crc ++ m.pad) := by
      simp [encRelMap, encRelMapRaw, List.append_assoc]
    rw [e]
    exact List.take_left' (by simp only [List.length_append, le_length]; omega)
  refine ⟨⟨h1, h2, ?_, h4, h5⟩, ?_⟩
  · have := crc32c_lt ((encRelMap m).take (8 + (m.mappings.flatMap encMapping).length + m.unused.length))
    show crc32c _ < 2 ^ 32
    omega
  · show crc32c _ = crc32c ((encRelMap { m with crc := _ }).take l.crcOffset)
    rw [hoff, hpre, hpre]

theorem relMapGetFilenode_eq (ms : List (Nat × Nat)) (oid : Nat) :
    Model.relMapGetFilenode (ms.map toMapping) oid = filenodeOf ms oid := by
  induction ms with
  | nil => rfl
  | cons e t ih =>
    simp only [List.map_cons, Model.relMapGetFilenode, filenodeOf, List.find?_cons, toMapping]
    by_cases h : e.1 = oid
    · simp [h]
    · have : (e.1 == oid) = false := by simpa using h
      rw [if_neg h, this]; exact ih

theorem relMapGetOID_eq (ms : List (Nat × Nat)) (fn : Nat) :
    Model.relMapGetOID (ms.map toMapping) fn = oidOf ms fn := by
  induction ms with
  | nil => rfl
  | cons e t ih =>
    simp only [List.map_cons, Model.relMapGetOID, oidOf, List.find?_cons, toMapping]
    by_cases h : e.2 = fn
    · simp [h]
    · have : (e.2 == fn) = false := by simpa using h
      rw [if_neg h, this]; exact ih

end PgVerif.Proofs
