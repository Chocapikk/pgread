/-
  `Impl`: a RemoteClient method implements its cache-free meaning (Model/RemoteCold.lean).  Only the two loaders read or write
  the cache (`impl_databases`, `impl_catalog`); sequencing keeps `Impl`, so each method body is walked once.
-/
import PgVerif.Proofs.ClusterClass
import PgVerif.Props.C10.Cluster
import PgVerif.Model.RemoteCold
import PgVerif.Model.RemoteExec

-- `CacheOK` carries the name under which the C10 / C11 / C12 statements mention it
namespace PgVerif.Props.C11
open PgVerif PgVerif.Model

/-- a cache that only holds what the loaders computed -/
def CacheOK (rr : RowReader) (fs : RemoteReader) (c : Cache) : Prop :=
  (c.databases ≠ [] → databasesCold rr fs = .ok c.databases) ∧
  (∀ db t, c.tables.lookup db = some t → catalogCold rr fs db = .ok (t, (c.columns.lookup db).getD []))

end PgVerif.Props.C11

namespace PgVerif.Proofs.Remote
open PgVerif PgVerif.Model PgVerif.Props.C11 PgVerif.Props.C10.Cluster
open PgVerif.Spec (ColumnInfo TableDump DatabaseDump DumpResult Options isPrefixB)

/-- from a consistent cache `m` returns what `cold` computes (value or fault) and a consistent cache -/
def WarmAt (rr : RowReader) (fs : RemoteReader) {α} (c : Cache) (m : M (α × Cache)) (cold : M α) : Prop :=
  CacheOK rr fs c → ∃ c', CacheOK rr fs c' ∧ m = Except.map (fun r => (r, c')) cold

structure Impl (rr : RowReader) (fs : RemoteReader) {α} (c : Cache) (m : M (α × Cache)) (cold : M α) : Prop where
  warm : WarmAt rr fs c m cold
  /-- `c` is arbitrary here: a cache holding garbage changes the answer, it cannot make the method fault -/
  total : TotalReader rr → ∃ p, m = .ok p

section
variable {rr : RowReader} {fs : RemoteReader} {α β : Type _} {c : Cache}

theorem Impl.ok {m : M (α × Cache)} {cold : M α} {v : α} (hi : Impl rr fs c m cold) (hc : CacheOK rr fs c)
    (hv : cold = .ok v) : ∃ c', m = .ok (v, c') := by
  obtain ⟨c', _, h⟩ := hi.warm hc
  exact ⟨c', by rw [h, hv]; rfl⟩

/-- the form of the C11 statements -/
theorem WarmAt.spec {m : M (α × Cache)} {cold : M α} (h : WarmAt rr fs c m cold) (hc : CacheOK rr fs c) :
    Except.map (·.1) m = cold ∧ ∀ r c', m = .ok (r, c') → CacheOK rr fs c' := by
  obtain ⟨c', hc', hm⟩ := h hc
  rw [hm]
  cases cold with
  | error e => exact ⟨rfl, fun r c'' he => by cases he⟩
  | ok v => exact ⟨rfl, fun r c'' he => by cases he; exact hc'⟩

theorem Impl.of_eq {m : M (α × Cache)} {cold cold' : M α} (hi : Impl rr fs c m cold) (e : cold = cold') :
    Impl rr fs c m cold' :=
  e ▸ hi

theorem impl_pure {a : α} : Impl rr fs c (pure (a, c)) (pure a) :=
  ⟨fun hc => ⟨c, hc, rfl⟩, fun _ => ⟨_, rfl⟩⟩

theorem impl_bind {m : M (α × Cache)} {f : α × Cache → M (β × Cache)} {cold : M α} {fc : α → M β}
    (hm : Impl rr fs c m cold) (hf : ∀ a c', Impl rr fs c' (f (a, c')) (fc a)) : Impl rr fs c (m >>= f) (cold >>= fc) where
  warm hc := by
    obtain ⟨c', hc', hm⟩ := hm.warm hc
    cases hcold : cold with
    | error e =>
      rw [hcold] at hm
      exact ⟨c, hc, by rw [hm]; rfl⟩
    | ok a =>
      rw [hcold] at hm
      obtain ⟨c'', hc'', hf⟩ := (hf a c').warm hc'
      refine ⟨c'', hc'', ?_⟩
      rw [hm]
      show f (a, c') = _
      rw [hf]
      rfl
  total h := tot_bind (hm.total h) fun p _ => (hf p.1 p.2).total h

end

theorem warm_bind_pure (rr : RowReader) (fs : RemoteReader) {α β} (c : Cache) (m : M α) (f : α → M (β × Cache)) (fc : α → M β)
    (hf : ∀ a, WarmAt rr fs c (f a) (fc a)) : WarmAt rr fs c (m >>= f) (m >>= fc) := by
  intro hc
  cases hm : m with
  | error e => exact ⟨c, hc, rfl⟩
  | ok a =>
    obtain ⟨c', hc', h⟩ := hf a hc
    exact ⟨c', hc', by simp only [ok_bind]; exact h⟩

section
variable {rr : RowReader} {fs : RemoteReader} {α β : Type _} {c : Cache}

/-- a step that does not touch the cache -/
theorem impl_seq {x : M α} {f : α → M (β × Cache)} {fc : α → M β} (hx : TotalReader rr → ∃ a, x = .ok a)
    (hf : ∀ a, Impl rr fs c (f a) (fc a)) : Impl rr fs c (x >>= f) (x >>= fc) where
  warm := warm_bind_pure rr fs c x f fc fun a => (hf a).warm
  total h := tot_bind (hx h) fun a _ => (hf a).total h

theorem impl_lift {x : M α} (hx : TotalReader rr → ∃ a, x = .ok a) : Impl rr fs c (x >>= fun r => pure (r, c)) x := by
  have h := impl_seq (rr := rr) (fs := fs) (c := c) hx fun a => impl_pure (a := a)
  rwa [bind_pure] at h

end

theorem catalogCold_keysOK {rr : RowReader} {fs : RemoteReader} {db : Nat} {p} (h : catalogCold rr fs db = .ok p) :
    Cluster.KeysOK p.1 := by
  unfold catalogCold at h
  split at h
  · cases h; exact Cluster.keysOK_nil
  · obtain ⟨t, ht, h⟩ := bind_eq_ok h
    have hk := Cluster.parsePGClass_keysOK rr _ t ht
    split at h
    · cases h; exact hk
    · obtain ⟨_, _, h⟩ := bind_eq_ok h
      cases h; exact hk

/-- Tables() in closed form -/
theorem tablesCold_eq (rr : RowReader) (π : MapOrder TableInfo) (hπ : ∀ l, (π l).Perm l) (fs : RemoteReader) (db : Nat) :
    tablesCold rr π fs db = catalogCold rr fs db >>= fun p => pure (sortByFilenode (p.1.map (·.2))) :=
  bind_congr_ok fun p hp => by rw [← Cluster.tablesOf_eq_sort π hπ p.1 (catalogCold_keysOK hp)]

-- from here on `rr`, `π` (only where the method ranges over the table map) and `fs` are explicit, in this order, before the
-- method's own arguments and the cache
variable (rr : RowReader) (π : MapOrder TableInfo) (fs : RemoteReader)

theorem impl_databases (c : Cache) : Impl rr fs c (rcDatabases rr fs c) (databasesCold rr fs) where
  warm hc := by
    unfold rcDatabases
    by_cases h : c.databases ≠ []
    · rw [if_pos h, hc.1 h]; exact ⟨c, hc, rfl⟩
    · rw [if_neg h]
      cases hd : databasesCold rr fs with
      | error e => exact ⟨c, hc, rfl⟩
      | ok dbs => exact ⟨{ c with databases := dbs }, ⟨fun _ => hd, hc.2⟩, rfl⟩
  total h := by
    unfold rcDatabases
    exact tot_ite (fun _ => ⟨_, rfl⟩) fun _ => tot_bind (C10_total_databasesCold rr h fs) fun _ _ => ⟨_, rfl⟩

theorem impl_catalog (db : Nat) (c : Cache) : Impl rr fs c (rcCatalog rr fs db c) (catalogCold rr fs db) where
  warm hc := by
    unfold rcCatalog
    cases hl : c.tables.lookup db with
    | some t => exact ⟨c, hc, by rw [hc.2 db t hl]; rfl⟩
    | none =>
      cases hd : catalogCold rr fs db with
      | error e => exact ⟨c, hc, rfl⟩
      | ok r =>
        refine ⟨{ c with tables := (db, r.1) :: c.tables, columns := (db, r.2) :: c.columns },
          ⟨hc.1, fun db' t' hl' => ?_⟩, rfl⟩
        -- the new entries stand first in both maps: `db` finds them, every other key is looked up in the old cache
        simp only [List.lookup_cons] at hl' ⊢
        by_cases hdb : db' = db
        · subst hdb
          simp only [beq_self_eq_true] at hl' ⊢
          cases hl'
          exact hd
        · have : (db' == db) = false := beq_eq_false_iff_ne.mpr hdb
          simp only [this] at hl' ⊢
          exact hc.2 db' t' hl'
  total h := by
    unfold rcCatalog
    cases c.tables.lookup db with
    | some t => exact ⟨_, rfl⟩
    | none => exact tot_bind (C10_total_catalogCold rr h fs db) fun _ _ => ⟨_, rfl⟩

theorem impl_tables (db : Nat) (c : Cache) :
    Impl rr fs c (rcTables rr π fs db c) (tablesCold rr π fs db) := by
  unfold rcTables tablesCold
  exact impl_bind (impl_catalog rr fs db c) fun _ _ => impl_pure

theorem impl_columns (db tbl : Nat) (c : Cache) :
    Impl rr fs c (rcColumns rr fs db tbl c) (columnsCold rr fs db tbl) := by
  unfold rcColumns columnsCold
  exact impl_bind (impl_catalog rr fs db c) fun _ _ => impl_pure

theorem impl_database (name : Bytes) (c : Cache) :
    Impl rr fs c (rcDatabase rr fs name c) (databaseCold rr fs name) := by
  unfold rcDatabase databaseCold
  exact impl_bind (impl_databases rr fs c) fun _ _ => impl_pure

theorem impl_table (db : Nat) (name : Bytes) (c : Cache) :
    Impl rr fs c (rcTable rr π fs db name c) (tableCold rr π fs db name) := by
  unfold rcTable tableCold
  exact impl_bind (impl_tables rr π fs db c) fun _ _ => impl_pure

-- a method that only post-processes another has no `xCold`: its meaning is written in the statement; name one only when a second
-- theorem (a tree form, a line of C12) has to mention it
theorem impl_columnNames (db tbl : Nat) (c : Cache) :
    Impl rr fs c (rcColumnNames rr fs db tbl c) (columnsCold rr fs db tbl >>= fun attrs => pure (columnNamesOf attrs)) := by
  unfold rcColumnNames
  exact impl_bind (impl_columns rr fs db tbl c) fun _ _ => impl_pure

theorem impl_tablesByName (name : Bytes) (c : Cache) :
    Impl rr fs c (rcTablesByName rr π fs name c)
      (databaseCold rr fs name >>= fun d => match d with | some d => tablesCold rr π fs d.oid | none => pure []) := by
  unfold rcTablesByName
  refine impl_bind (impl_database rr fs name c) (fun d c' => ?_)
  cases d with
  | none => exact impl_pure
  | some d => exact impl_tables rr π fs d.oid c'

theorem impl_query (db : Nat) (t : Option TableInfo) (opts : Option QueryOptions) (c : Cache) :
    Impl rr fs c (rcQuery rr fs db t opts c) (queryCold rr fs db t opts) := by
  unfold rcQuery queryCold
  cases t with
  | none => exact impl_pure
  | some t =>
    simp only
    by_cases h0 : t.filenode = 0
    · rw [if_pos h0, if_pos h0]; exact impl_pure
    · rw [if_neg h0, if_neg h0]
      cases fs (basePath db t.filenode) with
      | none => exact impl_pure
      | some _ =>
        simp only
        refine impl_bind (impl_columns rr fs db t.oid c) (fun attrs c' => ?_)
        exact impl_lift fun h => C10_total_queryWith rr h fs db (some t) attrs opts

theorem impl_queryByName (dbName tbl : Bytes) (opts : Option QueryOptions) (c : Cache) :
    Impl rr fs c (rcQueryByName rr π fs dbName tbl opts c) (queryByNameCold rr π fs dbName tbl opts) := by
  unfold rcQueryByName queryByNameCold
  refine impl_bind (impl_database rr fs dbName c) (fun d c' => ?_)
  cases d with
  | none => exact impl_pure
  | some d =>
    refine impl_bind (impl_table rr π fs d.oid tbl c') (fun t c'' => ?_)
    cases t with
    | none => exact impl_pure
    | some t => exact impl_query rr fs d.oid (some t) opts c''

theorem impl_dumpTable (db : Nat) (t : TableInfo) (c : Cache) :
    Impl rr fs c (rcDumpTable rr fs db t c) (dumpTableCold rr fs db t) := by
  unfold rcDumpTable dumpTableCold
  refine impl_bind (impl_query rr fs db (some t) none c) (fun rows c' => ?_)
  exact impl_bind (impl_columns rr fs db t.oid c') fun _ _ => impl_pure

theorem impl_dumpTables (db : Nat) (ts : List TableInfo) : ∀ c : Cache,
    Impl rr fs c (rcDumpTables rr fs db ts c) (dumpTablesCold rr fs db ts) := by
  induction ts with
  | nil => intro c; exact impl_pure
  | cons t ts ih =>
    intro c
    unfold rcDumpTables dumpTablesCold
    by_cases h1 : (isPrefixB (strBytes "pg_") t.name || isPrefixB (strBytes "sql_") t.name) = true
    · rw [if_pos h1, if_pos h1]; exact ih c
    · rw [if_neg h1, if_neg h1]
      by_cases h2 : (t.kind != [114] && t.kind != []) = true
      · rw [if_pos h2, if_pos h2]; exact ih c
      · rw [if_neg h2, if_neg h2]
        refine impl_bind (impl_dumpTable rr fs db t c) (fun td c' => ?_)
        exact impl_bind (ih c') fun _ _ => impl_pure

theorem impl_dumpDatabase (db : Nat) (c : Cache) :
    Impl rr fs c (rcDumpDatabase rr π fs db c) (dumpDatabaseCold rr π fs db) := by
  unfold rcDumpDatabase dumpDatabaseCold
  refine impl_bind (impl_databases rr fs c) (fun dbs c' => ?_)
  dsimp only
  cases dbs.find? (·.oid == db) with
  | none => exact impl_pure
  | some d =>
    dsimp only
    refine impl_bind (impl_tables rr π fs db c') (fun ts c'' => ?_)
    exact impl_bind (impl_dumpTables rr fs db ts c'') fun _ _ => impl_pure

theorem impl_dumpDatabaseByName (name : Bytes) (c : Cache) :
    Impl rr fs c (rcDumpDatabaseByName rr π fs name c)
      (databaseCold rr fs name >>= fun d => match d with | some d => dumpDatabaseCold rr π fs d.oid | none => pure none) := by
  unfold rcDumpDatabaseByName
  refine impl_bind (impl_database rr fs name c) (fun d c' => ?_)
  cases d with
  | none => exact impl_pure
  | some d => exact impl_dumpDatabase rr π fs d.oid c'

theorem impl_dumpAllLoop (dbs : List DatabaseInfo) : ∀ c : Cache,
    Impl rr fs c (rcDumpAllLoop rr π fs dbs c) (dumpAllLoopCold rr π fs dbs) := by
  induction dbs with
  | nil => intro c; exact impl_pure
  | cons db rest ih =>
    intro c
    unfold rcDumpAllLoop dumpAllLoopCold
    by_cases h : isPrefixB (strBytes "template") db.name = true
    · rw [if_pos h, if_pos h]; exact ih c
    · rw [if_neg h, if_neg h]
      refine impl_bind (impl_dumpDatabase rr π fs db.oid c) (fun d c' => ?_)
      exact impl_bind (ih c') fun _ _ => impl_pure

theorem impl_dumpAll (c : Cache) :
    Impl rr fs c (rcDumpAll rr π fs c) (dumpAllCold rr π fs) := by
  unfold rcDumpAll dumpAllCold
  exact impl_bind (impl_databases rr fs c) (fun dbs c' => impl_dumpAllLoop rr π fs dbs c')

theorem impl_summaryLoop (dbs : List DatabaseInfo) : ∀ c : Cache,
    Impl rr fs c (rcSummaryLoop rr π fs dbs c) (summaryLoopCold rr π fs dbs) := by
  induction dbs with
  | nil => intro c; exact impl_pure
  | cons db rest ih =>
    intro c
    unfold rcSummaryLoop summaryLoopCold
    by_cases h : isPrefixB (strBytes "template") db.name = true
    · rw [if_pos h, if_pos h]; exact ih c
    · rw [if_neg h, if_neg h]
      refine impl_bind (impl_tables rr π fs db.oid c) (fun ts c' => ?_)
      exact impl_bind (ih c') fun _ _ => impl_pure

theorem impl_summaryDatabases (c : Cache) :
    Impl rr fs c (summaryDatabases rr π fs c) (summaryDatabasesCold rr π fs) := by
  unfold summaryDatabases summaryDatabasesCold
  refine impl_bind (impl_databases rr fs c) (fun dbs c' => ?_)
  exact impl_bind (impl_summaryLoop rr π fs dbs c') fun _ _ => impl_pure

theorem impl_exec (args : List Bytes) (c : Cache) : Impl rr fs c (execRun rr π fs args c) (execCold rr π fs args) := by
  unfold execRun execCold
  cases exec args with
  | summary =>
    exact impl_bind (impl_summaryDatabases rr π fs c) fun _ _ => impl_pure
  | version => exact impl_pure
  | control => exact impl_pure
  | creds => exact impl_pure
  | databases => exact impl_bind (impl_databases rr fs c) fun _ _ => impl_pure
  | tables db =>
    -- `execRun` calls TablesByName, whose meaning `impl_tablesByName` carries as a bind, while `execCold` spells the match on
    -- the database found out: the two meanings are equal by cases on `databaseCold` (likewise `dumpDb` below)
    dsimp only
    refine Impl.of_eq (impl_bind (fc := fun ts => pure (.tables ts)) (impl_tablesByName rr π fs db c) fun _ _ => impl_pure) ?_
    cases databaseCold rr fs db with
    | error _ => rfl
    | ok d => cases d <;> rfl
  | columns db table =>
    dsimp only
    refine impl_bind (impl_database rr fs db c) (fun d c' => ?_)
    cases d with
    | none => exact impl_pure
    | some d =>
      dsimp only
      refine impl_bind (impl_table rr π fs d.oid table c') (fun t c'' => ?_)
      cases t with
      | none => exact impl_pure
      | some t =>
        dsimp only
        exact impl_bind (impl_columns rr fs d.oid t.oid c'') fun _ _ => impl_pure
  | query db table =>
    exact impl_bind (impl_queryByName rr π fs db table _ c) fun _ _ => impl_pure
  | dumpDb db =>
    dsimp only
    refine Impl.of_eq (impl_bind (fc := fun d => pure (.dumpDb d)) (impl_dumpDatabaseByName rr π fs db c) fun _ _ => impl_pure) ?_
    cases databaseCold rr fs db with
    | error _ => rfl
    | ok d => cases d <;> rfl
  | dumpAll => exact impl_bind (impl_dumpAll rr π fs c) fun _ _ => impl_pure
  | error msg => exact impl_pure

end PgVerif.Proofs.Remote
