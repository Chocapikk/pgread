/-
  RemoteClient.Query's options (the projection loop `for _, col := range opts.Columns { if val, ok := row[col]; ok { newRow[col] = val } }`
  and the limit) as properties of the result, not as a copy of the loop.
-/
import PgVerif.Model.Remote
import PgVerif.Lib.AssocMap
namespace PgVerif.Proofs.Remote
open PgVerif PgVerif.Model List

/-- Go's `m[k] = v` -/
theorem lookup_mapInsert (k k' : Bytes) (v : GoVal) (m : List (Bytes × GoVal)) :
    (mapInsert m k v).lookup k' = if k' = k then some v else m.lookup k' := by
  rw [mapInsert, AssocMap.upsert_const, AssocMap.lookup_upsert, AssocMap.lookup_upsert_const]

theorem projectRow_fold (row : Row) (cols : List Bytes) (k : Bytes) : ∀ acc : Row,
    (cols.foldl (fun acc col => match row.lookup col with | some v => mapInsert acc col v | none => acc) acc).lookup k =
      if k ∈ cols then (row.lookup k).or (acc.lookup k) else acc.lookup k := by
  induction cols with
  | nil => intro acc; rfl
  | cons col cols ih =>
    intro acc
    rw [foldl_cons, ih]
    have hstep : (match row.lookup col with | some v => mapInsert acc col v | none => acc).lookup k =
        if k = col then (row.lookup k).or (acc.lookup k) else acc.lookup k := by
      by_cases hk : k = col
      · rw [if_pos hk, hk]
        cases row.lookup col with
        | none => rfl
        | some v => rw [lookup_mapInsert, if_pos rfl]; rfl
      · rw [if_neg hk]
        cases row.lookup col with
        | none => rfl
        | some v => rw [lookup_mapInsert, if_neg hk]
    rw [hstep]
    by_cases hk : k = col
    · simp only [hk, mem_cons, true_or, if_true]
      cases row.lookup col <;> simp
    · simp only [mem_cons, hk, false_or, if_false]

def projectRows (o : QueryOptions) (rows : List Row) : List Row :=
  if o.columns.length > 0 then rows.map (projectRow o.columns) else rows

def limitRows (o : QueryOptions) (ps : List Row) : List Row :=
  if o.limit > 0 ∧ (ps.length : Int) > o.limit then ps.take o.limit.toNat else ps

theorem limitRows_eq (o : QueryOptions) (ps : List Row) :
    limitRows o ps = if o.limit > 0 then ps.take o.limit.toNat else ps := by
  unfold limitRows
  by_cases h1 : o.limit > 0
  · rw [if_pos h1]
    by_cases h2 : (ps.length : Int) > o.limit
    · rw [if_pos ⟨h1, h2⟩]
    · rw [if_neg (fun h => h2 h.2), take_of_length_le (by omega)]
  · rw [if_neg h1, if_neg (fun h => h1 h.1)]

def applyOpts (o : QueryOptions) (rows : List Row) : List Row := limitRows o (projectRows o rows)

theorem length_projectRows (o : QueryOptions) (rows : List Row) : (projectRows o rows).length = rows.length := by
  unfold projectRows
  by_cases hc : o.columns.length > 0
  · rw [if_pos hc, length_map]
  · rw [if_neg hc]

theorem getElem?_projectRows (o : QueryOptions) (rows : List Row) (i : Nat) :
    (projectRows o rows)[i]? = (rows[i]?).map fun r => if o.columns.length > 0 then projectRow o.columns r else r := by
  unfold projectRows
  by_cases hc : o.columns.length > 0
  · simp only [if_pos hc, getElem?_map]
  · simp only [if_neg hc]; cases rows[i]? <;> rfl

theorem queryWith_some (rr : RowReader) (fs : RemoteReader) (db : Nat) (t : Option TableInfo) (attrs : List AttrInfo)
    (o : QueryOptions) :
    queryWith rr fs db t attrs (some o) = Except.map (applyOpts o) (queryWith rr fs db t attrs none) := by
  have hnil : (pure [] : M (List Row)) = Except.map (applyOpts o) (pure []) := by
    show _ = Except.ok (applyOpts o [])
    simp [applyOpts, limitRows, projectRows]
  unfold queryWith
  cases t with
  | none => exact hnil
  | some t =>
    dsimp only
    by_cases hf : t.filenode = 0
    · rw [if_pos hf, if_pos hf]; exact hnil
    · rw [if_neg hf, if_neg hf]
      cases fs (basePath db t.filenode) with
      | none => exact hnil
      | some data => dsimp only; cases readTableRows rr data _ <;> rfl

theorem equalFold_refl (n : Bytes) : equalFold n n = true := by
  unfold equalFold GoCase.goEqualFold
  split <;> exact beq_self_eq_true _

end PgVerif.Proofs.Remote
