/-
  The cache-free meanings of the RemoteClient methods (Model/RemoteCold.lean) on the file tree of a
  `Spec.Cluster`, against the Spec views and against DumpDatabaseFromFiles / dumpTable (the directory-dump path).
-/
import PgVerif.Proofs.ClusterTree
import PgVerif.Proofs.RemoteCold
import PgVerif.Props.C10.Rows
namespace PgVerif.Proofs.Remote
open PgVerif PgVerif.Model PgVerif.Spec PgVerif.Proofs PgVerif.Proofs.Cluster PgVerif.Sorting List
open PgVerif.Spec (TableDump DatabaseDump DumpResult Options ClassRow)

/-- what the dump of a database needs (the `files` / `readable` parts of `DbDumpable` and `A02Free`, at default options) -/
structure RemoteDumpable (d : DbContent) : Prop where
  files : ∀ r ∈ d.cls.live, selectedRel {} r = true → r.filenode ≠ 1259 ∧ r.filenode ≠ 1249 ∧ d.raws.lookup r.filenode = none
  readable : ∀ r ∈ d.cls.live, selectedRel {} r = true → ∀ pages, d.heaps.lookup r.filenode = some pages → pages ≠ [] → RelReadable d r
  inline : A02Free d {}
  /-- carve-out of open finding C01-MISSINGVAL: the database records no fast default -/
  nofast : d.missing = []

/-- the table names the Summary shows under a database: the Spec's ordinary tables, those without rows included, not
`sql_`-prefixed.  Only the names of `(expectedDb val …).tables` are taken: nothing depends on `val` -/
def summaryNames (val : Spec.Val) (db : DbRow) (d : Option DbContent) : List Bytes :=
  match d with
  | some d => (((expectedDb val {} db d).tables.filter fun t => !isPrefixB (strBytes "sql_") t.name).map (·.name))
  | none => []

theorem rcVersionInt_fsOf (c : Cluster) (h1 : 12 ≤ c.pgVersion) (h2 : c.pgVersion ≤ 16) : rcVersionInt (fsOf c) = (c.pgVersion : Int) := by
  have hfile : fsOf c (strBytes "PG_VERSION") = some (natBytes c.pgVersion ++ [10]) := by
    unfold fsOf filesOf
    simp only [cons_append, lookup_cons_self]
  unfold rcVersionInt
  rw [hfile]
  have hall : ∀ v ∈ [12, 13, 14, 15, 16], scanInt (trimSpace (natBytes v ++ [10])) = (v : Int) := by decide +kernel
  exact hall _ (by simp only [mem_cons, mem_nil_iff, or_false]; omega)

theorem schemaOK_version (c : Cluster) (h1 : 12 ≤ c.pgVersion) (att : HeapOf AttrRow) : SchemaOK c.layout att c.pgVersion := by
  unfold SchemaOK Cluster.layout
  by_cases h16 : c.pgVersion ≥ 16
  · rw [if_pos h16]; exact Or.inl ⟨h16, rfl⟩
  · rw [if_neg h16]
    by_cases h14 : c.pgVersion ≥ 14
    · rw [if_pos h14]; exact Or.inr (Or.inl ⟨h14, by omega, rfl⟩)
    · rw [if_neg h14]; exact Or.inr (Or.inr (Or.inl ⟨h1, by omega, rfl⟩))

structure OnTree (dec : Dec) (c : Cluster) (fs : Bytes → Option Bytes) : Prop where
  dec : CatDec dec
  wf : c.WF
  tree : TreeOf c fs
  ver : rcVersionInt fs = (c.pgVersion : Int)

theorem onTree_fsOf {dec : Dec} (hd : CatDec dec) {c : Cluster} (hwf : c.WF) (hplain : c.Plain) (hid : c.IdentityMapped)
    (hnm : c.NoFastDefaults) : OnTree dec c (fsOf c) :=
  ⟨hd, hwf, treeOf_fsOf c hwf.contentNodup hplain hid hnm, rcVersionInt_fsOf c hwf.1 hwf.2.1⟩

variable {dec : Dec} {c : Cluster} {fs : Bytes → Option Bytes}

/-- the DatabaseInfo ParsePGDatabase makes of a pg_database row -/
def toInfo (d : DbRow) : DatabaseInfo := ⟨d.oid, d.name⟩

theorem databasesCold_tree (ho : OnTree dec c fs) : databasesCold (readRows dec) fs = .ok (c.dbs.live.map toInfo) := by
  unfold databasesCold
  rw [ho.tree.global]
  obtain ⟨_, _, _, hdbs, hfit, _, _⟩ := ho.wf
  exact parsePGDatabase_enc dec ho.dec c.pgVersion c.dbs hdbs hfit

theorem OnTree.db (ho : OnTree dec c fs) {oid : Nat} {d : DbContent} (hl : c.content.lookup oid = some d) : d.WF c.layout :=
  ho.wf.content oid d hl

theorem catalogCold_tree (ho : OnTree dec c fs) (oid : Nat) (d : DbContent) (hl : c.content.lookup oid = some d) :
    ∃ tables attrs, catalogCold (readRows dec) fs oid = .ok (tables, attrs) ∧ Loaded d tables attrs := by
  obtain ⟨tables, attrs, ht, ha, hL⟩ := loaded_enc dec ho.dec c.layout d c.pgVersion (ho.db hl) (schemaOK_version c ho.wf.1 d.att)
  refine ⟨tables, attrs, ?_, hL⟩
  unfold catalogCold
  rw [ho.tree.cls oid d hl, ho.tree.att oid d hl]
  simp only [ht, ok_bind, ho.ver, ha]
  rfl

/-- the relations `Tables()` lists -/
def relsOf (d : DbContent) : List ClassRow := insertionSort (byKey ClassRow.filenode) (d.cls.live.filter (·.filenode != 0))

theorem tablesCold_tree (ho : OnTree dec c fs) (π : MapOrder TableInfo) (hπ : ∀ l, π l ~ l) (oid : Nat) (d : DbContent)
    (hl : c.content.lookup oid = some d) : tablesCold (readRows dec) π fs oid = .ok ((relsOf d).map infoOfRel) := by
  obtain ⟨tables, attrs, hcat, hL⟩ := catalogCold_tree ho oid d hl
  rw [tablesCold_eq _ π hπ, hcat, ok_bind, hL.rels, sortByFilenode_eq,
    insertionSort_map (r := byKey ClassRow.filenode) infoOfRel (fun _ _ => Iff.rfl)]
  rfl

theorem columnsCold_tree (ho : OnTree dec c fs) (oid : Nat) (d : DbContent) (hl : c.content.lookup oid = some d)
    (k : Nat) (hk : 0 < k) : columnsCold (readRows dec) fs oid k = .ok ((userAttrs d.att k).map attrInfoOf) := by
  obtain ⟨tables, attrs, hcat, hL⟩ := catalogCold_tree ho oid d hl
  unfold columnsCold
  simp only [hcat, ok_bind, pure_eq_ok]
  rw [hL.cols k hk]

def tablesOn (c : Cluster) (oid : Nat) : List TableInfo :=
  match c.content.lookup oid with
  | some d => (relsOf d).map infoOfRel
  | none => []

theorem tablesCold_on (ho : OnTree dec c fs) (π : MapOrder TableInfo) (hπ : ∀ l, π l ~ l) (oid : Nat) :
    tablesCold (readRows dec) π fs oid = .ok (tablesOn c oid) := by
  unfold tablesOn
  cases hl : c.content.lookup oid with
  | some d => exact tablesCold_tree ho π hπ oid d hl
  | none =>
    -- no directory: both catalog files are missing, the loaders answer with empty maps
    rw [tablesCold_eq _ π hπ]
    unfold catalogCold
    rw [ho.tree.missing oid hl]
    rfl

theorem readTableRows_empty (dec : Dec) (cols : List Column) : readTableRows (readRows dec) [] cols = .ok [] := by
  unfold readTableRows
  split <;> rfl

theorem filter_num_pos (A : List AttrInfo) (h : ∀ a ∈ A, a.num > 0) : A.filter (·.num > 0) = A := by
  apply filter_eq_self.mpr
  intro a ha
  simpa using h a ha

/-- RemoteClient.DumpTable is the directory dump's dumpTable: same file, same columns; that dumpTable does not call the row
reader on an empty file is immaterial (`hempty`) -/
theorem dumpTableCold_eq (rr : RowReader) (fs : RemoteReader) (oid : Nat) (t : TableInfo) (A : List AttrInfo)
    (hcol : columnsCold rr fs oid t.oid = .ok A) (hfn : t.filenode ≠ 0) (hnum : ∀ a ∈ A, a.num > 0)
    (hempty : ∀ cols, readTableRows rr [] cols = .ok []) :
    dumpTableCold rr fs oid t = dumpTable rr t.filenode t A (some fun fn => fs (basePath oid fn)) {} := by
  unfold dumpTableCold queryCold dumpTable
  simp only [if_neg hfn, Bool.false_eq_true, if_false]
  cases hf : fs (basePath oid t.filenode) with
  | none =>
    simp only [hcol, ok_bind, pure_eq_ok, filter_num_pos A hnum]
    rfl
  | some data =>
    simp only [hcol, ok_bind]
    unfold queryWith
    simp only [if_neg hfn, hf]
    by_cases hd : data.length = 0
    · have hnil : data = [] := length_eq_zero_iff.mp hd
      rw [if_pos hd, hnil, hempty]
      simp only [ok_bind, pure_eq_ok, filter_num_pos A hnum]
      rfl
    · rw [if_neg hd]
      cases readTableRows rr data (A.map fun a => ⟨a.name, a.typid, a.len, a.num, a.align⟩) with
      | error e => rfl
      | ok rows =>
        simp only [ok_bind, pure_eq_ok, filter_num_pos A hnum]

theorem dumpTableCold_tree (ho : OnTree dec c fs) (oid : Nat) (d : DbContent) (hl : c.content.lookup oid = some d)
    (r : ClassRow) (hoid : 0 < r.oid) (hfn : r.filenode ≠ 0) :
    dumpTableCold (readRows dec) fs oid (infoOfRel r) =
      dumpTable (readRows dec) r.filenode (infoOfRel r) ((userAttrs d.att r.oid).map attrInfoOf)
        (some fun fn => fs (basePath oid fn)) {} :=
  dumpTableCold_eq _ fs oid (infoOfRel r) _ (columnsCold_tree ho oid d hl r.oid hoid) hfn
    (fun a ha => by
      obtain ⟨a', ha', rfl⟩ := mem_map.mp ha
      exact (of_decide_eq_true (mem_filter.mp ((mem_sortAttrs a' _).mp ha')).2).2)
    (readTableRows_empty dec)

theorem dumpTableCold_spec (ho : OnTree dec c fs) (htot : Props.C10.Rows.TotalDec dec) (oid : Nat) (d : DbContent)
    (hl : c.content.lookup oid = some d) (hdd : RemoteDumpable d) (r : ClassRow) (hr : r ∈ d.cls.live)
    (hsel : selectedRel {} r = true) :
    ∃ td, dumpTableCold (readRows dec) fs oid (infoOfRel r) = .ok td ∧ normTable td = expectedTable (varlenaVal dec) d {} r := by
  have hdwf : d.WF c.layout := ho.db hl
  obtain ⟨_, _, _, hoid⟩ := dbWF_parts c.layout d hdwf
  obtain ⟨hk114, hfn0⟩ := selectedRel_kind {} r hsel
  obtain ⟨td, htd⟩ := Props.C10.Cluster.C10_total_dumpTable (readRows dec)
    (Props.C10.Rows.C10_total_readRows dec htot) r.filenode (infoOfRel r)
    ((userAttrs d.att r.oid).map attrInfoOf) (some fun fn => fs (basePath oid fn)) {}
  obtain ⟨h1, h2, h3⟩ := hdd.files r hr hsel
  refine ⟨td, by rw [dumpTableCold_tree ho oid d hl r (hoid r hr) hfn0]; exact htd, ?_⟩
  exact dumpTable_spec dec c.layout d {} r (fun fn => fs (basePath oid fn)) hr hk114 hfn0 hdwf
    (fun _ => ho.tree.heap oid d hl r.filenode h1 h2 h3)
    (fun pages hp _ hne => hdd.readable r hr hsel pages hp hne)
    (fun pages hp hlo => hdd.inline hlo r hr hsel pages hp) hdd.nofast td htd

/-- DumpDatabase's two `continue`s on a TableInfo: neither `pg_` nor `sql_` prefixed, relkind `r` (or unknown) -/
def remoteSel (t : TableInfo) : Bool :=
  !(isPrefixB (strBytes "pg_") t.name || isPrefixB (strBytes "sql_") t.name) && !(t.kind != [114] && t.kind != [])

theorem dumpTablesCold_collect (rr : RowReader) (fs : RemoteReader) (oid : Nat) (ts : List TableInfo) :
    dumpTablesCold rr fs oid ts =
      collectM (fun t => do
        let td ← dumpTableCold rr fs oid t
        pure (if td.rows.length > 0 then some td else none)) (ts.filter remoteSel) := by
  rw [← collectM_filter]
  induction ts with
  | nil => rfl
  | cons t ts ih =>
    rw [dumpTablesCold, collectM, ← ih]
    unfold remoteSel
    generalize (isPrefixB (strBytes "pg_") t.name || isPrefixB (strBytes "sql_") t.name) = c1
    generalize (t.kind != [114] && t.kind != []) = c2
    cases c1 <;> cases c2
    · cases dumpTableCold rr fs oid t with
      | error e => rfl
      | ok td =>
        cases dumpTablesCold rr fs oid ts with
        | error e => rfl
        | ok rest => by_cases h : td.rows.length > 0 <;> simp [h]
    all_goals cases dumpTablesCold rr fs oid ts <;> rfl

theorem remoteSel_infoOfRel (r : ClassRow) (hk : r.kind < 256) (hf : r.filenode ≠ 0) :
    remoteSel (infoOfRel r) = (selectedRel {} r && !isPrefixB (strBytes "sql_") r.name) := by
  rw [← keepTable_selected {} r hk hf (Or.inl rfl)]
  unfold remoteSel keepTable
  simp only [Bool.true_and, bne_self_eq_false, Bool.false_and, Bool.not_false, Bool.and_true, Bool.not_or]
  have hn : (infoOfRel r).name = r.name := rfl
  rw [hn]
  cases isPrefixB (strBytes "pg_") r.name <;> cases isPrefixB (strBytes "sql_") r.name <;>
    cases ((infoOfRel r).kind != [114] && (infoOfRel r).kind != []) <;> rfl

theorem relsOf_mem (d : DbContent) (r : ClassRow) (h : r ∈ relsOf d) : r ∈ d.cls.live ∧ r.filenode ≠ 0 := by
  have := mem_filter.mp ((mem_insertionSort _).mp h)
  exact ⟨this.1, by simpa using this.2⟩

/-- the Spec's selection at default options, taken from `Tables()`'s list, is the Spec's list of ordinary tables -/
theorem relsOf_selected (l : Layout) (d : DbContent) (hdwf : d.WF l) :
    (relsOf d).filter (selectedRel {}) = insertionSort (byKey ClassRow.filenode) (d.cls.live.filter (selectedRel {})) :=
  selected_of_storage {} _ hdwf.fnNodup

theorem remote_selected (l : Layout) (d : DbContent) (hdwf : d.WF l) :
    (relsOf d).filter (remoteSel ∘ infoOfRel) =
      (insertionSort (byKey ClassRow.filenode) (d.cls.live.filter (selectedRel {}))).filter fun r => !isPrefixB (strBytes "sql_") r.name := by
  obtain ⟨_, _, hkind, _⟩ := dbWF_parts l d hdwf
  rw [← relsOf_selected l d hdwf, filter_filter]
  apply filter_congr
  intro r hr
  obtain ⟨h1, h2⟩ := relsOf_mem d r hr
  rw [Bool.and_comm]
  exact remoteSel_infoOfRel r (hkind r h1) h2

theorem dumpTable_opts (rr : RowReader) (fn : Nat) (info : TableInfo) (attrs : List AttrInfo) (reader : Option FileReader)
    (o o' : Options) (h : o.listOnly = o'.listOnly) : dumpTable rr fn info attrs reader o = dumpTable rr fn info attrs reader o' := by
  unfold dumpTable
  rw [h]

/-- DumpDatabase's table loop returns DumpDatabaseFromFiles' tables minus `Spec.remoteKeeps`, model against model, whatever the
heap files are -/
theorem dumpTablesCold_vs_files (ho : OnTree dec c fs) (π : MapOrder TableInfo) (hπ : ∀ l, π l ~ l) (oid : Nat) (d : DbContent)
    (hl : c.content.lookup oid = some d) (ts : List TableDump)
    (h : dumpDatabaseFromFiles (readRows dec) π (encHeapOf pgClassCols classVals d.cls)
          (encHeapOf (pgAttributeCols c.layout) (attrVals c.layout) d.att) (some fun fn => fs (basePath oid fn))
          { pgVersion := c.pgVersion } = .ok ts) :
    dumpTablesCold (readRows dec) fs oid ((relsOf d).map infoOfRel) = .ok (ts.filter remoteKeeps) := by
  have hdwf : d.WF c.layout := ho.db hl
  obtain ⟨_, _, _, hoid⟩ := dbWF_parts c.layout d hdwf
  -- both loops run over the Spec's selection from `Tables()`'s list; the client's drops the `sql_`-prefixed ones first
  rw [dumpDatabase_tables dec ho.dec π hπ c.layout d _ _ hdwf (schemaOK_version c ho.wf.1 d.att) (Or.inl rfl),
    show selectedRel { pgVersion := c.pgVersion } = selectedRel {} from rfl, ← relsOf_selected c.layout d hdwf] at h
  rw [dumpTablesCold_collect, filter_map, Proofs.collectM_map, remote_selected c.layout d hdwf,
    ← relsOf_selected c.layout d hdwf, ← collectM_filter]
  refine collectM_result_filter _ _ remoteKeeps _ ts h fun r hr y hy => ?_
  obtain ⟨hlive, hfn⟩ := relsOf_mem d r (mem_filter.mp hr).1
  obtain ⟨t, ht, hy⟩ := bind_eq_ok hy
  cases hy
  have hkeep : remoteKeeps t = (decide (t.rows.length > 0) && !isPrefixB (strBytes "sql_") r.name) := by
    have hname : t.name = r.name := (dumpTable_shape _ _ _ _ _ _ t ht).2.1
    rw [← hname]; rfl
  rw [Option.filter_some, hkeep]
  cases isPrefixB (strBytes "sql_") r.name with
  | true => simp
  | false =>
    rw [Bool.not_false, if_pos rfl, dumpTableCold_tree ho oid d hl r (hoid r hlive) hfn,
      dumpTable_opts _ _ _ _ _ {} { pgVersion := c.pgVersion } rfl, ht]
    simp

theorem find_db (dbs : List DbRow) (hnd : (dbs.map (·.oid)).Nodup) (db : DbRow) (h : db ∈ dbs) :
    (dbs.map toInfo).find? (·.oid == db.oid) = some (toInfo db) := by
  rw [find?_map]
  exact congrArg (Option.map toInfo) (find?_of_mem_nodup (key := (·.oid)) hnd h)

theorem dumpDatabaseCold_tree (ho : OnTree dec c fs) (htot : Props.C10.Rows.TotalDec dec)
    (π : MapOrder TableInfo) (hπ : ∀ l, π l ~ l) (db : DbRow) (hdb : db ∈ c.dbs.live)
    (hdump : ∀ d, c.content.lookup db.oid = some d → RemoteDumpable d) :
    ∃ D, dumpDatabaseCold (readRows dec) π fs db.oid = .ok (some D) ∧
      normDb D = expectedRemoteDb (varlenaVal dec) db (c.content.lookup db.oid) := by
  unfold dumpDatabaseCold
  rw [databasesCold_tree ho]
  simp only [ok_bind]
  rw [find_db c.dbs.live ho.wf.2.2.1 db hdb]
  simp only
  rw [tablesCold_on ho π hπ db.oid]
  unfold tablesOn
  cases hl : c.content.lookup db.oid with
  | none => exact ⟨_, rfl, rfl⟩
  | some d =>
    have hdwf : d.WF c.layout := ho.db hl
    obtain ⟨hfiles, hread, hinl, hmiss⟩ := hdump d hl
    simp only [ok_bind]
    -- `ts` is taken from the totality of DumpDatabaseFromFiles only so that `dumpTablesCold_vs_files` (which asks for an `.ok ts`)
    -- and `dumpDatabase_spec` speak about the same list
    obtain ⟨ts, hts⟩ := Props.C10.Cluster.C10_total_dumpDatabaseFromFiles (readRows dec)
      (Props.C10.Rows.C10_total_readRows dec htot) π
      (encHeapOf pgClassCols classVals d.cls) (encHeapOf (pgAttributeCols c.layout) (attrVals c.layout) d.att)
      (some fun fn => fs (basePath db.oid fn)) { pgVersion := c.pgVersion }
    rw [dumpTablesCold_vs_files ho π hπ db.oid d hl ts hts]
    simp only [ok_bind, pure_eq_ok]
    refine ⟨_, rfl, ?_⟩
    have hspec := dumpDatabase_spec dec ho.dec π hπ c.layout d { pgVersion := c.pgVersion } db (fun fn => fs (basePath db.oid fn)) hdwf
      (schemaOK_version c ho.wf.1 d.att) (Or.inl rfl) hinl hmiss
      (fun r hr hs _ => by
        obtain ⟨h1, h2, h3⟩ := hfiles r hr hs
        exact ho.tree.heap db.oid d hl r.filenode h1 h2 h3)
      (fun r hr hs pages hp _ hne => hread r hr hs pages hp hne) ts hts
    have he : expectedDb (varlenaVal dec) { pgVersion := c.pgVersion } db d = expectedDb (varlenaVal dec) {} db d := rfl
    rw [he] at hspec
    unfold expectedRemoteDb normDb
    simp only
    rw [← hspec, filter_map]
    have : (remoteKeeps ∘ normTable) = remoteKeeps := rfl
    rw [this]
    rfl

theorem dumpAllLoopCold_collect (rr : RowReader) (π : MapOrder TableInfo) (fs : RemoteReader) (dbs : List DatabaseInfo) :
    dumpAllLoopCold rr π fs dbs =
      collectM (fun db => dumpDatabaseCold rr π fs db.oid) (dbs.filter fun db => !isPrefixB (strBytes "template") db.name) := by
  rw [← collectM_filter]
  induction dbs with
  | nil => rfl
  | cons db rest ih =>
    rw [dumpAllLoopCold, collectM, ← ih]
    cases isPrefixB (strBytes "template") db.name with
    | true => cases dumpAllLoopCold rr π fs rest <;> rfl
    | false => exact bind_congr fun d => bind_congr fun ds => by cases d <;> rfl

theorem filter_template (htpl : TemplatesByName c) (l : List DbRow) (hl : ∀ db ∈ l, db ∈ c.dbs.live) :
    (l.map toInfo).filter (fun db => !isPrefixB (strBytes "template") db.name) = (l.filter fun db => !db.isTemplate).map toInfo := by
  rw [filter_map]
  exact congrArg _ (filter_congr fun db hdb => congrArg (!·) (htpl db (hl db hdb)))

theorem dumpAllLoopCold_tree (ho : OnTree dec c fs) (htot : Props.C10.Rows.TotalDec dec)
    (π : MapOrder TableInfo) (hπ : ∀ l, π l ~ l) (htpl : TemplatesByName c)
    (hdump : ∀ db ∈ c.dbs.live, db.isTemplate = false → ∀ d, c.content.lookup db.oid = some d → RemoteDumpable d)
    (l : List DbRow) (hl : ∀ db ∈ l, db ∈ c.dbs.live) :
    ∃ R, dumpAllLoopCold (readRows dec) π fs (l.map toInfo) = .ok R ∧
      R.map normDb = (l.filter fun db => !db.isTemplate).map fun db => expectedRemoteDb (varlenaVal dec) db (c.content.lookup db.oid) := by
  rw [dumpAllLoopCold_collect, filter_template htpl l hl, Proofs.collectM_map]
  refine collectM_exists_map _ normDb _ _ fun db hdb => ?_
  obtain ⟨hm, ht⟩ := mem_filter.mp hdb
  exact dumpDatabaseCold_tree ho htot π hπ db (hl db hm) (hdump db (hl db hm) (by simpa using ht))

theorem dumpAllCold_tree (ho : OnTree dec c fs) (htot : Props.C10.Rows.TotalDec dec)
    (π : MapOrder TableInfo) (hπ : ∀ l, π l ~ l) (htpl : TemplatesByName c)
    (hdump : ∀ db ∈ c.dbs.live, db.isTemplate = false → ∀ d, c.content.lookup db.oid = some d → RemoteDumpable d) :
    ∃ R, dumpAllCold (readRows dec) π fs = .ok R ∧
      R.map normDb = (c.dbs.live.filter fun db => !db.isTemplate).map fun db => expectedRemoteDb (varlenaVal dec) db (c.content.lookup db.oid) := by
  obtain ⟨R, hR, hs⟩ := dumpAllLoopCold_tree ho htot π hπ htpl hdump c.dbs.live (fun _ h => h)
  refine ⟨R, ?_, hs⟩
  unfold dumpAllCold
  rw [databasesCold_tree ho]
  exact hR

theorem expectedRemoteDb_oid (val : Spec.Val) (db : DbRow) (x : Option DbContent) : (expectedRemoteDb val db x).oid = db.oid := by
  cases x <;> rfl

theorem expectedRemote_present (val : Spec.Val) (c : Cluster) (L : List DbRow) :
    (L.map fun db => expectedRemoteDb val db (c.content.lookup db.oid)).filter (fun D => (c.content.lookup D.oid).isSome) =
      (L.filterMap fun db => (c.content.lookup db.oid).map (expectedDb val {} db)).map
        fun d => { d with tables := d.tables.filter remoteKeeps } := by
  rw [← filterMap_eq_filter, filterMap_map, map_filterMap]
  refine PgVerif.filterMap_congr _ _ _ fun db _ => ?_
  simp only [Function.comp, Option.guard, expectedRemoteDb_oid]
  cases c.content.lookup db.oid <;> rfl

theorem expectedRemote_noDir (val : Spec.Val) (c : Cluster) (L : List DbRow) (D : DatabaseDump)
    (hD : D ∈ L.map fun db => expectedRemoteDb val db (c.content.lookup db.oid)) (hn : (c.content.lookup D.oid).isNone) :
    D.tables = [] := by
  obtain ⟨db, _, rfl⟩ := mem_map.mp hD
  rw [expectedRemoteDb_oid, Option.isNone_iff_eq_none] at hn
  rw [hn]; rfl

theorem summaryNames_on (c : Cluster) (hwf : c.WF) (val : Spec.Val) (db : DbRow) :
    ((tablesOn c db.oid).filter fun t => !isPrefixB (strBytes "pg_") t.name && !isPrefixB (strBytes "sql_") t.name && t.kind == [114]).map
      (·.name) = summaryNames val db (c.content.lookup db.oid) := by
  unfold tablesOn summaryNames
  cases hlk : c.content.lookup db.oid with
  | none => rfl
  | some d =>
    have hdwf : d.WF c.layout := hwf.content db.oid d hlk
    -- on a relation's TableInfo the Summary's test is DumpDatabase's: relkind is one byte, so `kind == [114]` is `remoteSel`'s
    -- "relkind r or unknown"
    have hk : ((fun t : TableInfo => !isPrefixB (strBytes "pg_") t.name && !isPrefixB (strBytes "sql_") t.name && t.kind == [114]) ∘ infoOfRel) =
        remoteSel ∘ infoOfRel := by
      funext r
      unfold remoteSel infoOfRel bne
      simp only [Function.comp]
      generalize isPrefixB (strBytes "pg_") r.name = a
      generalize isPrefixB (strBytes "sql_") r.name = b
      generalize (([UInt8.ofNat r.kind] : Bytes) == [114]) = k
      cases a <;> cases b <;> cases k <;> rfl
    simp only
    rw [filter_map, hk, remote_selected c.layout d hdwf, map_map, expectedDb_tables, filter_map, map_map]
    rfl

theorem summaryLoopCold_collect (rr : RowReader) (π : MapOrder TableInfo) (fs : RemoteReader) (dbs : List DatabaseInfo) :
    summaryLoopCold rr π fs dbs =
      collectM (fun db => do let ts ← tablesCold rr π fs db.oid; pure (some (db, ts)))
        (dbs.filter fun db => !isPrefixB (strBytes "template") db.name) := by
  rw [← collectM_filter]
  induction dbs with
  | nil => rfl
  | cons db rest ih =>
    rw [summaryLoopCold, collectM, ← ih]
    cases isPrefixB (strBytes "template") db.name with
    | true => cases summaryLoopCold rr π fs rest <;> rfl
    | false => cases tablesCold rr π fs db.oid <;> rfl

theorem summaryLoopCold_tree (ho : OnTree dec c fs) (π : MapOrder TableInfo) (hπ : ∀ l, π l ~ l) (htpl : TemplatesByName c)
    (l : List DbRow) (hl : ∀ db ∈ l, db ∈ c.dbs.live) :
    summaryLoopCold (readRows dec) π fs (l.map toInfo) =
      .ok ((l.filter fun db => !db.isTemplate).map fun db => (toInfo db, tablesOn c db.oid)) := by
  rw [summaryLoopCold_collect, filter_template htpl l hl, Proofs.collectM_map]
  exact Proofs.collectM_eq_map _ _ _ fun db _ => by
    rw [show (toInfo db).oid = db.oid from rfl, tablesCold_on ho π hπ db.oid]; rfl

theorem summaryDatabasesCold_tree (ho : OnTree dec c fs) (π : MapOrder TableInfo) (hπ : ∀ l, π l ~ l) (htpl : TemplatesByName c)
    (val : Spec.Val) :
    summaryDatabasesCold (readRows dec) π fs =
      .ok (((c.dbs.live.filter fun db => !db.isTemplate).map fun db => (db.name, summaryNames val db (c.content.lookup db.oid))).filter
        fun e => e.2 ≠ []) := by
  unfold summaryDatabasesCold
  rw [databasesCold_tree ho]
  simp only [ok_bind]
  rw [summaryLoopCold_tree ho π hπ htpl c.dbs.live (fun _ h => h)]
  simp only [ok_bind, pure_eq_ok, map_map, Function.comp_def, summaryNames_on c ho.wf val]
  rfl

end PgVerif.Proofs.Remote
