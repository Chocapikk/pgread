/-
  `Spec.RowV.WF` of a catalog row, attribute by attribute: columns and values of a catalog are two literal lists, on which
  `AllOK` unfolds to one `PairOK` per attribute.
-/
import PgVerif.Spec.Rows
namespace PgVerif.Proofs.Rows
open PgVerif PgVerif.Spec List

def PairOK (c : Col) (v : Option Datum) : Prop :=
  (c.align = 1 ∨ c.align = 2 ∨ c.align = 4 ∨ c.align = 8) ∧ ∀ d, v = some d → d.WF c

def AllOK : List Col → List (Option Datum) → Prop
  | [], [] => True
  | c :: cs, v :: vs => PairOK c v ∧ AllOK cs vs
  | _, _ => False

theorem allOK_zip : ∀ (cols : List Col) (vals : List (Option Datum)), AllOK cols vals →
    vals.length = cols.length ∧
    ∀ p ∈ cols.zip vals, (p.1.align = 1 ∨ p.1.align = 2 ∨ p.1.align = 4 ∨ p.1.align = 8) ∧ ∀ d, p.2 = some d → d.WF p.1
  | [], [], _ => ⟨rfl, by intro p hp; simp at hp⟩
  | [], _ :: _, h => h.elim
  | _ :: _, [], h => h.elim
  | c :: cs, v :: vs, h => by
    obtain ⟨h1, h2⟩ := allOK_zip cs vs h.2
    refine ⟨by simp [h1], ?_⟩
    intro p hp
    simp only [zip_cons_cons, mem_cons] at hp
    rcases hp with rfl | hp
    · exact h.1
    · exact h2 p hp

theorem pairOK_fixed (c : Col) (bs : Bytes) (ha : c.align = 1 ∨ c.align = 2 ∨ c.align = 4 ∨ c.align = 8) (hp : 0 < c.len)
    (hl : (bs.length : Int) = c.len) : PairOK c (some (.fixed bs)) := by
  refine ⟨ha, ?_⟩
  intro d hd
  injection hd with hd
  subst hd
  exact ⟨hp, hl⟩

theorem pairOK_none (c : Col) (ha : c.align = 1 ∨ c.align = 2 ∨ c.align = 4 ∨ c.align = 8) : PairOK c none :=
  ⟨ha, by intro d hd; cases hd⟩

theorem pairOK_map {α} (c : Col) (f : α → Datum) (v : Option α) (ha : c.align = 1 ∨ c.align = 2 ∨ c.align = 4 ∨ c.align = 8)
    (h : ∀ a, v = some a → (f a).WF c) : PairOK c (v.map f) :=
  ⟨ha, fun d hd => by
    cases v with
    | none => cases hd
    | some a => cases hd; exact h a rfl⟩

theorem catalog_WF (cols : List Col) (vals : List (Option Datum)) (infomask : Nat) (h : AllOK cols vals)
    (hc : cols.length ≤ 1600) (him : infomask < 65536) : RowV.WF cols ⟨vals, cols.length, infomask⟩ := by
  obtain ⟨h1, h2⟩ := allOK_zip cols vals h
  exact ⟨h1, Nat.le_refl _, hc, him, h2⟩

end PgVerif.Proofs.Rows
