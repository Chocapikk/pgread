/-
  heap.go's row decoder (readValue, DecodeTuple's column loop) against PostgreSQL's tuple formation (Spec/Rows.lean).
-/
import PgVerif.Model.Rows
import PgVerif.Spec.Rows
import PgVerif.Proofs.Varlena
import PgVerif.Basic.Lemmas
namespace PgVerif.Proofs.Rows
open PgVerif PgVerif.Model PgVerif.Spec

theorem alignUp_one (o : Nat) : alignUp o 1 = o := roundUp_one o

theorem alignUp_ge (o a : Nat) (ha : 0 < a) : o ≤ alignUp o a := roundUp_ge o a ha

def Pow2Align (a : Nat) : Prop := a = 1 ∨ a = 2 ∨ a = 4 ∨ a = 8

theorem align_eq_alignUp (o a : Nat) (ha : Pow2Align a) : Model.align o a = alignUp o a := goAlign_eq o a ha

theorem align_ge (o a : Nat) : o ≤ Model.align o a := goAlign_ge o a

@[simp] theorem pad_length (o a : Nat) : (pad o a).length = alignUp o a - o := by simp [pad]

/-- the tool's column `mc`, at position `i` of the schema handed to DecodeTuple, describes the layout of the catalog's column `c`;
`colAlign`: the alignment the tool works out, from the alignment char, else from its fallback table -/
def ColMatch (i : Nat) (mc : Column) (c : Col) : Prop :=
  mc.name = c.name ∧ mc.typid = c.typid ∧ mc.len = c.len ∧ (mc.num = 0 ∨ mc.num = (i : Int) + 1) ∧ colAlign mc = c.align

def ColsMatch : Nat → List Column → List Col → Prop
  | _, [], [] => True
  | i, mc :: ms, c :: cs => ColMatch i mc c ∧ ColsMatch (i + 1) ms cs
  | _, _, _ => False

/-- through toast.go's model (Proofs/Varlena.lean) -/
theorem readVarlena_eq (data : Bytes) : readVarlena data = .ok (varlenaOf data) := by
  rw [← Toast.readVarlena_eq]
  unfold Model.Toast.readVarlena readVarlena
  by_cases h0 : data.length = 0
  · rw [if_pos h0, if_pos h0]
  · rw [if_neg h0, if_neg h0, idx_ok _ 0 (by omega)]
    simp only [ok_bind]
    generalize data[0] = b
    have hu (x c : UInt8) : x = c ↔ x.toNat = c.toNat := UInt8.toNat_inj.symm
    have htag (tag : UInt8) : (pure (none, if tag = 18 then 18 else 1) : M (Option Bytes × Nat)) =
        if tag.toNat = 18 then pure (none, 18) else pure (none, 1) := by
      by_cases h : tag.toNat = 18
      · rw [if_pos h, if_pos ((hu tag 18).2 h)]
      · rw [if_neg h, if_neg (h ∘ (hu tag 18).1)]
    -- what is left differs in spelling only: `>>> k` for `/ 2 ^ k`, `&&& 1` for `% 2`, Bool for Prop conditions
    simp only [Nat.shiftRight_eq_div_pow, Bool.and_eq_true, Bool.or_eq_true, decide_eq_true_eq, beq_iff_eq, bne_iff_ne, ne_eq,
      show b.toNat &&& 1 = b.toNat % 2 from land_mask _ 1, show b = 1 ↔ b.toNat = 1 from hu b 1, Nat.pow_one,
      show (2 : Nat) ^ 2 = 4 from rfl, ge_iff_le, htag]

/-- heap.go:readValue: none of its slice expressions can fault -/
theorem readValue_eq (dec : Dec) (data : Bytes) (off : Nat) (typid len : Int) :
    readValue dec data off typid len =
      if data.length ≤ off then .ok (.nil, 0)
      else if 0 < len then
        if ((data.drop off).length : Int) < len then .ok (.nil, 0)
        else dec ((data.drop off).take len.toNat) typid >>= fun v => pure (v, len.toNat)
      else if len = -1 then
        match (varlenaOf (data.drop off)).1 with
        | none => .ok (.nil, max (varlenaOf (data.drop off)).2 1)
        | some val => varlenaVal dec val typid >>= fun v => pure (v, (varlenaOf (data.drop off)).2)
      else .ok (readCString (data.drop off)) := by
  unfold readValue
  by_cases ho : data.length ≤ off
  · rw [if_pos ho, if_pos ho]; rfl
  · rw [if_neg ho, if_neg ho, sliceFrom_ok _ _ (by omega)]
    simp only [ok_bind, readVarlena_eq]
    by_cases hp : 0 < len
    · rw [if_pos hp, if_pos hp]
      by_cases hs : ((data.drop off).length : Int) < len
      · rw [if_pos hs, if_pos hs]; rfl
      · rw [if_neg hs, if_neg hs, sliceTo_ok _ _ (by omega)]; rfl
    · rw [if_neg hp, if_neg hp]; rfl

theorem varlenaVal_nonempty (dec : Dec) (val : Bytes) (typid : Int) (h : 0 < val.length) :
    varlenaVal dec val typid = dec val typid := by
  unfold varlenaVal
  rw [if_neg (by omega)]

theorem readValue_shift (dec : Dec) (pre X : Bytes) (typid len : Int) :
    readValue dec (pre ++ X) pre.length typid len = readValue dec X 0 typid len := by
  rw [readValue_eq, readValue_eq, List.drop_left, List.drop_zero, List.length_append]
  have : pre.length + X.length ≤ pre.length ↔ X.length ≤ 0 := by omega
  simp only [this]

theorem readValue_fixed (dec : Dec) (bs rest : Bytes) (typid len : Int) (hpos : 0 < len) (hlen : (bs.length : Int) = len) :
    readValue dec (bs ++ rest) 0 typid len = (dec bs typid >>= fun v => pure (v, bs.length)) := by
  have hbs : len.toNat = bs.length := by omega
  rw [readValue_eq, List.drop_zero, if_neg (by simp only [List.length_append]; omega), if_pos hpos,
    if_neg (by simp only [List.length_append]; omega), hbs, List.take_left']
  rfl

theorem readValue_varlena (dec : Dec) (X : Bytes) (typid : Int) (hX : 0 < X.length) :
    readValue dec X 0 typid (-1) =
      match (varlenaOf X).1 with
      | none => .ok (.nil, max (varlenaOf X).2 1)
      | some val => varlenaVal dec val typid >>= fun v => pure (v, (varlenaOf X).2) := by
  rw [readValue_eq, if_neg (by omega), if_neg (by omega), if_pos rfl, List.drop_zero]

theorem takeWhile_nonzero (p rest : Bytes) (hp : (0 : UInt8) ∉ p) :
    (p ++ 0 :: rest).takeWhile (· != 0) = p :=
  takeWhile_append_stop (· != 0) p 0 rest (fun _ hy => bne_iff_ne.mpr fun h => hp (h ▸ hy)) rfl

theorem readValue_cstr (dec : Dec) (p rest : Bytes) (typid : Int) (hp : (0 : UInt8) ∉ p) :
    readValue dec (p ++ 0 :: rest) 0 typid (-2) = .ok (.str p, p.length + 1) := by
  rw [readValue_eq, List.drop_zero, if_neg (by simp), if_neg (by omega), if_neg (by omega), readCString,
    takeWhile_nonzero p rest hp, if_pos (by simp)]

/-- binary.go:cstring on a stored `name` column -/
theorem cstring_name (name rest : Bytes) (h0 : (0 : UInt8) ∉ name) (hl : name.length ≤ 63) :
    cstring ((name ++ zeros (64 - name.length)) ++ rest) 64 = name :=
  takeWhile_take_padded 0 name rest 64 h0 (by omega)

/-- the alignment DecodeTuple applies at `offset`: 1 in front of a non-zero byte of a varlena column (PostgreSQL's
att_align_pointer; fix 03), else the column's own -/
def alignAt (col : Column) (data : Bytes) (offset : Nat) : Nat :=
  if col.len = -1 ∧ data[offset]?.getD 0 ≠ 0 then 1 else colAlign col

theorem chooseAlign_eq (col : Column) (data : Bytes) (offset : Nat) :
    chooseAlign col data offset = .ok (alignAt col data offset) := by
  unfold chooseAlign alignAt
  by_cases h : col.len = -1 ∧ offset < data.length
  · rw [if_pos h, idx_getD _ _ h.2]
    by_cases hb : data[offset]?.getD 0 = 0
    · rw [if_neg fun hc => hc.2 hb, hb]; rfl
    · rw [if_pos ⟨h.1, hb⟩]
      show Except.ok (if (data[offset]?.getD 0 != 0) = true then 1 else colAlign col) = _
      rw [if_pos (bne_iff_ne.mpr hb)]
  · -- behind the end of the data the byte reads as 0
    rw [if_neg h, if_neg fun hc => h ⟨hc.1, Nat.lt_of_not_le fun hle => hc.2 (by rw [List.getElem?_eq_none hle]; rfl)⟩]
    rfl

theorem alignAt_cases (col : Column) (data : Bytes) (offset : Nat) :
    alignAt col data offset = 1 ∨ alignAt col data offset = colAlign col := by
  unfold alignAt; split
  · exact Or.inl rfl
  · exact Or.inr rfl

theorem alignAt_of_ne {col : Column} {data : Bytes} {offset : Nat} (hl : col.len = -1) (hb : data[offset]?.getD 0 ≠ 0) :
    alignAt col data offset = 1 := if_pos ⟨hl, hb⟩

theorem alignAt_of_zero {col : Column} {data : Bytes} {offset : Nat} (hb : data[offset]?.getD 0 = 0) :
    alignAt col data offset = colAlign col := if_neg fun h => h.2 hb

/-- one iteration of DecodeTuple's column loop: the column's value and the data offset behind it -/
def colStep (dec : Dec) (t : HeapTuple) (col : Column) (num : Int) (offset : Nat) : M (GoVal × Nat) :=
  if t.isNull num then pure (.nil, offset)
  else do
    let a ← chooseAlign col t.data offset
    let r ← readValue dec t.data (Model.align offset a) col.typid col.len
    pure (r.1, Model.align offset a + r.2)

/-- a continuation behind one iteration: the shape in which the model's loops are written -/
theorem colStep_bind {β} (dec : Dec) (t : HeapTuple) (col : Column) (num : Int) (offset : Nat) (k : GoVal × Nat → M β) :
    (colStep dec t col num offset >>= k) =
      (if t.isNull num then k (.nil, offset)
       else chooseAlign col t.data offset >>= fun a =>
        readValue dec t.data (Model.align offset a) col.typid col.len >>= fun r =>
        k (r.1, Model.align offset a + r.2)) := by
  unfold colStep
  by_cases hn : t.isNull num = true
  · rw [if_pos hn, if_pos hn]; rfl
  · rw [if_neg hn, if_neg hn]
    cases chooseAlign col t.data offset with
    | error e => rfl
    | ok a =>
      simp only [ok_bind]
      cases readValue dec t.data (Model.align offset a) col.typid col.len <;> rfl

theorem decodeCols_cons (dec : Dec) (t : HeapTuple) (col : Column) (cs : List Column) (i offset : Nat) :
    decodeCols dec t (col :: cs) i offset =
      (do let s ← colStep dec t col (if col.num = 0 then (i : Int) + 1 else col.num) offset
          let rest ← decodeCols dec t cs (i + 1) s.2
          pure ((col.name, s.1) :: rest)) := by
  rw [colStep_bind]; rfl

/-- the nil guard of DecodeTuple (fix 04) is off -/
theorem decodeTuple_of_ne (dec : Dec) (t : HeapTuple) (cols : List Column) (hne : cols ≠ []) :
    decodeTuple dec t cols = (decodeCols dec t cols 0 0 >>= fun ps => pure (some (toRow ps))) := by
  unfold decodeTuple
  rw [if_neg fun h => hne (List.length_eq_zero_iff.mp h.2)]

theorem colStep_eq (dec : Dec) (t : HeapTuple) (col : Column) (num : Int) (offset : Nat) :
    colStep dec t col num offset =
      if t.isNull num then .ok (.nil, offset)
      else readValue dec t.data (Model.align offset (alignAt col t.data offset)) col.typid col.len >>= fun r =>
        pure (r.1, Model.align offset (alignAt col t.data offset) + r.2) := by
  unfold colStep
  rw [chooseAlign_eq]
  rfl

theorem colStep_null {dec : Dec} {t : HeapTuple} {num : Int} (h : t.isNull num = true) (col : Column) (offset : Nat) :
    colStep dec t col num offset = .ok (.nil, offset) := by
  rw [colStep_eq, if_pos h]

theorem colStep_total {dec : Dec} {t : HeapTuple} {col : Column}
    (h : ∀ off, ∃ r, readValue dec t.data off col.typid col.len = .ok r) (num : Int) (offset : Nat) :
    ∃ s, colStep dec t col num offset = .ok s := by
  rw [colStep_eq]
  exact tot_ite (fun _ => ⟨_, rfl⟩) fun _ => tot_bind (h _) fun _ _ => ⟨_, rfl⟩

theorem colStep_mono {dec : Dec} {t : HeapTuple} {col : Column} {num : Int} {offset : Nat} {s : GoVal × Nat}
    (h : colStep dec t col num offset = .ok s) : offset ≤ s.2 := by
  rw [colStep_eq] at h
  split at h
  · obtain rfl := Except.ok.inj h; exact Nat.le_refl _
  · obtain ⟨r, _, h⟩ := bind_eq_ok h
    obtain rfl := Except.ok.inj h
    have := align_ge offset (alignAt col t.data offset)
    simp only; omega

theorem getD_at_prefix (pre X : Bytes) : (pre ++ X)[pre.length]?.getD 0 = X.headD 0 := by
  rw [List.getElem?_append_right (Nat.le_refl _), Nat.sub_self]
  cases X <;> rfl

/-- a column stored behind its alignment padding: DecodeTuple lands behind it, because the byte at its position is a pad byte
or there is no padding (fix 03).  `E`, `n`: value computation and consumed length of the read behind the padding. -/
theorem colStep_padded (dec : Dec) (t : HeapTuple) (mc : Column) (num : Int) (hnull : t.isNull num = false)
    (a : Nat) (hal : colAlign mc = a) (ha : Pow2Align a) (pre body rest : Bytes)
    (hdata : t.data = pre ++ ((pad pre.length a ++ body) ++ rest)) (E : M GoVal) (n : Nat)
    (hr : readValue dec (body ++ rest) 0 mc.typid mc.len = (E >>= fun v => pure (v, n))) :
    colStep dec t mc num pre.length = (E >>= fun v => pure (v, pre.length + (pad pre.length a).length + n)) := by
  subst hal
  have hpos : 0 < colAlign mc := by rcases ha with h | h | h | h <;> omega
  have hge := alignUp_ge pre.length (colAlign mc) hpos
  -- where the reader lands: behind the padding, whichever alignment is chosen
  have hland : Model.align pre.length (alignAt mc t.data pre.length) = (pre ++ pad pre.length (colAlign mc)).length := by
    rw [List.length_append, pad_length, show pre.length + (alignUp pre.length (colAlign mc) - pre.length) =
      alignUp pre.length (colAlign mc) by omega]
    by_cases hb : t.data[pre.length]?.getD 0 = 0
    · rw [alignAt_of_zero hb]; exact align_eq_alignUp _ _ ha
    · -- a non-zero byte where the padding would begin: there is no padding
      have hnopad : alignUp pre.length (colAlign mc) = pre.length := by
        apply Classical.byContradiction
        intro hne
        apply hb
        rw [hdata, getD_at_prefix]
        obtain ⟨k, hk⟩ : ∃ k, alignUp pre.length (colAlign mc) - pre.length = k + 1 :=
          ⟨alignUp pre.length (colAlign mc) - pre.length - 1, by omega⟩
        simp only [pad, zeros, hk, List.replicate_succ, List.cons_append, List.headD_cons]
      rw [hnopad]
      rcases alignAt_cases mc t.data pre.length with h1 | h1 <;> rw [h1]
      · simp [Model.align]
      · rw [align_eq_alignUp _ _ ha, hnopad]
  rw [colStep_eq, hnull, if_neg (by decide), hland]
  rw [hdata, List.append_assoc, ← List.append_assoc, readValue_shift, hr, List.length_append]
  simp only [bind_assoc, pure_bind]

/-- a column stored without padding: DecodeTuple reads where it stands (`E`, `n` as in `colStep_padded`) -/
theorem colStep_bare (dec : Dec) (t : HeapTuple) (mc : Column) (num : Int) (hnull : t.isNull num = false) (pre X : Bytes)
    (hdata : t.data = pre ++ X) (E : M GoVal) (n : Nat)
    (h : colAlign mc = 1 ∨ (mc.len = -1 ∧ X.headD 0 ≠ 0))
    (hr : readValue dec X 0 mc.typid mc.len = (E >>= fun v => pure (v, n))) :
    colStep dec t mc num pre.length = (E >>= fun v => pure (v, pre.length + n)) := by
  have ha1 : alignAt mc t.data pre.length = 1 := by
    rcases h with h | ⟨hl, hb⟩
    · exact (alignAt_cases mc t.data pre.length).elim id (·.trans h)
    · exact alignAt_of_ne hl (by rw [hdata, getD_at_prefix]; exact hb)
  have hland : Model.align pre.length (alignAt mc t.data pre.length) = pre.length := by rw [ha1]; simp [Model.align]
  rw [colStep_eq, hnull, if_neg (by decide), hland, hdata, readValue_shift, hr]
  simp only [bind_assoc, pure_bind]

theorem colStep_datum (dec : Dec) (t : HeapTuple) (mc : Column) (num : Int) (c : Col) (d : Datum) (hl : mc.len = c.len)
    (ht : mc.typid = c.typid) (hal : colAlign mc = c.align) (ha : Pow2Align c.align) (hd : d.WF c) (pre rest : Bytes)
    (hnull : t.isNull num = false) (hdata : t.data = pre ++ (formDatum c pre.length d ++ rest)) :
    colStep dec t mc num pre.length =
      (expectedVal (varlenaVal dec) c d >>= fun v => pure (v, pre.length + (formDatum c pre.length d).length)) := by
  -- in every case `hr` says what readValue returns where the reader lands, and `colStep_padded` / `colStep_bare` do the landing
  cases d with
  | fixed bs =>
    have hr : readValue dec (bs ++ rest) 0 mc.typid mc.len =
        (expectedVal (varlenaVal dec) c (.fixed bs) >>= fun v => pure (v, bs.length)) := by
      rw [hl, ht, readValue_fixed dec bs rest _ _ hd.1 hd.2, expectedVal,
        varlenaVal_nonempty dec bs _ (by have := hd.1; have := hd.2; omega)]
    rw [colStep_padded dec t mc num hnull c.align hal ha pre bs rest hdata _ _ hr, formDatum, List.length_append, Nat.add_assoc]
  | short p =>
    have hnz : UInt8.ofNat (2 * (p.length + 1) + 1) ≠ 0 := by
      intro h; have := congrArg UInt8.toNat h; rw [shortHdr_toNat p.length hd.2] at this; simp at this
    have hr : readValue dec (formDatum c pre.length (.short p) ++ rest) 0 mc.typid mc.len =
        (expectedVal (varlenaVal dec) c (.short p) >>= fun v => pure (v, p.length + 1)) := by
      rw [hl, ht, hd.1, formDatum, List.cons_append, readValue_varlena _ _ _ (by simp), varlenaOf_short p rest hd.2]
      rfl
    rw [colStep_bare dec t mc num hnull pre _ hdata _ _ (Or.inr ⟨hl.trans hd.1, hnz⟩) hr, formDatum, List.length_cons]
  | external body =>
    have hr : readValue dec (formDatum c pre.length (.external body) ++ rest) 0 mc.typid mc.len =
        (expectedVal (varlenaVal dec) c (.external body) >>= fun v => pure (v, 18)) := by
      rw [hl, ht, hd.1, formDatum, List.cons_append, List.cons_append, readValue_varlena _ _ _ (by simp),
        varlenaOf_ext body rest hd.2]
      rfl
    rw [colStep_bare dec t mc num hnull pre _ hdata _ _ (Or.inr ⟨hl.trans hd.1, by simp [formDatum]⟩) hr, formDatum,
      List.length_cons, List.length_cons, hd.2]
  | cstr p =>
    have hr : readValue dec (formDatum c pre.length (.cstr p) ++ rest) 0 mc.typid mc.len =
        (expectedVal (varlenaVal dec) c (.cstr p) >>= fun v => pure (v, p.length + 1)) := by
      rw [hl, ht, hd.1, formDatum, List.append_assoc, List.singleton_append, readValue_cstr dec p rest _ hd.2.2]
      rfl
    rw [colStep_bare dec t mc num hnull pre _ hdata _ _ (Or.inl (hal.trans hd.2.1)) hr, formDatum, List.length_append]
    rfl
  | long p =>
    have hr : readValue dec ((le 4 ((p.length + 4) * 4) ++ p) ++ rest) 0 mc.typid mc.len =
        (expectedVal (varlenaVal dec) c (.long p) >>= fun v => pure (v, p.length + 4)) := by
      rw [hl, ht, hd.1, List.append_assoc, readValue_varlena _ _ _ (by simp; omega), varlenaOf_long _ p rest rfl hd.2]
      rfl
    rw [colStep_padded dec t mc num hnull c.align hal ha pre _ rest hdata _ _ hr, formDatum, List.length_append,
      List.length_append, le_length, Nat.add_assoc, Nat.add_comm 4]
  | compressed z =>
    have hr : readValue dec ((le 4 ((z.stored.length + 4) * 4 + 2) ++ z.stored) ++ rest) 0 mc.typid mc.len =
        (expectedVal (varlenaVal dec) c (.compressed z) >>= fun v => pure (v, z.stored.length + 4)) := by
      rw [hl, ht, hd.1, List.append_assoc, readValue_varlena _ _ _ (by simp; omega), varlenaOf_comp z rest hd.2.1 hd.2.2]
      rfl
    rw [colStep_padded dec t mc num hnull c.align hal ha pre _ rest hdata _ _ hr, formDatum, List.length_append,
      List.length_append, le_length, Nat.add_assoc, Nat.add_comm 4]

theorem bitmapByte_eq (bits : List Bool) (j : Nat) : bitmapByte bits j = bitsByte bits j := by
  simp only [bitmapByte, bits8, bitsByte, ofBits, List.range, List.range.loop, List.map]; omega

theorem isNull_enc (hdr : TupleHeader) (data : Bytes) (bits : List Bool) (i : Nat) :
    HeapTuple.isNull ⟨hdr, some (encBitmap bits), data⟩ ((i : Int) + 1) = !(bits.getD i false) := by
  unfold HeapTuple.isNull
  simp only []
  rw [if_neg (by omega)]
  have hk : ((i : Int) + 1 - 1).toNat = i := by omega
  simp only [hk]
  unfold encBitmap
  have hr : (List.range ((bits.length + 7) / 8))[i / 8]? =
      if i / 8 < (bits.length + 7) / 8 then some (i / 8) else none := by
    by_cases h : i / 8 < (bits.length + 7) / 8 <;> simp [h]
  rw [List.getElem?_map, hr]
  by_cases hj : i / 8 < (bits.length + 7) / 8
  · simp only [hj, if_true, Option.map_some]
    rw [bitmapByte_eq, u8_toNat _ (bitsByte_lt bits (i / 8)), bitsByte_test bits (i / 8) (i % 8) (Nat.mod_lt _ (by decide))]
    have : 8 * (i / 8) + i % 8 = i := Nat.div_add_mod i 8
    rw [this]
  · simp only [hj, if_false, Option.map_none]
    have : bits.length ≤ i := by omega
    simp [List.getD, List.getElem?_eq_none this]

theorem isNull_nobitmap (hdr : TupleHeader) (data : Bytes) (n : Int) :
    HeapTuple.isNull ⟨hdr, none, data⟩ n = false := rfl

theorem readValue_beyond (dec : Dec) (data : Bytes) (off : Nat) (typid len : Int) (h : data.length ≤ off) :
    readValue dec data off typid len = .ok (.nil, 0) := by
  rw [readValue_eq, if_pos h]

theorem decodeCols_tail (dec : Dec) (t : HeapTuple) (mcols : List Column) (i offset : Nat)
    (h : t.data.length ≤ offset) :
    decodeCols dec t mcols i offset = .ok (mcols.map fun c => (c.name, GoVal.nil)) := by
  induction mcols generalizing i offset with
  | nil => rfl
  | cons col cs ih =>
    have hs : ∀ num, ∃ o, colStep dec t col num offset = .ok (.nil, o) ∧ t.data.length ≤ o := by
      intro num
      rw [colStep_eq]
      split
      · exact ⟨offset, rfl, h⟩
      · have hge := align_ge offset (alignAt col t.data offset)
        rw [readValue_beyond dec t.data _ _ _ (by omega)]
        exact ⟨_, rfl, by simp only; omega⟩
    obtain ⟨o, hs, ho⟩ := hs (if col.num = 0 then (i : Int) + 1 else col.num)
    rw [decodeCols_cons, hs, ok_bind, ih (i + 1) o ho]
    rfl

theorem expectedCols_zero (val : Bytes → Int → M GoVal) (cols : List Col) (vals : List (Option Datum))
    (h : vals.length = cols.length) :
    expectedCols val cols vals 0 = .ok (cols.map fun c => (c.name, GoVal.nil)) := by
  induction cols generalizing vals with
  | nil => cases vals <;> rfl
  | cons c cs ih =>
    cases vals with
    | nil => simp at h
    | cons v vs =>
      simp only [expectedCols]
      rw [ih vs (by simpa using h)]
      cases v <;> rfl

theorem colsMatch_names : ∀ (i : Nat) (mcols : List Column) (cols : List Col), ColsMatch i mcols cols →
    mcols.map (fun c => (c.name, GoVal.nil)) = cols.map (fun c => (c.name, GoVal.nil))
  | _, [], [], _ => rfl
  | i, mc :: ms, c :: cs, h => by
    simp only [List.map_cons]
    rw [h.1.1, colsMatch_names (i + 1) ms cs h.2]
  | _, [], _ :: _, h => h.elim
  | _, _ :: _, [], h => h.elim

/-- the invariant of the column loop: `pre` consumed, `k` stored attributes to come.  The data may go on behind them (`rest`:
attributes the schema does not know) as long as every column of the schema is stored; else it ends there and the columns beyond read as NULL. -/
theorem decodeCols_form (dec : Dec) (t : HeapTuple) :
    ∀ (cols : List Col) (mcols : List Column) (vals : List (Option Datum)) (i k : Nat) (pre rest : Bytes),
      ColsMatch i mcols cols → vals.length = cols.length →
      (∀ p ∈ cols.zip vals, Pow2Align p.1.align ∧ ∀ d, p.2 = some d → d.WF p.1) →
      (∀ j, j < k → j < vals.length → t.isNull (((i + j : Nat) : Int) + 1) = (vals.getD j none).isNone) →
      (rest = [] ∨ cols.length ≤ k) →
      t.data = pre ++ (form (cols.take k) (vals.take k) pre.length ++ rest) →
      decodeCols dec t mcols i pre.length = expectedCols (varlenaVal dec) cols vals k := by
  intro cols
  induction cols with
  | nil =>
    intro mcols vals i k pre rest hm hlen _ _ _ _
    cases mcols with
    | nil => cases vals <;> rfl
    | cons _ _ => exact hm.elim
  | cons c cs ih =>
    intro mcols vals i k pre rest hm hlen hwf hn hrest hdata
    cases mcols with
    | nil => exact hm.elim
    | cons mc ms =>
    cases vals with
    | nil => simp at hlen
    | cons v vs =>
    have hlen' : vs.length = cs.length := by simpa using hlen
    have hwf' : ∀ p ∈ cs.zip vs, Pow2Align p.1.align ∧ ∀ d, p.2 = some d → d.WF p.1 :=
      fun p hp => hwf p (by simp [List.zip_cons_cons, hp])
    have hnames := colsMatch_names i (mc :: ms) (c :: cs) hm
    obtain ⟨⟨hname, htyp, hl, hnum, hal⟩, hms⟩ := hm
    cases k with
    | zero =>
      -- nothing stored any more: the offset is at the end of the data
      obtain rfl : rest = [] := hrest.resolve_right (by simp)
      have hend : t.data.length ≤ pre.length := by rw [hdata]; simp [form]
      rw [decodeCols_tail dec t _ i pre.length hend, expectedCols_zero _ _ _ hlen, hnames]
    | succ k =>
      have hnumv : (if mc.num = 0 then (i : Int) + 1 else mc.num) = (i : Int) + 1 := by
        rcases hnum with h | h <;> simp [h]
      have hn0 := hn 0 (by omega) (by simp)
      have hn' : ∀ j, j < k → j < vs.length → t.isNull (((i + 1 + j : Nat) : Int) + 1) = (vs.getD j none).isNone := by
        intro j hj hjl
        have := hn (j + 1) (by omega) (by simp; omega)
        rw [show i + (j + 1) = i + 1 + j by omega] at this
        simpa using this
      have hrest' : rest = [] ∨ cs.length ≤ k := hrest.imp_right (by simp)
      rw [decodeCols_cons, hnumv]
      cases v with
      | none =>
        have h1 : t.isNull ((i : Int) + 1) = true := by simpa using hn0
        rw [colStep_null h1, ok_bind, ih ms vs (i + 1) k pre rest hms hlen' hwf' hn' hrest' (by rw [hdata]; simp [form])]
        simp only [expectedCols, hname]
        rfl
      | some d =>
        have h1 : t.isNull ((i : Int) + 1) = false := by simpa using hn0
        obtain ⟨hpa, hdw⟩ := hwf (c, some d) (by simp [List.zip_cons_cons])
        have hdata1 : t.data = pre ++ (formDatum c pre.length d ++
            (form (cs.take k) (vs.take k) (pre.length + (formDatum c pre.length d).length) ++ rest)) := by
          rw [hdata]; simp [form]
        rw [colStep_datum dec t mc _ c d hl htyp hal hpa (hdw d rfl) pre _ h1 hdata1]
        have hrec := ih ms vs (i + 1) k (pre ++ formDatum c pre.length d) rest hms hlen' hwf' hn' hrest'
          (by rw [hdata1]; simp [List.append_assoc])
        simp only [List.length_append] at hrec
        simp only [expectedCols, Nat.add_sub_cancel, hname]
        simp only [bind_assoc, pure_bind, hrec]

/-- successive `result[name] = v` over distinct names: one entry per pair, in order -/
theorem toRow_of_nodup (ps : List (Bytes × GoVal)) (h : (ps.map (·.1)).Nodup) : toRow ps = ps := by
  unfold toRow
  simp only [mapInsert, AssocMap.upsert_const]
  exact AssocMap.foldl_upsert_fresh ps [] (fun e _ => e.2) h

end PgVerif.Proofs.Rows
