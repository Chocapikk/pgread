/-
  pg_authid: the byte layout of its 12 columns, and ParsePGAuthID's per-tuple walk on a role formed by PostgreSQL's rules.
-/
import PgVerif.Proofs.RowsTuple
import PgVerif.Proofs.RowsViews
import PgVerif.Proofs.RowWF
namespace PgVerif.Proofs.Rows
open PgVerif PgVerif.Model PgVerif.Spec PgVerif.Proofs

/-- a Boolean column's stored byte -/
def bb (b : Bool) : UInt8 := if b then 1 else 0

def authTailCols : List Col := [⟨strBytes "rolpassword", 25, -1, 4⟩, ⟨strBytes "rolvaliduntil", 1184, 8, 8⟩]

/-- tuple formation for the 12 columns of pg_authid puts rolsuper at 68, rolcanlogin at 72, rolconnlimit at 76
(after one pad byte) and rolpassword at 80: the offsets the tool hard-codes -/
theorem authData (r : Role) (N : Bytes) (hN : N.length = 64) (pwD vuD : Option Datum) :
    form authidCols [some (.fixed (le 4 r.oid)), some (.fixed N), boolDatum r.super, boolDatum r.inherit,
      boolDatum r.createrole, boolDatum r.createdb, boolDatum r.canlogin, boolDatum r.replication,
      boolDatum r.bypassrls, some (.fixed (le 4 r.connlimit)), pwD, vuD] 0
    = le 4 r.oid ++ (N ++ ([bb r.super, bb r.inherit, bb r.createrole, bb r.createdb, bb r.canlogin, bb r.replication,
        bb r.bypassrls, 0] ++ (le 4 r.connlimit ++ form authTailCols [pwD, vuD] 80))) := by
  simp only [authidCols, authTailCols, bcol, boolDatum, form, formDatum, pad, alignUp, zeros, List.length_append, le_length, hN,
    List.length_replicate, List.length_cons, List.length_nil]
  simp [bb]

def roleRow (r : Role) (m : Nat) : RowV := { vals := roleVals r, natts := 12, infomask := m }

/-- `Spec.roleView` with the fields of `AuthInfo` -/
def authView (r : Role) : AuthInfo := ⟨r.oid, r.name, r.password.getD [], r.super, r.canlogin⟩

theorem authView_roleView (r : Role) :
    (authView r).oid = (roleView r).oid ∧ (authView r).roleName = (roleView r).name ∧
    (authView r).password = (roleView r).password ∧ (authView r).rolSuper = (roleView r).super ∧
    (authView r).rolLogin = (roleView r).canlogin :=
  ⟨rfl, rfl, rfl, rfl, rfl⟩

theorem bb_ne (b : Bool) : (bb b != 0) = b := by cases b <;> rfl

def authTail (r : Role) : Bytes :=
  form authTailCols [r.password.map textDatum, r.validUntil.map fun v => .fixed (le 8 v)] 80

theorem role_data (r : Role) (m : Nat) (hdr : TupleHeader) (hl : r.name.length ≤ 64) :
    (rowTuple hdr authidCols (roleRow r m)).data =
      le 4 r.oid ++ ((r.name ++ zeros (64 - r.name.length)) ++ ([bb r.super, bb r.inherit, bb r.createrole, bb r.createdb,
        bb r.canlogin, bb r.replication, bb r.bypassrls, 0] ++ (le 4 r.connlimit ++ authTail r))) := by
  have hN : (r.name ++ zeros (64 - r.name.length)).length = 64 := by
    simp only [List.length_append, zeros_length]; omega
  simp only [rowTuple, roleRow]
  have h1 : List.take 12 authidCols = authidCols := rfl
  have h2 : List.take 12 (roleVals r) = roleVals r := rfl
  rw [h1, h2]
  exact authData r _ hN _ _

theorem authPassword_role (r : Role) (h : r.WF) (m : Nat) (hdr : TupleHeader) :
    authPassword (rowTuple hdr authidCols (roleRow r m)) 80 = .ok (r.password.getD []) := by
  obtain ⟨_, hn1, hn63, hn0, _, hpw, _⟩ := h
  obtain ⟨P, hD, hP⟩ : ∃ P : Bytes, (rowTuple hdr authidCols (roleRow r m)).data = P ++ authTail r ∧ P.length = 80 := by
    refine ⟨?_, ?_, ?_⟩
    rotate_left
    · rw [role_data r m hdr (by omega), ← List.append_assoc, ← List.append_assoc, ← List.append_assoc]
    · simp only [List.length_append, le_length, zeros_length, List.length_cons, List.length_nil]; omega
  have hnull : (rowTuple hdr authidCols (roleRow r m)).isNull 11 = r.password.isNone := by
    rw [show (11 : Int) = ((10 : Nat) : Int) + 1 from rfl,
      rowTuple_isNull hdr authidCols (roleRow r m) 10 (by simp [roleRow]) (by simp [roleRow, roleVals])]
    show (r.password.map textDatum).isNone = _
    cases r.password <;> rfl
  have hlen : (rowTuple hdr authidCols (roleRow r m)).data.length = 80 + (authTail r).length := by
    rw [hD, List.length_append, hP]
  rw [authPassword_eq, hnull, show Model.align 80 4 = 80 by decide, hD, List.drop_left' hP, ← hD]
  cases hp : r.password with
  | none => simp
  | some p =>
    obtain ⟨hp1, hp30⟩ := hpw p hp
    -- the tail starts with the password datum: a 1-byte header, or (no padding at offset 80) a 4-byte header
    obtain ⟨rest, htail⟩ : ∃ rest, authTail r = formDatum ⟨strBytes "rolpassword", 25, -1, 4⟩ 80 (textDatum p) ++ rest :=
      ⟨_, by unfold authTail; rw [hp]; rfl⟩
    have htl : 0 < (authTail r).length := by
      rw [htail, textDatum]; split <;> simp [formDatum] <;> omega
    rw [if_pos ⟨by simp, by omega, by omega⟩, htail, textDatum]
    by_cases hs : p.length ≤ 126
    · rw [if_pos hs, formDatum, List.cons_append, varlenaOf_short p rest hs]
    · rw [if_neg hs, formDatum, show pad 80 4 = [] from rfl, List.nil_append, List.append_assoc,
        varlenaOf_long _ p rest rfl hp30]

theorem roleVals_OK (r : Role) (h : r.WF) : AllOK authidCols (roleVals r) := by
  obtain ⟨_, _, hn63, _, _, hpw, _⟩ := h
  have hname : ((r.name ++ zeros (64 - r.name.length)).length : Int) = 64 := by
    simp only [List.length_append, zeros_length]; omega
  have hbool : ∀ n b, PairOK (bcol n) (boolDatum b) := fun n b => pairOK_fixed _ _ (by simp [bcol]) (by simp [bcol]) (by simp [bcol])
  -- rolpassword: a 1-byte header when it fits, else a 4-byte header; rolvaliduntil: 8 bytes; both nullable
  have hpass := pairOK_map ⟨strBytes "rolpassword", 25, -1, 4⟩ textDatum r.password (by simp) fun p hp => by
    unfold textDatum; split
    · exact ⟨rfl, by assumption⟩
    · exact ⟨rfl, (hpw p hp).2⟩
  have hvalid := pairOK_map ⟨strBytes "rolvaliduntil", 1184, 8, 8⟩ (fun v => Datum.fixed (le 8 v)) r.validUntil (by simp)
    fun v _ => ⟨by simp, by simp⟩
  exact ⟨pairOK_fixed _ _ (by simp) (by simp) (by simp), pairOK_fixed _ _ (by simp) (by simp) hname,
    hbool _ _, hbool _ _, hbool _ _, hbool _ _, hbool _ _, hbool _ _, hbool _ _,
    pairOK_fixed _ _ (by simp) (by simp) (by simp), hpass, hvalid, trivial⟩

theorem roleRow_WF (r : Role) (h : r.WF) (m : Nat) (hm : m < 65536) : (roleRow r m).WF authidCols :=
  catalog_WF authidCols (roleVals r) m (roleVals_OK r h) (by decide) hm

end PgVerif.Proofs.Rows
