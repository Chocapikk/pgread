/-
  ReadDeletedRows / ReadRowsWithDeleted on well-formed files (C09).
-/
import PgVerif.Proofs.RowsFile
import PgVerif.Proofs.RowsTuple
namespace PgVerif.Proofs.Rows
open PgVerif PgVerif.Model PgVerif.Spec PgVerif.Proofs

/-- what ReadDeletedRows must report for a deleted row version stored in the page at `off` -/
def expDeleted (dec : Dec) (cols : List Col) (x : RowVer × Nat) : M (Option DeletedRow) :=
  expRow dec cols x.1.2 >>= fun row => pure (some ⟨x.2, some row, x.1.2.dataLen cols⟩)

theorem deletedStep_formed (dec : Dec) (cols : List Col) (mcols : List Column) (x : RowVer × Nat)
    (hm : ColsMatch 0 mcols cols) (hwf : x.1.2.WF cols) (hne : mcols ≠ []) :
    deletedStep dec mcols (entryOf (formVer cols x.1, x.2)) =
      if deletedBits x.1.2.infomask then expDeleted dec cols x else pure none := by
  have hpos : mcols.length > 0 := List.length_pos_iff.mpr hne
  unfold deletedStep entryOf formVer
  simp only [isDeleted_mtuple, formTupleH_infomask_deleted, hpos, if_true, decodeTuple_formed dec cols mcols x.1.1 x.1.2 hm hwf hne, data_formed]
  by_cases hd : deletedBits x.1.2.infomask = true
  · simp only [hd, if_true, expDeleted]
    cases expRow dec cols x.1.2 <;> rfl
  · simp only [hd]; rfl

/-- decode every stored version, select afterwards: every element with its value `E x` -/
def decodeAll {α β} (E : α → M β) (xs : List α) : M (List (α × β)) :=
  collectM (fun x => E x >>= fun b => pure (some (x, b))) xs

theorem collectM_filter_decodeAll {α β γ} (E : α → M β) (g : α → β → γ) (p : α → Bool) (xs : List α) (all : List (α × β))
    (h : decodeAll E xs = .ok all) :
    collectM (fun x => E x >>= fun b => pure (some (g x b))) (xs.filter p) =
      .ok ((all.filter fun q => p q.1).map fun q => g q.1 q.2) := by
  refine collectM_result_select _ _ p (fun q => p q.1) (fun q => g q.1 q.2) xs all h ?_ ?_
  · intro x _ y hy
    obtain ⟨b, _, hy⟩ := bind_eq_ok hy
    cases Except.ok.inj hy
    rfl
  · intro x _ _ y hy
    obtain ⟨b, hb, hy⟩ := bind_eq_ok hy
    cases Except.ok.inj hy
    rw [hb]; rfl

theorem decodeAll_fst {α β} (E : α → M β) (xs : List α) (all : List (α × β)) (h : decodeAll E xs = .ok all) :
    all.map (·.1) = xs := by
  rw [collectM_filterMap_spec _ (·.1) some xs all h, List.filterMap_some]
  intro x _ y hy
  obtain ⟨b, _, hy⟩ := bind_eq_ok hy
  cases Except.ok.inj hy
  rfl

theorem collectM_decodeAll {α β γ} (E : α → M β) (g : α → β → γ) (xs : List α) :
    collectM (fun x => E x >>= fun b => pure (some (g x b))) xs =
      (decodeAll E xs >>= fun all => pure (all.map fun q => g q.1 q.2)) := by
  rw [decodeAll, ← collectM_step_map]
  exact Isolation.collectM_congr _ _ _ fun x _ => by cases E x <;> rfl

theorem decodeAll_of_collect {α β} (E : α → M β) (xs : List α) (all : List β)
    (h : collectM (fun x => E x >>= fun b => pure (some b)) xs = .ok all) : decodeAll E xs = .ok (xs.zip all) := by
  rw [collectM_decodeAll E (fun _ b => b)] at h
  obtain ⟨ps, hd, rfl⟩ := map_eq_ok h
  rw [hd, ← decodeAll_fst E xs ps hd, ← List.unzip_snd, ← List.unzip_fst, List.zip_unzip]

theorem withMask_WF (cols : List Col) (r : RowV) (m : Nat) (h : r.WF cols) (hm : m < 65536) : (r.withMask m).WF cols := by
  obtain ⟨h1, h2, h3, _, h5⟩ := h
  exact ⟨h1, h2, h3, hm, h5⟩

/-- one stored row as two files hold it: `before` with header fields `hdrB` and t_infomask `maskB`, `after` with
`hdrA`, `maskA`, in the page at byte offset `offA` -/
structure Twice where
  row : RowV
  hdrB : HdrFields
  maskB : Nat
  hdrA : HdrFields
  maskA : Nat
  offA : Nat

def Twice.verB (x : Twice) : RowVer := (x.hdrB, x.row.withMask x.maskB)
def Twice.verA (x : Twice) : RowVer × Nat := ((x.hdrA, x.row.withMask x.maskA), x.offA)

theorem fileEntries_of_tuples {α} (bs : List Block) (vers : List α) (f : α → Tuple) (h : fileTuples bs = vers.map f) :
    ∃ offs : List Nat, offs.length = vers.length ∧ fileEntries bs = (vers.zip offs).map fun x => (f x.1, x.2) := by
  refine ⟨(fileEntries bs).map (·.2), ?_, ?_⟩
  · have := congrArg List.length (fileEntries_fst bs)
    rw [h] at this
    simpa using this
  · have hz := List.zip_unzip (fileEntries bs)
    rw [List.unzip_fst, List.unzip_snd, fileEntries_fst, h] at hz
    calc fileEntries bs = (vers.map f).zip ((fileEntries bs).map (·.2)) := hz.symm
      _ = (vers.zip ((fileEntries bs).map (·.2))).map fun x => (f x.1, x.2) := by
        rw [List.zip_map_left]
        rfl

/-- the decoded rows of the recovered deleted rows do not mention the page offsets -/
theorem deleted_rows_of_zip (dec : Dec) (cols : List Col) (vers : List RowVer) (offs : List Nat) (hl : offs.length = vers.length) :
    (collectM (expDeleted dec cols) ((vers.zip offs).filter fun x => deletedBits x.1.2.infomask) >>= fun ds =>
        pure (ds.map fun d => d.data.getD [])) =
      collectM (fun v : RowVer => expRow dec cols v.2 >>= fun row => pure (some row)) (vers.filter fun v => deletedBits v.2.infomask) := by
  have hv : ((vers.zip offs).filter fun x => deletedBits x.1.2.infomask).map (·.1) = vers.filter fun v => deletedBits v.2.infomask :=
    (List.filter_map (f := Prod.fst) (p := fun v : RowVer => deletedBits v.2.infomask) (l := vers.zip offs)).symm.trans
      (by rw [List.map_fst_zip (by omega)])
  rw [← collectM_step_map, ← hv, collectM_map]
  exact Isolation.collectM_congr _ _ _ fun x _ => by unfold expDeleted; cases expRow dec cols x.1.2 <;> rfl

theorem deleted_nocols_entries (dec : Dec) (es : List (Tuple × Nat)) :
    collectM (deletedStep dec []) (es.map entryOf) =
      .ok ((es.filter fun p => deletedBits p.1.infomask).map fun p => ⟨p.2, none, p.1.data.length⟩) := by
  rw [collectM_map, collectM_eq_filterMap _ (fun p => if deletedBits p.1.infomask then some ⟨p.2, none, p.1.data.length⟩ else none)]
  · exact congrArg _ (filterMap_ite (fun p : Tuple × Nat => deletedBits p.1.infomask) _ es)
  · intro e _
    simp only [deletedStep, entryOf, isDeleted_mtuple]
    cases deletedBits e.1.infomask <;> rfl

theorem deleted_nocols (dec : Dec) (es : List (Tuple × Nat)) :
    (collectM (deletedStep dec []) (es.map entryOf) >>= fun ds => pure (ds.map fun d => d.data.getD [])) =
      .ok ((((es.map (·.1)).filter fun t => deletedBits t.infomask).map fun _ => []) : List Row) := by
  rw [deleted_nocols_entries, List.filter_map]
  simp only [ok_bind, pure_eq_ok, List.map_map]
  rfl

end PgVerif.Proofs.Rows
