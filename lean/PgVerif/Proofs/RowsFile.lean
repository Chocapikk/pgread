/-
  What the row readers see when they scan a well-formed heap file, and a reader collected over that scan.
-/
import PgVerif.Proofs.HeapFile
import PgVerif.Proofs.CollectM
namespace PgVerif.Proofs.Rows
open PgVerif PgVerif.Model PgVerif.Spec PgVerif.Proofs

def fileTuples (bs : List Block) : List Tuple := bs.flatMap Block.tuples

theorem fileEntriesFrom_fst (off : Nat) (bs : List Block) : (fileEntriesFrom off bs).map (·.1) = fileTuples bs := by
  induction bs generalizing off with
  | nil => rfl
  | cons b bs ih =>
    simp only [fileEntriesFrom, List.map_append, List.map_map, ih, fileTuples, List.flatMap_cons]
    congr 1
    simp [Function.comp_def]

theorem fileEntries_fst (bs : List Block) : (fileEntries bs).map (·.1) = fileTuples bs := fileEntriesFrom_fst 0 bs

theorem scan_tuples (bs : List Block) (tail : Bytes) (vis : Bool) (hb : ∀ b ∈ bs, b.WF) (ht : tail.length < 8192) :
    (scan vis (encHeap bs tail)).map (·.tuple) = ((fileTuples bs).filter fun t => !vis || liveBits t.infomask).map mtuple := by
  rw [scan_entries bs tail vis hb ht, ← fileEntries_fst, List.filter_map, List.map_map, List.map_map]
  rfl

/-- the common statement of the file theorems of C03, C09 and C14: a reader collected over the scan of a file that stores `xs.map stored` -/
theorem collect_scan_entries {α γ} (g : TupleEntry → M (Option γ)) (E : α → M (Option γ)) (stored : α → Tuple × Nat)
    (bs : List Block) (tail : Bytes) (vis : Bool) (xs : List α) (hb : ∀ b ∈ bs, b.WF) (ht : tail.length < 8192)
    (hxs : fileEntries bs = xs.map stored) (hg : ∀ x ∈ xs, g (entryOf (stored x)) = E x) :
    collectM g (scan vis (encHeap bs tail)) = collectM E (xs.filter fun x => !vis || liveBits (stored x).1.infomask) := by
  rw [scan_entries bs tail vis hb ht, hxs, List.filter_map, List.map_map, Proofs.collectM_map]
  exact Isolation.collectM_congr _ _ _ fun x hx => hg x (List.mem_filter.mp hx).1

theorem collect_scan_tuples {α γ} (f : HeapTuple → M (Option γ)) (E : α → M (Option γ)) (stored : α → Tuple)
    (bs : List Block) (tail : Bytes) (vis : Bool) (xs : List α) (hb : ∀ b ∈ bs, b.WF) (ht : tail.length < 8192)
    (hxs : fileTuples bs = xs.map stored) (hf : ∀ x ∈ xs, f (mtuple (stored x)) = E x) :
    collectM (fun e => f e.tuple) (scan vis (encHeap bs tail)) =
      collectM E (xs.filter fun x => !vis || liveBits (stored x).infomask) := by
  rw [← Proofs.collectM_map f (fun e : TupleEntry => e.tuple), scan_tuples bs tail vis hb ht, hxs, List.filter_map, List.map_map,
    Proofs.collectM_map]
  exact Isolation.collectM_congr _ _ _ fun x hx => hf x (List.mem_filter.mp hx).1

end PgVerif.Proofs.Rows
