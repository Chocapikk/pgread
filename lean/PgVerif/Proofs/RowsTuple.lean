/-
  The tuple value the scanner (`mtuple`, Proofs/HeapEnc.lean) produces for a row formed by `Spec.formTupleH`, and DecodeTuple on it.
-/
import PgVerif.Proofs.Rows
import PgVerif.Proofs.HeapEnc
namespace PgVerif.Proofs.Rows
open PgVerif PgVerif.Model PgVerif.Spec

/-- what the scanner hands to DecodeTuple for a formed row: a bitmap only if a stored attribute is NULL; any header -/
def rowTuple (hdr : TupleHeader) (cols : List Col) (r : RowV) : HeapTuple :=
  ⟨hdr, if r.hasNull then some (encBitmap r.present) else none, form (cols.take r.natts) (r.vals.take r.natts) 0⟩

theorem present_getD (r : RowV) (j : Nat) (hj : j < r.natts) (hl : j < r.vals.length) :
    r.present.getD j false = (r.vals.getD j none).isSome := by
  unfold RowV.present
  simp [List.getD, List.getElem?_map, hj, List.getElem?_eq_getElem hl]

/-- heap_form_tuple's three flag bits (HASNULL, HASVARWIDTH, HASEXTERNAL) as binary digits -/
theorem formFlags_eq (a b c : Bool) :
    ((if a then 1 else 0) + (if b then 2 else 0) + (if c then 4 else 0) : Nat) = ofBits [a, b, c] := by
  cases a <;> cases b <;> cases c <;> rfl

theorem formFlags_lt (a b c : Bool) : ((if a then 1 else 0) + (if b then 2 else 0) + (if c then 4 else 0) : Nat) < 8 := by
  rw [formFlags_eq]; exact ofBits_lt [a, b, c]

theorem testBit_flags (m f k : Nat) (hf : f < 8) : (m / 8 * 8 + f).testBit k = if k < 3 then f.testBit k else m.testBit k := by
  have := Nat.testBit_two_pow_mul_add (m / 8) (show f < 2 ^ 3 from hf) k
  rw [Nat.mul_comm] at this
  rw [show m / 8 * 8 = m / 8 * 2 ^ 3 from rfl, this]
  split
  · rfl
  · rw [show m / 8 = m / 2 ^ 3 from rfl, Nat.testBit_div_two_pow]; congr 1; omega

theorem formTupleH_hasNull (h : HdrFields) (cols : List Col) (r : RowV) : (formTupleH h cols r).hasNull = r.hasNull := by
  show (r.infomask / 8 * 8 + _).testBit 0 = _
  rw [testBit_flags _ _ 0 (formFlags_lt _ _ _), if_pos (by decide), formFlags_eq, ofBits_testBit]
  rfl

theorem formTuple_hasNull (cols : List Col) (r : RowV) : (formTuple cols r).hasNull = r.hasNull :=
  formTupleH_hasNull {} cols r

theorem natts_flags2 (n f : Nat) (hn : n ≤ 1600) : (n + 2048 * f) % 2048 = n := by omega

theorem rowTuple_isNull (hdr : TupleHeader) (cols : List Col) (r : RowV) (j : Nat) (hj : j < r.natts) (hl : j < r.vals.length) :
    (rowTuple hdr cols r).isNull ((j : Int) + 1) = (r.vals.getD j none).isNone := by
  have hp := present_getD r j hj hl
  unfold rowTuple
  by_cases hn : r.hasNull = true
  · rw [if_pos hn, isNull_enc, hp]; cases r.vals.getD j none <;> rfl
  · -- no bitmap: no stored attribute is NULL
    rw [if_neg hn, isNull_nobitmap]
    have hjl : j < r.present.length := by simp [RowV.present]; omega
    have hall : r.present.any (!·) = false := by simpa [RowV.hasNull] using hn
    have := List.any_eq_false.mp hall _ (List.getElem_mem hjl)
    rw [List.getD, List.getElem?_eq_getElem hjl, Option.getD_some] at hp
    rw [hp] at this
    cases h : r.vals.getD j none with
    | none => rw [h] at this; simp at this
    | some _ => rfl

theorem encBitmap_present_length (r : RowV) (hn : r.natts ≤ r.vals.length) : (encBitmap r.present).length = (r.natts + 7) / 8 := by
  simp only [encBitmap, RowV.present, List.length_map, List.length_range, List.length_take]; omega

/-- behind the 23 fixed header bytes: the null bitmap (if any), then zeros up to MAXALIGN -/
theorem formTupleH_mid (h : HdrFields) (cols : List Col) (r : RowV) :
    (formTupleH h cols r).mid = (if r.hasNull then encBitmap r.present else []) ++
      zeros ((23 + (if r.hasNull then encBitmap r.present else []).length + 7) / 8 * 8 - 23 -
        (if r.hasNull then encBitmap r.present else []).length) := rfl

theorem formTupleH_mid_length (h : HdrFields) (cols : List Col) (r : RowV) (hn : r.natts ≤ r.vals.length) :
    (formTupleH h cols r).mid.length = (23 + (if r.hasNull then (r.natts + 7) / 8 else 0) + 7) / 8 * 8 - 23 := by
  simp only [formTupleH, List.length_append, zeros_length]
  cases r.hasNull
  · simp
  · simp only [if_true, encBitmap_present_length r hn]; omega

theorem formTupleH_WF (h : HdrFields) (hh : h.WF) (cols : List Col) (r : RowV) (hwf : r.WF cols) : (formTupleH h cols r).WF := by
  obtain ⟨hlen, hnat, h1600, hmask, _⟩ := hwf
  have hmid := formTupleH_mid_length h cols r (by omega)
  have hfl := formFlags_lt r.hasNull ((r.vals.take r.natts).any isVarwidth) ((r.vals.take r.natts).any isExternal)
  have hf2 := hh.2
  refine ⟨hh.1, ?_, ?_, ?_, ?_⟩
  · show r.natts + 2048 * h.flags2 < 65536
    omega
  · show r.infomask / 8 * 8 + _ < 65536
    omega
  · rw [Tuple.hoff, hmid]; split <;> omega
  · intro hn
    rw [formTupleH_hasNull] at hn
    rw [hmid, if_pos hn]
    show ((r.natts + 2048 * h.flags2) % 2048 + 7) / 8 ≤ _
    rw [natts_flags2 _ _ h1600]; omega

/-- the bits of t_infomask from HEAP_HASOID_OLD (0x0008) up -/
theorem formTupleH_testBit (h : HdrFields) (cols : List Col) (r : RowV) (k : Nat) (hk : 3 ≤ k) :
    (formTupleH h cols r).infomask.testBit k = r.infomask.testBit k := by
  show (r.infomask / 8 * 8 + _).testBit k = _
  rw [testBit_flags _ _ k (formFlags_lt _ _ _), if_neg (by omega)]

theorem formTupleH_infomask_live (h : HdrFields) (cols : List Col) (r : RowV) :
    liveBits (formTupleH h cols r).infomask = liveBits r.infomask := by
  simp only [liveBits, formTupleH_testBit h cols r _ (by omega : 3 ≤ 8), formTupleH_testBit h cols r _ (by omega : 3 ≤ 10),
    formTupleH_testBit h cols r _ (by omega : 3 ≤ 11)]

theorem formTupleH_infomask_deleted (h : HdrFields) (cols : List Col) (r : RowV) :
    deletedBits (formTupleH h cols r).infomask = deletedBits r.infomask := by
  simp only [deletedBits, formTupleH_testBit h cols r _ (by omega : 3 ≤ 10), formTupleH_testBit h cols r _ (by omega : 3 ≤ 11)]

/-- the left side recurs on the right: a `rw` rule, not a `simp` rule -/
theorem mtuple_formTupleH (h : HdrFields) (cols : List Col) (r : RowV) (hwf : r.WF cols) :
    Proofs.mtuple (formTupleH h cols r) = rowTuple (Proofs.mtuple (formTupleH h cols r)).header cols r := by
  obtain ⟨hlen, hnat, h1600, _⟩ := hwf
  have hbl := encBitmap_present_length r (by omega)
  unfold Proofs.mtuple rowTuple
  rw [formTupleH_hasNull, formTupleH_mid]
  congr 1
  cases r.hasNull
  · rfl
  · show some (List.take (((r.natts + 2048 * h.flags2) % 2048 + 7) / 8) (encBitmap r.present ++ zeros _)) = _
    rw [natts_flags2 _ _ h1600, ← hbl, List.take_left' rfl]
    rfl

theorem decodeCols_rowTuple (dec : Dec) (cols : List Col) (mcols : List Column) (r : RowV) (hdr : TupleHeader)
    (hm : ColsMatch 0 mcols cols) (hwf : r.WF cols) :
    decodeCols dec (rowTuple hdr cols r) mcols 0 0 = expectedCols (varlenaVal dec) cols r.vals r.natts := by
  obtain ⟨hlen, hnat, _, _, hall⟩ := hwf
  -- `RowV.WF` spells the four alignments out; that is `Pow2Align` unfolded
  have := decodeCols_form dec (rowTuple hdr cols r) cols mcols r.vals 0 r.natts [] [] hm hlen hall
    (fun j hj hl => by rw [Nat.zero_add]; exact rowTuple_isNull hdr cols r j hj hl) (Or.inl rfl) (by simp [rowTuple])
  simpa using this

theorem decodeTuple_rowTuple (dec : Dec) (cols : List Col) (mcols : List Column) (r : RowV) (hdr : TupleHeader)
    (hm : ColsMatch 0 mcols cols) (hwf : r.WF cols) (hne : mcols ≠ []) :
    decodeTuple dec (rowTuple hdr cols r) mcols =
      (expectedCols (varlenaVal dec) cols r.vals r.natts >>= fun ps => pure (some (toRow ps))) := by
  rw [decodeTuple_of_ne _ _ _ hne, decodeCols_rowTuple dec cols mcols r hdr hm hwf]

/-- the row a reader must report for a stored row, as the Go map: a function of schema, values and stored attribute count only -/
def expRow (dec : Dec) (cols : List Col) (r : RowV) : M Row :=
  expectedCols (varlenaVal dec) cols r.vals r.natts >>= fun ps => pure (toRow ps)

theorem expRow_withMask (dec : Dec) (cols : List Col) (r : RowV) (m : Nat) : expRow dec cols (r.withMask m) = expRow dec cols r := rfl

/-- the two spellings of "the expected row, as DecodeTuple's answer" -/
theorem expRow_some (dec : Dec) (cols : List Col) (r : RowV) :
    (expRow dec cols r >>= fun row => pure (some row)) =
      (expectedCols (varlenaVal dec) cols r.vals r.natts >>= fun ps => pure (some (toRow ps))) := by
  unfold expRow
  cases expectedCols (varlenaVal dec) cols r.vals r.natts <;> rfl

theorem decodeTuple_formed (dec : Dec) (cols : List Col) (mcols : List Column) (h : HdrFields) (r : RowV)
    (hm : ColsMatch 0 mcols cols) (hwf : r.WF cols) (hne : mcols ≠ []) :
    decodeTuple dec (mtuple (formTupleH h cols r)) mcols = (expRow dec cols r >>= fun row => pure (some row)) := by
  rw [mtuple_formTupleH h cols r hwf, decodeTuple_of_ne _ _ _ hne, decodeCols_rowTuple dec cols mcols r _ hm hwf, expRow_some]

theorem data_formed (h : HdrFields) (cols : List Col) (r : RowV) : (mtuple (formTupleH h cols r)).data.length = r.dataLen cols := rfl

end PgVerif.Proofs.Rows
