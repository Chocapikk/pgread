/-
  The row readers of heap.go, deleted.go and passwords.go on arbitrary bytes: each is its per-tuple step collected over the heap
  area's `scan`, so only the scalar decoder can fault.
-/
import PgVerif.Proofs.Rows
import PgVerif.Proofs.HeapScan
import PgVerif.Proofs.CollectM
namespace PgVerif.Proofs.Rows
open PgVerif PgVerif.Model

theorem readRows_eq (dec : Dec) (d : Bytes) (cols : List Column) (vis : Bool) :
    readRows dec d cols vis = collectM (fun e => decodeTuple dec e.tuple cols) (scan vis d) := by
  rw [readRows, readTuples_eq]; rfl

theorem readDeletedRows_eq (dec : Dec) (d : Bytes) (cols : List Column) :
    readDeletedRows dec d cols = collectM (deletedStep dec cols) (scan false d) := by
  rw [readDeletedRows, readTuples_eq]; rfl

theorem readRowsWithDeleted_eq (dec : Dec) (d : Bytes) (cols : List Column) :
    readRowsWithDeleted dec d cols = (decodedEntries dec cols (scan false d) >>= fun rs =>
      pure ((rs.filter fun p => p.1.isVisible).map (·.2), (rs.filter fun p => !p.1.isVisible && p.1.isDeleted).map (·.2))) := by
  rw [readRowsWithDeleted, readTuples_eq]; rfl

theorem parsePGAuthID_eq (d : Bytes) : parsePGAuthID d = collectM (fun e => authOne e.tuple) (scan false d) := by
  rw [parsePGAuthID, readTuples_eq]; rfl

theorem not_visible_of_deleted (t : HeapTuple) : (!t.isVisible && t.isDeleted) = t.isDeleted := by
  unfold HeapTuple.isVisible HeapTuple.isDeleted
  cases t.header.xminCommitted <;> cases t.header.xmaxInvalid <;> cases t.header.xmaxCommitted <;> rfl

theorem decodeCols_header (dec : Dec) (hdr hdr' : TupleHeader) (bm : Option Bytes) (data : Bytes)
    (cols : List Column) (i off : Nat) :
    decodeCols dec ⟨hdr', bm, data⟩ cols i off = decodeCols dec ⟨hdr, bm, data⟩ cols i off := by
  induction cols generalizing i off with
  | nil => rfl
  | cons c cs ih => rw [decodeCols_cons, decodeCols_cons]; simp only [ih]; rfl

theorem decodeTuple_some (dec : Dec) (t : HeapTuple) (cols : List Column) (hne : cols ≠ []) (r : Option Row)
    (h : decodeTuple dec t cols = .ok r) : r.isSome = true := by
  rw [decodeTuple_of_ne dec t cols hne] at h
  obtain ⟨ps, _, h⟩ := bind_eq_ok h
  obtain rfl := Except.ok.inj h
  rfl

/-- every view that decodes a filtered sub-list of the tuples is the same filter of the decoded list -/
theorem collect_filter (dec : Dec) (cols : List Column) (p : HeapTuple → Bool) (es : List TupleEntry)
    (rs : List (HeapTuple × Row)) (h : decodedEntries dec cols es = .ok rs) :
    collectM (fun e => decodeTuple dec e.tuple cols) (es.filter fun e => p e.tuple)
      = .ok ((rs.filter fun x => p x.1).map (·.2)) := by
  refine collectM_result_select _ _ (fun e : TupleEntry => p e.tuple) (fun x => p x.1) (·.2) es rs h ?_ ?_
  · intro e _ y hy
    obtain ⟨r, _, hy⟩ := bind_eq_ok hy
    cases r <;> cases Except.ok.inj hy
    rfl
  · intro e _ _ y hy
    obtain ⟨r, hr, hy⟩ := bind_eq_ok hy
    cases Except.ok.inj hy
    rw [hr]; cases r <;> rfl

theorem collect_deleted (dec : Dec) (cols : List Column) (hne : cols ≠ []) (es : List TupleEntry)
    (rs : List (HeapTuple × Row)) (h : decodedEntries dec cols es = .ok rs) :
    ∃ ds, collectM (deletedStep dec cols) es = .ok ds ∧
      ds.filterMap (·.data) = (rs.filter fun x => x.1.isDeleted).map (·.2) ∧
      ds.length = (es.filter fun e => e.tuple.isDeleted).length := by
  have hpos : cols.length > 0 := List.length_pos_iff.mpr hne
  unfold decodedEntries at h
  induction es generalizing rs with
  | nil => cases h; exact ⟨[], rfl, rfl, rfl⟩
  | cons e es ih =>
    obtain ⟨r', rest, hd', hr, hrs⟩ := collectM_cons_ok _ e es rs h
    obtain ⟨r, hd, hr'⟩ := bind_eq_ok hd'
    cases Except.ok.inj hr'
    have hsome := decodeTuple_some dec e.tuple cols hne r hd
    obtain ⟨ds, hds, hdata, hlen⟩ := ih rest hr
    subst hrs
    cases r with
    | none => simp at hsome
    | some row =>
      by_cases hp : e.tuple.isDeleted = true
      · refine ⟨⟨e.pageOffset, some row, e.tuple.data.length⟩ :: ds, ?_, ?_, ?_⟩
        · simp only [collectM, deletedStep, hp, if_true, hpos, hd, ok_bind, pure_eq_ok, hds]
        · simp [hp, hdata]
        · simp [hp, hlen]
      · refine ⟨ds, ?_, ?_, ?_⟩
        · simp only [collectM, deletedStep, hp, ok_bind, pure_eq_ok, hds]; rfl
        · simp [hp, hdata]
        · simp [hp, hlen]

theorem authPassword_eq (t : HeapTuple) (off : Nat) :
    authPassword t off = .ok (if (!t.isNull 11) = true ∧ off < t.data.length ∧ Model.align off 4 < t.data.length
      then (varlenaOf (t.data.drop (Model.align off 4))).1.getD [] else []) := by
  unfold authPassword
  by_cases h1 : (!t.isNull 11) = true ∧ off < t.data.length
  · by_cases h2 : Model.align off 4 < t.data.length
    · rw [if_pos h1, if_pos h2, if_pos ⟨h1.1, h1.2, h2⟩, sliceFrom_ok _ _ (Nat.le_of_lt h2), ok_bind, readVarlena_eq]; rfl
    · rw [if_pos h1, if_neg h2, if_neg fun h => h2 h.2.2]; rfl
  · rw [if_neg h1, if_neg fun h => h1 ⟨h.1, h.2.1⟩]; rfl

/-- ParsePGAuthID's walk: with 70 data bytes every guard up to offset 72 is implied, the one at 72 decides between 73 and 72,
which both lead to 80; a missing byte 72 reads as "no login" either way -/
theorem authOne_eq (t : HeapTuple) (h : 70 ≤ t.data.length) :
    authOne t = authPassword t 80 >>= fun pw =>
      if (cstring (t.data.drop 4) 64).length = 0 then pure none
      else pure (some ⟨rd 4 t.data, cstring (t.data.drop 4) 64, pw, t.data[68]?.getD 0 != 0, t.data[72]?.getD 0 != 0⟩) := by
  unfold authOne
  rw [if_neg (by omega), if_pos (by omega), uN_ok 4 t.data 0 (by omega)]
  simp only [ok_bind]
  rw [if_pos (by omega), sliceFrom_ok _ _ (by omega)]
  simp only [ok_bind]
  rw [if_pos (by omega), idx_getD _ _ (by omega)]
  simp only [ok_bind, List.drop_zero]
  by_cases h73 : 72 + 1 ≤ t.data.length
  · rw [if_pos h73, idx_getD _ _ (by omega)]
    simp only [ok_bind, if_pos h73]
    rfl
  · rw [if_neg h73, List.getElem?_eq_none (l := t.data) (i := 72) (by omega)]
    simp only [pure_eq_ok, ok_bind, if_neg h73]
    rfl

theorem authOne_short (t : HeapTuple) (h : t.data.length < 70) : authOne t = .ok none := by
  unfold authOne; rw [if_pos h]; rfl

theorem authOne_total (t : HeapTuple) : ∃ r, authOne t = .ok r := by
  by_cases h : t.data.length < 70
  · exact ⟨_, authOne_short t h⟩
  · rw [authOne_eq t (by omega), authPassword_eq, ok_bind]; split <;> exact ⟨_, rfl⟩

end PgVerif.Proofs.Rows
