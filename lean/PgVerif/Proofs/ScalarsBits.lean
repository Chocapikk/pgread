/-
  Round-trip lemmas for bit strings and inet / cidr.
-/
import PgVerif.Proofs.ScalarsRT
namespace PgVerif.Proofs.ScalarsRT
open PgVerif PgVerif.Model.Scalars PgVerif.Spec.Scalars PgVerif.Txt PgVerif.Proofs.Scalars

/-- decodeBitString's test `b & (1 << (7 - r)) != 0` on a packed byte gives bit `r` back -/
theorem byteOfBits_test (bs : List Bool) (r : Nat) (hr : r < 8) :
    ((byteOfBits bs).toNat &&& (1 <<< (7 - r)) != 0) = bs.getD r false := by
  -- the byte is the numeral of its eight bits, most significant first: reversed, `ofBits_testBit` applies
  have hfold : (List.range 8).foldl (fun acc k => 2 * acc + (if bs.getD k false then 1 else 0)) 0
      = (((List.range 8).map (bs.getD · false)).reverse).foldr (fun (b : Bool) (acc : Nat) => 2 * acc + (if b then 1 else 0)) 0 := by
    rw [List.foldr_reverse, List.foldl_map]
  rw [Nat.one_shiftLeft, land_pow_ne_zero, byteOfBits, hfold, UInt8.toNat_ofNat', Nat.testBit_mod_two_pow, foldr_eq_ofBits, ofBits_testBit]
  have : r = 0 ∨ r = 1 ∨ r = 2 ∨ r = 3 ∨ r = 4 ∨ r = 5 ∨ r = 6 ∨ r = 7 := by omega
  rcases this with rfl | rfl | rfl | rfl | rfl | rfl | rfl | rfl <;> rfl

theorem packBitsN_get (n : Nat) (bs : List Bool) (q : Nat) (hq : q < n) :
    (packBitsN n bs)[q]? = some (byteOfBits (bs.drop (8 * q))) := by
  induction n generalizing bs q with
  | zero => omega
  | succ n ih =>
    cases q with
    | zero => simp [packBitsN]
    | succ q =>
      simp only [packBitsN, List.getElem?_cons_succ]
      rw [ih (bs.drop 8) q (by omega), List.drop_drop]
      congr 3; omega

theorem packBitsN_length (n : Nat) (bs : List Bool) : (packBitsN n bs).length = n := by
  induction n generalizing bs with
  | zero => rfl
  | succ n ih => simp [packBitsN, ih]

theorem bitChars_enc (pre : Bytes) (hp : pre.length = 4) (bits : List Bool) (n i : Nat) (h : i + n = bits.length) :
    bitChars (pre ++ packBits bits) n i = (bits.drop i).map fun b => if b then 49 else 48 := by
  induction n generalizing i with
  | zero =>
    have : bits.drop i = [] := List.drop_eq_nil_of_le (by omega)
    simp [bitChars, this]
  | succ n ih =>
    have hi : i < bits.length := by omega
    have hg : (pre ++ packBits bits)[4 + i / 8]? = some (byteOfBits (bits.drop (8 * (i / 8)))) := by
      rw [List.getElem?_append_right (by omega), show 4 + i / 8 - pre.length = i / 8 by omega]
      exact packBitsN_get _ _ _ (by omega)
    have hb : (bits.drop (8 * (i / 8))).getD (i % 8) false = bits[i] := by
      rw [List.getD_eq_getElem?_getD, List.getElem?_drop, show 8 * (i / 8) + i % 8 = i by omega, List.getElem?_eq_getElem hi]; rfl
    rw [List.drop_eq_getElem_cons hi, List.map_cons, bitChars, ih (i + 1) (by omega), hg]
    simp only [byteOfBits_test _ (i % 8) (Nat.mod_lt _ (by decide)), hb]

theorem packBits_length (bits : List Bool) : (packBits bits).length = (bits.length + 7) / 8 :=
  packBitsN_length _ _

theorem decodeBitString_enc (vb : Bool) (bits : List Bool) (hl : bits.length < 2 ^ 31) :
    decodeBitString (le 4 bits.length ++ packBits bits) = .ok (view (.bit vb bits)) := by
  -- the clamp to the bits available does not bite: the packed bytes hold at least `bits.length` bits
  have hc : bitCount (le 4 bits.length ++ packBits bits) = bits.length := by
    rw [bitCount, if_neg (by simp), sAt_natCast (at_zero _ _) (by simpa using hl), List.length_append, le_length,
      packBits_length]
    omega
  rw [decodeBitString_eq, hc, bitChars_enc _ (by simp) bits bits.length 0 (by omega)]
  rfl

theorem decodeInet_enc (cidr v6 : Bool) (addr : Bytes) (bits : Nat) (h : (Val.inet cidr v6 addr bits).WF) :
    decodeInet (enc (.inet cidr v6 addr bits)) = .ok (view (.inet cidr v6 addr bits)) := by
  cases v6
  · have h' : addr.length = 4 ∧ bits ≤ 32 := by simpa using show (_ && _) = true from h
    match addr, h'.1 with
    | [x0, x1, x2, x3], _ =>
      have ev : ipv4Text [x0, x1, x2, x3] = fmtIPv4 x0 x1 x2 x3 := by
        simp [ipv4Text, fmtIPv4, joinBytes, List.append_assoc]
      show decodeInet [2, UInt8.ofNat bits, x0, x1, x2, x3] = _
      rw [decodeInet_v4, u8_bne bits 32 (by omega), u8_toNat bits (by omega)]
      show _ = Except.ok (GoVal.str (if (bits != 32) = true then ipv4Text [x0, x1, x2, x3] ++ [47] ++ decNat bits else ipv4Text [x0, x1, x2, x3]))
      rw [ev]; rfl
  · have h' : addr.length = 16 ∧ bits ≤ 128 := by simpa using show (_ && _) = true from h
    show decodeInet ([3, UInt8.ofNat bits] ++ addr) = _
    rw [decodeInet_v6 _ _ h'.1, u8_bne bits 128 (by omega), u8_toNat bits (by omega)]
    rfl

end PgVerif.Proofs.ScalarsRT
