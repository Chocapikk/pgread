/-
  The model's day number → civil date (what Go's time package prints) inverts the Spec's civil date → day number (PostgreSQL's date
  value) on every valid date of every year ≥ 1.
-/
import PgVerif.Model.Scalars
import PgVerif.Spec.Scalars
namespace PgVerif.Proofs.ScalarsCal
open PgVerif PgVerif.Model.Scalars PgVerif.Spec.Scalars

/- The year is handled through the digits of year − 1 = 400a + 100b + 4c + e (b ≤ 3, c ≤ 24, e ≤ 3): eras, centuries,
4-year cycles and years, the cycles of Go's `absDate`. -/

theorem isLeap_digits (a b c e : Nat) (hb : b ≤ 3) (hc : c ≤ 24) (he : e ≤ 3) :
    isLeap (400 * a + 100 * b + 4 * c + e + 1) = true ↔ (e = 3 ∧ (c ≠ 24 ∨ b = 3)) := by
  simp only [isLeap, Bool.and_eq_true, Bool.or_eq_true, beq_iff_eq, bne_iff_ne, ne_eq]
  omega

theorem dby_digits (a b c e : Nat) (hb : b ≤ 3) (hc : c ≤ 24) (he : e ≤ 3) :
    daysBeforeYear (400 * a + 100 * b + 4 * c + e + 1) = 146097 * a + 36524 * b + 1461 * c + 365 * e := by
  unfold daysBeforeYear
  omega

theorem daysInMonth_le (y m : Nat) : daysInMonth y m ≤ 31 := by
  unfold daysInMonth
  split
  · split <;> omega
  · split <;> omega

/-- the model's month table (`monthDay`) against the Spec's (`daysBeforeMonth`, `daysInMonth`), row by row, on a common
year and on a leap year -/
theorem monthDay_table : ∀ y ∈ [1, 4], ∀ m < 13, ∀ d < 32, 1 ≤ m ∧ 1 ≤ d ∧ d ≤ daysInMonth y m →
    monthDay (isLeap y) (daysBeforeMonth y m + (d - 1)) = (m, d) ∧
    daysBeforeMonth y m + (d - 1) < 365 + (if isLeap y then 1 else 0) := by decide +kernel

/-- the Spec's tables see the year only through `isLeap` -/
theorem monthDay_inv (y m d : Nat) (hm : 1 ≤ m ∧ m ≤ 12) (hd : 1 ≤ d ∧ d ≤ daysInMonth y m) :
    monthDay (isLeap y) (daysBeforeMonth y m + (d - 1)) = (m, d) ∧
    daysBeforeMonth y m + (d - 1) < 365 + (if isLeap y then 1 else 0) := by
  obtain ⟨y0, hy0, e⟩ : ∃ y0 ∈ [1, 4], isLeap y = isLeap y0 := by
    cases h : isLeap y
    · exact ⟨1, by simp, by decide⟩
    · exact ⟨4, by simp, by decide⟩
  have hd32 : d < 32 := by have := daysInMonth_le y m; omega
  unfold daysInMonth daysBeforeMonth at *
  rw [e] at hd ⊢
  exact monthDay_table y0 hy0 m (by omega) d hd32 ⟨hm.1, hd⟩

theorem eraYMD_digits (b c e doy : Nat) (leap : Bool) (hb : b ≤ 3) (hc : c ≤ 24) (he : e ≤ 3)
    (hleap : leap = true ↔ (e = 3 ∧ (c ≠ 24 ∨ b = 3)))
    (hdoy : doy < 365 + (if leap then 1 else 0)) :
    eraYMD (36524 * b + 1461 * c + 365 * e + doy) = (100 * b + 4 * c + e, (monthDay leap doy).1, (monthDay leap doy).2) := by
  have hd : doy ≤ 365 ∧ (doy = 365 → (e = 3 ∧ (c ≠ 24 ∨ b = 3))) := by
    cases leap
    · simp at hdoy; omega
    · simp at hdoy; exact ⟨by omega, fun _ => hleap.1 rfl⟩
  have h7 : (e == 3 && (c != 24 || b == 3)) = leap := by
    rw [Bool.eq_iff_iff, hleap]; simp
  clear hleap hdoy
  rw [Nat.add_assoc (36524 * b + 1461 * c), Nat.add_assoc (36524 * b)]
  unfold eraYMD
  -- peel the cycles off one at a time: `s` = day of the 4-year cycle, `t` = day of the century; the last day of a cycle
  -- (`s = 1460`, `t = 36524`) exists only in its leap year, where the quotient is clamped
  have h5 : min ((365 * e + doy) / 365) 3 = e ∧ 365 * e + doy - 365 * e = doy ∧ 365 * e + doy ≤ 1460 ∧
      (365 * e + doy = 1460 → e = 3 ∧ doy = 365) := by omega
  generalize 365 * e + doy = s at h5 ⊢
  have h3 : (1461 * c + s) / 1461 = c ∧ (1461 * c + s) % 1461 = s ∧ 1461 * c + s ≤ 36524 ∧
      (1461 * c + s = 36524 → c = 24 ∧ s = 1460) := by omega
  generalize 1461 * c + s = t at h3 ⊢
  have h1 : min ((36524 * b + t) / 36524) 3 = b ∧ 36524 * b + t - 36524 * b = t := by omega
  simp only [h1.1, h1.2, h3.1, h3.2.1, h5.1, h5.2.1, h7]

theorem civilFromDays_era (a r : Nat) (hr : r < 146097) :
    civilFromDays (((146097 * a + r : Nat) : Int) - 719162) =
      ((a : Int) * 400 + (((eraYMD r).1 + 1 : Nat) : Int), (eraYMD r).2.1, (eraYMD r).2.2) := by
  unfold civilFromDays
  have hq : (((146097 * a + r : Nat) : Int) - 719162 + 719162) / 146097 = (a : Int) := by omega
  have hm : ((((146097 * a + r : Nat) : Int) - 719162 + 719162) - (a : Int) * 146097).toNat = r := by omega
  simp only [hq, hm]

theorem civil_pgDate (y m d : Nat) (hy : 1 ≤ y) (hm : 1 ≤ m ∧ m ≤ 12) (hd : 1 ≤ d ∧ d ≤ daysInMonth y m) :
    civilFromDays (pgDate y m d + 10957) = ((y : Int), m, d) := by
  obtain ⟨hmd, hlt⟩ := monthDay_inv y m d hm hd
  obtain ⟨a, b, c, e, hb, hc, he, rfl⟩ : ∃ a b c e, b ≤ 3 ∧ c ≤ 24 ∧ e ≤ 3 ∧ y = 400 * a + 100 * b + 4 * c + e + 1 :=
    ⟨(y - 1) / 400, (y - 1) % 400 / 100, (y - 1) % 100 / 4, (y - 1) % 4, by omega, by omega, by omega, by omega⟩
  have hera := eraYMD_digits b c e _ _ hb hc he (isLeap_digits a b c e hb hc he) hlt
  have hd365 : daysBeforeMonth (400 * a + 100 * b + 4 * c + e + 1) m + (d - 1) ≤ 365 := by
    split at hlt <;> omega
  generalize hdoy : daysBeforeMonth (400 * a + 100 * b + 4 * c + e + 1) m + (d - 1) = doy at hmd hlt hera hd365
  have hn : pgDate (400 * a + 100 * b + 4 * c + e + 1) m d + 10957
      = ((146097 * a + (36524 * b + 1461 * c + 365 * e + doy) : Nat) : Int) - 719162 := by
    unfold pgDate; rw [dby_digits a b c e hb hc he, Nat.add_assoc, hdoy]; omega
  rw [hn, civilFromDays_era a (36524 * b + 1461 * c + 365 * e + doy) (by omega), hera, hmd]
  simp only [Prod.mk.injEq, and_true]
  omega

end PgVerif.Proofs.ScalarsCal
