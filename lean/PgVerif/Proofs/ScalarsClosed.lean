/-
  types.go's scalar decoders as functions of the bytes, on any input.  A decoder that has its equation here is opened here only;
  decDate, decTimestamp and pathOut have none (the equation would copy the body).  Of the Spec only `ipv6Text` is used: it names what
  the loop `ipv6Groups` computes.
-/
import PgVerif.Basic.Lemmas
import PgVerif.Model.Scalars
import PgVerif.Spec.Scalars

namespace PgVerif.Proofs.Scalars
open PgVerif PgVerif.Model.Scalars PgVerif.Txt

def sAt (w off : Nat) (bs : Bytes) : Int := toSigned (8 * w) (rdAt w off bs)

theorem i16_ok (data : Bytes) (off : Nat) (h : off + 2 ≤ data.length) : i16 data off = .ok (sAt 2 off data) :=
  bind_eq (uN_ok 2 data off h) rfl
theorem i32_ok (data : Bytes) (off : Nat) (h : off + 4 ≤ data.length) : i32 data off = .ok (sAt 4 off data) :=
  bind_eq (uN_ok 4 data off h) rfl
theorem i64_ok (data : Bytes) (off : Nat) (h : off + 8 ≤ data.length) : i64 data off = .ok (sAt 8 off data) :=
  bind_eq (uN_ok 8 data off h) rfl

theorem sAt_ofSigned {bs : Bytes} {off w : Nat} {i : Int} (h : At bs off (le w (ofSigned (8 * w) i))) (hw : 1 ≤ w)
    (h1 : -((2 ^ (8 * w - 1) : Nat) : Int) ≤ i) (h2 : i < ((2 ^ (8 * w - 1) : Nat) : Int)) : sAt w off bs = i := by
  have e : (256 : Nat) ^ w = 2 ^ (8 * w) := by rw [Nat.pow_mul]
  rw [sAt, h.rd (e ▸ ofSigned_lt (8 * w) i), toSigned_ofSigned (8 * w) (by omega) i h1 h2]

theorem sAt_natCast {bs : Bytes} {off w v : Nat} (h : At bs off (le w v)) (hv : v < 2 ^ (8 * w - 1)) : sAt w off bs = (v : Int) := by
  have e : (256 : Nat) ^ w = 2 ^ (8 * w) := by rw [Nat.pow_mul]
  have : 2 ^ (8 * w - 1) ≤ 2 ^ (8 * w) := Nat.pow_le_pow_right (by decide) (by omega)
  rw [sAt, h.rd (by omega), toSigned_small _ _ hv]

theorem shortInput_lookup {oid n : Nat} (data : Bytes) (hl : fixedLengths.lookup oid = some n) :
    shortInput data oid = decide (data.length < n) := by
  rw [shortInput, hl]

/-- `ho` is the branch hypothesis of the `if oid = OidX` chain as `tot_ite` hands it over in ScalarsTotal; with `k` the literal, `hl`
is `rfl` on the table. -/
theorem need {data : Bytes} {oid k : Nat} (hs : shortInput data oid = false) (ho : oid = k) (n : Nat)
    (hl : fixedLengths.lookup k = some n) : n ≤ data.length := by
  subst ho
  simpa [shortInput_lookup data hl] using hs

/-- `hoid` is decided on the dispatch tables; `hb` is `rfl`: the chain of tests of decodeScalar0 evaluated on the literal oid. -/
theorem decodeType_case (ext : Ext) (data : Bytes) (oid n : Nat) (body : M GoVal)
    (hoid : (arrayElemTypes.lookup oid, isRangeOid oid, decide ((fixedLengths.lookup oid).getD 1 ≤ n ∧ 1 ≤ n)) = (none, false, true))
    (hn : n ≤ data.length)
    (hb : decodeScalar0 ext data oid = if shortInput data oid then pure .nil else body) :
    decodeType ext data oid = body := by
  simp only [Prod.mk.injEq, decide_eq_true_eq] at hoid
  obtain ⟨ha, hr, hl, h1⟩ := hoid
  have hs : shortInput data oid = false := by
    cases hf : fixedLengths.lookup oid with
    | none => rw [shortInput, hf]
    | some k => rw [hf] at hl; rw [shortInput_lookup data hf, decide_eq_false_iff_not]; simp only [Option.getD_some] at hl; omega
  rw [decodeType, if_neg (by omega), ha]
  simp only [decodeScalar, hr, hb, hs]
  rfl

theorem decodeType_ok (ext : Ext) (data : Bytes) (oid n : Nat) {body : M GoVal} {r : GoVal}
    (hr : n ≤ data.length → body = .ok r)
    (hoid : (arrayElemTypes.lookup oid, isRangeOid oid, decide ((fixedLengths.lookup oid).getD 1 ≤ n ∧ 1 ≤ n)) = (none, false, true))
    (hn : n ≤ data.length)
    (hb : decodeScalar0 ext data oid = if shortInput data oid then pure .nil else body) :
    decodeType ext data oid = .ok r :=
  (decodeType_case ext data oid n body hoid hn hb).trans (hr hn)

theorem decBool_ok (data : Bytes) (h : 0 < data.length) : decBool data = .ok (.bool (data[0] != 0)) :=
  bind_eq (idx_ok data 0 h) rfl

theorem decChar_ok (data : Bytes) (h : 1 ≤ data.length) : decChar data = .ok (.str (data.take 1)) :=
  bind_eq (sliceTo_ok data 1 h) rfl

theorem decInt2_ok (data : Bytes) (h : 2 ≤ data.length) : decInt2 data = .ok (.int (sAt 2 0 data)) :=
  bind_eq (i16_ok data 0 h) rfl

theorem decInt4_ok (data : Bytes) (h : 4 ≤ data.length) : decInt4 data = .ok (.int (sAt 4 0 data)) :=
  bind_eq (i32_ok data 0 h) rfl

theorem decInt8_ok (data : Bytes) (h : 8 ≤ data.length) : decInt8 data = .ok (.int (sAt 8 0 data)) :=
  bind_eq (i64_ok data 0 h) rfl

theorem decU32_ok (data : Bytes) (h : 4 ≤ data.length) : decU32 data = .ok (.int (rdAt 4 0 data)) :=
  bind_eq (uN_ok 4 data 0 h) rfl

theorem decFloat4_ok (data : Bytes) (h : 4 ≤ data.length) : decFloat4 data = .ok (.f32 (rdAt 4 0 data)) :=
  bind_eq (uN_ok 4 data 0 h) rfl

theorem decFloat8_ok (data : Bytes) (h : 8 ≤ data.length) : decFloat8 data = .ok (.f64 (rdAt 8 0 data)) :=
  bind_eq (uN_ok 8 data 0 h) rfl

theorem decTid_ok (data : Bytes) (h : 6 ≤ data.length) :
    decTid data = .ok (.str ([40] ++ decNat (rdAt 4 0 data) ++ [44] ++ decNat (rdAt 2 4 data) ++ [41])) :=
  bind_eq (uN_ok 4 data 0 (by omega)) (bind_eq (uN_ok 2 data 4 (by omega)) rfl)

theorem decPgLsn_ok (data : Bytes) (h : 8 ≤ data.length) :
    decPgLsn data = .ok (.str (hexNat true (rdAt 4 0 data) ++ [47] ++ hexNat true (rdAt 4 4 data))) :=
  bind_eq (uN_ok 4 data 0 (by omega)) (bind_eq (uN_ok 4 data 4 (by omega)) rfl)

theorem decMoney_ok (data : Bytes) (h : 8 ≤ data.length) :
    decMoney data = .ok (.str ([36] ++ (if sAt 8 0 data < 0 then [45] else []) ++ decNat ((sAt 8 0 data).natAbs / 100) ++ [46] ++
      padNat 2 ((sAt 8 0 data).natAbs % 100))) :=
  bind_eq (i64_ok data 0 h) rfl

theorem decTime_ok (data : Bytes) (h : 8 ≤ data.length) :
    decTime data = .ok (.str (fmtTimeOfDay (sAt 8 0 data) ++ fracSeconds ((sAt 8 0 data).tmod 1000000))) :=
  bind_eq (i64_ok data 0 h) rfl

theorem decTimeTZ_ok (data : Bytes) (h : 12 ≤ data.length) :
    decTimeTZ data = .ok (.str (fmtTimeOfDay (sAt 8 0 data) ++ fracSeconds ((sAt 8 0 data).tmod 1000000) ++
      fmtZone (sAt 4 8 data))) :=
  bind_eq (i64_ok data 0 (by omega)) (bind_eq (i32_ok data 8 (by omega)) rfl)

theorem decLine_ok (data : Bytes) (h : 24 ≤ data.length) :
    decLine data = .ok (fstr [lit "{", hole (rdAt 8 0 data), lit ",", hole (rdAt 8 8 data), lit ",", hole (rdAt 8 16 data), lit "}"]) :=
  bind_eq (uN_ok 8 data 0 (by omega)) (bind_eq (uN_ok 8 data 8 (by omega)) (bind_eq (uN_ok 8 data 16 (by omega)) rfl))

/-- the pieces decodePoint makes of the sixteen bytes at `off` -/
def ptAt (off : Nat) (data : Bytes) : List GoVal := [lit "(", hole (rdAt 8 off data), lit ",", hole (rdAt 8 (off + 8) data), lit ")"]

theorem decodePoint_ok (data : Bytes) (h : 16 ≤ data.length) : decodePoint data = .ok (ptAt 0 data) := by
  rw [decodePoint, if_neg (by omega)]
  exact bind_eq (uN_ok 8 data 0 (by omega)) (bind_eq (uN_ok 8 data 8 (by omega)) rfl)

theorem decodePoint_eq (data : Bytes) :
    decodePoint data = .ok (if data.length < 16 then [lit "(?,?)"] else ptAt 0 data) := by
  split
  · next h => rw [decodePoint, if_pos h]; rfl
  · exact decodePoint_ok data (by omega)

theorem decPoint_ok (data : Bytes) (h : 16 ≤ data.length) : decPoint data = .ok (fstr (ptAt 0 data)) :=
  bind_eq (decodePoint_ok data h) rfl

/-- `p := decodePoint(data[off:hi])` with `hi = off + 16`, and on with `p` -/
theorem decodePoint_slice {β} (data : Bytes) (off hi : Nat) (hhi : hi = off + 16) (h : hi ≤ data.length) (k : List GoVal → M β) :
    (slice data off hi >>= fun s => decodePoint s >>= k) = k (ptAt off data) := by
  subst hhi
  have hl : ((data.take (off + 16)).drop off).length = 16 := by simp only [List.length_drop, List.length_take]; omega
  rw [slice_ok data off _ h (by omega), ok_bind, decodePoint_ok _ (by omega), ok_bind]
  simp only [ptAt, rdAt, List.drop_drop, List.drop_take, Nat.zero_add, Nat.add_zero, Nat.add_sub_cancel_left,
    rd_take 8 _ 16 (by decide), rd_take 8 _ (16 - 8) (by decide)]

theorem decLseg_ok (data : Bytes) (h : 32 ≤ data.length) :
    decLseg data = .ok (fstr ([lit "["] ++ ptAt 0 data ++ [lit ","] ++ ptAt 16 data ++ [lit "]"])) := by
  rw [decLseg, decodePoint_slice data 0 16 rfl (by omega), decodePoint_slice data 16 32 rfl (by omega)]; rfl

theorem decBox_ok (data : Bytes) (h : 32 ≤ data.length) :
    decBox data = .ok (fstr ([lit "("] ++ ptAt 0 data ++ [lit "),("] ++ ptAt 16 data ++ [lit ")"])) := by
  rw [decBox, decodePoint_slice data 0 16 rfl (by omega), decodePoint_slice data 16 32 rfl (by omega)]; rfl

theorem decCircle_ok (data : Bytes) (h : 24 ≤ data.length) :
    decCircle data = .ok (fstr ([lit "<"] ++ ptAt 0 data ++ [lit ",", hole (rdAt 8 16 data), lit ">"])) := by
  rw [decCircle, decodePoint_slice data 0 16 rfl (by omega)]
  exact bind_eq (uN_ok 8 data 16 (by omega)) rfl

theorem pathPoints_eq (data : Bytes) (first n i : Nat) (h : first + (i + n) * 16 ≤ data.length) :
    pathPoints data first n i = .ok ((List.range' i n).map fun k => ptAt (first + k * 16) data) := by
  induction n generalizing i with
  | zero => rfl
  | succ n ih =>
    rw [pathPoints, decodePoint_slice data _ _ (by omega) (by omega), ih (i + 1) (by omega)]
    rfl

def layoutOf (data : Bytes) (oid : Nat) : Option (Nat × Bool) :=
  if storedFirst oid ≤ data.length ∧ 0 ≤ sAt 4 0 data ∧ (data.length : Int) = storedFirst oid + sAt 4 0 data * 16 then
    some ((sAt 4 0 data).toNat, oid == OidPath && sAt 4 4 data != 0)
  else none

theorem storedLayout_eq (data : Bytes) (oid : Nat) : storedLayout data oid = .ok (layoutOf data oid) := by
  have hf : 12 ≤ storedFirst oid := by unfold storedFirst; split <;> omega
  unfold storedLayout layoutOf
  by_cases h : storedFirst oid ≤ data.length
  · simp only [ge_iff_le, h, if_true, true_and, i32_ok data 0 (by omega), i32_ok data 4 (by omega), ok_bind]
    split
    · cases oid == OidPath <;> rfl
    · rfl
  · simp only [ge_iff_le, h, if_false, false_and]; rfl

theorem layoutOf_len {data : Bytes} {oid n : Nat} {c : Bool} (h : layoutOf data oid = some (n, c)) :
    data.length = storedFirst oid + 16 * n := by
  unfold layoutOf at h
  split at h
  · cases h; omega
  · cases h

theorem layoutOf_fits (data : Bytes) (oid n : Nat) (h0 : sAt 4 0 data = (n : Int)) (hl : data.length = storedFirst oid + 16 * n) :
    layoutOf data oid = some (n, oid == OidPath && sAt 4 4 data != 0) := by
  rw [layoutOf, h0, if_pos ⟨by omega, by omega, by omega⟩, Int.toNat_natCast]

theorem decodePathOrPolygon_stored {data : Bytes} {oid n : Nat} {c : Bool} (h : layoutOf data oid = some (n, c)) :
    decodePathOrPolygon data oid = pathOut data oid (storedFirst oid) n c := by
  rw [decodePathOrPolygon, storedLayout_eq, ok_bind, h]

theorem macBytes_eq (data : Bytes) (n i : Nat) (h : i + n ≤ data.length) :
    macBytes data n i = .ok (((data.drop i).take n).map fun x => hexPad 2 x.toNat) := by
  induction n generalizing i with
  | zero => rfl
  | succ n ih =>
    have hi : i < data.length := by omega
    rw [macBytes, idx_ok data i hi, ok_bind, ih (i + 1) (by omega), List.drop_eq_getElem_cons hi]
    rfl

theorem decMac_ok (data : Bytes) (n : Nat) (h : n ≤ data.length) :
    decMac data n = .ok (.str (joinBytes [58] ((data.take n).map fun x => hexPad 2 x.toNat))) :=
  bind_eq (macBytes_eq data n 0 (by omega)) rfl

theorem decUUID_ok (data : Bytes) (h : 16 ≤ data.length) :
    decUUID data = .ok (.str (hexBytes (data.take 4) ++ [45] ++ hexBytes ((data.drop 4).take 2) ++ [45] ++
      hexBytes ((data.drop 6).take 2) ++ [45] ++ hexBytes ((data.drop 8).take 2) ++ [45] ++ hexBytes ((data.drop 10).take 6))) := by
  have hs (lo hi : Nat) (h1 : hi ≤ 16) (h2 : lo ≤ hi) : slice data lo hi = .ok ((data.drop lo).take (hi - lo)) := by
    rw [slice_ok data lo hi (by omega) h2, List.drop_take]
  simp only [decUUID, hs 0 4 (by decide) (by decide), hs 4 6 (by decide) (by decide), hs 6 8 (by decide) (by decide),
    hs 8 10 (by decide) (by decide), hs 10 16 (by decide) (by decide), ok_bind, pure_eq_ok, List.drop_zero, Nat.reduceSub]

/-- the number of characters decodeBitString prints: the stored count, clamped to the bits the value holds -/
def bitCount (data : Bytes) : Nat :=
  if data.length < 4 then 0 else (min (sAt 4 0 data) (((data.length : Int) - 4) * 8)).toNat

theorem decodeBitString_eq (data : Bytes) : decodeBitString data = .ok (.str (bitChars data (bitCount data) 0)) := by
  unfold decodeBitString bitCount
  split
  · rfl
  · rw [i32_ok data 0 (by omega), ok_bind]
    -- a zero count is its own clamp: `bitChars _ 0 _ = []`
    split
    · next h0 => rw [show min (sAt 4 0 data) (((data.length : Int) - 4) * 8) = 0 by have := beq_iff_eq.1 h0; omega]; rfl
    · exact congrArg (fun n : Int => Except.ok (GoVal.str (bitChars data n.toNat 0))) (by omega)

theorem bitCount_le (data : Bytes) : bitCount data ≤ 8 * data.length := by
  unfold bitCount; split <;> omega

theorem bitChars_length (data : Bytes) (n i : Nat) : (bitChars data n i).length = n := by
  induction n generalizing i with
  | zero => rfl
  | succ n ih => simp [bitChars, ih]

/-- the branch a stored IPv4 value takes -/
theorem decodeInet_v4 (bits a b c d : UInt8) :
    decodeInet [2, bits, a, b, c, d] =
      .ok (.str (if bits != 32 then fmtIPv4 a b c d ++ [47] ++ decNat bits.toNat else fmtIPv4 a b c d)) := by
  rw [apply_ite GoVal.str, ← ite_ok]; rfl

theorem ipv6Groups_eq (data : Bytes) (start n i : Nat) (h : start + (i + n) * 2 ≤ data.length) :
    ipv6Groups data start n i = .ok (Spec.Scalars.ipv6Text ((data.drop (start + i * 2)).take (2 * n))) := by
  induction n generalizing i with
  | zero => rfl
  | succ n ih =>
    have h0 : start + i * 2 < data.length := by omega
    have h1 : start + i * 2 + 1 < data.length := by omega
    have hd : data.drop (start + i * 2) = data[start + i * 2] :: data[start + i * 2 + 1] :: data.drop (start + (i + 1) * 2) := by
      rw [List.drop_eq_getElem_cons h0, List.drop_eq_getElem_cons h1]; congr 3; omega
    have hs : slice data (start + i * 2) (start + i * 2 + 2) = .ok [data[start + i * 2], data[start + i * 2 + 1]] := by
      rw [slice_ok _ _ _ (by omega) (by omega), List.drop_take, hd, show start + i * 2 + 2 - (start + i * 2) = 2 by omega]; rfl
    rw [ipv6Groups, hs, ok_bind, ih (i + 1) (by omega), hd, show 2 * (n + 1) = (2 * n) + 1 + 1 by omega]
    rfl

/-- the branch a stored IPv6 value takes -/
theorem decodeInet_v6 (bits : UInt8) (addr : Bytes) (h : addr.length = 16) :
    decodeInet ([3, bits] ++ addr) =
      .ok (.str (if bits != 128 then joinBytes [58] (Spec.Scalars.ipv6Text addr) ++ [47] ++ decNat bits.toNat
        else joinBytes [58] (Spec.Scalars.ipv6Text addr))) := by
  have hl : ([3, bits] ++ addr).length = 18 := by simp [h]
  have hg : ipv6Groups ([3, bits] ++ addr) 2 8 0 = .ok (Spec.Scalars.ipv6Text addr) := by
    rw [ipv6Groups_eq _ 2 8 0 (by omega)]
    show Except.ok (Spec.Scalars.ipv6Text (addr.take 16)) = _
    rw [List.take_of_length_le (by omega)]
  have e : decodeInet ([3, bits] ++ addr) =
      ipv6Groups ([3, bits] ++ addr) 2 8 0 >>= fun parts =>
        .ok (.str (if bits != 128 then joinBytes [58] parts ++ [47] ++ decNat bits.toNat else joinBytes [58] parts)) := by
    unfold decodeInet
    rw [if_neg (by omega)]
    simp only [hl]
    simp only [apply_ite GoVal.str, ← ite_ok]
    rfl
  rw [e, hg]; rfl

def intervalOut (months days us : Int) : Bytes :=
  let parts := intervalPart (months.tdiv 12) "y" ++ intervalPart (months.tmod 12) "mo" ++ intervalPart days "d" ++
    intervalPart (us.tdiv 3600000000) "h" ++ intervalPart ((us.tdiv 60000000).tmod 60) "m" ++ intervalSeconds us
  if parts.isEmpty then asc "0" else joinBytes [32] parts

theorem decodeInterval_eq (data : Bytes) :
    decodeInterval data =
      .ok (.str (if data.length < 16 then asc "0" else intervalOut (sAt 4 12 data) (sAt 4 8 data) (sAt 8 0 data))) := by
  unfold decodeInterval
  split
  · rfl
  · rw [i64_ok data 0 (by omega), ok_bind, i32_ok data 8 (by omega), ok_bind, i32_ok data 12 (by omega), ok_bind]
    refine (ite_ok _ (lit "0") _).trans ?_
    rw [intervalOut, apply_ite GoVal.str]; rfl

theorem decodeRange_snoc (ext : Ext) (body : Bytes) (fb : UInt8) (oid : Nat) (h : 4 ≤ body.length) :
    decodeRange ext (body ++ [fb]) oid =
      if fb.toNat.testBit 0 then .ok (lit "empty")
      else if oid = OidNumRange then decodeNumericRange ext (body ++ [fb]) fb.toNat
      else match rangeElem oid with
        | none => .ok (.str (asc "range:" ++ hexBytes (body ++ [fb])))
        | some (elemOid, elemSize) => decodeRangeFixed ext (body ++ [fb]) fb.toNat elemOid elemSize := by
  have hi : idx (body ++ [fb]) ((body ++ [fb]).length - 1) = .ok fb := idx_mid body [] fb _ (by simp)
  rw [decodeRange, if_neg (by simp; omega), hi, ok_bind]
  dsimp only
  rw [land_bit0]
  cases fb.toNat.testBit 0
  · simp only [Bool.false_eq_true, if_false]
    split
    · simp
    · rfl
  · rfl

/-- the first statement of decodeNumericRange's closure `bound`: `if offset < end && data[offset] == 0 { offset = align(offset+4, 4) - 4 }` -/
def numBoundStart (data : Bytes) (offset : Nat) : M Nat :=
  if offset < data.length - 1 then do
    if (← idx data offset) == 0 then pure (align (offset + 4) 4 - 4) else pure offset
  else pure offset

theorem numBoundStart_eq (data : Bytes) (offset : Nat) :
    numBoundStart data offset =
      .ok (if offset < data.length - 1 ∧ data[offset]?.getD 0 = 0 then align (offset + 4) 4 - 4 else offset) := by
  unfold numBoundStart
  by_cases h : offset < data.length - 1
  · rw [if_pos h, idx_getD data offset (by omega), ok_bind]
    by_cases hz : data[offset]?.getD 0 = 0
    · rw [if_pos (beq_iff_eq.2 hz), if_pos ⟨h, hz⟩]; rfl
    · rw [if_neg (fun c => hz (beq_iff_eq.1 c)), if_neg (fun c => hz c.2)]; rfl
  · rw [if_neg h, if_neg (fun c => h c.1)]; rfl

/-- the rest of `bound`, from the offset the first statement leaves -/
def numBoundAt (ext : Ext) (data : Bytes) (offset : Nat) : M (List GoVal × Nat) := do
  let end_ := data.length - 1
  if offset ≥ end_ then return ([lit "?"], offset)
  let s ← slice data offset end_
  let r ← PgVerif.Model.readVarlena s
  match r.1 with
  | none => return ([lit "?"], offset)
  | some val =>
    let offset := offset + r.2
    match ← ext.decodeNumeric val with
    | .nil => return ([lit "?"], offset)
    | v => return (numBoundPieces v, offset)

theorem numBound_eq (ext : Ext) (data : Bytes) (offset : Nat) :
    numBound ext data offset = numBoundStart data offset >>= numBoundAt ext data := rfl

end PgVerif.Proofs.Scalars
