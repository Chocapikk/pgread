/-
  Go's `/`, `%` and `strings.TrimRight` in the time, timestamp and interval code against the Spec's PostgreSQL-style definitions
  (time2tm / interval2itm by successive division and subtraction, TrimTrailingZeros).
-/
import PgVerif.Proofs.ScalarsRT
namespace PgVerif.Proofs.ScalarsFrac
open PgVerif PgVerif.Model.Scalars PgVerif.Spec.Scalars PgVerif.Txt PgVerif.Proofs.ScalarsRT PgVerif.Proofs.Scalars

theorem trimRight_cons (c x : UInt8) (rest : Bytes) :
    trimRight c (x :: rest) = match trimRight c rest with
      | [] => if x == c then [] else [x]
      | r => x :: r := by
  unfold trimRight
  rw [List.reverse_cons, List.dropWhile_append, List.dropWhile_cons, List.dropWhile_nil]
  cases h : (rest.reverse.dropWhile (· == c)).reverse with
  | nil =>
    rw [List.reverse_eq_nil_iff.1 h]
    cases x == c <;> rfl
  | cons y t =>
    have hne : (rest.reverse.dropWhile (· == c)).isEmpty = false := by
      cases h2 : rest.reverse.dropWhile (· == c) with
      | nil => rw [h2] at h; cases h
      | cons _ _ => rfl
    rw [hne, if_neg Bool.false_ne_true, List.reverse_append, h]
    rfl

/-- Go's `strings.TrimRight(s, "0")` is PostgreSQL's TrimTrailingZeros -/
theorem trimRight_eq (s : Bytes) : trimRight 48 s = trimTrailingZeros s := by
  induction s with
  | nil => rfl
  | cons c rest ih => rw [trimRight_cons, trimTrailingZeros, ih]; cases trimTrailingZeros rest <;> rfl

theorem fracSeconds_eq (f : Int) : fracSeconds f = fracText f.natAbs := by
  unfold fracSeconds fracText
  by_cases h : f.natAbs = 0
  · rw [if_pos h, if_pos h]
  · rw [if_neg h, if_neg h, trimRight_eq]
    show trimTrailingZeros (46 :: padNat 6 f.natAbs) = 46 :: trimTrailingZeros (padNat 6 f.natAbs)
    rw [trimTrailingZeros]
    split
    · rename_i h0; rw [h0]; rfl
    · rfl

theorem fracSeconds_nat (n : Nat) : fracSeconds (n : Int) = fracText n := by
  rw [fracSeconds_eq]; rfl

theorem tmod_bounds (a : Int) {b : Int} (hb : 0 < b) :
    -b < a.tmod b ∧ a.tmod b < b ∧ (0 ≤ a → 0 ≤ a.tmod b) ∧ (a ≤ 0 → a.tmod b ≤ 0) := by
  have h1 := Int.tmod_lt_of_pos a hb
  have h2 := Int.tmod_lt_of_pos (-a) hb
  have h3 := @Int.tmod_nonneg a b
  have h4 := @Int.tmod_nonneg (-a) b
  rw [Int.neg_tmod] at h2 h4
  exact ⟨by omega, h1, h3, fun h => by have := h4 (by omega); omega⟩

theorem tmod_mul_tdiv (a b c : Int) (hb : 0 ≤ b) (hc : 0 ≤ c) : (a.tmod (b * c)).tdiv b = (a.tdiv b).tmod c := by
  obtain ⟨b, rfl⟩ := Int.eq_ofNat_of_zero_le hb
  obtain ⟨c, rfl⟩ := Int.eq_ofNat_of_zero_le hc
  have key (k : Nat) : ((k : Int).tmod (b * c)).tdiv b = ((k : Int).tdiv b).tmod c := by
    rw [← Int.natCast_mul, ← Int.ofNat_tmod, ← Int.ofNat_tdiv, ← Int.ofNat_tdiv, ← Int.ofNat_tmod, Nat.mod_mul_right_div_self]
  obtain ⟨k, rfl | rfl⟩ := Int.eq_nat_or_neg a
  · exact key k
  · rw [Int.neg_tmod, Int.neg_tdiv, Int.neg_tdiv, Int.neg_tmod, key k]

theorem mul_add_ediv_emod (q b r : Int) (h0 : 0 ≤ r) (h : r < b) : (q * b + r) / b = q ∧ (q * b + r) % b = r := by
  have hb : b ≠ 0 := by omega
  constructor
  · rw [Int.add_comm, Int.add_mul_ediv_right _ _ hb, Int.ediv_eq_zero_of_lt h0 h, Int.zero_add]
  · rw [Int.add_comm, Int.add_mul_emod_self_right, Int.emod_eq_of_lt h0 h]

/-- the sign correction of the timestamp code turns Go's truncating `/`, `%` into floor quotient and remainder -/
theorem floorDivMod_eq (us : Int) :
    (if us.tmod 1000000 < 0 then us.tdiv 1000000 - 1 else us.tdiv 1000000) = us / 1000000 ∧
    (if us.tmod 1000000 < 0 then us.tmod 1000000 + 1000000 else us.tmod 1000000) = us % 1000000 := by
  have hd := Int.tmod_add_tdiv_mul us 1000000
  have hb := tmod_bounds us (b := 1000000) (by decide)
  generalize us.tmod 1000000 = r at *
  generalize us.tdiv 1000000 = q at *
  split <;> omega

/-- Go's `us/3600e6, (us/60e6)%60, (us/1e6)%60, us%1e6` are time2tm's fields -/
theorem timeFields_eq (us : Nat) :
    timeFields us = (us / 3600000000, us / 60000000 % 60, us / 1000000 % 60, us % 1000000) := by
  have hsub (a b : Nat) : a - a / b * b = a % b := by rw [Nat.mod_def, Nat.mul_comm]
  unfold timeFields
  simp only [hsub]
  rw [Nat.mod_mul_right_div_self us 60000000 60, Nat.mod_mul_right_mod us 60000000 60,
    Nat.mod_mul_right_div_self us 1000000 60, Nat.mod_mul_right_mod us 1000000 60]

theorem timeOfDay_text (us : Nat) :
    fmtTimeOfDay (us : Int) ++ fracSeconds ((us : Int).tmod 1000000) = timeText us := by
  have h4 : (us : Int).tmod 1000000 = ((us % 1000000 : Nat) : Int) := rfl
  rw [fmtTimeOfDay_nat, h4, fracSeconds_nat]
  unfold timeText
  rw [timeFields_eq]

/-- Go's `/` and `%` on the microsecond count give interval2itm's fields -/
theorem intervalFields_eq (months days us : Int) :
    intervalFields months days us =
      { year := months.tdiv 12, mon := months.tmod 12, day := days, hour := us.tdiv 3600000000,
        min := (us.tdiv 60000000).tmod 60, sec := (us.tdiv 1000000).tmod 60, usec := us.tmod 1000000 } := by
  have hsub (a b : Int) : a - a.tdiv b * b = a.tmod b := by rw [Int.tmod_def, Int.mul_comm]
  unfold intervalFields
  simp only [hsub]
  have e1 : (us.tmod 3600000000).tdiv 60000000 = (us.tdiv 60000000).tmod 60 :=
    tmod_mul_tdiv us 60000000 60 (by decide) (by decide)
  have e2 : (us.tmod 3600000000).tmod 60000000 = us.tmod 60000000 := Int.tmod_tmod_of_dvd us ⟨60, rfl⟩
  have e3 : (us.tmod 60000000).tdiv 1000000 = (us.tdiv 1000000).tmod 60 :=
    tmod_mul_tdiv us 1000000 60 (by decide) (by decide)
  have e4 : (us.tmod 60000000).tmod 1000000 = us.tmod 1000000 := Int.tmod_tmod_of_dvd us ⟨60, rfl⟩
  rw [e1, e2, e3, e4]

theorem intervalSeconds_eq (us : Int) :
    intervalSeconds us =
      (if (us.tdiv 1000000).tmod 60 = 0 ∧ us.tmod 1000000 = 0 then []
       else [(if (us.tdiv 1000000).tmod 60 < 0 ∨ us.tmod 1000000 < 0 then [45] else []) ++
              decNat ((us.tdiv 1000000).tmod 60).natAbs ++ fracText (us.tmod 1000000).natAbs ++ asc "s"]) := by
  unfold intervalSeconds
  -- both fields carry the sign of `us`
  have hq := Int.tmod_add_tdiv_mul us 1000000
  have hf := tmod_bounds us (b := 1000000) (by decide)
  have hs := tmod_bounds (us.tdiv 1000000) (b := 60) (by decide)
  generalize us.tmod 1000000 = f at *
  generalize us.tdiv 1000000 = q at *
  generalize q.tmod 60 = s at *
  by_cases hz : s = 0 ∧ f = 0
  · rw [if_pos hz, if_neg (by simp [hz.1, hz.2])]
  · rw [if_neg hz, if_pos (by simp only [Bool.or_eq_true, bne_iff_ne, ne_eq]; omega)]
    by_cases hn : us < 0
    · rw [if_pos hn, if_pos hn, if_pos hn, if_pos (by omega : s < 0 ∨ f < 0), fracSeconds_eq, decInt, if_neg (by omega),
        Int.natAbs_neg, Int.natAbs_neg]
    · rw [if_neg hn, if_neg hn, if_neg hn, if_neg (by omega : ¬ (s < 0 ∨ f < 0)), fracSeconds_eq, decInt, if_neg (by omega)]

theorem intervalPart_eq (v : Int) (suffix : String) :
    intervalPart v suffix = (if v = 0 then [] else [decInt v ++ asc suffix]) := by
  unfold intervalPart
  by_cases h : v = 0
  · subst h; rfl
  · rw [if_neg h]
    have : (v != 0) = true := by simpa using h
    rw [if_pos this]

theorem interval_text (months days us : Int) : intervalOut months days us = intervalText months days us := by
  unfold intervalOut intervalText
  rw [intervalFields_eq]
  simp only [intervalPart_eq, intervalSeconds_eq]

theorem decodeInterval_enc (months days us : Int) (h : (Val.interval months days us).WF) :
    decodeInterval (enc (.interval months days us)) = .ok (view (.interval months days us)) := by
  have h' : inI 32 months = true ∧ inI 32 days = true ∧ inI 64 us = true := by
    simpa [and_assoc] using show (_ && _) = true from h
  show decodeInterval (le 8 (ofSigned 64 us) ++ le 4 (ofSigned 32 days) ++ le 4 (ofSigned 32 months)) = _
  rw [decodeInterval_eq, if_neg (by simp), sAt_enc (w := 8) ((at_zero _ _).append _) (by decide) h'.2.2,
    sAt_enc (w := 4) (at_end _ _ (by simp)) (by decide) h'.1,
    sAt_enc (w := 4) ((at_end _ _ (by simp)).append _) (by decide) h'.2.1, interval_text]
  rfl

end PgVerif.Proofs.ScalarsFrac
