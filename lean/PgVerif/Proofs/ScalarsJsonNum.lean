/-
  C04 / type `json`, the number tokens: what `Spec.Scalars.jsonNum` writes is one token of the RFC 8259 scanner, and the library model
  reads from it the `f64OfRat` call of the Spec's view, below the overflow threshold.  The staged scanner (`fracScan`, `expScan`,
  `scanNum_parts`, `IntPart`, `NDH`, ..) stands in Proofs/ExportJson.lean in a block of this namespace, `PgVerif.Proofs.ScalarsJsonParse`.
-/
import PgVerif.Model.ScalarsJsonLib
import PgVerif.Spec.Scalars
import PgVerif.Proofs.ExportJson
namespace PgVerif.Proofs.ScalarsJsonParse
open PgVerif PgVerif.Spec.Json PgVerif.Model.ScalarsJsonLib
open PgVerif.Txt (decNat zpad digitCh f64OfRat)
open PgVerif.Spec.Scalars (jsonNum)
open PgVerif.Proofs.ExportJson (spanDigits_all)
open PgVerif.Proofs.JsonGrammar (Reads)
open CliRender (Follows)

theorem digitCh_ne48 (k : Nat) (h : k < 10) (hk : k ≠ 0) : digitCh k ≠ 48 :=
  fun he => hk (Option.some.inj ((TxtNumerals.decSys.val_ch k h).symm.trans (he ▸ TxtNumerals.decDigit_48)))

theorem decNat_props (n : Nat) :
    decNat n ≠ [] ∧ (∀ c ∈ decNat n, isDigit c = true) ∧
    (1 < (decNat n).length → (decNat n).head? ≠ some 48) ∧ digitsVal (decNat n) = n := by
  obtain ⟨h1, h2, h3, h4⟩ := TxtNumerals.decNat_all n
  exact ⟨h1, fun c hc => ExportJson.isDigit_of_isDig c (h2 c hc), h3, h4⟩

theorem zpad_props (w : Nat) (ds : Bytes) (hd : ∀ c ∈ ds, isDigit c = true) :
    (∀ c ∈ zpad w ds, isDigit c = true) ∧ digitsVal (zpad w ds) = digitsVal ds ∧
    (zpad w ds).length = (w - ds.length) + ds.length := by
  have zeros : ∀ j, digitsVal (List.replicate j 48 ++ ds) = digitsVal ds := fun j => by
    induction j with
    | zero => simp
    | succ j ih => rw [List.replicate_succ, List.cons_append, ← ih]; simp [digitsVal]
  refine ⟨?_, zeros _, by simp [zpad]⟩
  intro c hc
  simp only [zpad, List.mem_append, List.mem_replicate] at hc
  rcases hc with ⟨_, hc⟩ | hc
  · subst hc; decide
  · exact hd c hc

/-- what may follow the integer digits when there is no fraction (weaker than `ExportJson.NumEnd`: an `e` may follow) -/
def NoFrac (rest : Bytes) : Prop := ∀ c, rest.head? = some c → isDigit c = false ∧ c ≠ 46

def expText (ex : Option Int) : Bytes := match ex with | none => [] | some x => 101 :: Txt.decInt x
def fracText (fp : Bytes) : Bytes := if fp = [] then [] else 46 :: fp

def numText (neg : Bool) (ip fp : Bytes) (ex : Option Int) : Bytes :=
  (if neg then [45] else []) ++ (ip ++ (fracText fp ++ expText ex))

theorem expText_head (ex : Option Int) (rest : Bytes) (hr : Follows rest) :
    NoFrac (expText ex ++ rest) := by
  intro c hc
  cases ex with
  | none => simp only [expText, List.nil_append] at hc; exact ⟨(hr.numEnd c hc).1, (hr.numEnd c hc).2.1⟩
  | some x => simp [expText] at hc; subst hc; decide

theorem expScan_expText (ex : Option Int) (rest : Bytes) (hr : Follows rest) :
    expScan (expText ex ++ rest) = some (expText ex, rest) := by
  have hnd : NDH rest := fun c hc => (hr.numEnd c hc).1
  cases ex with
  | none => exact expScan_end rest hr.numEnd
  | some x =>
    obtain ⟨h1, h2, _, _⟩ := decNat_props x.natAbs
    simp only [expText, Txt.decInt]
    by_cases hx : x < 0
    · simp [hx, expScan, spanDigits_all _ rest h2 hnd, h1]
    · cases hdn : decNat x.natAbs with
      | nil => exact absurd hdn h1
      | cons d ds =>
        rw [hdn] at h2
        have hs := digit_ne_sign d (h2 d (by simp))
        have := spanDigits_all (d :: ds) rest h2 hnd
        rw [List.cons_append] at this
        simp [hx, expScan, hs.1, hs.2, this]

theorem fracScan_fracText (fp tail : Bytes) (hd : ∀ c ∈ fp, isDigit c = true)
    (ht : NoFrac tail) :
    fracScan (fracText fp ++ tail) = some (fracText fp, tail) := by
  by_cases hfp : fp = []
  · cases tail with
    | nil => simp [fracText, hfp, fracScan]
    | cons c t => simp [fracText, hfp, fracScan, (ht c rfl).2]
  · simp [fracText, hfp, fracScan, spanDigits_all fp tail hd (fun c hc => (ht c hc).1)]

theorem fracText_head (fp tail : Bytes) (ht : NoFrac tail) :
    NDH (fracText fp ++ tail) := by
  intro c hc
  by_cases hfp : fp = []
  · simp only [fracText, hfp, if_true, List.nil_append] at hc; exact (ht c hc).1
  · simp [fracText, hfp] at hc; subst hc; decide

theorem scanNum_numText (neg : Bool) (ip fp : Bytes) (ex : Option Int) (rest : Bytes) (hip : IntPart ip)
    (hfp : ∀ c ∈ fp, isDigit c = true) (hr : Follows rest) :
    scanNum (numText neg ip fp ex ++ rest) = some (numText neg ip fp ex, rest) := by
  have hE := expText_head ex rest hr
  have h := scanNum_parts neg ip _ _ _ _ rest hip (fracText_head fp (expText ex ++ rest) hE)
    (fracScan_fracText fp (expText ex ++ rest) hfp hE) (expScan_expText ex rest hr)
  simpa only [numText, List.append_assoc] using h

theorem allDigits_of (ds : Bytes) (hne : ds ≠ []) (hd : ∀ c ∈ ds, isDigit c = true) : allDigits ds = true := by
  cases ds with
  | nil => exact absurd rfl hne
  | cons d t => simpa [allDigits] using hd

theorem expOf_expText (ex : Option Int) : expOf (expText ex) = some (ex.getD 0) := by
  cases ex with
  | none => rfl
  | some x =>
    obtain ⟨h1, h2, _, h4⟩ := decNat_props x.natAbs
    have had := allDigits_of _ h1 h2
    simp only [expText, Txt.decInt, Option.getD_some]
    by_cases hx : x < 0
    · simp only [hx, if_true, expOf, true_or, had, h4]
      congr 1; omega
    · simp only [hx, if_false]
      cases hdn : decNat x.natAbs with
      | nil => exact absurd hdn h1
      | cons d ds =>
        have hs := digit_ne_sign d (h2 d (by rw [hdn]; simp))
        rw [hdn] at had h4
        simp only [expOf, true_or, if_true]
        split
        · rename_i heq; simp at heq; exact absurd heq.1 hs.2
        · rename_i heq; simp at heq; exact absurd heq.1 hs.1
        · rename_i heq; simp only [had, h4, if_true]; congr 1; omega

theorem fracOf_fracText (fp : Bytes) (ex : Option Int) (hd : ∀ c ∈ fp, isDigit c = true) :
    fracOf (fracText fp ++ expText ex) = (fp, expText ex) := by
  have hE := expText_head ex [] (by intro c hc; simp at hc)
  simp only [List.append_nil] at hE
  by_cases hfp : fp = []
  · subst hfp
    simp only [fracText, if_true, List.nil_append]
    cases ex with
    | none => rfl
    | some x => rfl
  · simp only [fracText, hfp, if_false, List.cons_append, fracOf]
    exact spanDigits_all fp _ hd (fun c hc => (hE c hc).1)

theorem numAbs_parts (neg : Bool) (ip fp : Bytes) (ex : Option Int) (hip : IntPart ip)
    (hfp : ∀ c ∈ fp, isDigit c = true) :
    numAbs neg (ip ++ (fracText fp ++ expText ex)) = finish neg (ip ++ fp) (ex.getD 0 - (fp.length : Int)) := by
  have hE := expText_head ex [] (by intro c hc; simp at hc)
  simp only [List.append_nil] at hE
  have hF := fracText_head fp (expText ex) hE
  simp only [numAbs, spanDigits_all ip _ hip.dig hF, fracOf_fracText fp ex hfp, expOf_expText]

theorem numBits_numText (neg : Bool) (ip fp : Bytes) (ex : Option Int) (hip : IntPart ip)
    (hfp : ∀ c ∈ fp, isDigit c = true) :
    numBits (numText neg ip fp ex) = finish neg (ip ++ fp) (ex.getD 0 - (fp.length : Int)) := by
  have hs := scanNum_numText neg ip fp ex [] hip hfp (by intro c hc; simp at hc)
  simp only [List.append_nil] at hs
  have hn := numAbs_parts neg ip fp ex hip hfp
  unfold numBits
  rw [hs]
  simp only
  unfold numText
  cases neg with
  | true => simpa using hn
  | false =>
    cases hipc : ip with
    | nil => exact absurd hipc hip.ne
    | cons d ds =>
      have hd45 : d ≠ 45 := (digit_ne_sign d (hip.dig d (by rw [hipc]; simp))).2
      rw [hipc] at hn
      simp only [Bool.false_eq_true, if_false, List.nil_append, List.cons_append] at hn ⊢
      split
      · rename_i heq; simp at heq; exact absurd heq.1 hd45
      · exact hn


set_option exponentiation.threshold 1100 in
/-- `Model.ScalarsJsonLib.infThreshold` in its readable form -/
theorem infThreshold_eq : infThreshold = 2 ^ 1024 - 2 ^ 970 := by decide

theorem infThreshold_big : 10 ^ 20 * 10 ^ 30 ≤ infThreshold := by decide

theorem finish_inRange (neg : Bool) (ds : Bytes) (m : Nat) (e : Int) (hm : digitsVal ds = m) (hlt : m < 10 ^ 20)
    (h1 : -30 ≤ e) (h2 : e ≤ 30) :
    finish neg ds e = some (if e ≥ 0 then f64OfRat neg (m * 10 ^ e.toNat) 1 else f64OfRat neg m (10 ^ (-e).toNat)) := by
  have hT : 10 ^ 20 * 10 ^ 30 ≤ infThreshold := infThreshold_big
  have hT2 : 10 ^ 20 ≤ infThreshold := Nat.le_trans (by decide) infThreshold_big
  unfold finish
  simp only [hm]
  by_cases hm0 : m = 0
  · subst hm0
    by_cases he : e ≥ 0 <;> simp [he, f64OfRat]
  by_cases he : e ≥ 0
  · have hg : ¬ (e > 400) := by omega
    have hp : ¬ (m * 10 ^ e.toNat ≥ infThreshold) := by
      have : 10 ^ e.toNat ≤ 10 ^ 30 := Nat.pow_le_pow_right (by decide) (by omega)
      have := Nat.mul_lt_mul_of_lt_of_le hlt this (Nat.pow_pos (by decide))
      omega
    simp only [hm0, he, if_true, hg, hp, if_false]
  · have hg : ¬ ((-e).toNat > 400 + ds.length) := by omega
    have hp : ¬ (m ≥ 10 ^ (-e).toNat * infThreshold) := by
      have := Nat.mul_le_mul (Nat.pow_pos (n := (-e).toNat) (show 0 < 10 by decide)) (Nat.le_refl infThreshold)
      omega
    simp only [hm0, he, if_false, hg, hp]

theorem decNat_intPart (m : Nat) : IntPart (decNat m) :=
  ⟨(decNat_props m).1, (decNat_props m).2.1, (decNat_props m).2.2.1⟩

/-- the three shapes of `jsonNum` as sign, integer digits, fraction digits and exponent -/
theorem jsonNum_parts (neg : Bool) (m : Nat) (e : Int) :
    ∃ ip fp ex, jsonNum neg m e = numText neg ip fp ex ∧ IntPart ip ∧ (∀ c ∈ fp, isDigit c = true) ∧
      digitsVal (ip ++ fp) = m ∧ Option.getD ex 0 - (fp.length : Int) = e := by
  obtain ⟨h1, h2, h3, h4⟩ := decNat_props m
  by_cases he0 : e = 0
  · refine ⟨decNat m, [], none, ?_, decNat_intPart m, by simp, by simpa using h4, by simp [he0]⟩
    simp [jsonNum, numText, fracText, expText, he0]
  by_cases hneg : e < 0 ∧ e ≥ -30
  · -- a decimal point inside the zero-padded digits
    obtain ⟨z1, z2, z3⟩ := zpad_props ((-e).toNat + 1) (decNat m) h2
    generalize hk : (-e).toNat = k at *
    generalize hd : zpad (k + 1) (decNat m) = d at *
    have hk1 : 1 ≤ k := by omega
    have hL : k + 1 ≤ d.length := by omega
    have hfl : (d.drop (d.length - k)).length = k := by simp only [List.length_drop]; omega
    have hfne : d.drop (d.length - k) ≠ [] := by
      intro h; rw [h] at hfl; simp at hfl; omega
    refine ⟨d.take (d.length - k), d.drop (d.length - k), none, ?_, ⟨?_, ?_, ?_⟩, ?_, ?_, ?_⟩
    · simp [jsonNum, numText, fracText, expText, he0, hneg.1, hneg.2, hk, hd, hfne]
    · intro h
      have := congrArg List.length h
      simp only [List.length_take, List.length_nil] at this
      omega
    · intro c hc; exact z1 c (List.mem_of_mem_take hc)
    · intro hlen
      simp only [List.length_take] at hlen
      -- more than one integer digit: nothing was padded
      have hdd : d = decNat m := hd.symm.trans (TxtNumerals.padNat_of_ge (k + 1) m (by omega))
      rw [List.head?_take, if_neg (by omega), hdd]
      exact h3 (by rw [← hdd]; omega)
    · intro c hc; exact z1 c (List.mem_of_mem_drop hc)
    · rw [List.take_append_drop, z2, h4]
    · simp only [Option.getD_none, hfl]; omega
  · refine ⟨decNat m, [], some e, ?_, decNat_intPart m, by simp, by simpa using h4, by simp⟩
    have : ¬ (e < 0 ∧ -30 ≤ e) := fun h => hneg ⟨h.1, h.2⟩
    simp [jsonNum, numText, fracText, expText, he0, this]

theorem jsonNum_head (neg : Bool) (m : Nat) (e : Int) :
    ∃ c t, jsonNum neg m e = c :: t ∧ (c = 45 ∨ isDigit c = true) := by
  obtain ⟨ip, fp, ex, h, hip, _, _, _⟩ := jsonNum_parts neg m e
  rw [h, numText]
  cases neg with
  | true => exact ⟨45, _, rfl, Or.inl rfl⟩
  | false =>
    cases hipc : ip with
    | nil => exact absurd hipc hip.ne
    | cons d ds => exact ⟨d, _, rfl, Or.inr (hip.dig d (by rw [hipc]; simp))⟩

theorem reads_jsonNum (neg : Bool) (m : Nat) (e : Int) (rest : Bytes) (hr : Follows rest) :
    Reads (jsonNum neg m e ++ rest) (.num (jsonNum neg m e)) rest := by
  refine .numText (jsonNum_head neg m e) ?_
  obtain ⟨ip, fp, ex, h, hip, hfp, _, _⟩ := jsonNum_parts neg m e
  rw [h]
  exact scanNum_numText neg ip fp ex rest hip hfp hr

theorem numBits_jsonNum (neg : Bool) (m : Nat) (e : Int) (hlt : m < 10 ^ 20) (h1 : -30 ≤ e) (h2 : e ≤ 30) :
    numBits (jsonNum neg m e) =
      some (if e ≥ 0 then f64OfRat neg (m * 10 ^ e.toNat) 1 else f64OfRat neg m (10 ^ (-e).toNat)) := by
  obtain ⟨ip, fp, ex, h, hip, hfp, hv, he⟩ := jsonNum_parts neg m e
  rw [h, numBits_numText neg ip fp ex hip hfp, he]
  exact finish_inRange neg (ip ++ fp) m e hv hlt h1 h2
end PgVerif.Proofs.ScalarsJsonParse
