/-
  C04 / type `json`: the library model `Model.ScalarsJsonLib.jsonUnmarshal` (the documented behaviour of `encoding/json.Unmarshal`
  into `interface{}`, over the neutral RFC 8259 parser `Spec.Json.parse`) reads the text PostgreSQL stores for a document back to the
  Go value the Spec's view demands.  Route: the stored text derives `jOf d` in the grammar of Proofs/JsonGrammar.lean (`reads_render`),
  and `toGo (jOf d) = some d.view` for well-formed `d`.
-/
import PgVerif.Lib.AssocMap
import PgVerif.Lib.Lit
import PgVerif.Proofs.ScalarsJsonNum
namespace PgVerif.Proofs.ScalarsJsonParse
open PgVerif PgVerif.Spec.Json PgVerif.Model.ScalarsJsonLib
open PgVerif.Txt (f64OfRat asc)
open PgVerif.Spec.Scalars (JV jsonNum jsonEscape)
open PgVerif.Proofs.JsonGrammar (AllWs Reads Elems Members depth depthList depthKvs)
open CliRender (Follows follows_cons)

/-- the function `Spec.Scalars.jsonEscape` maps over the bytes of a string -/
def escByte (b : UInt8) : Bytes :=
  if b == 34 then [92, 34] else if b == 92 then [92, 92]
  else if b.toNat < 32 then asc "\\u00" ++ Txt.hexPad 2 b.toNat else [b]

theorem hexPad2 : ∀ n : Fin 32, Txt.hexPad 2 n.val = [Txt.hexCh false (n.val / 16), Txt.hexCh false (n.val % 16)] := by
  decide

theorem asc_u00 : asc "\\u00" = [92, 117, 48, 48] := by decide

/-- PostgreSQL's string escaping is, byte for byte, the export code's `jsonByte` -/
theorem escByte_eq (b : UInt8) : escByte b = Model.Export.jsonByte b := by
  unfold escByte Model.Export.jsonByte
  by_cases h1 : b = 34
  · subst h1; rfl
  by_cases h2 : b = 92
  · subst h2; rfl
  have e1 : (b == 34) = false := by simpa using h1
  have e2 : (b == 92) = false := by simpa using h2
  rw [if_neg (fun h : b = 34 ∨ b = 92 => h.elim h1 h2)]
  simp only [e1, e2, Bool.false_eq_true, if_false]
  by_cases h3 : b.toNat < 32
  · rw [if_pos h3, if_pos (show b < 32 by simpa [UInt8.lt_iff_toNat_lt] using h3), asc_u00, hexPad2 ⟨b.toNat, h3⟩]; rfl
  · rw [if_neg h3, if_neg (show ¬ b < 32 by simpa [UInt8.lt_iff_toNat_lt] using h3)]

theorem scanStr_escape (s rest : Bytes) : scanStr (jsonEscape s ++ 34 :: rest) = some (s, rest) := by
  have e : jsonEscape s = s.flatMap Model.Export.jsonByte := by
    show s.flatMap escByte = _
    rw [show escByte = Model.Export.jsonByte from funext escByte_eq]
  rw [e]; exact ExportJson.scanStr_jsonBody s rest
open PgVerif.Spec.Scalars (renderList renderKvs viewList viewKvs wfList wfKvs)

mutual
def jOf : JV → J
  | .null => .null
  | .bool b => .bool b
  | .num n m e => .num (jsonNum n m e)
  | .str s => .str s
  | .arr xs => .arr (jOfList xs)
  | .obj kvs => .obj (jOfKvs kvs)
def jOfList : List JV → List J
  | [] => []
  | x :: xs => jOf x :: jOfList xs
def jOfKvs : List (Bytes × JV) → List (Bytes × J)
  | [] => []
  | (k, v) :: rest => (k, jOf v) :: jOfKvs rest
end

/-! A fuel bound on the document itself (one unit per nesting level and per list position), stated for its own sake: `parse_render`
goes through `Reads.parse_text` of Proofs/JsonGrammar.lean and uses none of it. -/
mutual
def need : JV → Nat
  | .arr xs => 1 + needList xs
  | .obj kvs => 1 + needKvs kvs
  | _ => 1
def needList : List JV → Nat
  | [] => 0
  | x :: xs => 1 + max (need x) (needList xs)
def needKvs : List (Bytes × JV) → Nat
  | [] => 0
  | (_, v) :: rest => 1 + max (need v) (needKvs rest)
end

mutual
theorem need_eq : ∀ v : JV, need v = depth (jOf v)
  | .null | .bool _ | .num _ _ _ | .str _ => rfl
  | .arr xs => by simp only [need, jOf, depth, needList_eq xs]
  | .obj kvs => by simp only [need, jOf, depth, needKvs_eq kvs]
theorem needList_eq : ∀ xs : List JV, needList xs = depthList (jOfList xs)
  | [] => rfl
  | x :: xs => by simp only [needList, jOfList, depthList, need_eq x, needList_eq xs]
theorem needKvs_eq : ∀ kvs : List (Bytes × JV), needKvs kvs = depthKvs (jOfKvs kvs)
  | [] => rfl
  | (_, v) :: kvs => by simp only [needKvs, jOfKvs, depthKvs, need_eq v, needKvs_eq kvs]
end


def wOpen (ws : Nat) : Bytes := if ws ≥ 2 then [32] else []
def wArr (ws : Nat) : Bytes := if ws ≥ 2 then [10] else []
def wObj (ws : Nat) : Bytes := if ws ≥ 2 then [9] else []
def wSep (ws : Nat) : Bytes := if ws ≥ 1 then [32] else []

theorem allWs_ite (p : Prop) [Decidable p] (c : UInt8) (h : isWs c = true) : AllWs (if p then [c] else []) := by
  intro d hd
  split at hd
  · rw [List.mem_singleton.mp hd]; exact h
  · simp at hd

theorem wOpen_ws (ws : Nat) : AllWs (wOpen ws) := allWs_ite _ 32 (by decide)
theorem wArr_ws (ws : Nat) : AllWs (wArr ws) := allWs_ite _ 10 (by decide)
theorem wObj_ws (ws : Nat) : AllWs (wObj ws) := allWs_ite _ 9 (by decide)
theorem wSep_ws (ws : Nat) : AllWs (wSep ws) := allWs_ite _ 32 (by decide)

theorem render_arr (ws : Nat) (xs : List JV) :
    (JV.arr xs).render ws = 91 :: (wOpen ws ++ (renderList ws xs ++ (wArr ws ++ [93]))) := by
  simp only [JV.render, wOpen, wArr, List.cons_append, List.nil_append, List.append_assoc]

theorem render_obj (ws : Nat) (kvs : List (Bytes × JV)) :
    (JV.obj kvs).render ws = 123 :: (wOpen ws ++ (renderKvs ws kvs ++ (wObj ws ++ [125]))) := by
  simp only [JV.render, wOpen, wObj, List.cons_append, List.nil_append, List.append_assoc]

theorem renderList_one (ws : Nat) (x : JV) : renderList ws [x] = x.render ws := by
  simp only [renderList]

theorem renderList_more (ws : Nat) (x y : JV) (ys : List JV) :
    renderList ws (x :: y :: ys) = x.render ws ++ 44 :: (wSep ws ++ renderList ws (y :: ys)) := by
  simp only [renderList, wSep, List.cons_append, List.nil_append, List.append_assoc]

theorem renderKvs_one (ws : Nat) (k : Bytes) (v : JV) :
    renderKvs ws [(k, v)] = 34 :: (jsonEscape k ++ 34 :: 58 :: (wSep ws ++ v.render ws)) := by
  simp only [renderKvs, wSep, List.cons_append, List.nil_append, List.append_assoc]

theorem renderKvs_more (ws : Nat) (k : Bytes) (v : JV) (kv2 : Bytes × JV) (more : List (Bytes × JV)) :
    renderKvs ws ((k, v) :: kv2 :: more) =
      34 :: (jsonEscape k ++ 34 :: 58 :: (wSep ws ++ (v.render ws ++ 44 :: (wSep ws ++ renderKvs ws (kv2 :: more))))) := by
  simp only [renderKvs, wSep, List.cons_append, List.nil_append, List.append_assoc]

theorem fol_wArr (ws : Nat) (t : Bytes) : Follows (wArr ws ++ 93 :: t) := by
  unfold wArr; split
  · exact follows_cons 10 _ (by decide)
  · exact follows_cons 93 _ (by decide)

theorem fol_wObj (ws : Nat) (t : Bytes) : Follows (wObj ws ++ 125 :: t) := by
  unfold wObj; split
  · exact follows_cons 9 _ (by decide)
  · exact follows_cons 125 _ (by decide)

mutual
theorem reads_render : ∀ (v : JV) (ws : Nat) (rest : Bytes), Follows rest → Reads (v.render ws ++ rest) (jOf v) rest
  | .null, _, _, _ => .null
  | .bool true, _, _, _ => .tt
  | .bool false, _, _, _ => .ff
  | .num n m e, _, rest, hr => reads_jsonNum n m e rest hr
  | .str s, _, rest, _ => by
    simp only [JV.render, jOf, List.cons_append, List.nil_append, List.append_assoc]
    exact .str (scanStr_escape s rest)
  | .arr [], ws, rest, _ => by
    rw [render_arr]
    simp only [renderList, List.nil_append, List.cons_append, List.append_assoc, jOf, jOfList]
    rw [← List.append_assoc]
    exact .arrNil ((wOpen_ws ws).append (wArr_ws ws))
  | .arr (x :: xs), ws, rest, _ => by
    rw [render_arr]
    simp only [jOf, List.cons_append, List.append_assoc, List.nil_append]
    exact .arr (wOpen_ws ws) (reads_list (x :: xs) ws rest nofun)
  | .obj [], ws, rest, _ => by
    rw [render_obj]
    simp only [renderKvs, List.nil_append, List.cons_append, List.append_assoc, jOf, jOfKvs]
    rw [← List.append_assoc]
    exact .objNil ((wOpen_ws ws).append (wObj_ws ws))
  | .obj (kv :: kvs), ws, rest, _ => by
    rw [render_obj]
    simp only [jOf, List.cons_append, List.append_assoc, List.nil_append]
    exact .obj (wOpen_ws ws) (reads_kvs (kv :: kvs) ws rest nofun)
theorem reads_list : ∀ (xs : List JV) (ws : Nat) (rest : Bytes), xs ≠ [] →
    Elems (renderList ws xs ++ (wArr ws ++ 93 :: rest)) (jOfList xs) rest
  | [], _, _, h => absurd rfl h
  | [x], ws, rest, _ => by
    rw [renderList_one]
    exact .last (reads_render x ws _ (fol_wArr ws rest)) (wArr_ws ws)
  | x :: y :: ys, ws, rest, _ => by
    rw [renderList_more]
    simp only [List.append_assoc, List.cons_append]
    exact .more (w := []) (reads_render x ws _ (follows_cons 44 _ (Or.inl rfl))) nofun (wSep_ws ws)
      (reads_list (y :: ys) ws rest nofun)
theorem reads_kvs : ∀ (kvs : List (Bytes × JV)) (ws : Nat) (rest : Bytes), kvs ≠ [] →
    Members (renderKvs ws kvs ++ (wObj ws ++ 125 :: rest)) (jOfKvs kvs) rest
  | [], _, _, h => absurd rfl h
  | [(k, v)], ws, rest, _ => by
    rw [renderKvs_one]
    simp only [List.append_assoc, List.cons_append]
    exact .last (w0 := []) (scanStr_escape k _) nofun (wSep_ws ws) (reads_render v ws _ (fol_wObj ws rest)) (wObj_ws ws)
  | (k, v) :: kv2 :: more, ws, rest, _ => by
    rw [renderKvs_more]
    simp only [List.append_assoc, List.cons_append]
    exact .more (w0 := []) (w := []) (scanStr_escape k _) nofun (wSep_ws ws)
      (reads_render v ws _ (follows_cons 44 _ (Or.inl rfl))) nofun (wSep_ws ws) (reads_kvs (kv2 :: more) ws rest nofun)
end

theorem parseElems_render : ∀ (x : JV) (xs : List JV) (ws f : Nat) (rest : Bytes),
    needList (x :: xs) ≤ f →
    parseElems f (renderList ws (x :: xs) ++ (wArr ws ++ 93 :: rest)) = some (jOfList (x :: xs), rest) :=
  fun x xs ws f rest hf => (reads_list (x :: xs) ws rest nofun).parse f (needList_eq _ ▸ hf)

theorem parseMembers_render : ∀ (k : Bytes) (v : JV) (kvs : List (Bytes × JV)) (ws f : Nat) (rest : Bytes),
    needKvs ((k, v) :: kvs) ≤ f →
    parseMembers f (renderKvs ws ((k, v) :: kvs) ++ (wObj ws ++ 125 :: rest)) = some (jOfKvs ((k, v) :: kvs), rest) :=
  fun k v kvs ws f rest hf => (reads_kvs ((k, v) :: kvs) ws rest nofun).parse f (needKvs_eq _ ▸ hf)

theorem needList_le : ∀ (ws : Nat) (xs : List JV), needList xs ≤ (renderList ws xs).length + 2
  | _, [] => Nat.zero_le _
  | ws, x :: xs => by
    have := (reads_list (x :: xs) ws [] nofun).length
    rw [← needList_eq] at this
    simp only [List.length_append, List.length_cons, List.length_nil] at this
    have : (wArr ws).length ≤ 1 := by unfold wArr; split <;> simp
    omega

theorem needKvs_le : ∀ (ws : Nat) (kvs : List (Bytes × JV)), needKvs kvs ≤ (renderKvs ws kvs).length + 2
  | _, [] => Nat.zero_le _
  | ws, kv :: kvs => by
    have := (reads_kvs (kv :: kvs) ws [] nofun).length
    rw [← needKvs_eq] at this
    simp only [List.length_append, List.length_cons, List.length_nil] at this
    have : (wObj ws).length ≤ 1 := by unfold wObj; split <;> simp
    omega

/-- no well-formedness needed: every byte string and every mantissa / exponent has a parseable text -/
theorem parse_render (d : JV) (ws : Nat) : parse (d.render ws) = some (jOf d) := by
  have h := reads_render d ws [] nofun
  rw [List.append_nil] at h
  exact h.parse_text nofun

theorem mapInsert_fresh (acc : List (Bytes × GoVal)) (k : Bytes) (v : GoVal) (h : k ∉ acc.map (·.1)) :
    mapInsert acc k v = acc ++ [(k, v)] := by
  rw [mapInsert, AssocMap.upsert_const, AssocMap.upsert_fresh h]

theorem viewKvs_keys (kvs : List (Bytes × JV)) : (viewKvs kvs).map (·.1) = kvs.map (·.1) := by
  induction kvs with
  | nil => simp [viewKvs]
  | cons kv rest ih => obtain ⟨k, v⟩ := kv; simp [viewKvs, ih]

mutual
theorem toGo_jOf : ∀ (d : JV), d.wf = true → toGo (jOf d) = some d.view
  | .null, _ => by simp [jOf, toGo, JV.view]
  | .bool b, _ => by simp [jOf, toGo, JV.view]
  | .num n m e, h => by
    simp only [JV.wf, Bool.and_eq_true, decide_eq_true_eq] at h
    simp only [jOf, toGo, JV.view, numBits_jsonNum n m e h.1.1 h.1.2 h.2, Option.map_some]
  | .str s, _ => by simp [jOf, toGo, JV.view]
  | .arr xs, h => by
    simp only [JV.wf] at h
    simp only [jOf, toGo, JV.view, toGoList_jOf xs h, Option.map_some]
  | .obj kvs, h => by
    simp only [JV.wf, Bool.and_eq_true, decide_eq_true_eq] at h
    have := toGoKvs_jOf kvs [] h.1 h.2 (by simp)
    simp only [jOf, toGo, JV.view, this, Option.map_some, List.nil_append]
theorem toGoList_jOf : ∀ (xs : List JV), wfList xs = true → toGoList (jOfList xs) = some (viewList xs)
  | [], _ => by simp [jOfList, toGoList, viewList]
  | x :: xs, h => by
    simp only [wfList, Bool.and_eq_true] at h
    simp only [jOfList, toGoList, viewList, toGo_jOf x h.1, toGoList_jOf xs h.2]
/-- distinct keys that are not yet in the map are appended in order -/
theorem toGoKvs_jOf : ∀ (kvs : List (Bytes × JV)) (acc : List (Bytes × GoVal)), wfKvs kvs = true →
    (kvs.map (·.1)).Nodup → (∀ k ∈ kvs.map (·.1), k ∉ acc.map (·.1)) →
    toGoKvs (jOfKvs kvs) acc = some (acc ++ viewKvs kvs)
  | [], acc, _, _, _ => by simp [jOfKvs, toGoKvs, viewKvs]
  | (k, v) :: rest, acc, h, hnd, hdis => by
    simp only [wfKvs, Bool.and_eq_true] at h
    simp only [List.map_cons, List.nodup_cons] at hnd
    have hk : k ∉ acc.map (·.1) := hdis k (by simp)
    have hdis' : ∀ k' ∈ rest.map (·.1), k' ∉ (acc ++ [(k, v.view)]).map (·.1) := by
      intro k' hk' hmem
      simp only [List.map_append, List.map_cons, List.map_nil, List.mem_append, List.mem_singleton] at hmem
      rcases hmem with hmem | hmem
      · exact hdis k' (by simp only [List.map_cons, List.mem_cons]; exact Or.inr hk') hmem
      · subst hmem; exact hnd.1 hk'
    have ih := toGoKvs_jOf rest (acc ++ [(k, v.view)]) h.2 hnd.2 hdis'
    simp only [jOfKvs, toGoKvs, toGo_jOf v h.1.2, mapInsert_fresh acc k v.view hk, ih, viewKvs,
      List.append_assoc, List.cons_append, List.nil_append]
end

/-- what `C04_json` rests on.  Of `JV.wf` the distinct keys and the bounds on mantissa and exponent are used, the UTF-8 validity of
strings is not; of the styles `ws`, 0, 1 and 2 differ. -/
theorem jsonUnmarshal_render (d : JV) (ws : Nat) (hd : d.wf = true) : jsonUnmarshal (d.render ws) = some d.view := by
  simp only [jsonUnmarshal, parse_render d ws, Option.bind_some]
  exact toGo_jOf d hd

/-- `{ "k": -12.5, "é": [ null, true, 1e30\n], "": { "x": "\"\u000a😀"\t}, "n": 9007199254740993\t}` (style 2) -/
def exDoc : JV :=
  .obj [([107], .num true 125 (-1)),
        ([0xC3, 0xA9], .arr [.null, .bool true, .num false 1 30]),
        ([], .obj [([120], .str [34, 10, 0xF0, 0x9F, 0x98, 0x80])]),
        ([110], .num false 9007199254740993 0)]

example : exDoc.wf = true := by decide
example : (JV.num true 125 (-1)).render 0 = asc "-12.5" := by decide
example : (JV.num false 5 (-3)).render 0 = asc "0.005" := by decide
example : (JV.num false 1 30).render 0 = asc "1e30" := by decide +kernel
example : (JV.arr [.str [34, 10], .obj [([107], .null)]]).render 2 = asc "[ \"\\\"\\u000a\", { \"k\": null\t}\n]" := by
  unfold asc; rw [Lit.toList_eq_chars]; decide +kernel
example : jsonUnmarshal (exDoc.render 0) = some exDoc.view := jsonUnmarshal_render exDoc 0 (by decide)
example : jsonUnmarshal (exDoc.render 1) = some exDoc.view := jsonUnmarshal_render exDoc 1 (by decide)
example : jsonUnmarshal (exDoc.render 2) = some exDoc.view := jsonUnmarshal_render exDoc 2 (by decide)
/-- the value read (the view, evaluated): -12.5, 1e30 and 2^53 (9007199254740993 is a tie and rounds to even) as IEEE bits -/
example : jsonUnmarshal (exDoc.render 2) =
    some (.obj [([107], .f64 0xC029000000000000),
                ([0xC3, 0xA9], .arr [.nil, .bool true, .f64 0x46293E5939A08CEA]),
                ([], .obj [([120], .str [34, 10, 0xF0, 0x9F, 0x98, 0x80])]),
                ([110], .f64 0x4340000000000000)]) := (jsonUnmarshal_render exDoc 2 (by decide)).trans rfl

/-! the remaining examples run `jsonUnmarshal` itself: small ones by `rfl`, the others in the kernel (`decide +kernel` on a
decidable projection of the result; the powers of ten involved are beyond the elaborator's `exponentiation.threshold`) -/

def f64Of : Option GoVal → Option Nat
  | some (.f64 b) => some b
  | _ => none

theorem f64Of_some (r : Option GoVal) (b : Nat) (h : f64Of r = some b) : r = some (.f64 b) := by
  unfold f64Of at h
  split at h
  · rw [Option.some.inj h]
  · cases h

def membersF64 : Option GoVal → Option (List (Bytes × Nat))
  | some (.obj kvs) => kvs.mapM (fun kv => match kv.2 with | .f64 b => some (kv.1, b) | _ => none)
  | _ => none

example : jsonUnmarshal (asc "0.005") = some (.f64 0x3F747AE147AE147B) := f64Of_some _ _ (by decide +kernel)
example : jsonUnmarshal (asc "1E+2") = some (.f64 0x4059000000000000) := f64Of_some _ _ (by decide +kernel)
example : jsonUnmarshal (asc "-0") = some (.f64 0x8000000000000000) := rfl
example : jsonUnmarshal (asc "01") = none := rfl
example : jsonUnmarshal (asc "[1,]") = none := rfl

/-- Go map semantics: the last duplicate wins, at the first position -/
example : membersF64 (jsonUnmarshal (asc "{\"a\":1,\"b\":3,\"a\":2}")) =
    some [([97], 0x4000000000000000), ([98], 0x4008000000000000)] := by
  unfold asc; rw [Lit.toList_eq_chars]; decide +kernel
/-- range: the largest finite value is read, the midpoint to 2^1024 and everything above is an error, 1e-400 is 0 -/
example : f64Of (jsonUnmarshal (asc "1.7976931348623158e308")) = some 0x7FEFFFFFFFFFFFFF := by
  unfold asc; rw [Lit.toList_eq_chars]; decide +kernel
example : (jsonUnmarshal (asc "1.7976931348623159e308")).isNone = true := by
  unfold asc; rw [Lit.toList_eq_chars]; decide +kernel
example : (jsonUnmarshal (asc "1e999999999")).isNone = true := by decide +kernel
example : f64Of (jsonUnmarshal (asc "1e-400")) = some 0 := by decide +kernel
example : f64Of (jsonUnmarshal (asc "-1e-999999999")) = some 0x8000000000000000 := by decide +kernel
/-- the threshold of the model is exactly where the correctly rounded value turns infinite -/
example : f64OfRat false (infThreshold - 1) 1 = 0x7FEFFFFFFFFFFFFF := by decide +kernel
example : f64OfRat false infThreshold 1 = 0x7FF0000000000000 := by decide +kernel
example : f64OfRat true (infThreshold * 10 - 1) 10 = 0xFFEFFFFFFFFFFFFF := by decide +kernel
/-- a lone surrogate escape is rejected by the neutral parser (Go: U+FFFD); outside the image of `JV.render` -/
example : (jsonUnmarshal (asc "\"\\ud800\"")).isNone = true := by decide +kernel

end PgVerif.Proofs.ScalarsJsonParse

namespace PgVerif.Proofs.ScalarsRT
open PgVerif PgVerif.Spec.Scalars PgVerif.Txt

theorem render_length (d : JV) (ws : Nat) : 1 ≤ (d.render ws).length := by
  -- the empty text is not valid JSON
  have h := ScalarsJsonParse.parse_render d ws
  cases hr : d.render ws with
  | nil => rw [hr] at h; cases h
  | cons c t => simp

end PgVerif.Proofs.ScalarsRT
