/-
  The money code before fix 11, `fmt.Sprintf("%.2f", float64(cents)/100)`: two correctly rounded binary64 operations followed by the
  exact decimal expansion rounded to two places cannot move the value by half a cent while |cents| < 10^15 (`moneyText_exact`); the
  defect beyond is witnessed by `Props.C04.C04_money_old_defect`.
-/
import PgVerif.Types.Text
namespace PgVerif.Proofs.Money
open PgVerif PgVerif.Txt

theorem rneDiv_near (a Q P : Nat) (hQ : 0 < Q) (h1 : 2 * P < 2 * (a * Q) + Q) (h2 : 2 * (a * Q) < 2 * P + Q) :
    rneDiv P Q = a := by
  unfold rneDiv
  by_cases hge : a * Q ≤ P
  · -- P = aQ + δ, 2δ < Q
    have hdm : P / Q = a ∧ P % Q = P - a * Q := by
      rw [Nat.div_mod_unique hQ]
      constructor
      · rw [Nat.mul_comm Q a]; omega
      · omega
    simp only [hdm.1, hdm.2]
    have : 2 * (P - a * Q) < Q := by omega
    rw [if_pos this]
  · -- P = aQ − δ, 0 < δ, 2δ < Q
    have ha : 1 ≤ a := by
      cases a with
      | zero => simp at hge
      | succ n => omega
    have hmul : a * Q = (a - 1) * Q + Q := by
      have : a = (a - 1) + 1 := by omega
      conv => lhs; rw [this, Nat.add_mul, Nat.one_mul]
    have hdm : P / Q = a - 1 ∧ P % Q = P - (a - 1) * Q := by
      rw [Nat.div_mod_unique hQ]
      constructor
      · rw [Nat.mul_comm Q (a - 1)]; omega
      · omega
    simp only [hdm.1, hdm.2]
    have n1 : ¬ 2 * (P - (a - 1) * Q) < Q := by omega
    have n2 : 2 * (P - (a - 1) * Q) > Q := by omega
    rw [if_neg n1, if_pos n2]; omega

theorem rneDiv_scale (X Y c : Nat) (hc : 0 < c) : rneDiv (X * c) (Y * c) = rneDiv X Y := by
  unfold rneDiv
  rw [Nat.mul_div_mul_right X Y hc, Nat.mul_mod_mul_right]
  have e1 : (2 * (X % Y * c) < Y * c) ↔ (2 * (X % Y) < Y) := by
    rw [← Nat.mul_assoc]; exact Nat.mul_lt_mul_right hc
  have e2 : (2 * (X % Y * c) > Y * c) ↔ (2 * (X % Y) > Y) := by
    rw [← Nat.mul_assoc]; exact Nat.mul_lt_mul_right hc
  simp only [e1, e2]

theorem rneDiv_one (X : Nat) : rneDiv X 1 = X := by
  unfold rneDiv; simp [Nat.mod_one]

theorem rneDiv_100 (P : Nat) : 100 * rneDiv P 100 ≤ P + 50 ∧ P ≤ 100 * rneDiv P 100 + 50 := by
  unfold rneDiv
  simp only
  split
  · omega
  · split
    · omega
    · split <;> omega

/-- the first exponent estimate is right (negative exponent, normal range) -/
theorem roundRat_case1 (p q : Nat) (E : Int) (he0 : (Nat.log2 p : Int) - (Nat.log2 q : Int) - 52 = E)
    (h1 : ¬ scaledFloor p q E < 2 ^ 52) (h2 : ¬ scaledFloor p q E ≥ 2 ^ 53) (h3 : ¬ E < -1074) (h4 : ¬ E ≥ 0) :
    roundRat p q = (if rneDiv (p * 2 ^ (-E).toNat) q ≥ 2 ^ 53 then (rneDiv (p * 2 ^ (-E).toNat) q / 2, E + 1)
                    else (rneDiv (p * 2 ^ (-E).toNat) q, E)) := by
  unfold roundRat
  simp only [he0, h1, h2, h3, h4, if_false]

/-- the first exponent estimate is one too high -/
theorem roundRat_case2 (p q : Nat) (E : Int) (he0 : (Nat.log2 p : Int) - (Nat.log2 q : Int) - 52 = E)
    (h1 : scaledFloor p q E < 2 ^ 52) (h2 : ¬ scaledFloor p q (E - 1) ≥ 2 ^ 53) (h3 : ¬ E - 1 < -1074) (h4 : ¬ E - 1 ≥ 0) :
    roundRat p q = (if rneDiv (p * 2 ^ (-(E - 1)).toNat) q ≥ 2 ^ 53 then (rneDiv (p * 2 ^ (-(E - 1)).toNat) q / 2, E - 1 + 1)
                    else (rneDiv (p * 2 ^ (-(E - 1)).toNat) q, E - 1)) := by
  unfold roundRat
  simp only [he0, h1, h2, h3, h4, if_true, if_false]

theorem log2_one' : Nat.log2 1 = 0 := by decide

/-- float64(a) is exact for 0 < a < 2^52: mantissa a·2^k, exponent −k, with k = 52 − log2 a ≥ 1 -/
theorem roundRat_int (a : Nat) (ha : 0 < a) (h : a < 2 ^ 52) :
    ∃ k : Nat, 1 ≤ k ∧ k ≤ 52 ∧ 2 ^ 52 ≤ a * 2 ^ k ∧ a * 2 ^ k < 2 ^ 53 ∧ roundRat a 1 = (a * 2 ^ k, -(k : Int)) := by
  have hne : a ≠ 0 := by omega
  have hL : Nat.log2 a < 52 := (Nat.log2_lt hne).2 h
  have hlo := Nat.log2_self_le hne
  have hhi := @Nat.lt_log2_self a
  generalize hLdef : Nat.log2 a = L at *
  have hk : 52 = L + (52 - L) := by omega
  have hk1 : 53 = (L + 1) + (52 - L) := by omega
  have b1 : 2 ^ 52 ≤ a * 2 ^ (52 - L) := by
    have : (2 : Nat) ^ 52 = 2 ^ L * 2 ^ (52 - L) := by rw [← Nat.pow_add, ← hk]
    rw [this]; exact Nat.mul_le_mul_right _ hlo
  have b2 : a * 2 ^ (52 - L) < 2 ^ 53 := by
    have : (2 : Nat) ^ 53 = 2 ^ (L + 1) * 2 ^ (52 - L) := by rw [← Nat.pow_add, ← hk1]
    rw [this]; exact Nat.mul_lt_mul_of_lt_of_le hhi (Nat.le_refl _) (Nat.pow_pos (by decide))
  refine ⟨52 - L, by omega, by omega, b1, b2, ?_⟩
  have hE : ((Nat.log2 a : Nat) : Int) - ((Nat.log2 1 : Nat) : Int) - 52 = -((52 - L : Nat) : Int) := by
    rw [hLdef, log2_one']; omega
  have hsf : scaledFloor a 1 (-((52 - L : Nat) : Int)) = a * 2 ^ (52 - L) := by
    unfold scaledFloor
    have : ¬ (-((52 - L : Nat) : Int) ≥ 0) := by omega
    rw [if_neg this]
    simp
  rw [roundRat_case1 a 1 _ hE (by rw [hsf]; omega) (by rw [hsf]; omega) (by omega) (by omega)]
  have hm : rneDiv (a * 2 ^ (-(-((52 - L : Nat) : Int))).toNat) 1 = a * 2 ^ (52 - L) := by
    rw [rneDiv_one]; simp
  rw [hm, if_neg (by omega)]

/-- a mantissa `m` at exponent `−j` whose hundredfold is within 50 of `x = a·2^j` (half a hundredth of `a/100`) prints as `a` -/
theorem hundredths_near (a m j x : Nat) (hj : 1 ≤ j) (hx : a * 2 ^ j = x) (hy : 128 ≤ 2 ^ j)
    (hr : 100 * m ≤ x + 50 ∧ x ≤ 100 * m + 50) : hundredths m (-(j : Int)) = a := by
  unfold hundredths
  rw [if_neg (by omega), show (-(-(j : Int))).toNat = j by omega]
  refine rneDiv_near a (2 ^ j) _ (by omega) ?_ ?_
  · rw [hx]; omega
  · rw [hx]; omega

theorem money_core (a k : Nat) (hk : 1 ≤ k) (hk52 : k ≤ 52) (h1 : 2 ^ 52 ≤ a * 2 ^ k) (h2 : a * 2 ^ k < 2 ^ 53) :
    hundredths (roundRat (a * 2 ^ k) (100 * 2 ^ k)).1 (roundRat (a * 2 ^ k) (100 * 2 ^ k)).2 = a := by
  have hs : 2 ≤ 2 ^ k := by
    have : 2 ^ 1 ≤ 2 ^ k := Nat.pow_le_pow_right (by decide) hk
    simpa using this
  have hspos : 0 < 2 ^ k := by omega
  generalize hp : a * 2 ^ k = p at *
  have hlp : Nat.log2 p = 52 := (Nat.log2_eq_iff (by omega)).2 ⟨h1, h2⟩
  have hq64 : 2 ^ (6 + k) = 64 * 2 ^ k := by rw [Nat.pow_add]
  have hq128 : 2 ^ (7 + k) = 128 * 2 ^ k := by rw [Nat.pow_add]
  have hlq : Nat.log2 (100 * 2 ^ k) = 6 + k :=
    (Nat.log2_eq_iff (by omega)).2 ⟨by rw [hq64]; omega, by rw [show 6 + k + 1 = 7 + k by omega, hq128]; omega⟩
  have hE : ((Nat.log2 p : Nat) : Int) - ((Nat.log2 (100 * 2 ^ k) : Nat) : Int) - 52 = -((6 + k : Nat) : Int) := by
    rw [hlp, hlq]; omega
  have e67 : -((6 + k : Nat) : Int) - 1 = -((7 + k : Nat) : Int) := by omega
  have e76 : -((7 + k : Nat) : Int) + 1 = -((6 + k : Nat) : Int) := by omega
  -- the two candidate mantissas before rounding: ⌊64p/100⌋ at exponent −(6+k), ⌊128p/100⌋ at −(7+k)
  have x64 : p * 2 ^ (6 + k) = 64 * p * 2 ^ k := by rw [hq64, Nat.mul_left_comm, Nat.mul_assoc]
  have x128 : p * 2 ^ (7 + k) = 128 * p * 2 ^ k := by rw [hq128, Nat.mul_left_comm, Nat.mul_assoc]
  have sf1 : scaledFloor p (100 * 2 ^ k) (-((6 + k : Nat) : Int)) = 64 * p / 100 := by
    unfold scaledFloor
    rw [if_neg (by omega), Int.neg_neg, Int.toNat_natCast, x64, Nat.mul_div_mul_right _ _ hspos]
  have sf2 : scaledFloor p (100 * 2 ^ k) (-((7 + k : Nat) : Int)) = 128 * p / 100 := by
    unfold scaledFloor
    rw [if_neg (by omega), Int.neg_neg, Int.toNat_natCast, x128, Nat.mul_div_mul_right _ _ hspos]
  -- a·2^j in units of 2^k
  have a64 : a * 2 ^ (6 + k) = 64 * p := by rw [hq64, Nat.mul_left_comm, hp]
  have a128 : a * 2 ^ (7 + k) = 128 * p := by rw [hq128, Nat.mul_left_comm, hp]
  have s64 : 128 ≤ 2 ^ (6 + k) := by omega
  have s128 : 128 ≤ 2 ^ (7 + k) := by omega
  by_cases hc : 64 * p / 100 < 2 ^ 52
  · rw [roundRat_case2 p (100 * 2 ^ k) _ hE (by rw [sf1]; exact hc) (by rw [e67, sf2]; omega) (by omega) (by omega),
      e67, Int.neg_neg, Int.toNat_natCast, x128, rneDiv_scale _ _ _ hspos, e76]
    have hr := rneDiv_100 (128 * p)
    generalize rneDiv (128 * p) 100 = m at hr ⊢
    split
    · -- the rounding carried into bit 53: the mantissa is halved, one exponent up
      exact hundredths_near a _ (6 + k) (64 * p) (by omega) a64 s64 (by omega)
    · exact hundredths_near a m (7 + k) (128 * p) (by omega) a128 s128 hr
  · rw [roundRat_case1 p (100 * 2 ^ k) _ hE (by rw [sf1]; exact hc) (by rw [sf1]; omega) (by omega) (by omega),
      Int.neg_neg, Int.toNat_natCast, x64, rneDiv_scale _ _ _ hspos]
    have hr := rneDiv_100 (64 * p)
    generalize rneDiv (64 * p) 100 = m at hr ⊢
    rw [if_neg (by omega)]
    exact hundredths_near a m (6 + k) (64 * p) (by omega) a64 s64 hr

/-- `$%.2f` of float64(c)/100 is the exact decimal of c/100 for |c| < 10^15 -/
theorem moneyText_exact (c : Int) (h1 : -(10 ^ 15 : Int) < c) (h2 : c < (10 ^ 15 : Int)) :
    moneyText c = (if c < 0 then [45] else []) ++ decNat (c.natAbs / 100) ++ [46] ++ padNat 2 (c.natAbs % 100) := by
  unfold moneyText
  simp only
  by_cases h0 : c.natAbs = 0
  · rw [if_pos h0, h0]
    have : ¬ c < 0 := by omega
    rw [if_neg this]
    decide
  · rw [if_neg h0]
    have ha : c.natAbs < 2 ^ 52 := by omega
    obtain ⟨k, hk1, hk52, hb1, hb2, hr⟩ := roundRat_int c.natAbs (by omega) ha
    rw [hr]
    have e1 : ¬ (-(k : Int) ≥ 0) := by omega
    have e2 : (-(-(k : Int))).toNat = k := by omega
    simp only [e1, if_false, e2]
    rw [money_core c.natAbs k hk1 hk52 hb1 hb2]

end PgVerif.Proofs.Money
