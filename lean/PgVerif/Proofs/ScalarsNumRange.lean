/-
  numrange as range_serialize stores it: bounds as numeric varlenas, 1-byte header up to 126 payload bytes, 4-byte header int-aligned
  beyond.  ReadVarlena is the model of area rows, DecodeNumeric that of area numjson.
-/
import PgVerif.Proofs.ScalarsRange
import PgVerif.Proofs.Rows
import PgVerif.Proofs.Numeric
import PgVerif.Proofs.JsonbGo
namespace PgVerif.Proofs.ScalarsRT
open PgVerif PgVerif.Model.Scalars PgVerif.Spec.Scalars PgVerif.Txt PgVerif.Proofs.Scalars

/-- the numeric decoder of area numjson as the `Ext` component, given strconv.ParseFloat -/
def numExt (pf : Model.ParseFloat) : Bytes → M GoVal := fun raw => (Model.decodeNumeric raw).map fun r => r.toGo pf

/-- `align(x+4, 4) - 4` rounds `x` up to a multiple of 4 -/
theorem align4 (x : Nat) : align (x + 4) 4 - 4 = (x + 3) / 4 * 4 := by
  show goAlign (x + 4) 4 - 4 = _
  rw [goAlign_eq _ 4 (by omega), roundUp]; omega

theorem numExt_enc (pf : Model.ParseFloat) (hpf : Spec.ParseFloatOK pf) (n : Spec.Numeric) (h : n.WF) (form : Spec.HeaderForm)
    (hf : form.admits n) :
    ∃ g, numExt pf (Spec.encNumeric form n) = .ok g ∧ g ≠ .nil ∧ numBoundPieces g = [hole n.view.bits] := by
  obtain ⟨r, hd, hv⟩ := map_eq_ok (decodeNumeric_enc n h form hf)
  have hg := JsonbGo.num_toGo pf hpf r _ hv
  refine ⟨r.toGo pf, by rw [numExt, hd]; rfl, ?_, ?_⟩
  · cases r <;> simp [Model.NumRes.toGo, Model.NumRes.toView] at hv ⊢
  · cases r with
    | none => simp [Model.NumRes.toView] at hv
    | _ =>
      simp only [Model.NumRes.toGo, Spec.numAsF64, Spec.NumView.toGo, GoVal.f64.injEq] at hg
      simp only [Model.NumRes.toGo, numBoundPieces, hg]

theorem numBoundStart_nz (a t : Bytes) (b : UInt8) (hb : b ≠ 0) :
    numBoundStart (a ++ (b :: t)) a.length = .ok a.length := by
  rw [numBoundStart_eq, if_neg]
  rintro ⟨_, h⟩
  exact hb (by simpa using h)

/-- the padding of an int-aligned datum: `k < 4` zero bytes up to the next multiple of 4 counted from the range's own 4-byte header -/
theorem numBoundStart_pad (a t : Bytes) (k : Nat) (hk : k < 4) (hal : (a.length + k) % 4 = 0) (ht : 2 ≤ t.length) :
    numBoundStart (a ++ (zeros k ++ t)) a.length = .ok (a.length + k) := by
  rw [numBoundStart_eq, align4, show (a.length + 3) / 4 * 4 = a.length + k by omega]
  cases k with
  | zero => split <;> rfl   -- already aligned: either branch leaves the offset
  | succ k =>
    rw [if_pos ⟨by simp only [List.length_append, zeros_length]; omega, by simp [zeros, List.replicate_succ]⟩]

theorem numBoundAt_ok (ext : Ext) (a v rest : Bytes) (fb : UInt8) (p : Bytes) (g : GoVal) (c : Nat) (hc : v.length = c)
    (hv : 1 ≤ c)
    (hr : Model.readVarlena (v ++ rest) = .ok (some p, c)) (hd : ext.decodeNumeric p = .ok g) (hg : g ≠ .nil) :
    numBoundAt ext (a ++ (v ++ rest ++ [fb])) a.length = .ok (numBoundPieces g, a.length + c) := by
  subst hc
  unfold numBoundAt
  have hlen : (a ++ (v ++ rest ++ [fb])).length - 1 = a.length + (v ++ rest).length := by
    simp only [List.length_append, List.length_cons, List.length_nil]; omega
  rw [hlen, if_neg (by simp only [List.length_append]; omega), (at_mid a (v ++ rest) [fb] rfl).slice]
  simp only [ok_bind, hr, hd, pure_eq_ok]

theorem numBound_enc (ext : Ext) (pf : Model.ParseFloat) (hpf : Spec.ParseFloatOK pf) (hext : ext.decodeNumeric = numExt pf)
    (a rest : Bytes) (fb : UInt8) (n : Spec.Numeric) (form : Spec.HeaderForm) (hb : (Bound.num n form).wf .num = true) :
    numBound ext (a ++ (boundPad a.length (.num n form) ++ encBoundAs .num (.num n form) ++ rest ++ [fb])) a.length
      = .ok ([hole n.view.bits], a.length + (boundPad a.length (.num n form) ++ encBoundAs .num (.num n form)).length) := by
  have hb' : n.WF ∧ form.admits n ∧ (Spec.encNumeric form n).length + 4 < 2 ^ 30 := by
    simp only [Bound.wf, Bool.and_eq_true, beq_iff_eq, decide_eq_true_eq] at hb
    exact ⟨hb.1.1.2, hb.1.2, hb.2⟩
  obtain ⟨g, hd, hg, hpieces⟩ := numExt_enc pf hpf n hb'.1 form hb'.2.1
  have hd' : ext.decodeNumeric (Spec.encNumeric form n) = .ok g := by rw [hext]; exact hd
  have hpos := encNumeric_pos form n
  generalize hp : Spec.encNumeric form n = p at *
  rw [numBound_eq]
  by_cases hshort : p.length + 1 ≤ 127
  · -- 1-byte header, no padding
    have e1 : boundPad a.length (.num n form) = [] := by simp only [boundPad, hp, hshort, if_true]
    have e2 : encBoundAs .num (.num n form) = UInt8.ofNat ((p.length + 1) * 2 + 1) :: p := by
      simp only [encBoundAs, encBound, encVarlenaBound, hp, hshort, if_true, Spec.varlena1]
    rw [e1, e2]
    simp only [List.nil_append, List.cons_append, List.length_cons]
    have hne : UInt8.ofNat ((p.length + 1) * 2 + 1) ≠ 0 := by
      intro h0
      have := congrArg UInt8.toNat h0
      simp [UInt8.toNat_ofNat'] at this
      omega
    rw [numBoundStart_nz a _ _ hne]
    simp only [ok_bind]
    have hr := (Rows.readVarlena_eq _).trans (congrArg Except.ok (Rows.varlenaOf_short p rest (by omega)))
    rw [show 2 * (p.length + 1) + 1 = (p.length + 1) * 2 + 1 by omega] at hr
    have := numBoundAt_ok ext a (UInt8.ofNat ((p.length + 1) * 2 + 1) :: p) rest fb p g (p.length + 1) (by simp) (by omega)
      (by simpa using hr) hd' hg
    simp only [List.cons_append] at this
    rw [this, hpieces]
  · -- 4-byte header behind the alignment padding
    have e1 : boundPad a.length (.num n form) = zeros ((4 - a.length % 4) % 4) := by
      simp only [boundPad, hp, hshort, if_false]
    have e2 : encBoundAs .num (.num n form) = le 4 ((p.length + 4) * 4) ++ p := by
      simp only [encBoundAs, encBound, encVarlenaBound, hp, hshort, if_false, Spec.varlena4]
    rw [e1, e2]
    have hst := numBoundStart_pad a (le 4 ((p.length + 4) * 4) ++ p ++ rest ++ [fb]) ((4 - a.length % 4) % 4) (by omega) (by omega)
      (by simp only [List.length_append, le_length]; omega)
    simp only [List.append_assoc] at hst ⊢
    rw [hst]
    simp only [ok_bind]
    have hr := (Rows.readVarlena_eq _).trans (congrArg Except.ok (Rows.varlenaOf_long ((p.length + 4) * 4) p rest rfl (by omega)))
    have := numBoundAt_ok ext (a ++ zeros ((4 - a.length % 4) % 4)) (le 4 ((p.length + 4) * 4) ++ p) rest fb p g
      (p.length + 4) (by simp only [List.length_append, le_length]; omega) (by omega)
      (by simpa [List.append_assoc] using hr) hd' hg
    simp only [List.append_assoc, List.length_append, zeros_length, le_length] at this ⊢
    rw [this, hpieces]
    congr 2
    omega

/-- the lower bound starts at offset 8 of the range (4 of its payload): never padded -/
theorem boundPad4 (b : Bound) : boundPad 4 b = [] := by
  cases b with
  | num n form => simp only [boundPad]; split <;> rfl
  | _ => rfl

theorem wf_num_bound (b : Bound) (h : b.wf .num = true) : ∃ n form, b = .num n form := by
  cases b with
  | num n form => exact ⟨n, form, rfl⟩
  | int i => simp [Bound.wf] at h
  | date d => simp [Bound.wf] at h
  | ts t => simp [Bound.wf] at h

/-- one bound, absent (`inf`) or stored at `off` after `a` with its padding -/
theorem numBound_opt (ext : Ext) (pf : Model.ParseFloat) (hpf : Spec.ParseFloatOK pf) (hext : ext.decodeNumeric = numExt pf)
    (a tail : Bytes) (htail : tail ≠ []) (off : Nat) (hoff : off = a.length) (inf : Bool) (b : Bound)
    (hb : inf = false → b.wf .num = true) :
    (if inf = true then (pure ([], off) : M (List GoVal × Nat))
     else numBound ext (a ++ ((if inf = false then boundPad off b ++ encBoundAs .num b else []) ++ tail)) off)
    = .ok (if inf = false then b.pieces else [],
        off + (if inf = false then boundPad off b ++ encBoundAs .num b else []).length) := by
  subst hoff
  cases inf with
  | true => rfl
  | false =>
    obtain ⟨n, form, rfl⟩ := wf_num_bound b (hb rfl)
    obtain ⟨rest, fb, rfl⟩ : ∃ rest fb, tail = rest ++ [fb] :=
      ⟨tail.dropLast, tail.getLast htail, (List.dropLast_concat_getLast htail).symm⟩
    have := numBound_enc ext pf hpf hext a rest fb n form (hb rfl)
    rwa [List.append_assoc _ rest] at this

theorem decodeNumericRange_rt (ext : Ext) (pf : Model.ParseFloat) (hpf : Spec.ParseFloatOK pf)
    (hext : ext.decodeNumeric = numExt pf) (flags : Nat) (lo hi : Bound) (h0 : flags.testBit 0 = false)
    (hlo : rangeHasLower flags = true → lo.wf .num = true) (hhi : rangeHasUpper flags = true → hi.wf .num = true) :
    decodeNumericRange ext (enc (.range .num flags lo hi)) flags = .ok (view (.range .num flags lo hi)) := by
  have hL : rangeHasLower flags = !flags.testBit 3 := by simp [rangeHasLower, h0]
  have hU : rangeHasUpper flags = !flags.testBit 4 := by simp [rangeHasUpper, h0]
  show decodeNumericRange ext (le 4 3906 ++ (if rangeHasLower flags then encBoundAs .num lo else []) ++
      (if rangeHasUpper flags then
        boundPad (4 + (if rangeHasLower flags then encBoundAs .num lo else []).length) hi ++ encBoundAs .num hi else []) ++
      [UInt8.ofNat flags]) flags = .ok (fstrS (numRangePieces flags lo hi))
  unfold decodeNumericRange numRangePieces
  simp only [land_bit1, land_bit2, land_bit3, land_bit4, hL, hU, h0, Bool.false_eq_true, if_false, Bool.not_eq_true', List.append_assoc]
  -- the lower bound sits at offset 4, where no padding is needed
  rw [show encBoundAs .num lo = boundPad 4 lo ++ encBoundAs .num lo by rw [boundPad4]; rfl,
    numBound_opt ext pf hpf hext (le 4 3906) _ (by simp) 4 rfl (flags.testBit 3) lo (fun h3 => hlo (by rw [hL, h3]; rfl)),
    ok_bind, ← List.append_assoc (le 4 3906)]
  -- the upper bound follows it
  rw [numBound_opt ext pf hpf hext _ [UInt8.ofNat flags] (by simp) _ (by simp) (flags.testBit 4) hi
    (fun h4 => hhi (by rw [hU, h4]; rfl)), ok_bind]
  simp only [pure_eq_ok]

theorem decodeRange_num_rt (ext : Ext) (pf : Model.ParseFloat) (hpf : Spec.ParseFloatOK pf)
    (hext : ext.decodeNumeric = numExt pf) (flags : Nat) (lo hi : Bound) (hf : flags < 32)
    (hlo : rangeHasLower flags = true → lo.wf .num = true) (hhi : rangeHasUpper flags = true → hi.wf .num = true) :
    decodeRange ext (enc (.range .num flags lo hi)) 3906 = .ok (view (.range .num flags lo hi)) := by
  obtain ⟨body, he, hb⟩ := enc_range_snoc .num flags lo hi
  rw [he, decodeRange_snoc _ _ _ _ hb, u8_toNat flags (by omega), ← he]
  cases h0 : flags.testBit 0
  · rw [if_neg Bool.false_ne_true, if_pos rfl]
    exact decodeNumericRange_rt ext pf hpf hext flags lo hi h0 hlo hhi
  · rw [if_pos rfl]
    show Except.ok (lit "empty") = Except.ok (fstrS (numRangePieces flags lo hi))
    simp only [numRangePieces, h0, if_true]
    rfl

end PgVerif.Proofs.ScalarsRT
