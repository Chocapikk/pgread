/-
  path / polygon: the points loop and the stored-layout test on PostgreSQL's stored form; the stored and the send/recv
  layouts can never both fit one input.
-/
import PgVerif.Proofs.ScalarsRT
namespace PgVerif.Proofs.ScalarsRT
open PgVerif PgVerif.Model.Scalars PgVerif.Spec.Scalars PgVerif.Txt PgVerif.Proofs.Scalars


theorem flatMap_encPt_length (pts : List Pt) : (pts.flatMap encPt).length = 16 * pts.length :=
  length_flatMap_const encPt pts fun p _ => encPt_length p

theorem pathPoints_enc (first : Nat) (rest : List Pt) (a : Bytes) (i : Nat) (ha : a.length = first + i * 16)
    (hc : ∀ p ∈ rest, p.1 < 2 ^ 64 ∧ p.2 < 2 ^ 64) :
    pathPoints (a ++ rest.flatMap encPt) first rest.length i = .ok (rest.map ptPieces) := by
  rw [pathPoints_eq _ _ _ _ (by simp only [List.length_append, flatMap_encPt_length]; omega)]
  congr 1
  induction rest generalizing a i with
  | nil => rfl
  | cons p t ih =>
    have hp := hc p (List.mem_cons_self)
    have e : a ++ (p :: t).flatMap encPt = a ++ encPt p ++ t.flatMap encPt := by
      simp only [List.flatMap_cons, List.append_assoc]
    rw [List.length_cons, List.range'_succ, List.map_cons, List.map_cons, e,
      ih (a ++ encPt p) (i + 1) (by simp only [List.length_append, encPt_length, ha]; omega) fun q hq => hc q (List.mem_cons_of_mem _ hq),
      ptAt_enc ((at_end a _ ha).append _) hp.1 hp.2]

theorem wf_path (closed : Bool) (pts : List Pt) (h : (Val.path closed pts).WF) :
    1 ≤ pts.length ∧ pts.length < 2 ^ 27 ∧ ∀ p ∈ pts, p.1 < 2 ^ 64 ∧ p.2 < 2 ^ 64 := by
  have h' : (decide (1 ≤ pts.length) && _ && pts.all _) = true := h
  simpa [and_assoc] using h'

theorem wf_polygon (bbox : Bytes) (pts : List Pt) (h : (Val.polygon bbox pts).WF) :
    bbox.length = 32 ∧ 1 ≤ pts.length ∧ pts.length < 2 ^ 27 ∧ ∀ p ∈ pts, p.1 < 2 ^ 64 ∧ p.2 < 2 ^ 64 := by
  have h' : (bbox.length == 32 && _ && _ && pts.all _) = true := h
  simpa [and_assoc] using h'

theorem layoutOf_path (closed : Bool) (pts : List Pt) (h : (Val.path closed pts).WF) :
    layoutOf (enc (.path closed pts)) 602 = some (pts.length, closed) := by
  obtain ⟨_, hn, _⟩ := wf_path closed pts h
  show layoutOf (le 4 pts.length ++ le 4 (if closed then 1 else 0) ++ le 4 0 ++ pts.flatMap encPt) 602 = _
  rw [List.append_assoc, List.append_assoc,
    layoutOf_fits _ 602 pts.length (sAt_natCast (at_zero _ _) (Nat.lt_trans hn (by decide)))
      (by simp only [List.length_append, le_length, flatMap_encPt_length, show storedFirst 602 = 12 from rfl]; omega),
    sAt_natCast (at_mid _ _ _ (le_length 4 _)) (by cases closed <;> decide)]
  cases closed <;> rfl

theorem layoutOf_polygon (bbox : Bytes) (pts : List Pt) (h : (Val.polygon bbox pts).WF) :
    layoutOf (enc (.polygon bbox pts)) 604 = some (pts.length, false) := by
  obtain ⟨hb, _, hn, _⟩ := wf_polygon bbox pts h
  show layoutOf (le 4 pts.length ++ bbox ++ pts.flatMap encPt) 604 = _
  rw [List.append_assoc,
    layoutOf_fits _ 604 pts.length (sAt_natCast (at_zero _ _) (Nat.lt_trans hn (by decide)))
      (by simp only [List.length_append, le_length, flatMap_encPt_length, hb, show storedFirst 604 = 36 from rfl]; omega)]
  rfl

theorem storedFirst_cases (oid : Nat) : storedFirst oid = 12 ∨ storedFirst oid = 36 := by
  unfold storedFirst; split <;> simp

theorem storedLayout_len (data : Bytes) (oid n : Nat) (c : Bool) (h : storedLayout data oid = .ok (some (n, c))) :
    data.length = storedFirst oid + 16 * n :=
  layoutOf_len (Except.ok.inj ((storedLayout_eq data oid).symm.trans h))

theorem layouts_exclusive (data : Bytes) (oid n : Nat) (c : Bool) (h : storedLayout data oid = .ok (some (n, c))) :
    ¬ ∃ m : Nat, data.length = 5 + 16 * m := by
  have hl := storedLayout_len data oid n c h
  rintro ⟨m, hm⟩
  rcases storedFirst_cases oid with hs | hs <;> omega

theorem wire_not_stored (data : Bytes) (oid m : Nat) (h : data.length = 5 + 16 * m) :
    storedLayout data oid = .ok none := by
  cases hr : layoutOf data oid with
  | none => rw [storedLayout_eq, hr]
  | some p => exact absurd ⟨m, h⟩ (layouts_exclusive data oid p.1 p.2 ((storedLayout_eq data oid).trans (congrArg _ hr)))

end PgVerif.Proofs.ScalarsRT
