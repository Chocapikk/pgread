/-
  What the round trips of the scalar types share on the Spec's side.  The namespace `PgVerif.Proofs.ScalarsRT` is continued by the
  modules of the single types (Bits, Time, Range, NumRange, Path).  `decodeType_16` stands for itself: `C04_bool` evaluates.
-/
import PgVerif.Proofs.ScalarsClosed
namespace PgVerif.Proofs.ScalarsRT
open PgVerif PgVerif.Model.Scalars PgVerif.Spec.Scalars PgVerif.Txt PgVerif.Proofs.Scalars


theorem sAt_enc {bs : Bytes} {off w : Nat} {i : Int} (h : At bs off (le w (ofSigned (8 * w) i))) (hw : 1 ≤ w)
    (hi : inI (8 * w) i = true) : sAt w off bs = i := by
  simp only [inI, Bool.and_eq_true, decide_eq_true_eq] at hi
  exact sAt_ofSigned h hw (by simpa using hi.1) (by simpa using hi.2)

theorem i32_enc (i : Int) (h : inI 32 i = true) : i32 (le 4 (ofSigned 32 i)) 0 = .ok i :=
  (i32_ok _ 0 (by simp)).trans (congrArg _ (sAt_enc (w := 4) (at_self _) (by decide) h))
theorem i64_enc (i : Int) (h : inI 64 i = true) : i64 (le 8 (ofSigned 64 i)) 0 = .ok i :=
  (i64_ok _ 0 (by simp)).trans (congrArg _ (sAt_enc (w := 8) (at_self _) (by decide) h))

theorem decodeType_16 (ext : Ext) (data : Bytes) (h : 1 ≤ data.length) : decodeType ext data 16 = decBool data :=
  decodeType_case ext data 16 1 _ (by decide) h rfl

theorem decodeType_int4_enc (ext : Ext) (i : Int) (h : inI 32 i = true) :
    decodeType ext (le 4 (ofSigned 32 i)) 23 = .ok (.int i) := by
  rw [decodeType_ok ext _ 23 4 (decInt4_ok _) (by decide) (by simp) rfl,
    sAt_enc (w := 4) (at_self _) (by decide) h]

theorem decodeType_int8_enc (ext : Ext) (i : Int) (h : inI 64 i = true) :
    decodeType ext (le 8 (ofSigned 64 i)) 20 = .ok (.int i) := by
  rw [decodeType_ok ext _ 20 8 (decInt8_ok _) (by decide) (by simp) rfl,
    sAt_enc (w := 8) (at_self _) (by decide) h]

theorem decodeType_u32_enc (ext : Ext) (oid n : Nat) (ho : oid = 26 ∨ oid = 28 ∨ oid = 29) (h : n < 2 ^ 32) :
    decodeType ext (le 4 n) oid = .ok (.int n) := by
  rw [decodeType_ok ext _ oid 4 (decU32_ok _) (by rcases ho with rfl | rfl | rfl <;> decide) (by simp)
    (by rcases ho with rfl | rfl | rfl <;> rfl), At.rd (w := 4) (at_self _) h]

/-- finding A11: the 16-bit halves of the block number come out exchanged -/
theorem decodeType_tid_enc (ext : Ext) (block off : Nat) (h : (Val.tid block off).WF) :
    decodeType ext (enc (.tid block off)) 27 =
      .ok (.str ([40] ++ decNat (block / 65536 + 65536 * (block % 65536)) ++ [44] ++ decNat off ++ [41])) := by
  have h' : block < 2 ^ 32 ∧ off < 2 ^ 16 := by simpa using show (_ && _) = true from h
  show decodeType ext (le 2 (block / 65536) ++ le 2 (block % 65536) ++ le 2 off) 27 = _
  rw [decodeType_ok ext _ 27 6 (decTid_ok _) (by decide) (by simp) rfl,
    le_append 2 2 _ _ (by omega), At.rd (w := 4) (at_zero _ _) (by omega), At.rd (w := 2) (at_end _ _ (by simp)) (by omega)]

/-- finding A10: low half / high half -/
theorem decodeType_pglsn_enc (ext : Ext) (v : Nat) (h : (Val.pglsn v).WF) :
    decodeType ext (enc (.pglsn v)) 3220 = .ok (.str (hexNat true (v % 2 ^ 32) ++ [47] ++ hexNat true (v / 2 ^ 32))) := by
  have h' : v < 2 ^ 64 := of_decide_eq_true h
  show decodeType ext (le 8 v) 3220 = _
  rw [decodeType_ok ext _ 3220 8 (decPgLsn_ok _) (by decide) (by simp) rfl, show le 8 v = _ from le_add 4 4 v,
    At.rd (w := 4) (at_zero _ _) (by omega), At.rd (w := 4) (at_end _ _ (by simp)) (by omega)]

theorem fmt0d_nat (w n : Nat) : fmt0d w (n : Int) = padNat w n := by
  unfold fmt0d
  have : ¬ ((n : Int) < 0) := by omega
  rw [if_neg this]; rfl

theorem fmtTimeOfDay_nat (us : Nat) :
    fmtTimeOfDay (us : Int) = hmsText (us / 3600000000) (us / 60000000 % 60) (us / 1000000 % 60) := by
  unfold fmtTimeOfDay hmsText
  have h1 : Int.tdiv (us : Int) 3600000000 = ((us / 3600000000 : Nat) : Int) := rfl
  have h2 : (Int.tdiv (us : Int) 60000000).tmod 60 = ((us / 60000000 % 60 : Nat) : Int) := rfl
  have h3 : (Int.tdiv (us : Int) 1000000).tmod 60 = ((us / 1000000 % 60 : Nat) : Int) := rfl
  rw [h1, h2, h3, fmt0d_nat, fmt0d_nat, fmt0d_nat]

theorem fmtZone_eq (z : Int) : fmtZone z = zoneText z := by
  unfold fmtZone zoneText
  have : (if -z < 0 then (45 : UInt8) else 43) = (if z > 0 then 45 else 43) := by
    by_cases h : z > 0
    · rw [if_pos h, if_pos (by omega)]
    · rw [if_neg h, if_neg (by omega)]
  simp only [this]

theorem pow64 (x : Nat) (h : x < 2 ^ 64) : x < 256 ^ 8 := by
  have : (256 : Nat) ^ 8 = 2 ^ 64 := by decide
  omega

theorem ptAt_enc {bs : Bytes} {off : Nat} {p : Pt} (h : At bs off (encPt p)) (h1 : p.1 < 2 ^ 64) (h2 : p.2 < 2 ^ 64) :
    ptAt off bs = ptPieces p := by
  have hr : At bs (off + (le 8 p.1).length) (le 8 p.2) := h.right
  rw [le_length] at hr
  rw [ptAt, h.left.rd (pow64 _ h1), hr.rd (pow64 _ h2)]; rfl

theorem encPt_length (p : Pt) : (encPt p).length = 16 := by simp [encPt]

theorem cstring_name (s : Bytes) (hl : s.length < 64) (hz : s.contains 0 = false) :
    cstring (s ++ zeros (64 - s.length)) 64 = s := by
  have := takeWhile_take_padded 0 s [] 64 (fun h => by rw [List.contains_iff_mem.mpr h] at hz; cases hz) hl
  rwa [List.append_nil] at this

/-- `Generated.Scalars.typeNames` is the graph of TypeName on 0..5000, obtained by executing the code -/
theorem names_in_table :
    ∀ p ∈ pgTypeNames ++ pgArrayTypeNames, Generated.Scalars.typeNames.lookup p.1 = some (asc p.2) := by
  unfold Txt.asc
  rw [Lit.toList_eq_chars]
  decide +kernel

theorem typeNames_sorted : TableKit.increasing (Generated.Scalars.typeNames.map (·.1)) = true := by decide +kernel

theorem typeNames_keys : ∀ e ∈ Generated.Scalars.typeNames, e.1 ∈ (pgTypeNames ++ pgArrayTypeNames).map (·.1) := by
  decide +kernel

theorem table_keys : ∀ e ∈ Generated.Scalars.typeNames,
    e.1 ∈ (pgTypeNames ++ pgArrayTypeNames).map (·.1) ∧ Generated.Scalars.typeNames.lookup e.1 = some e.2 :=
  fun e he => ⟨typeNames_keys e he, AssocMap.lookup_of_mem (TableKit.nodup_of_increasing typeNames_sorted) he⟩

end PgVerif.Proofs.ScalarsRT
