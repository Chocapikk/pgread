/-
  Range types with fixed-width bounds (int4, int8, date, ts, tstz) on PostgreSQL's stored layout, for all 32 flag bytes.
-/
import PgVerif.Proofs.ScalarsRT
import PgVerif.Proofs.ScalarsTime
namespace PgVerif.Proofs.ScalarsRT
open PgVerif PgVerif.Model.Scalars PgVerif.Spec.Scalars PgVerif.Txt PgVerif.Proofs.Scalars

theorem readBound_at (ext : Ext) (a b c : Bytes) (off size elemOid : Nat) (v : GoVal)
    (ha : a.length = off) (hb : b.length = size) (hc : 1 ≤ c.length) (hd : decodeType0 ext b elemOid = .ok v) :
    readBound ext (a ++ b ++ c) off size elemOid = .ok (some (fmtV v)) := by
  unfold readBound
  have hl : ¬ (off + size > (a ++ b ++ c).length - 1) := by simp; omega
  rw [if_neg hl, slice_mid a b c off size ha hb]
  simp only [ok_bind, hd, pure_eq_ok]

/-- offsets count from the range's own 4-byte header: hence the `+ 4` -/
theorem align_elem (offset size : Nat) (hs : size = 4 ∨ size = 8) (ho : (offset + 4) % size = 0) :
    (if size > 1 then align (offset + 4) size - 4 else offset) = offset := by
  rw [if_pos (by omega)]
  show goAlign (offset + 4) size - 4 = offset
  rw [goAlign_eq _ _ (by omega), roundUp_of_mod _ _ (by omega) ho]; omega

/-- a bound's bytes and decoding are asked for only when its INF flag is clear (it is stored) -/
theorem rangeFixed_rt (ext : Ext) (pre lo hi loText hiText : Bytes) (flags elemOid size : Nat)
    (hpre : pre.length = 4) (hsz : size = 4 ∨ size = 8)
    (hl : flags.testBit 3 = false → lo.length = size ∧ ∃ v, decodeType0 ext lo elemOid = .ok v ∧ fmtV v = loText)
    (hh : flags.testBit 4 = false → hi.length = size ∧ ∃ v, decodeType0 ext hi elemOid = .ok v ∧ fmtV v = hiText) (fb : UInt8) :
    decodeRangeFixed ext (pre ++ (if flags.testBit 3 then [] else lo) ++ (if flags.testBit 4 then [] else hi) ++ [fb])
      flags elemOid size
    = .ok (.str ([if flags.testBit 1 then 91 else 40] ++ (if flags.testBit 3 then [] else loText) ++ [44] ++
        (if flags.testBit 4 then [] else hiText) ++ [if flags.testBit 2 then 93 else 41])) := by
  unfold decodeRangeFixed rangeLower rangeUpper rangeOut
  simp only [land_bit1, land_bit2, land_bit3, land_bit4]
  cases h3 : flags.testBit 3 <;> cases h4 : flags.testBit 4
  · -- both bounds present
    obtain ⟨hlo, vl, hdl, hfl⟩ := hl h3
    obtain ⟨hhi, vh, hdh, hfh⟩ := hh h4
    simp only [Bool.false_eq_true, if_false]
    have r1 := readBound_at ext pre lo (hi ++ [fb]) 4 size elemOid vl hpre hlo (by simp) hdl
    have r2 := readBound_at ext (pre ++ lo) hi [fb] (4 + size) size elemOid vh (by simp; omega) hhi (by simp) hdh
    simp only [List.append_assoc] at r1 r2 ⊢
    rw [r1]; simp only [ok_bind, pure_eq_ok]
    rw [align_elem (4 + size) size hsz (by rcases hsz with rfl | rfl <;> rfl), r2]
    simp only [ok_bind, hfl, hfh, Bool.not_false, if_true]
  · -- lower only
    obtain ⟨hlo, vl, hdl, hfl⟩ := hl h3
    simp only [Bool.false_eq_true, if_false, if_true, List.append_nil]
    have r1 := readBound_at ext pre lo [fb] 4 size elemOid vl hpre hlo (by simp) hdl
    rw [r1]; simp only [ok_bind, pure_eq_ok, hfl, Bool.not_true, Bool.false_eq_true, if_false, List.append_assoc, List.append_nil]
  · -- upper only
    obtain ⟨hhi, vh, hdh, hfh⟩ := hh h4
    simp only [Bool.false_eq_true, if_false, if_true, List.append_nil, ok_bind, pure_eq_ok]
    have r2 := readBound_at ext pre hi [fb] 4 size elemOid vh hpre hhi (by simp) hdh
    rw [align_elem 4 size hsz (by rcases hsz with rfl | rfl <;> rfl), r2]
    simp only [ok_bind, hfh, Bool.not_false, if_true, List.append_assoc]
  · -- no bounds
    simp only [if_true, ok_bind, pure_eq_ok, Bool.not_true, Bool.false_eq_true, if_false, List.append_nil, List.append_assoc]

/-- `decodeType0` is the model's copy of DecodeType that decodeRange calls for its bounds -/
theorem decodeType0_eq (ext : Ext) (data : Bytes) (oid : Nat) (hr : isRangeOid oid = false) :
    decodeType0 ext data oid = decodeType ext data oid := by
  rw [decodeType0, decodeType, decodeScalar, hr]
  rfl

theorem wf_num_ty {ty : RangeTy} {n : Spec.Numeric} {form : Spec.HeaderForm} (hb : (Bound.num n form).wf ty = true) :
    ty = .num := by
  simp only [Bound.wf, Bool.and_eq_true, beq_iff_eq] at hb
  exact hb.1.1.1

theorem rangeElem_ty (ty : RangeTy) (hty : ty ≠ .num) : ∃ eo es, rangeElem ty.oid = some (eo, es) ∧ (es = 4 ∨ es = 8) := by
  cases ty with
  | num => exact absurd rfl hty
  | _ => exact ⟨_, _, rfl, by decide⟩

theorem bound_ok (ext : Ext) (ty : RangeTy) (b : Bound) (hb : b.wf ty = true) {eo es : Nat}
    (he : rangeElem ty.oid = some (eo, es)) :
    ∃ v, decodeType0 ext (encBoundAs ty b) eo = .ok v ∧ fmtV v = b.text ∧ (encBoundAs ty b).length = es := by
  cases b with
  | int i =>
    have h' : (ty = .int4 ∧ inI 32 i = true) ∨ (ty = .int8 ∧ inI 64 i = true) := by
      simpa [Bound.wf] using hb
    rcases h' with ⟨rfl, hi⟩ | ⟨rfl, hi⟩
    · cases (he : some (OidInt4, 4) = some (eo, es))
      exact ⟨.int i, (decodeType0_eq _ _ _ (by decide)).trans (decodeType_int4_enc ext i hi), rfl, by simp [encBoundAs]⟩
    · cases (he : some (OidInt8, 8) = some (eo, es))
      exact ⟨.int i, (decodeType0_eq _ _ _ (by decide)).trans (decodeType_int8_enc ext i hi), rfl, by simp [encBoundAs]⟩
  | date d =>
    obtain ⟨rfl, hd⟩ : ty = .date ∧ d.wf = true := by simpa [Bound.wf] using hb
    cases (he : some (OidDate, 4) = some (eo, es))
    exact ⟨.str d.text, (decodeType0_eq _ _ _ (by decide)).trans (decodeType_date_enc ext d hd), rfl,
      by simp [encBoundAs, encBound]⟩
  | ts t =>
    obtain ⟨hty, ht⟩ : (ty = .ts ∨ ty = .tstz) ∧ t.wf = true := by simpa [Bound.wf] using hb
    rcases hty with rfl | rfl
    · cases (he : some (OidTimestamp, 8) = some (eo, es))
      exact ⟨.str t.text, (decodeType0_eq _ _ _ (by decide)).trans (decodeType_timestamp_enc ext _ (Or.inl rfl) t ht), rfl,
        by simp [encBoundAs, encBound]⟩
    · cases (he : some (OidTimestampTZ, 8) = some (eo, es))
      exact ⟨.str t.text, (decodeType0_eq _ _ _ (by decide)).trans (decodeType_timestamp_enc ext _ (Or.inr rfl) t ht), rfl,
        by simp [encBoundAs, encBound]⟩
  | num n form =>
    obtain rfl := wf_num_ty hb
    cases (he : none = some (eo, es))

theorem boundPad_fixed (ty : RangeTy) (hty : ty ≠ .num) (b : Bound) (hb : b.wf ty = true) (k : Nat) : boundPad k b = [] := by
  cases b with
  | num n form => exact absurd (wf_num_ty hb) hty
  | _ => rfl

theorem view_range_fixed (ty : RangeTy) (hty : ty ≠ .num) (flags : Nat) (lo hi : Bound) :
    view (.range ty flags lo hi) = .str (rangeText flags lo hi) := by
  cases ty <;> first | rfl | exact absurd rfl hty

theorem wf_range (ty : RangeTy) (flags : Nat) (lo hi : Bound) (h : (Val.range ty flags lo hi).WF) :
    flags < 32 ∧ (rangeHasLower flags = true → lo.wf ty = true) ∧ (rangeHasUpper flags = true → hi.wf ty = true) := by
  have h' : flags < 32 ∧ (rangeHasLower flags = false ∨ lo.wf ty = true) ∧ (rangeHasUpper flags = false ∨ hi.wf ty = true) := by
    simpa [and_assoc] using show (_ && _) = true from h
  refine ⟨h'.1, fun hl => ?_, fun hu => ?_⟩
  · rcases h'.2.1 with h0 | h0
    · rw [hl] at h0; cases h0
    · exact h0
  · rcases h'.2.2 with h0 | h0
    · rw [hu] at h0; cases h0
    · exact h0

theorem enc_range_snoc (ty : RangeTy) (flags : Nat) (lo hi : Bound) :
    ∃ body, enc (.range ty flags lo hi) = body ++ [UInt8.ofNat flags] ∧ 4 ≤ body.length :=
  ⟨le 4 ty.oid ++ (if rangeHasLower flags then encBoundAs ty lo else []) ++
    (if rangeHasUpper flags then
      boundPad (4 + (if rangeHasLower flags then encBoundAs ty lo else []).length) hi ++ encBoundAs ty hi else []), rfl,
    by simp only [List.length_append, le_length]; omega⟩

theorem enc_range_length (ty : RangeTy) (flags : Nat) (lo hi : Bound) : 5 ≤ (enc (.range ty flags lo hi)).length := by
  obtain ⟨body, he, hb⟩ := enc_range_snoc ty flags lo hi
  rw [he, List.length_append, List.length_singleton]; omega

theorem decodeType_range_enc (ext : Ext) (ty : RangeTy) (flags : Nat) (lo hi : Bound) :
    decodeType ext (enc (.range ty flags lo hi)) ty.oid = decodeRange ext (enc (.range ty flags lo hi)) ty.oid := by
  have h0 : (enc (.range ty flags lo hi)).length ≠ 0 := by have := enc_range_length ty flags lo hi; omega
  have ha : arrayElemTypes.lookup ty.oid = none := by cases ty <;> decide
  have hr : isRangeOid ty.oid = true := by cases ty <;> decide
  simp [decodeType, h0, ha, decodeScalar, hr]

theorem decodeRange_rt (ext : Ext) (ty : RangeTy) (hty : ty ≠ .num) (flags : Nat) (lo hi : Bound) (hf : flags < 32)
    (hlo : rangeHasLower flags = true → lo.wf ty = true) (hhi : rangeHasUpper flags = true → hi.wf ty = true) :
    decodeRange ext (enc (.range ty flags lo hi)) ty.oid = .ok (view (.range ty flags lo hi)) := by
  have hfb : (UInt8.ofNat flags).toNat = flags := u8_toNat flags (by omega)
  rw [view_range_fixed ty hty]
  have hpad : (if rangeHasUpper flags then
        boundPad (4 + (if rangeHasLower flags then encBoundAs ty lo else []).length) hi ++ encBoundAs ty hi else []) =
      (if rangeHasUpper flags then encBoundAs ty hi else []) := by
    cases hu : rangeHasUpper flags
    · rfl
    · simp only [if_true]; rw [boundPad_fixed ty hty hi (hhi hu)]; rfl
  show decodeRange ext (le 4 ty.oid ++ (if rangeHasLower flags then encBoundAs ty lo else []) ++
      (if rangeHasUpper flags then
        boundPad (4 + (if rangeHasLower flags then encBoundAs ty lo else []).length) hi ++ encBoundAs ty hi else []) ++
      [UInt8.ofNat flags]) ty.oid
    = .ok (.str (rangeText flags lo hi))
  rw [hpad, decodeRange_snoc _ _ _ _ (by simp only [List.length_append, le_length]; omega), hfb]
  cases h0 : flags.testBit 0
  · -- not empty
    have hnum : ¬ ty.oid = OidNumRange := by
      cases ty with
      | num => exact absurd rfl hty
      | _ => decide
    obtain ⟨eo, es, he, hsz⟩ := rangeElem_ty ty hty
    simp only [Bool.false_eq_true, if_false, hnum, he]
    have hL : rangeHasLower flags = !flags.testBit 3 := by simp [rangeHasLower, h0]
    have hU : rangeHasUpper flags = !flags.testBit 4 := by simp [rangeHasUpper, h0]
    -- a bound that is present is well-formed, hence decodes to its text
    have key := rangeFixed_rt ext (le 4 ty.oid) (encBoundAs ty lo) (encBoundAs ty hi) lo.text hi.text flags eo es (by simp) hsz
      (fun h3 => by
        obtain ⟨v, d, f, l⟩ := bound_ok ext ty lo (hlo (by rw [hL, h3]; rfl)) he
        exact ⟨l, v, d, f⟩)
      (fun h4 => by
        obtain ⟨v, d, f, l⟩ := bound_ok ext ty hi (hhi (by rw [hU, h4]; rfl)) he
        exact ⟨l, v, d, f⟩)
      (UInt8.ofNat flags)
    -- `enc` and `rangeText` test `rangeHasLower/Upper` (= not INF, by `hL`, `hU`) where `key` tests the INF bits themselves:
    -- the two `if`s agree in each of the four cases
    simp only [hL, hU, rangeText, h0, Bool.false_eq_true, if_false]
    cases h3 : flags.testBit 3 <;> cases h4 : flags.testBit 4 <;> simpa [h3, h4] using key
  · -- EMPTY flag: nothing else is looked at
    simp only [if_true, rangeText, h0]
    rfl

end PgVerif.Proofs.ScalarsRT
