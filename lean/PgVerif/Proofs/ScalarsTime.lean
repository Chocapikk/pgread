/-
  date and timestamp[tz] on the stored forms, ±infinity included.
-/
import PgVerif.Proofs.ScalarsRT
import PgVerif.Proofs.ScalarsCal
import PgVerif.Proofs.ScalarsFrac
namespace PgVerif.Proofs.ScalarsRT
open PgVerif PgVerif.Model.Scalars PgVerif.Spec.Scalars PgVerif.Txt PgVerif.Proofs.ScalarsCal PgVerif.Proofs.Scalars

theorem validYMD_iff (y m d : Nat) :
    validYMD y m d = true ↔ (1 ≤ y ∧ y ≤ 9999 ∧ 1 ≤ m ∧ m ≤ 12 ∧ 1 ≤ d ∧ d ≤ daysInMonth y m) := by
  simp [validYMD, and_assoc]

theorem pgDate_bounds (y m d : Nat) (h : validYMD y m d = true) : -730119 ≤ pgDate y m d ∧ pgDate y m d ≤ 2921940 := by
  have h' := (validYMD_iff y m d).1 h
  have h1 := (monthDay_inv y m d ⟨h'.2.2.1, h'.2.2.2.1⟩ h'.2.2.2.2).2
  have h2 : (if isLeap y then 1 else 0) ≤ 1 := by split <;> omega
  unfold pgDate daysBeforeYear
  omega

theorem fmtYear_nat (y : Nat) : fmtYear (y : Int) = padNat 4 y := by
  unfold fmtYear
  have : ¬ ((y : Int) < 0) := by omega
  simp [this]

theorem fmtDate_pgDate (y m d : Nat) (h : validYMD y m d = true) : fmtDate (pgDate y m d + 10957) = ymdText y m d := by
  have h' := (validYMD_iff y m d).1 h
  unfold fmtDate
  rw [civil_pgDate y m d h'.1 ⟨h'.2.2.1, h'.2.2.2.1⟩ ⟨h'.2.2.2.2.1, h'.2.2.2.2.2⟩]
  simp only [fmtYear_nat, ymdText]

theorem decDate_enc (dv : DateV) (h : dv.wf = true) : decDate (le 4 (ofSigned 32 dv.stored)) = .ok (.str dv.text) := by
  cases dv with
  | posInf => rfl
  | negInf => rfl
  | fin y m d =>
    have hv : validYMD y m d = true := h
    have hb := pgDate_bounds y m d hv
    have hin : inI 32 (pgDate y m d) = true := by
      simp only [inI, Bool.and_eq_true, decide_eq_true_eq, Nat.reduceSub, Int.reducePow]; omega
    unfold decDate
    simp only [DateV.stored, i32_enc _ hin, ok_bind]
    have h1 : ¬ pgDate y m d = 2147483647 := by omega
    have h2 : ¬ pgDate y m d = -2147483648 := by omega
    simp only [h1, h2, if_false, fmtDate_pgDate y m d hv]
    rfl

/-- `time.Unix(sec, 0).UTC().Format(…)` at second `hh:mi:ss` of day `D` -/
theorem fmtUnix_at (D : Int) (hh mi ss : Nat) (h1 : hh < 24) (h2 : mi < 60) (h3 : ss < 60) :
    fmtUnix (D * 86400 + ((hh * 3600 + mi * 60 + ss : Nat) : Int)) = fmtDate D ++ [32] ++ hmsText hh mi ss := by
  have e3 : (hh * 3600 + mi * 60 + ss) / 3600 = hh := by omega
  have e4 : (hh * 3600 + mi * 60 + ss) / 60 % 60 = mi := by omega
  have e5 : (hh * 3600 + mi * 60 + ss) % 60 = ss := by omega
  have ht : hh * 3600 + mi * 60 + ss < 86400 := by omega
  generalize hh * 3600 + mi * 60 + ss = t at *
  obtain ⟨e1, e2⟩ := ScalarsFrac.mul_add_ediv_emod D 86400 t (by omega) (by omega)
  simp only [fmtUnix, e1, e2, Int.toNat_natCast, e3, e4, e5, hmsText, List.append_assoc]

/-- off the two reserved values: the date and time of the floor second, and the microseconds within it -/
theorem decTimestamp_fin (us : Int) (hin : inI 64 us = true) (h1 : us ≠ 9223372036854775807) (h2 : us ≠ -9223372036854775808) :
    decTimestamp (le 8 (ofSigned 64 us)) =
      .ok (.str (fmtUnix (pgEpochUnix + us / 1000000) ++ fracSeconds (us % 1000000))) := by
  unfold decTimestamp
  simp only [i64_enc _ hin, ok_bind, h1, h2, if_false, (ScalarsFrac.floorDivMod_eq _).1, (ScalarsFrac.floorDivMod_eq _).2]
  rfl

theorem decTimestamp_enc (t : TsV) (h : t.wf = true) : decTimestamp (le 8 (ofSigned 64 t.stored)) = .ok (.str t.text) := by
  cases t with
  | posInf => rfl
  | negInf => rfl
  | fin y m d hh mi ss usec =>
    obtain ⟨hv, h1, h2, h3, h4⟩ : validYMD y m d = true ∧ hh < 24 ∧ mi < 60 ∧ ss < 60 ∧ usec < 1000000 := by
      simpa [TsV.wf, and_assoc] using h
    have hb := pgDate_bounds y m d hv
    -- the stored value: whole seconds since 2000-01-01, times 10⁶, plus the microseconds
    have hst : (TsV.fin y m d hh mi ss usec).stored
        = (pgDate y m d * 86400 + ((hh * 3600 + mi * 60 + ss : Nat) : Int)) * 1000000 + ((usec : Nat) : Int) := rfl
    obtain ⟨hs, hfr⟩ := ScalarsFrac.mul_add_ediv_emod (pgDate y m d * 86400 + ((hh * 3600 + mi * 60 + ss : Nat) : Int))
      1000000 (usec : Nat) (by omega) (by omega)
    have hin : inI 64 (TsV.fin y m d hh mi ss usec).stored = true := by
      simp only [inI, Bool.and_eq_true, decide_eq_true_eq, Nat.reduceSub, Int.reducePow, hst]; omega
    have he : pgEpochUnix + (pgDate y m d * 86400 + ((hh * 3600 + mi * 60 + ss : Nat) : Int))
        = (pgDate y m d + 10957) * 86400 + ((hh * 3600 + mi * 60 + ss : Nat) : Int) := by unfold pgEpochUnix; omega
    rw [decTimestamp_fin _ hin (by rw [hst]; omega) (by rw [hst]; omega), hst, hs, hfr, he, fmtUnix_at _ hh mi ss h1 h2 h3,
      fmtDate_pgDate y m d hv, ScalarsFrac.fracSeconds_nat]
    rfl

theorem decodeType_date_enc (ext : Ext) (d : DateV) (h : d.wf = true) :
    decodeType ext (le 4 (ofSigned 32 d.stored)) 1082 = .ok (.str d.text) :=
  (decodeType_case ext _ 1082 4 _ (by decide) (by simp) rfl).trans (decDate_enc d h)

theorem decodeType_timestamp_enc (ext : Ext) (oid : Nat) (ho : oid = 1114 ∨ oid = 1184) (t : TsV) (h : t.wf = true) :
    decodeType ext (le 8 (ofSigned 64 t.stored)) oid = .ok (.str t.text) := by
  rw [decodeType_case ext _ oid 8 (decTimestamp _) (by rcases ho with rfl | rfl <;> decide) (by simp)
    (by rcases ho with rfl | rfl <;> rfl)]
  exact decTimestamp_enc t h

end PgVerif.Proofs.ScalarsRT
