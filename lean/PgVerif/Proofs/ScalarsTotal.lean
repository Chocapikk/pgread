/-
  Every decoder of Model/Scalars.lean returns, behind the guards the Go code has.  One with an equation in ScalarsClosed returns what
  that says; the others are walked action by action.
-/
import PgVerif.Proofs.ScalarsClosed
import PgVerif.Proofs.Rows
namespace PgVerif.Proofs.Scalars
open PgVerif PgVerif.Model.Scalars PgVerif.Txt

/-- followed along a `do` block by the `tot_` rules of Lib/Fault.lean -/
def Total {α} (m : M α) : Prop := ∃ r, m = .ok r

theorem i32_total (data : Bytes) (off : Nat) (h : off + 4 ≤ data.length) : Total (i32 data off) := ⟨_, i32_ok data off h⟩
theorem i64_total (data : Bytes) (off : Nat) (h : off + 8 ≤ data.length) : Total (i64 data off) := ⟨_, i64_ok data off h⟩

theorem decDate_total (data : Bytes) (h : 4 ≤ data.length) : Total (decDate data) := by
  unfold decDate
  refine tot_bind (i32_total _ _ (by omega)) fun d _ => ?_
  exact tot_ite (fun _ => tot_ok _) fun _ => tot_ite (fun _ => tot_ok _) fun _ => tot_ok _

theorem decTimestamp_total (data : Bytes) (h : 8 ≤ data.length) : Total (decTimestamp data) := by
  unfold decTimestamp
  refine tot_bind (i64_total _ _ (by omega)) fun d _ => ?_
  exact tot_ite (fun _ => tot_ok _) fun _ => tot_ite (fun _ => tot_ok _) fun _ => tot_ok _

theorem pathOut_total (data : Bytes) (oid first npts : Nat) (closed : Bool) (h : first + npts * 16 ≤ data.length) :
    Total (pathOut data oid first npts closed) := by
  unfold pathOut
  refine tot_bind ⟨_, pathPoints_eq _ _ _ _ (by omega)⟩ fun pts _ => ?_
  split <;> exact tot_ok _

theorem decodePathOrPolygon_total (data : Bytes) (oid : Nat) : Total (decodePathOrPolygon data oid) := by
  cases hr : layoutOf data oid with
  | some p =>
    rw [decodePathOrPolygon_stored hr]
    exact pathOut_total _ _ _ _ _ (by have := layoutOf_len hr; omega)
  | none =>
    rw [decodePathOrPolygon, storedLayout_eq, ok_bind, hr]
    refine tot_ite (fun _ => tot_ok _) fun h => ?_
    refine tot_bind (idx_total _ _ (by omega)) fun c _ => tot_bind (i32_total _ _ (by omega)) fun npts _ => ?_
    refine tot_iteB (fun _ => tot_ok _) fun hg => ?_
    simp only [Bool.or_eq_false_iff, decide_eq_false_iff_not] at hg
    exact pathOut_total _ _ _ _ _ (by omega)

theorem decodeInet_total (data : Bytes) : Total (decodeInet data) := by
  unfold decodeInet
  refine tot_ite (fun _ => tot_ok _) fun h => ?_
  refine tot_bind (idx_total _ _ (by omega)) fun family _ => tot_bind (idx_total _ _ (by omega)) fun bits _ => ?_
  have tail : ∀ addr : Bytes, Total (if (bits != 32) = true then (pure (GoVal.str (addr ++ [47] ++ decNat bits.toNat)) : M GoVal)
            else pure (GoVal.str addr)) := fun _ => tot_iteB (fun _ => tot_ok _) (fun _ => tot_ok _)
  refine tot_iteB (fun _ => ?_) (fun _ => ?_)
  · refine tot_iteB (fun h6 => ?_) (fun h6 => ?_)
    · have : data.length = 6 := by simpa using h6
      exact tot_bind (idx_total _ _ (by omega)) fun _ _ => tot_bind (idx_total _ _ (by omega)) fun _ _ =>
        tot_bind (idx_total _ _ (by omega)) fun _ _ => tot_bind (idx_total _ _ (by omega)) fun _ _ => tail _
    · refine tot_ite (fun h8 => ?_) (fun _ => ?_)
      · exact tot_bind (idx_total _ _ (by omega)) fun _ _ => tot_bind (idx_total _ _ (by omega)) fun _ _ =>
          tot_bind (idx_total _ _ (by omega)) fun _ _ => tot_bind (idx_total _ _ (by omega)) fun _ _ => tail _
      · exact tot_ok _
  · refine tot_iteB (fun _ => ?_) (fun _ => tot_ok _)
    by_cases h18 : (data.length == 18) = true
    · have : data.length = 18 := by simpa using h18
      simp only [h18, if_true]
      exact tot_bind ⟨_, ipv6Groups_eq _ _ _ _ (by omega)⟩ fun _ _ => tot_iteB (fun _ => tot_ok _) (fun _ => tot_ok _)
    · simp only [h18]
      by_cases h20 : data.length ≥ 20
      · simp only [h20, if_true]
        exact tot_bind ⟨_, ipv6Groups_eq _ _ _ _ (by omega)⟩ fun _ _ => tot_iteB (fun _ => tot_ok _) (fun _ => tot_ok _)
      · simp only [h20, if_false]
        exact tot_ok _

/-- the out-of-scope decoders (arrays, numeric, jsonb) return on every input -/
structure ExtTotal (ext : Ext) : Prop where
  arr : ∀ d e, Total (ext.decodeArray d e)
  num : ∀ d, Total (ext.decodeNumeric d)
  jsonb : ∀ d, Total (ext.parseJSONB d)

/-- the `null` document test reads `u32(data,0)` and `u32(data,4)` only behind `len(data) == 8` -/
theorem jsonbNilCase_total (data : Bytes) : Total (jsonbNilCase data) := by
  unfold jsonbNilCase
  refine tot_ite (fun h8 => ?_) (fun _ => tot_ok _)
  refine tot_uN (by omega) fun _ => ?_
  refine tot_ite (fun _ => ?_) (fun _ => tot_ok _)
  refine tot_uN (by omega) fun _ => ?_
  exact tot_ite (fun _ => tot_ok _) (fun _ => tot_ok _)

theorem decJSONB_total (ext : Ext) (hext : ExtTotal ext) (data : Bytes) : Total (decJSONB ext data) := by
  unfold decJSONB
  refine tot_bind (hext.jsonb _) fun v _ => ?_
  split
  · exact jsonbNilCase_total data
  · exact tot_ok _

theorem decodeScalar0_total (ext : Ext) (hext : ExtTotal ext) (data : Bytes) (oid : Nat) :
    Total (decodeScalar0 ext data oid) := by
  unfold decodeScalar0
  refine tot_iteB (fun _ => tot_ok _) (fun hs => ?_)
  refine tot_ite (fun ho => ⟨_, decBool_ok _ (need hs ho 1 rfl)⟩) fun _ => ?_
  refine tot_ite (fun ho => ⟨_, decChar_ok _ (need hs ho 1 rfl)⟩) fun _ => ?_
  refine tot_ite (fun _ => tot_ok _) fun _ => ?_
  refine tot_ite (fun ho => ⟨_, decInt2_ok _ (need hs ho 2 rfl)⟩) fun _ => ?_
  refine tot_ite (fun ho => ⟨_, decInt4_ok _ (need hs ho 4 rfl)⟩) fun _ => ?_
  refine tot_ite (fun ho => ⟨_, decU32_ok _ (ho.elim (fun h => need hs h 4 rfl) fun h => need hs h 4 rfl)⟩) fun _ => ?_
  refine tot_ite (fun ho => ⟨_, decInt8_ok _ (need hs ho 8 rfl)⟩) fun _ => ?_
  refine tot_ite (fun ho => ⟨_, decU32_ok _ (need hs ho 4 rfl)⟩) fun _ => ?_
  refine tot_ite (fun ho => ⟨_, decTid_ok _ (need hs ho 6 rfl)⟩) fun _ => ?_
  refine tot_ite (fun ho => ⟨_, decFloat4_ok _ (need hs ho 4 rfl)⟩) fun _ => ?_
  refine tot_ite (fun ho => ⟨_, decFloat8_ok _ (need hs ho 8 rfl)⟩) fun _ => ?_
  refine tot_ite (fun ho => ⟨_, decMoney_ok _ (need hs ho 8 rfl)⟩) fun _ => ?_
  refine tot_iteB (fun _ => tot_ok _) (fun _ => ?_)
  refine tot_ite (fun _ => tot_ok _) fun _ => ?_
  refine tot_ite (fun _ => tot_ok _) fun _ => ?_
  refine tot_ite (fun _ => ⟨_, decodeBitString_eq _⟩) fun _ => ?_
  refine tot_ite (fun ho => decDate_total _ (need hs ho 4 rfl)) fun _ => ?_
  refine tot_ite (fun ho => ⟨_, decTime_ok _ (need hs ho 8 rfl)⟩) fun _ => ?_
  refine tot_ite (fun ho => ⟨_, decTimeTZ_ok _ (need hs ho 12 rfl)⟩) fun _ => ?_
  refine tot_ite (fun ho => decTimestamp_total _ (ho.elim (fun h => need hs h 8 rfl) fun h => need hs h 8 rfl)) fun _ => ?_
  refine tot_ite (fun _ => ⟨_, decodeInterval_eq _⟩) fun _ => ?_
  refine tot_ite (fun ho => ⟨_, decMac_ok _ _ (need hs ho 6 rfl)⟩) fun _ => ?_
  refine tot_ite (fun ho => ⟨_, decMac_ok _ _ (need hs ho 8 rfl)⟩) fun _ => ?_
  refine tot_ite (fun _ => decodeInet_total _) fun _ => ?_
  refine tot_ite (fun ho => ⟨_, decUUID_ok _ (need hs ho 16 rfl)⟩) fun _ => ?_
  refine tot_ite (fun ho => ⟨_, decPgLsn_ok _ (need hs ho 8 rfl)⟩) fun _ => ?_
  refine tot_ite (fun ho => ⟨_, decPoint_ok _ (need hs ho 16 rfl)⟩) fun _ => ?_
  refine tot_ite (fun ho => ⟨_, decLseg_ok _ (need hs ho 32 rfl)⟩) fun _ => ?_
  refine tot_ite (fun ho => ⟨_, decBox_ok _ (need hs ho 32 rfl)⟩) fun _ => ?_
  refine tot_ite (fun ho => ⟨_, decLine_ok _ (need hs ho 24 rfl)⟩) fun _ => ?_
  refine tot_ite (fun ho => ⟨_, decCircle_ok _ (need hs ho 24 rfl)⟩) fun _ => ?_
  refine tot_ite (fun _ => decodePathOrPolygon_total _ _) fun _ => ?_
  refine tot_ite (fun _ => hext.num _) fun _ => ?_
  refine tot_ite (fun _ => tot_ok _) fun _ => ?_
  refine tot_ite (fun _ => decJSONB_total ext hext _) fun _ => ?_
  exact tot_ok _

theorem decodeType0_total (ext : Ext) (hext : ExtTotal ext) (data : Bytes) (oid : Nat) :
    Total (decodeType0 ext data oid) := by
  unfold decodeType0
  refine tot_ite (fun _ => tot_ok _) (fun _ => ?_)
  split
  · exact hext.arr _ _
  · exact decodeScalar0_total ext hext data oid

theorem readBound_total (ext : Ext) (hext : ExtTotal ext) (data : Bytes) (offset elemSize elemOid : Nat) :
    Total (readBound ext data offset elemSize elemOid) := by
  unfold readBound
  refine tot_ite (fun _ => tot_ok _) (fun h => ?_)
  exact tot_bind (slice_total _ _ _ (by omega) (by omega)) fun _ _ =>
    tot_bind (decodeType0_total ext hext _ _) fun _ _ => tot_ok _

theorem decodeRangeFixed_total (ext : Ext) (hext : ExtTotal ext) (data : Bytes) (flags elemOid elemSize : Nat) :
    Total (decodeRangeFixed ext data flags elemOid elemSize) := by
  unfold decodeRangeFixed
  have hlow : Total (rangeLower ext data flags elemOid elemSize) := by
    unfold rangeLower
    refine tot_iteB (fun _ => tot_ok _) (fun _ => ?_)
    refine tot_bind (readBound_total ext hext _ _ _ _) fun r _ => ?_
    cases r <;> exact tot_ok _
  refine tot_bind hlow fun lower _ => ?_
  cases lower with
  | none => exact tot_ok _
  | some lo =>
    obtain ⟨lb, offset⟩ := lo
    have hup : Total (rangeUpper ext data flags elemOid elemSize offset) := by
      unfold rangeUpper
      exact tot_iteB (fun _ => tot_ok _) (fun _ => readBound_total ext hext _ _ _ _)
    refine tot_bind hup fun upper _ => ?_
    cases upper <;> exact tot_ok _

theorem readVarlena_total (data : Bytes) : Total (Model.readVarlena data) := ⟨_, Rows.readVarlena_eq data⟩

theorem numBoundAt_total (ext : Ext) (hext : ExtTotal ext) (data : Bytes) (offset : Nat) :
    Total (numBoundAt ext data offset) := by
  unfold numBoundAt
  refine tot_ite (fun _ => tot_ok _) (fun h => ?_)
  refine tot_bind (slice_total _ _ _ (by omega) (by omega)) fun s _ => ?_
  refine tot_bind (readVarlena_total s) fun r _ => ?_
  split
  · exact tot_ok _
  · refine tot_bind (hext.num _) fun v _ => ?_
    split <;> exact tot_ok _

theorem numBound_total (ext : Ext) (hext : ExtTotal ext) (data : Bytes) (offset : Nat) :
    Total (numBound ext data offset) := by
  rw [numBound_eq, numBoundStart_eq, ok_bind]
  exact numBoundAt_total ext hext data _

theorem decodeNumericRange_total (ext : Ext) (hext : ExtTotal ext) (data : Bytes) (flags : Nat) :
    Total (decodeNumericRange ext data flags) := by
  unfold decodeNumericRange
  have hl : Total (if (flags &&& 0x08 != 0) = true then (pure ([], 4) : M (List GoVal × Nat)) else numBound ext data 4) :=
    tot_iteB (fun _ => tot_ok _) (fun _ => numBound_total ext hext _ _)
  refine tot_bind hl fun p _ => ?_
  obtain ⟨lb, offset⟩ := p
  have hu : Total (if (flags &&& 0x10 != 0) = true then (pure ([], offset) : M (List GoVal × Nat)) else numBound ext data offset) :=
    tot_iteB (fun _ => tot_ok _) (fun _ => numBound_total ext hext _ _)
  refine tot_bind hu fun q _ => ?_
  obtain ⟨ub, o2⟩ := q
  exact tot_ok _

theorem decodeRange_total (ext : Ext) (hext : ExtTotal ext) (data : Bytes) (oid : Nat) :
    Total (decodeRange ext data oid) := by
  unfold decodeRange
  refine tot_ite (fun _ => tot_ok _) fun h => ?_
  refine tot_bind (idx_total _ _ (by omega)) fun fl _ => ?_
  refine tot_iteB (fun _ => tot_ok _) (fun _ => ?_)
  refine tot_ite (fun _ => ?_) (fun _ => ?_)
  · exact decodeNumericRange_total ext hext _ _
  · split
    · exact tot_ok _
    · exact decodeRangeFixed_total ext hext _ _ _ _

theorem decodeScalar_total (ext : Ext) (hext : ExtTotal ext) (data : Bytes) (oid : Nat) :
    Total (decodeScalar ext data oid) := by
  unfold decodeScalar
  exact tot_iteB (fun _ => decodeRange_total ext hext _ _) (fun _ => decodeScalar0_total ext hext _ _)

theorem decodeType_total (ext : Ext) (hext : ExtTotal ext) (data : Bytes) (oid : Nat) :
    Total (decodeType ext data oid) := by
  unfold decodeType
  refine tot_ite (fun _ => tot_ok _) (fun _ => ?_)
  split
  · exact hext.arr _ _
  · exact decodeScalar_total ext hext data oid

end PgVerif.Proofs.Scalars
