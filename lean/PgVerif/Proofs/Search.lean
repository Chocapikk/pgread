/-
  Search (C15): `matchValue` is the Spec's `cellMatches`; a loop with early return and the MaxResults limit returns
  "everything, cut at the limit"; the column order of a row.
-/
import PgVerif.Model.Search
import PgVerif.Lib.BytesOrder
import PgVerif.Lib.AssocMap
namespace PgVerif.Proofs.Search
open PgVerif PgVerif.Spec.Search PgVerif.Model.Search
open scoped List

mutual
theorem matchValue_eq (re : Bytes → Bool) (sh : GoVal → Bytes) : ∀ v, matchValue re sh v = cellMatches re sh v
  | .nil | .str _ | .bool _ | .int _ | .f64 _ | .f32 _ => by simp [matchValue, cellMatches]
  | .arr xs => by simp only [matchValue, cellMatches]; exact matchElems_eq re sh xs
  | .obj kvs => by simp only [matchValue, cellMatches]; exact matchMap_eq re sh kvs
theorem matchElems_eq (re : Bytes → Bool) (sh : GoVal → Bytes) : ∀ xs, matchElems re sh xs = anyMatches re sh xs
  | [] => by simp [matchElems, anyMatches]
  | x :: xs => by
    simp only [matchElems, anyMatches]
    rw [matchValue_eq re sh x, matchElems_eq re sh xs]
    cases cellMatches re sh x <;> simp
theorem matchMap_eq (re : Bytes → Bool) (sh : GoVal → Bytes) : ∀ kvs, matchMap re sh kvs = kvMatches re sh kvs
  | [] => by simp [matchMap, kvMatches]
  | (k, v) :: rest => by
    simp only [matchMap, kvMatches]
    rw [matchValue_eq re sh v, matchMap_eq re sh rest]
    cases re k <;> cases cellMatches re sh v <;> simp
end

/-- as an `any`, so visibly order-free -/
theorem kvMatches_any (re : Bytes → Bool) (sh : GoVal → Bytes) (kvs : List (Bytes × GoVal)) :
    kvMatches re sh kvs = kvs.any fun kv => re kv.1 || cellMatches re sh kv.2 := by
  induction kvs with
  | nil => simp [kvMatches]
  | cons kv rest ih => obtain ⟨k, v⟩ := kv; simp [kvMatches, ih, Bool.or_assoc]

theorem anyMatches_any (re : Bytes → Bool) (sh : GoVal → Bytes) (xs : List GoVal) :
    anyMatches re sh xs = xs.any (cellMatches re sh) := by
  induction xs with
  | nil => simp [anyMatches]
  | cons x xs ih => simp [anyMatches, ih]

mutual
theorem cellMatches_texts (re : Bytes → Bool) (sh : GoVal → Bytes) : ∀ v, cellMatches re sh v = (searchTexts sh v).any re
  | .nil | .str _ | .bool _ | .int _ | .f64 _ | .f32 _ => by simp [cellMatches, searchTexts]
  | .arr xs => by simp only [cellMatches, searchTexts]; exact anyMatches_texts re sh xs
  | .obj kvs => by simp only [cellMatches, searchTexts]; exact kvMatches_texts re sh kvs
theorem anyMatches_texts (re : Bytes → Bool) (sh : GoVal → Bytes) : ∀ xs, anyMatches re sh xs = (searchTextsList sh xs).any re
  | [] => by simp [anyMatches, searchTextsList]
  | x :: xs => by
    simp only [anyMatches, searchTextsList, List.any_append]
    rw [cellMatches_texts re sh x, anyMatches_texts re sh xs]
theorem kvMatches_texts (re : Bytes → Bool) (sh : GoVal → Bytes) : ∀ kvs, kvMatches re sh kvs = (searchTextsKvs sh kvs).any re
  | [] => by simp [kvMatches, searchTextsKvs]
  | (k, v) :: rest => by
    simp only [kvMatches, searchTextsKvs, List.any_cons, List.any_append]
    rw [cellMatches_texts re sh v, kvMatches_texts re sh rest, Bool.or_assoc]
end

def cut {β} (lim : Option Nat) (l : List β) : List β × Bool :=
  match lim with
  | none => (l, false)
  | some m => if l.length ≥ m then (l.take m, true) else (l, false)

/-- a loop body that appends `f x` to the results and returns as soon as the limit is reached -/
def BodySpec {α β} (lim : Option Nat) (body : α → List β → List β × Bool) (f : α → List β) : Prop :=
  ∀ x acc, (∀ m, lim = some m → acc.length < m) → body x acc = cut lim (acc ++ f x)

theorem loopM_spec {α β} (lim : Option Nat) (body : α → List β → List β × Bool) (f : α → List β)
    (hb : BodySpec lim body f) : BodySpec lim (loopM body) (fun xs => xs.flatMap f) := by
  intro xs
  induction xs with
  | nil =>
    intro acc hacc
    cases lim with
    | none => simp [loopM, cut]
    | some m =>
      have := hacc m rfl
      simp only [loopM, cut, List.flatMap_nil, List.append_nil]
      rw [if_neg (by omega)]
  | cons x xs ih =>
    intro acc hacc
    simp only [loopM, List.flatMap_cons]
    rw [hb x acc hacc]
    cases lim with
    | none =>
      simp only [cut]
      rw [ih (acc ++ f x) (by intro m h; cases h)]
      simp [cut]
    | some m =>
      simp only [cut]
      by_cases hlen : (acc ++ f x).length ≥ m
      · -- the limit is reached: the body has returned `take m` of `acc ++ f x`, which is also `take m` of that list with the
        -- remaining `xs.flatMap f` appended
        rw [if_pos hlen]
        simp only
        have h2 : (acc ++ (f x ++ xs.flatMap f)).length ≥ m := by
          simp only [List.length_append] at hlen ⊢; omega
        rw [if_pos h2, ← List.append_assoc, List.take_append_of_le_length hlen]
      · rw [if_neg hlen]
        simp only
        rw [ih (acc ++ f x) (by intro m' h; cases h; omega)]
        simp [cut, List.append_assoc]

theorem cut_fst {β} (lim : Option Nat) (l : List β) :
    (cut lim l).1 = match lim with | none => l | some m => l.take m := by
  cases lim with
  | none => rfl
  | some m =>
    simp only [cut]
    by_cases h : l.length ≥ m
    · rw [if_pos h]
    · rw [if_neg h, List.take_of_length_le (by omega)]

def limit (o : Opts) : Option Nat := if o.maxResults > 0 then some o.maxResults.toNat else none

theorem cut_short {β} (l : Option Nat) (xs : List β) (h : ∀ m, l = some m → xs.length < m) : cut l xs = (xs, false) := by
  cases l with
  | none => rfl
  | some m => simp only [cut]; rw [if_neg (by have := h m rfl; omega)]

/-- the innermost loop body of SearchInDump: on a match append the result, then test
`MaxResults > 0 && len(matches) >= MaxResults`.  `colBody` of Model/Search.lean, Model/SearchOrig.lean and `colBodyS` of
Model/SearchBytes.lean are `pushBody o test mk` by unfolding, which is what makes the three `dbBody…_eq_loops` hold by `rfl`. -/
def pushBody {κ β} (o : Opts) (test : κ → Bool) (mk : κ → β) (k : κ) (ms : List β) : List β × Bool :=
  if test k then
    let ms := ms ++ [mk k]
    if o.maxResults > 0 && (ms.length : Int) ≥ o.maxResults then (ms, true) else (ms, false)
  else (ms, false)

theorem pushBody_spec {κ β} (o : Opts) (test : κ → Bool) (mk : κ → β) :
    BodySpec (limit o) (pushBody o test mk) fun k => if test k then [mk k] else [] := by
  intro k acc hacc
  show pushBody o test mk k acc = cut (limit o) (acc ++ if test k then [mk k] else [])
  unfold pushBody
  cases test k
  · rw [if_neg Bool.false_ne_true, if_neg Bool.false_ne_true, List.append_nil, cut_short _ _ hacc]
  rw [if_pos rfl, if_pos rfl]
  have hlen : (acc ++ [mk k]).length = acc.length + 1 := by simp
  by_cases hmax : o.maxResults > 0
  · have hshort := hacc _ (if_pos hmax)
    simp only [limit, cut, hmax, if_true, decide_true, Bool.true_and, decide_eq_true_eq]
    by_cases hge : (acc ++ [mk k]).length ≥ o.maxResults.toNat
    · rw [if_pos hge, if_pos (by omega), List.take_of_length_le (by omega)]
    · rw [if_neg hge, if_neg (by omega)]
  · simp only [limit, cut, hmax, if_false, decide_false, Bool.false_and, Bool.false_eq_true]

theorem loopM_take {α β} (o : Opts) (body : α → List β → List β × Bool) (f : α → List β)
    (hb : BodySpec (limit o) body f) (xs : List α) :
    (loopM body xs []).1 = if o.maxResults > 0 then (xs.flatMap f).take o.maxResults.toNat else xs.flatMap f := by
  by_cases hmax : o.maxResults > 0
  · have hl : limit o = some o.maxResults.toNat := if_pos hmax
    rw [loopM_spec (limit o) body f hb xs [] (by rw [hl]; intro m hm; cases hm; exact Int.pos_iff_toNat_pos.1 hmax),
      cut_fst, hl, if_pos hmax]
    rfl
  · have hl : limit o = none := if_neg hmax
    rw [loopM_spec (limit o) body f hb xs [] (by rw [hl]; nofun), cut_fst, hl, if_neg hmax]
    rfl

section
variable {β : Type} (o : Opts) (l : List β)

/-! The right-hand side of `loopM_take` (not the pair `cut` returns): its members, its length, and when nothing is cut. -/

theorem mem_of_mem_cut {x : β} (h : x ∈ if o.maxResults > 0 then l.take o.maxResults.toNat else l) : x ∈ l := by
  split at h
  · exact List.mem_of_mem_take h
  · exact h

theorem cut_length_le (hmax : o.maxResults > 0) :
    ((if o.maxResults > 0 then l.take o.maxResults.toNat else l).length : Int) ≤ o.maxResults := by
  rw [if_pos hmax, List.length_take]; omega

theorem cut_eq_self (hlim : o.maxResults ≤ 0 ∨ (l.length : Int) ≤ o.maxResults) :
    (if o.maxResults > 0 then l.take o.maxResults.toNat else l) = l := by
  split
  · exact List.take_of_length_le (by omega)
  · rfl

end

theorem filter_map_eq_flatMap {α β} (p : α → Bool) (mk : α → β) (l : List α) :
    (l.filter p).map mk = l.flatMap fun a => if p a then [mk a] else [] := by
  induction l with
  | nil => rfl
  | cons a l ih =>
    simp only [List.filter_cons, List.flatMap_cons]
    cases p a <;> simp [ih]

/-- a function with `lookup`'s two equations is core's `List.lookup`: what it finds is in Lib/AssocMap.lean -/
theorem lookup_eq_of_cons {γ} (look : Bytes → List (Bytes × γ) → Option γ) (hnil : ∀ c, look c [] = none)
    (hcons : ∀ c k v rest, look c ((k, v) :: rest) = if k = c then some v else look c rest) (c : Bytes) :
    ∀ row, look c row = row.lookup c
  | [] => hnil c
  | (k, v) :: rest => by
    rw [hcons, List.lookup_cons, lookup_eq_of_cons look hnil hcons c rest]
    by_cases h : k = c
    · rw [if_pos h, h, beq_self_eq_true]
    · rw [if_neg h, beq_eq_false_iff_ne.2 (Ne.symm h)]

theorem lookup_eq (c : Bytes) (row : Row) : lookup c row = row.lookup c :=
  lookup_eq_of_cons lookup (fun _ => rfl) (fun _ _ _ _ => rfl) c row

theorem lookup_isSome (c : Bytes) (row : Row) : (lookup c row).isSome = (row.map (·.1)).contains c := by
  rw [lookup_eq, Bool.eq_iff_iff, List.lookup_isSome_iff, List.contains_iff_mem, List.mem_map]
  exact ⟨fun ⟨p, hp, he⟩ => ⟨p, hp, (beq_iff_eq.1 he).symm⟩, fun ⟨p, hp, he⟩ => ⟨p, hp, beq_iff_eq.2 he.symm⟩⟩

theorem declaredKeys_eq (row : Row) (seen cols : List Bytes) :
    declaredKeys row seen cols = declaredIn (row.map (·.1)) seen cols := by
  induction cols generalizing seen with
  | nil => simp [declaredKeys, declaredIn]
  | cons c cs ih => simp only [declaredKeys, declaredIn, lookup_isSome, ih]

theorem rowKeys_eq (cols : List Bytes) (row : Row) : rowKeys cols row = colOrder cols row := by
  simp only [rowKeys, colOrder, declaredKeys_eq]

theorem mem_declaredIn (keys : List Bytes) : ∀ (cols seen : List Bytes) (c : Bytes),
    c ∈ declaredIn keys seen cols ↔ c ∈ cols ∧ c ∈ keys ∧ c ∉ seen := by
  intro cols
  induction cols with
  | nil => intro seen c; simp [declaredIn]
  | cons x xs ih =>
    intro seen c
    rw [declaredIn]
    -- the head column `x` is taken or skipped; for `c = x` that is the claim, for `c ≠ x` the tail decides
    by_cases hcx : c = x
    · subst hcx
      split
      · rename_i hx
        have hx' : c ∈ keys ∧ c ∉ seen := by simpa using hx
        exact ⟨fun _ => ⟨List.mem_cons_self, hx'⟩, fun _ => List.mem_cons_self⟩
      · -- skipped: the failed test refutes the right-hand side, and through `ih` the left-hand side
        rename_i hx
        have hx' : ¬ (c ∈ keys ∧ c ∉ seen) := by simpa using hx
        rw [ih]
        exact ⟨fun h => absurd h.2 hx', fun h => absurd h.2 hx'⟩
    · split <;> simp [ih, hcx]

theorem declaredIn_eq_self (keys : List Bytes) : ∀ (cs seen : List Bytes), cs.Nodup → (∀ c ∈ cs, c ∈ keys ∧ c ∉ seen) →
    declaredIn keys seen cs = cs
  | [], _, _, _ => rfl
  | c :: cs, seen, hnd, hall => by
    have hnd' := List.nodup_cons.1 hnd
    have hc := hall c List.mem_cons_self
    rw [declaredIn, if_pos (by simp [hc]), declaredIn_eq_self keys cs (c :: seen) hnd'.2]
    intro x hx
    have hx' := hall x (List.mem_cons_of_mem _ hx)
    exact ⟨hx'.1, fun hmem => (List.mem_cons.1 hmem).elim (fun h => hnd'.1 (h ▸ hx)) hx'.2⟩

theorem nodup_declaredIn (keys : List Bytes) : ∀ (cols seen : List Bytes), (declaredIn keys seen cols).Nodup := by
  intro cols
  induction cols with
  | nil => intro seen; simp [declaredIn]
  | cons x xs ih =>
    intro seen
    simp only [declaredIn]
    by_cases hx : (keys.contains x && !seen.contains x) = true
    · rw [if_pos hx]
      refine List.nodup_cons.2 ⟨?_, ih _⟩
      intro hmem
      have := (mem_declaredIn keys xs (x :: seen) x).1 hmem
      exact this.2.2 (List.mem_cons_self)
    · rw [if_neg hx]; exact ih _

theorem mem_colOrder (cols : List Bytes) (row : Row) (c : Bytes) : c ∈ colOrder cols row ↔ c ∈ row.map (·.1) := by
  -- a key stands among the declared columns if it is one, and among the rest if it is not
  have hdecl : c ∈ declaredIn (row.map (·.1)) [] cols ↔ c ∈ cols ∧ c ∈ row.map (·.1) := by
    rw [mem_declaredIn]; exact ⟨fun h => ⟨h.1, h.2.1⟩, fun h => ⟨h.1, h.2, List.not_mem_nil⟩⟩
  have hrest : c ∈ ((row.map (·.1)).filter fun k => !(declaredIn (row.map (·.1)) [] cols).contains k).mergeSort bytesLe ↔
      c ∈ row.map (·.1) ∧ ¬ (c ∈ cols ∧ c ∈ row.map (·.1)) := by
    rw [(List.mergeSort_perm _ _).mem_iff, List.mem_filter, ← hdecl, Bool.not_eq_true', ← Bool.not_eq_true, List.contains_iff_mem]
  simp only [colOrder, List.mem_append, hdecl, hrest]
  constructor
  · rintro (⟨_, h⟩ | ⟨h, _⟩) <;> exact h
  · intro h
    by_cases hc : c ∈ cols
    · exact Or.inl ⟨hc, h⟩
    · exact Or.inr ⟨h, fun h' => hc h'.1⟩

theorem nodup_colOrder (cols : List Bytes) (row : Row) (h : Row.WF row) : (colOrder cols row).Nodup := by
  simp only [colOrder]
  refine List.nodup_append.2 ⟨nodup_declaredIn _ _ _, ?_, ?_⟩
  · exact (List.mergeSort_perm _ _).nodup_iff.2 (h.filter _)
  · intro a ha b hb hab
    subst hab
    have := (List.mergeSort_perm _ _).mem_iff.1 hb
    simp only [List.mem_filter, Bool.not_eq_true', ← Bool.not_eq_true, List.contains_iff_mem] at this
    exact this.2 ha

theorem colOrder_perm (cols : List Bytes) (row : Row) (h : Row.WF row) : colOrder cols row ~ row.map (·.1) :=
  (List.perm_ext_iff_of_nodup (nodup_colOrder cols row h) h).2 (mem_colOrder cols row)

/-- `lookup`'s second equation under `c ≠ k` (a key that differs from the head's; nothing about membership) -/
theorem lookup_of_not_mem (c : Bytes) (k : Bytes) (v : GoVal) (rest : Row) (h : c ≠ k) :
    lookup c ((k, v) :: rest) = lookup c rest := by
  simp only [lookup]; rw [if_neg (fun h' => h h'.symm)]

theorem lookup_mem (row : Row) (k : Bytes) (v : GoVal) (h : lookup k row = some v) : (k, v) ∈ row :=
  AssocMap.lookup_mem row k v (lookup_eq k row ▸ h)

theorem rowCells_perm (cols : List Bytes) (row : Row) (h : Row.WF row) : rowCells cols row ~ row := by
  have := (colOrder_perm cols row h).filterMap (fun c => (row.lookup c).map fun v => (c, v))
  rw [AssocMap.filterMap_lookup_keys row h] at this
  simpa only [rowCells, lookup_eq] using this

theorem mem_rowCells (cols : List Bytes) (row : Row) (h : Row.WF row) (cv : Bytes × GoVal) :
    cv ∈ rowCells cols row ↔ cv ∈ row := (rowCells_perm cols row h).mem_iff

/-- the column order does not depend on the order in which the Go runtime walks the map -/
theorem colOrder_order_independent (cols : List Bytes) (r₁ r₂ : Row) (hp : r₁ ~ r₂) :
    colOrder cols r₁ = colOrder cols r₂ := by
  have hk : r₁.map (·.1) ~ r₂.map (·.1) := hp.map _
  have hd : ∀ seen, declaredIn (r₁.map (·.1)) seen cols = declaredIn (r₂.map (·.1)) seen cols := by
    induction cols with
    | nil => intro seen; simp [declaredIn]
    | cons c cs ih =>
      intro seen
      have hc : (r₁.map (·.1)).contains c = (r₂.map (·.1)).contains c := by
        rw [Bool.eq_iff_iff]; simp only [List.contains_iff_mem]; exact hk.mem_iff
      simp only [declaredIn, hc, ih]
  simp only [colOrder, hd]
  congr 1
  -- two sorted rearrangements of the same keys are equal: the order is antisymmetric
  apply List.Perm.eq_of_pairwise (le := fun a b => bytesLe a b = true)
  · intro a b _ _ hab hba; exact bytesLe_antisymm a b hab hba
  · exact List.pairwise_mergeSort (le := bytesLe) bytesLe_trans bytesLe_total _
  · exact List.pairwise_mergeSort (le := bytesLe) bytesLe_trans bytesLe_total _
  · exact (List.mergeSort_perm _ _).trans ((hk.filter _).trans (List.mergeSort_perm _ _).symm)

end PgVerif.Proofs.Search
