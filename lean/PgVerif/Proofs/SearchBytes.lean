/-
  Dumps with `[]byte` values (Model/SearchBytes.lean against Spec/SearchBytes.lean): a value matches as its `asText`; the loops
  and the traversal are those of Proofs/SearchWalk.lean.
-/
import PgVerif.Model.SearchBytes
import PgVerif.Proofs.SearchMain
import PgVerif.Proofs.Secrets
namespace PgVerif.Proofs.SearchB
open PgVerif PgVerif.Spec.Search PgVerif.Spec.SearchB PgVerif.Model.Search PgVerif.Model.SearchB PgVerif.Proofs.Search
open scoped List

mutual
theorem matchValueS_eq (re : Bytes → Bool) (sh : GoVal → Bytes) : ∀ v, matchValueS re sh v = cellMatches re sh (asText v)
  | .nil | .str _ | .bytes _ | .bool _ | .int _ | .f64 _ | .f32 _ => by simp [matchValueS, cellMatches, asText]
  | .arr xs => by simp only [matchValueS, cellMatches, asText]; exact matchElemsS_eq re sh xs
  | .obj kvs => by simp only [matchValueS, cellMatches, asText]; exact matchMapS_eq re sh kvs
theorem matchElemsS_eq (re : Bytes → Bool) (sh : GoVal → Bytes) : ∀ xs, matchElemsS re sh xs = anyMatches re sh (asTextList xs)
  | [] => by simp [matchElemsS, anyMatches, asTextList]
  | x :: xs => by
    simp only [matchElemsS, anyMatches, asTextList]
    rw [matchValueS_eq re sh x, matchElemsS_eq re sh xs]
    cases cellMatches re sh (asText x) <;> simp
theorem matchMapS_eq (re : Bytes → Bool) (sh : GoVal → Bytes) : ∀ kvs, matchMapS re sh kvs = kvMatches re sh (asTextKvs kvs)
  | [] => by simp [matchMapS, kvMatches, asTextKvs]
  | (k, v) :: rest => by
    simp only [matchMapS, kvMatches, asTextKvs]
    rw [matchValueS_eq re sh v, matchMapS_eq re sh rest]
    cases re k <;> cases cellMatches re sh (asText v) <;> simp
end

mutual
theorem asText_ofGo : ∀ v : GoVal, asText (ofGo v) = v
  | .nil | .bool _ | .int _ | .f64 _ | .f32 _ | .str _ => rfl
  | .arr xs => by simp only [ofGo, asText, asTextList_ofGo xs]
  | .obj kvs => by simp only [ofGo, asText, asTextKvs_ofGo kvs]
theorem asTextList_ofGo : ∀ xs : List GoVal, asTextList (ofGoList xs) = xs
  | [] => rfl
  | x :: xs => by simp only [ofGoList, asTextList, asText_ofGo x, asTextList_ofGo xs]
theorem asTextKvs_ofGo : ∀ kvs : List (Bytes × GoVal), asTextKvs (ofGoKvs kvs) = kvs
  | [] => rfl
  | (k, v) :: rest => by simp only [ofGoKvs, asTextKvs, asText_ofGo v, asTextKvs_ofGo rest]
end

theorem keys_asTextRow (row : SRow) : (asTextRow row).map (·.1) = row.map (·.1) := by
  simp [asTextRow, List.map_map, Function.comp_def]

theorem lookup_asTextRow (c : Bytes) (row : SRow) : lookup c (asTextRow row) = (lookupS c row).map asText := by
  induction row with
  | nil => rfl
  | cons kv rest ih =>
    obtain ⟨k, v⟩ := kv
    simp only [asTextRow, List.map_cons, lookup, lookupS] at ih ⊢
    by_cases h : k = c
    · rw [if_pos h, if_pos h]; rfl
    · rw [if_neg h, if_neg h]; exact ih

theorem declaredKeysS_eq (row : SRow) (seen cols : List Bytes) :
    declaredKeysS row seen cols = declaredKeys (asTextRow row) seen cols := by
  induction cols generalizing seen with
  | nil => simp [declaredKeysS, declaredKeys]
  | cons c cs ih =>
    have : (lookup c (asTextRow row)).isSome = (lookupS c row).isSome := by rw [lookup_asTextRow]; simp
    simp only [declaredKeysS, declaredKeys, this, ih]

theorem rowKeysS_eq (cols : List Bytes) (row : SRow) : rowKeysS cols row = colOrderS cols row := by
  have h : rowKeysS cols row = rowKeys cols (asTextRow row) := by
    simp only [rowKeysS, rowKeys, declaredKeysS_eq, keys_asTextRow]
  rw [h, rowKeys_eq]; rfl

theorem mem_colOrderS (cols : List Bytes) (row : SRow) (c : Bytes) : c ∈ colOrderS cols row ↔ c ∈ row.map (·.1) := by
  rw [colOrderS, mem_colOrder, keys_asTextRow]

theorem lookupS_eq (c : Bytes) (row : SRow) : lookupS c row = row.lookup c :=
  lookup_eq_of_cons lookupS (fun _ => rfl) (fun _ _ _ _ => rfl) c row

theorem rowCellsS_perm (cols : List Bytes) (row : SRow) (h : SRow.WF row) : rowCellsS cols row ~ row := by
  -- the column order is that of the row read as text, which has the same keys
  have hp : colOrderS cols row ~ row.map (·.1) := by
    have := colOrder_perm cols (asTextRow row) (by rw [Row.WF, keys_asTextRow]; exact h)
    rwa [keys_asTextRow] at this
  have := hp.filterMap (fun c => (row.lookup c).map fun v => (c, v))
  rw [AssocMap.filterMap_lookup_keys row h] at this
  simpa only [rowCellsS, lookupS_eq] using this

theorem mem_rowCellsS (cols : List Bytes) (row : SRow) (h : SRow.WF row) (cv : Bytes × SVal) :
    cv ∈ rowCellsS cols row ↔ cv ∈ row := (rowCellsS_perm cols row h).mem_iff

theorem wfS_row_of_getElem? (d : SDump) (hw : SDump.WF d) (D : SDatabase) (hD : D ∈ d) (t : STable) (ht : t ∈ D.tables)
    (i : Nat) (row : SRow) (h : t.rows[i]? = some row) : SRow.WF row :=
  hw D hD t ht row (List.mem_of_getElem? h)

theorem scanRowS_eq (dets : List Detector) (sh : GoVal → Bytes) (db tbl : Bytes) (i : Nat) (row : SRow) (l : List Bytes) :
    l.flatMap (scanCellS dets sh db tbl i row) =
      (l.filterMap fun c => (lookupS c row).map fun v => (c, v)).flatMap (cellFindingsS dets sh db tbl i) := by
  have h : scanCellS dets sh db tbl i row = fun c => cellFindingsS dets sh db tbl i (c, (lookupS c row).getD .nil) := by
    funext c; simp only [scanCellS, Proofs.Secrets.scanString_eq, cellText]; rfl
  rw [h]
  exact flatMap_getD (lookupS · row) .nil (fun c v => cellFindingsS dets sh db tbl i (c, v))
    (fun _ => if_pos (Proofs.Secrets.fmtV_nil_short sh)) l

theorem mem_expectedFindingsS (dets : List Detector) (sh : GoVal → Bytes) (d : SDump) (f : Finding) :
    f ∈ expectedFindingsS dets sh d ↔ ∃ D ∈ d, ∃ t ∈ D.tables, ∃ row i, t.rows[i]? = some row ∧
      f ∈ (rowCellsS t.columns row).flatMap (cellFindingsS dets sh D.name t.name i) :=
  mem_walk SDatabase.tables STable.rows
    (fun D t ri => (rowCellsS t.columns ri.1).flatMap (cellFindingsS dets sh D.name t.name ri.2)) d f

theorem dbBodyS_eq_loops (re : Bytes → Bool) (sh : GoVal → Bytes) (o : Opts) :
    dbBodyS re sh o = loops SDatabase.tables STable.rows (fun _ t ri => rowKeysS t.columns ri.1) o
      (fun _ _ ri c => matchValueS re sh ((lookupS c ri.1).getD .nil))
      (fun D t ri c => { database := D.name, table := t.name, column := c, rowNum := ri.2,
                         value := (lookupS c ri.1).getD .nil, row := if o.includeRow then some ri.1 else none }) := rfl

end PgVerif.Proofs.SearchB
