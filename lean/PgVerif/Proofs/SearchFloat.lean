/-
  The text a float cell is searched as (Spec/SearchFloat.lean).  Of the shortest-digits search only soundness is proved here:
  that it always answers, and with the fewest digits, is checked by family `floattext` against strconv.
-/
import PgVerif.Spec.SearchFloat
import PgVerif.Model.SearchShow
import PgVerif.Proofs.ExportDec
namespace PgVerif.Proofs.SearchFloat
open PgVerif PgVerif.Spec.SearchFloat

/-- `IsDigit` and `IsPosByte` are reducible by `rfl` to the spelled-out form
`c = 46 ∨ (48 ≤ c ∧ c ≤ 57)` in which `Props.C15Float.C15_float_positional` states the property. -/
def IsDigit (c : UInt8) : Prop := 48 ≤ c ∧ c ≤ 57

theorem decAux_eq (f n : Nat) (acc : Bytes) : decAux f n acc = Export.decAux f n acc := by
  induction f generalizing n acc with
  | zero => rfl
  | succ f ih =>
    rw [decAux, Export.decAux]; split
    · rw [Nat.mod_eq_of_lt ‹_›]
    · exact ih _ _

theorem dec_eq_decNat (n : Nat) : dec n = Txt.decNat n := by
  rw [dec, decAux_eq, ExportDec.decAux_eq _ _ _ Nat.lt_log2_self (by simp), List.append_nil]

theorem dec_digits (n : Nat) : ∀ c ∈ dec n, IsDigit c := by
  rw [dec_eq_decNat]
  intro c hc
  have := (TxtNumerals.decNat_all n).2.1 c hc
  exact ⟨UInt8.le_iff_toNat_le.2 this.1, UInt8.le_iff_toNat_le.2 this.2⟩

def IsPosByte (c : UInt8) : Prop := c = 46 ∨ IsDigit c

theorem zeros_digits (n : Nat) : ∀ c ∈ zeroDigits n, IsDigit c := by
  intro c hc
  have := List.eq_of_mem_replicate hc
  subst this
  exact ⟨by decide, by decide⟩

theorem positional_bytes (d : Nat) (k : Int) : ∀ c ∈ positional d k, IsPosByte c := by
  intro c hc
  cases k with
  | ofNat k => exact Or.inr (dec_digits _ c (by simpa [positional] using hc))
  | negSucc j =>
    simp only [positional, List.mem_append, List.mem_singleton] at hc
    rcases hc with ((h | h) | h) | h
    · exact Or.inr (dec_digits _ c h)
    · exact Or.inl h
    · exact Or.inr (zeros_digits _ c h)
    · exact Or.inr (dec_digits _ c h)

theorem floatText_finite (D : Decoded) (layout : Nat → Int → Bytes) (h : D.special = false) :
    floatText D layout = (if D.neg then sMinus else []) ++
      (if D.m == 0 then [48] else layout (shortest D.fin).1 (shortest D.fin).2) := by
  simp [floatText, h]

theorem floatText_special (D : Decoded) (layout : Nat → Int → Bytes) (h : D.special = true) :
    floatText D layout = if D.frac ≠ 0 then sNaN else if D.neg then sMinus ++ sInfinity else sInfinity := by
  simp only [floatText, h, if_true, bne_iff_ne]

theorem floatText_decode_special (mb eb bits : Nat) (layout : Nat → Int → Bytes) (he : bits / 2 ^ mb % 2 ^ eb = 2 ^ eb - 1) :
    floatText (decode mb eb bits) layout =
      if bits % 2 ^ mb ≠ 0 then sNaN else if bits / 2 ^ (mb + eb) % 2 = 1 then sMinus ++ sInfinity else sInfinity := by
  have hs : (decode mb eb bits).special = true := by
    show (bits / 2 ^ mb % 2 ^ eb == 2 ^ eb - 1) = true
    rw [he]; exact beq_self_eq_true _
  rw [floatText_special _ _ hs]
  show (if bits % 2 ^ mb ≠ 0 then sNaN else if (bits / 2 ^ (mb + eb) % 2 == 1) = true then sMinus ++ sInfinity else sInfinity) = _
  simp only [beq_iff_eq]

/-- search.go `floatText`'s chain of cases (IsNaN, IsInf(+1), IsInf(−1), else FormatFloat) is the Spec's frame -/
theorem goFloatText_eq (D : Decoded) (layout : Nat → Int → Bytes) :
    (if D.special && D.frac != 0 then sNaN
      else if D.special && !D.neg then sInfinity
      else if D.special && D.neg then sMinus ++ sInfinity
      else Model.SearchShow.formatFloat D layout) = floatText D layout := by
  cases hs : D.special
  · simp only [Bool.false_and, Bool.false_eq_true, if_false, floatText_finite D layout hs]; rfl
  · rw [floatText_special D layout hs]
    cases D.neg <;> by_cases hf : D.frac = 0 <;> simp [hf, sNaN, sInfinity, sMinus]

theorem f64Text_finite (bits : Nat) (hfin : bits / 2 ^ 52 % 2 ^ 11 ≠ 2047) :
    f64Text bits = (if bits / 2 ^ 63 % 2 = 1 then sMinus else []) ++
      (if (decode 52 11 bits).m == 0 then [48]
       else positional (shortest (decode 52 11 bits).fin).1 (shortest (decode 52 11 bits).fin).2) := by
  have hs : (decode 52 11 bits).special = false := by
    show (bits / 2 ^ 52 % 2 ^ 11 == 2 ^ 11 - 1) = false
    rw [beq_eq_false_iff_ne]; exact hfin
  have hn : (decode 52 11 bits).neg = (bits / 2 ^ 63 % 2 == 1) := rfl
  rw [f64Text, floatText_finite _ _ hs, hn]
  simp only [beq_iff_eq]

/-- `F` is the float of the integer `N`, and its neighbours are at most 1 away: the rounding interval reaches at most
1/2 to either side -/
structure IntFloat (F : Fin) (N : Nat) : Prop where
  hv : F.vn = N * F.den
  hh : 2 * F.hn ≤ 2 * F.vn + F.den
  hl : 2 * F.vn ≤ 2 * F.ln + F.den
  hlo : F.ln < F.vn
  hhi : F.vn < F.hn
  hden : 0 < F.den

/-- the only integer in the rounding interval of the float of an integer `N` is `N` -/
theorem inIv_int {F : Fin} {N : Nat} (H : IntFloat F N) {k d : Nat} (h : inIv F (10 ^ k) 1 d = true) :
    d * 10 ^ k = N := by
  -- open or closed, the interval puts `d · 10^k` between the two ends
  obtain ⟨h1, h2⟩ : F.ln * 1 ≤ d * 10 ^ k * F.den ∧ d * 10 ^ k * F.den ≤ F.hn * 1 := by
    unfold inIv at h
    by_cases hi : F.incl = true
    · simpa only [hi, if_true, Bool.and_eq_true, decide_eq_true_eq] using h
    · simp only [hi, Bool.false_eq_true, if_false, Bool.and_eq_true, decide_eq_true_eq] at h
      exact ⟨Nat.le_of_lt h.1, Nat.le_of_lt h.2⟩
  simp only [Nat.mul_one] at h1 h2
  have hv := H.hv; have hh := H.hh; have hl := H.hl
  generalize d * 10 ^ k = c at h1 h2 ⊢
  rcases Nat.lt_trichotomy c N with hlt | heq | hgt
  · have : (c + 1) * F.den ≤ N * F.den := Nat.mul_le_mul_right _ hlt
    rw [Nat.add_mul, Nat.one_mul] at this
    have := H.hden
    omega
  · exact heq
  · have : (N + 1) * F.den ≤ c * F.den := Nat.mul_le_mul_right _ hgt
    rw [Nat.add_mul, Nat.one_mul] at this
    have := H.hden
    omega

theorem tryAt_sound {F : Fin} {a b d : Nat} (h : tryAt F a b = some d) : inIv F a b d = true := by
  unfold tryAt at h
  dsimp only at h
  generalize hlo : inIv F a b (F.vn * b / (a * F.den)) = okLo at h
  generalize hhi : inIv F a b (F.vn * b / (a * F.den) + 1) = okHi at h
  cases okLo with
  | false =>
    cases okHi with
    | false => simp at h                                    -- neither neighbour is in the interval: `tryAt` answers `none`
    | true =>                                               -- only the upper one
      simp only [Bool.and_true, Bool.false_eq_true, if_false, if_true, Option.some.injEq] at h
      subst h; exact hhi
  | true =>
    cases okHi with
    | false =>                                              -- only the lower one
      simp only [Bool.and_false, Bool.false_eq_true, if_false, if_true, Option.some.injEq] at h
      subst h; exact hlo
    | true =>                                               -- both: the nearer, the even one on a tie — either is in
      simp only [Bool.and_self, if_true, Option.some.injEq] at h
      subst h
      split
      · exact hlo
      · split
        · exact hhi
        · split
          · exact hlo
          · exact hhi

/-- the decimal `d · 10^k` lies in the rounding interval of `F`: it reads back as `F` -/
def ReadsBack (F : Fin) (d : Nat) : Int → Prop
  | .ofNat k => inIv F (10 ^ k) 1 d = true
  | .negSucc j => inIv F 1 (10 ^ (j + 1)) d = true

theorem searchPos_some {F : Fin} : ∀ n d (k : Int), searchPos F n = some (d, k) →
    ∃ k' : Nat, k = (k' : Int) ∧ inIv F (10 ^ k') 1 d = true
  | 0, _, _, h => by simp [searchPos] at h
  | n+1, d, k, h => by
    unfold searchPos at h
    split at h
    · rename_i d' hd
      simp only [Option.some.injEq, Prod.mk.injEq] at h
      exact ⟨n, h.2.symm, h.1 ▸ tryAt_sound hd⟩
    · exact searchPos_some n d k h

theorem searchNeg_sound {F : Fin} : ∀ fuel j d (k : Int), 0 < j → searchNeg F fuel j = some (d, k) → ReadsBack F d k
  | 0, _, _, _, _, h => by simp [searchNeg] at h
  | fuel+1, j, d, k, hj, h => by
    unfold searchNeg at h
    split at h
    · rename_i d' hd
      simp only [Option.some.injEq, Prod.mk.injEq] at h
      rw [← h.1, ← h.2]
      -- with `j = j' + 1` the exponent `-(j' + 1)` is `Int.negSucc j'`, and `ReadsBack` unfolds to the `inIv` of `tryAt_sound`
      obtain ⟨j', rfl⟩ : ∃ j', j = j' + 1 := ⟨j - 1, by omega⟩
      exact tryAt_sound hd
    · exact searchNeg_sound fuel (j + 1) d k (by omega) h

/-- at exponent 0 the lower neighbour of the value is `N` itself, which lies in the interval: `tryAt` answers -/
theorem tryAt_one {F : Fin} {N : Nat} (H : IntFloat F N) : (tryAt F 1 1).isSome = true := by
  suffices h : inIv F 1 1 (F.vn * 1 / (1 * F.den)) = true by
    unfold tryAt
    simp only [h, Bool.true_and]
    split <;> rfl
  have hq : F.vn * 1 / (1 * F.den) = N := by
    rw [Nat.mul_one, Nat.one_mul, H.hv]; exact Nat.mul_div_cancel _ H.hden
  rw [hq]
  unfold inIv
  have hv := H.hv; have h1 := H.hlo; have h2 := H.hhi
  simp only [Nat.mul_one]
  rw [← hv]
  by_cases hi : F.incl = true
  · simp [hi, Nat.le_of_lt h1, Nat.le_of_lt h2]
  · simp [hi, h1, h2]

theorem searchPos_int {F : Fin} {N : Nat} (H : IntFloat F N) (n d : Nat) (k : Int) (h : searchPos F n = some (d, k)) :
    ∃ k' : Nat, k = (k' : Int) ∧ d * 10 ^ k' = N := by
  obtain ⟨k', hk, hiv⟩ := searchPos_some n d k h
  exact ⟨k', hk, inIv_int H hiv⟩

theorem searchPos_isSome {F : Fin} {N : Nat} (H : IntFloat F N) : ∀ n, (searchPos F (n + 1)).isSome = true
  | 0 => by
    unfold searchPos
    have h := tryAt_one H
    simp only [Nat.pow_zero]
    cases ht : tryAt F 1 1 with
    | none => rw [ht] at h; exact absurd h (by simp)
    | some d => rfl
  | n+1 => by
    unfold searchPos
    cases ht : tryAt F (10 ^ (n + 1)) 1 with
    | none => exact searchPos_isSome H n
    | some d => rfl

theorem positional_shortest_int {F : Fin} {N : Nat} (H : IntFloat F N) :
    positional (shortest F).1 (shortest F).2 = dec N := by
  have hs : startExp F = (startExp F - 1) + 1 := by unfold startExp; omega
  have hsome := searchPos_isSome H (startExp F - 1)
  rw [← hs] at hsome
  unfold shortest
  cases hr : searchPos F (startExp F) with
  | none => rw [hr] at hsome; exact absurd hsome (by simp)
  | some r =>
    obtain ⟨d, k⟩ := r
    obtain ⟨k', hk, hN⟩ := searchPos_int H _ d k hr
    subst hk
    simp only [positional, hN]

/-- the hypotheses: a normal number (`1 ≤` biased exponent) whose unit in the last place is at most 1 (biased exponent
`≤ bias + mb`) and whose value `(2^mb + fraction) / 2^(bias + mb − exponent)` is the natural number `N` -/
theorem decode_int (mb eb bits N : Nat) (h1 : 1 ≤ bits / 2 ^ mb % 2 ^ eb) (h2 : bits / 2 ^ mb % 2 ^ eb ≤ 2 ^ (eb - 1) - 1 + mb)
    (hval : 2 ^ mb + bits % 2 ^ mb = N * 2 ^ (2 ^ (eb - 1) - 1 + mb - bits / 2 ^ mb % 2 ^ eb)) :
    ((decode mb eb bits).m == 0) = false ∧ IntFloat (decode mb eb bits).fin N := by
  generalize hbe : bits / 2 ^ mb % 2 ^ eb = be at h1 h2 hval
  generalize hfr : bits % 2 ^ mb = frac at hval
  generalize hsh : 2 ^ (eb - 1) - 1 + mb = shift at h2 hval
  have h0 : (be == 0) = false := beq_eq_false_iff_ne.2 (Nat.ne_of_gt h1)
  have he : be - shift = 0 := Nat.sub_eq_zero_of_le h2
  simp only [decode, hbe, hfr, hsh, h0, he, Bool.false_eq_true, if_false, Nat.pow_zero, Nat.mul_one]
  have hP : 0 < 2 ^ (shift - be) := Nat.two_pow_pos _
  have hm : 0 < 2 ^ mb + frac := Nat.add_pos_left (Nat.two_pow_pos _) _
  generalize 2 ^ (shift - be) = P at hval hP ⊢
  generalize 2 ^ mb + frac = m at hval hm ⊢
  generalize (frac == 0 && decide (be > 1)) = narrow
  have hln : 4 * m - 2 ≤ (if narrow = true then 4 * m - 1 else 4 * m - 2) ∧
      (if narrow = true then 4 * m - 1 else 4 * m - 2) < 4 * m := by
    cases narrow <;> simp <;> omega
  exact ⟨beq_eq_false_iff_ne.2 (Nat.ne_of_gt hm),
    { hv := by dsimp only; rw [hval, Nat.mul_left_comm]
      hh := by dsimp only; omega
      hl := by dsimp only; have := hln.1; omega
      hlo := hln.2
      hhi := Nat.lt_add_of_pos_right (by decide)
      hden := Nat.mul_pos (by decide) hP }⟩

end PgVerif.Proofs.SearchFloat
