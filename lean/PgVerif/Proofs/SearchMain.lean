/-
  SearchInDump computes `Spec.Search.expected`: its `dbBody` is `loops` over the row's `rowKeys`, reading `row[c]`.
-/
import PgVerif.Proofs.SearchWalk
namespace PgVerif.Proofs.Search
open PgVerif PgVerif.Spec.Search PgVerif.Model.Search
open scoped List

theorem dbBody_eq_loops (re : Bytes → Bool) (sh : GoVal → Bytes) (o : Opts) :
    dbBody re sh o = loops Database.tables Table.rows (fun _ t ri => rowKeys t.columns ri.1) o
      (fun _ _ ri c => matchValue re sh ((lookup c ri.1).getD .nil))
      (fun D t ri c => { database := D.name, table := t.name, column := c, rowNum := ri.2,
                         value := (lookup c ri.1).getD .nil, row := if o.includeRow then some ri.1 else none }) := rfl

theorem search_eq_expected (R : Regex) (sh : GoVal → Bytes) (d : Dump) (o : Opts) :
    hits R sh d o = expected R sh d o := by
  simp only [hits, searchInDump, dbBody_eq_loops]
  exact searchLoops_eq Database.tables Table.rows _ R o _ _ toHit (fun re D t => rowHits re sh o.includeRow D.name t.name t.columns)
    (fun re D t ri => by
      simp only [rowPart, rowKeys_eq, matchValue_eq]
      exact filter_getD (lookup · ri.1) .nil (cellMatches re sh) rfl
        (fun c v => ({ db := D.name, table := t.name, row := ri.2, col := c, value := v,
                       fullRow := if o.includeRow then some ri.1 else none } : Hit)) _) d

theorem hits_some (R : Regex) (sh : GoVal → Bytes) (d : Dump) (o : Opts) (hs : List Hit) (h : hits R sh d o = some hs) :
    ∃ re, R.compile (effPattern o) = some re ∧
      hs = if o.maxResults > 0 then (allMatches re sh o.includeRow d).take o.maxResults.toNat
           else allMatches re sh o.includeRow d := by
  rw [search_eq_expected, expected] at h
  cases hc : R.compile (effPattern o) with
  | none => rw [hc] at h; cases h
  | some re => rw [hc] at h; cases h; exact ⟨re, rfl, rfl⟩

theorem mem_allMatches_of_hits (R : Regex) (sh : GoVal → Bytes) (d : Dump) (o : Opts) (re : Bytes → Bool)
    (hc : R.compile (effPattern o) = some re) (hs : List Hit) (hh : hits R sh d o = some hs) (h : Hit) (hmem : h ∈ hs) :
    h ∈ allMatches re sh o.includeRow d := by
  obtain ⟨re', hc', rfl⟩ := hits_some R sh d o hs hh
  cases hc.symm.trans hc'
  exact mem_of_mem_cut o _ hmem

theorem mem_allMatches (re : Bytes → Bool) (sh : GoVal → Bytes) (incl : Bool) (d : Dump) (h : Hit) :
    h ∈ allMatches re sh incl d ↔
      ∃ D ∈ d, ∃ t ∈ D.tables, ∃ row i, t.rows[i]? = some row ∧ ∃ cv ∈ rowCells t.columns row,
        cellMatches re sh cv.2 = true ∧
        h = { db := D.name, table := t.name, row := i, col := cv.1, value := cv.2, fullRow := if incl then some row else none } := by
  refine (mem_walk Database.tables Table.rows (fun D t => rowHits re sh incl D.name t.name t.columns) d h).trans ?_
  simp only [rowHits, List.mem_map, List.mem_filter, and_assoc, eq_comm (a := h)]

theorem wf_single (db tbl : Bytes) (cols : List Bytes) (row : Row) (h : Row.WF row) :
    Dump.WF [{ name := db, tables := [{ name := tbl, columns := cols, rows := [row] }] }] := by
  intro D hD t ht r hr
  rw [List.mem_singleton] at hD; subst hD
  rw [List.mem_singleton] at ht; subst ht
  rw [List.mem_singleton] at hr; subst hr
  exact h

theorem wf_row_of_getElem? (d : Dump) (hw : Dump.WF d) (D : Database) (hD : D ∈ d) (t : Table) (ht : t ∈ D.tables)
    (i : Nat) (row : Row) (h : t.rows[i]? = some row) : Row.WF row :=
  hw D hD t ht row (List.mem_of_getElem? h)

theorem mem_allMatches_isCell (re : Bytes → Bool) (sh : GoVal → Bytes) (incl : Bool) (d : Dump) (hw : Dump.WF d) (h : Hit) :
    h ∈ allMatches re sh incl d ↔ ∃ row, IsCell d h.db h.table h.row h.col h.value row ∧ cellMatches re sh h.value = true ∧
      h.fullRow = if incl then some row else none := by
  rw [mem_allMatches]
  constructor
  · rintro ⟨D, hD, t, ht, row, i, hri, cv, hcv, hm, rfl⟩
    exact ⟨row, ⟨D, hD, rfl, t, ht, rfl, hri, (mem_rowCells t.columns row (wf_row_of_getElem? d hw D hD t ht i row hri) cv).1 hcv⟩, hm, rfl⟩
  · rintro ⟨row, ⟨D, hD, hdb, t, ht, htb, hri, hcv⟩, hm, hfr⟩
    refine ⟨D, hD, t, ht, row, h.row, hri, (h.col, h.value),
      (mem_rowCells t.columns row (wf_row_of_getElem? d hw D hD t ht _ row hri) _).2 hcv, hm, ?_⟩
    cases h; simp_all

end PgVerif.Proofs.Search
