/-
  The ORIGINAL loops of search.go (Model/SearchOrig.lean) for an arbitrary map iteration order `π`:
  the result is "the matching cells in π-order, cut at the limit", and that list is a rearrangement of `allMatches`.
-/
import PgVerif.Model.SearchOrig
import PgVerif.Proofs.SearchMain
namespace PgVerif.Proofs.SearchOrig
open PgVerif PgVerif.Spec.Search PgVerif.Model.Search PgVerif.Proofs.Search
open scoped List

/-- every matching cell in the order in which the original loops meet them -/
def allOrig (π : Row → Row) (re : Bytes → Bool) (sh : GoVal → Bytes) (o : Opts) (d : Dump) : List Hit :=
  walk Database.tables Table.rows (fun D t ri => ((π ri.1).filter fun cv => cellMatches re sh cv.2).map fun cv =>
    { db := D.name, table := t.name, row := ri.2, col := cv.1, value := cv.2, fullRow := if o.includeRow then some ri.1 else none }) d

theorem dbBody_eq_loops (π : Row → Row) (re : Bytes → Bool) (sh : GoVal → Bytes) (o : Opts) :
    Model.SearchOrig.dbBody π re sh o = loops Database.tables Table.rows (fun _ _ ri => π ri.1) o
      (fun _ _ _ kv => matchValue re sh kv.2)
      (fun D t ri kv => { database := D.name, table := t.name, column := kv.1, rowNum := ri.2, value := kv.2,
                          row := if o.includeRow then some ri.1 else none }) := rfl

theorem search_eq (π : Row → Row) (R : Regex) (sh : GoVal → Bytes) (d : Dump) (o : Opts) :
    Model.SearchOrig.origHits π R sh d o =
      (R.compile (effPattern o)).map fun re =>
        if o.maxResults > 0 then (allOrig π re sh o d).take o.maxResults.toNat else allOrig π re sh o d := by
  simp only [Model.SearchOrig.origHits, Model.SearchOrig.searchInDump, dbBody_eq_loops]
  exact (searchLoops_eq Database.tables Table.rows _ R o _ _ toHit _
    (fun re D t ri => by simp only [rowPart, matchValue_eq]; exact (filter_map_eq_flatMap _ _ _).symm) d).trans
    (by cases R.compile (effPattern o) <;> rfl)

theorem allOrig_perm (π : Row → Row) (hπ : ∀ r, π r ~ r) (re : Bytes → Bool) (sh : GoVal → Bytes) (o : Opts) (d : Dump)
    (hw : Dump.WF d) : allOrig π re sh o d ~ allMatches re sh o.includeRow d :=
  walk_perm _ _ _ _ d fun D hD t ht r hr _ =>
    (((hπ r).trans (rowCells_perm t.columns r (hw D hD t ht r hr)).symm).filter _).map _

end PgVerif.Proofs.SearchOrig
