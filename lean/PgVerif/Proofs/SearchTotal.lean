/-
  The one slice expression of search.go / secrets.go whose safety depends on its operands: `bytesContains` evaluates
  `s[i:i+len(substr)]` behind the guards `len(substr) == 0` and `len(substr) > len(s)`.  Model/Secrets.lean renders the loop
  with the total `take` / `drop`; here it is written with the fault-aware `slice` and shown never to fault and to compute the
  pure loop, so the pure model hides no panic.  (Nothing else in the two files has a fault point: C10_COVERAGE.md.)
-/
import PgVerif.Model.Secrets
namespace PgVerif.Proofs.SearchTotal
open PgVerif PgVerif.Model.Secrets

/-- the loop `for i := 0; i <= len(s)-len(substr); i++ { if bytesEqual(s[i:i+len(substr)], substr) { return true } }`
with `n` iterations left and loop variable `i`; the slice expression is Go's, bounds-checked -/
def containsLoopM (s substr : Bytes) : Nat → Nat → M Bool
  | 0, _ => pure false
  | n+1, i => do
    let w ← slice s i (i + substr.length)
    if bytesEqual w substr then pure true else containsLoopM s substr n (i + 1)

/-- Go: bytesContains, fault-aware -/
def bytesContainsM (s substr : Bytes) : M Bool :=
  if substr.length = 0 then pure true
  else if substr.length > s.length then pure false
  else containsLoopM s substr (s.length - substr.length + 1) 0

theorem containsLoopM_eq (s substr : Bytes) : ∀ (n i : Nat), i + n + substr.length ≤ s.length + 1 →
    containsLoopM s substr n i = .ok (containsLoop substr n (s.drop i))
  | 0, _, _ => rfl
  | n+1, i, h => by
    have hs : slice s i (i + substr.length) = .ok ((s.take (i + substr.length)).drop i) :=
      slice_ok s i (i + substr.length) (by omega) (by omega)
    simp only [containsLoopM, containsLoop, hs, ok_bind, ← List.take_drop]
    split
    · rfl
    · rw [containsLoopM_eq s substr n (i + 1) (by omega), List.drop_drop]

end PgVerif.Proofs.SearchTotal
