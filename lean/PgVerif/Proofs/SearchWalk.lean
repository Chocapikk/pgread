/-
  What the three searches (the code, its original loops under a map order, dumps with `[]byte`) and the two secret scans
  share, stated once over any representation of a dump.
-/
import PgVerif.Proofs.Search
import PgVerif.Lib.Lists
namespace PgVerif.Proofs.Search
open PgVerif PgVerif.Spec.Search PgVerif.Model.Search
open scoped List

section
variable {δ τ ρ κ ν β γ : Type} (tabs : δ → List τ) (rws : τ → List ρ)

/-- every row of every table of every database in order, row number `i` contributing `f D t (row, i)`; the Spec's hit and
finding lists and the models' scans unfold to it -/
def walk (f : δ → τ → ρ × Nat → List β) (d : List δ) : List β :=
  d.flatMap fun D => (tabs D).flatMap fun t => (rws t).zipIdx.flatMap (f D t)

theorem walk_congr (f g : δ → τ → ρ × Nat → List β) (h : ∀ D t ri, f D t ri = g D t ri) (d : List δ) :
    walk tabs rws f d = walk tabs rws g d := by
  rw [show f = g from funext fun D => funext fun t => funext (h D t)]

theorem map_walk (f : δ → τ → ρ × Nat → List β) (m : β → γ) (d : List δ) :
    (walk tabs rws f d).map m = walk tabs rws (fun D t ri => (f D t ri).map m) d := by
  simp only [walk, List.map_flatMap]

theorem walk_perm (f g : δ → τ → ρ × Nat → List β) (d : List δ)
    (h : ∀ D ∈ d, ∀ t ∈ tabs D, ∀ r ∈ rws t, ∀ i, f D t (r, i) ~ g D t (r, i)) : walk tabs rws f d ~ walk tabs rws g d :=
  perm_flatMap_congr _ _ _ fun D hD => perm_flatMap_congr _ _ _ fun t ht => perm_flatMap_congr _ _ _ fun ri hri =>
    h D hD t ht ri.1 (List.mem_of_getElem? (List.mem_zipIdx_iff_getElem?.1 hri)) ri.2

theorem mem_walk (f : δ → τ → ρ × Nat → List β) (d : List δ) (x : β) :
    x ∈ walk tabs rws f d ↔ ∃ D ∈ d, ∃ t ∈ tabs D, ∃ row i, (rws t)[i]? = some row ∧ x ∈ f D t (row, i) := by
  simp only [walk, List.mem_flatMap]
  constructor
  · rintro ⟨D, hD, t, ht, ri, hri, hx⟩
    exact ⟨D, hD, t, ht, ri.1, ri.2, List.mem_zipIdx_iff_getElem?.1 hri, hx⟩
  · rintro ⟨D, hD, t, ht, row, i, hri, hx⟩
    exact ⟨D, hD, t, ht, (row, i), List.mem_zipIdx_iff_getElem?.2 hri, hx⟩

variable (ks : δ → τ → ρ × Nat → List κ)

/-- the loops of SearchInDump over tables, rows and whatever `ks` lists for a row (the `dbBody` of each model unfolds
to it) -/
def loops (o : Opts) (test : δ → τ → ρ × Nat → κ → Bool) (mk : δ → τ → ρ × Nat → κ → β) (D : δ) : List β → List β × Bool :=
  loopM (fun t => loopM (fun ri => loopM (pushBody o (test D t ri) (mk D t ri)) (ks D t ri)) (rws t).zipIdx) (tabs D)

def rowPart (test : δ → τ → ρ × Nat → κ → Bool) (mk : δ → τ → ρ × Nat → κ → β) (D : δ) (t : τ) (ri : ρ × Nat) : List β :=
  (ks D t ri).flatMap fun k => if test D t ri k then [mk D t ri k] else []

theorem map_rowPart (test : δ → τ → ρ × Nat → κ → Bool) (mk : δ → τ → ρ × Nat → κ → β) (g : β → γ) (D : δ) (t : τ) (ri : ρ × Nat) :
    (rowPart ks test mk D t ri).map g = rowPart ks test (fun D t ri k => g (mk D t ri k)) D t ri := by
  simp only [rowPart, List.map_flatMap]
  congr 1; funext k; split <;> rfl

theorem loops_spec (o : Opts) (test : δ → τ → ρ × Nat → κ → Bool) (mk : δ → τ → ρ × Nat → κ → β) :
    BodySpec (limit o) (loops tabs rws ks o test mk)
      fun D => (tabs D).flatMap fun t => (rws t).zipIdx.flatMap (rowPart ks test mk D t) :=
  fun D => loopM_spec (limit o) _ (fun t => (rws t).zipIdx.flatMap (rowPart ks test mk D t))
    (fun t => loopM_spec (limit o) _ (rowPart ks test mk D t)
      (fun ri => loopM_spec (limit o) _ (fun k => if test D t ri k then [mk D t ri k] else [])
        (pushBody_spec o _ _) (ks D t ri))
      (rws t).zipIdx)
    (tabs D)

theorem pattern_eq (o : Opts) : (if (!o.caseSensitive) = true then ciPrefix ++ o.pattern else o.pattern) = effPattern o := by
  unfold effPattern; cases o.caseSensitive <;> rfl

/-- SearchInDump's frame (compile the pattern, run the loops, convert the results by `g`): the error iff the effective pattern
does not compile, else the walk cut at MaxResults -/
theorem searchLoops_eq (R : Regex) (o : Opts) (test : (Bytes → Bool) → δ → τ → ρ × Nat → κ → Bool)
    (mk : (Bytes → Bool) → δ → τ → ρ × Nat → κ → β) (g : β → γ) (spec : (Bytes → Bool) → δ → τ → ρ × Nat → List γ)
    (hrow : ∀ re D t ri, rowPart ks (test re) (fun D t ri k => g (mk re D t ri k)) D t ri = spec re D t ri) (d : List δ) :
    Option.map (List.map g)
      (match R.compile (if !o.caseSensitive then ciPrefix ++ o.pattern else o.pattern) with
        | none => none
        | some re => some (loopM (loops tabs rws ks o (test re) (mk re)) d []).1) =
    match R.compile (effPattern o) with
      | none => none
      | some re => some (if o.maxResults > 0 then (walk tabs rws (spec re) d).take o.maxResults.toNat
                         else walk tabs rws (spec re) d) := by
  rw [pattern_eq]
  cases R.compile (effPattern o) with
  | none => rfl
  | some re =>
    have hw : (d.flatMap fun D => (tabs D).flatMap fun t => (rws t).zipIdx.flatMap (rowPart ks (test re) (mk re) D t)).map g
        = walk tabs rws (spec re) d :=
      (map_walk tabs rws _ g d).trans (walk_congr _ _ _ _ (fun D t ri => (map_rowPart ks _ _ g D t ri).trans (hrow re D t ri)) d)
    simp only [Option.map_some, loopM_take o _ _ (loops_spec tabs rws ks o (test re) (mk re))]
    split
    · rw [List.map_take, hw]
    · rw [hw]

/-- reading `row[c]` for each `c` of `l` (`nil` when the row has no `c`) and doing something that does nothing on
`nil` = doing it on the cells of the row that `l` names -/
theorem flatMap_getD (look : κ → Option ν) (nil : ν) (F : κ → ν → List γ) (h0 : ∀ c, F c nil = []) (l : List κ) :
    (l.flatMap fun c => F c ((look c).getD nil)) =
      (l.filterMap fun c => (look c).map fun v => (c, v)).flatMap fun cv => F cv.1 cv.2 := by
  induction l with
  | nil => rfl
  | cons c l ih =>
    rw [List.flatMap_cons, List.filterMap_cons, ih]
    cases look c with
    | none => rw [Option.getD_none, h0]; rfl
    | some v => rfl

theorem filter_getD (look : κ → Option ν) (nil : ν) (p : ν → Bool) (hp : p nil = false) (mk : κ → ν → γ) (l : List κ) :
    (l.flatMap fun c => if p ((look c).getD nil) then [mk c ((look c).getD nil)] else []) =
      ((l.filterMap fun c => (look c).map fun v => (c, v)).filter fun cv => p cv.2).map fun cv => mk cv.1 cv.2 := by
  rw [filter_map_eq_flatMap]
  exact flatMap_getD look nil (fun c v => if p v then [mk c v] else []) (fun _ => by rw [hp]; rfl) l

end
end PgVerif.Proofs.Search
