/-
  The secret scan (C15): the substring helpers of secrets.go are the infix relation; ScanString and the scan of one row
  compute the Spec's per-text and per-row views.
-/
import PgVerif.Model.Secrets
import PgVerif.Proofs.SearchWalk
namespace PgVerif.Proofs.Secrets
open PgVerif PgVerif.Spec.Search PgVerif.Model.Search PgVerif.Model.Secrets PgVerif.Proofs.Search

theorem bytesEqual_iff : ∀ a b : Bytes, bytesEqual a b = true ↔ a = b
  | [], [] => by simp [bytesEqual]
  | [], _ :: _ => by simp [bytesEqual]
  | _ :: _, [] => by simp [bytesEqual]
  | x :: xs, y :: ys => by
    simp only [bytesEqual]
    by_cases h : x = y
    · subst h; simp [bytesEqual_iff xs ys]
    · simp [h]

theorem isPrefix_iff : ∀ a s : Bytes, isPrefix a s = true ↔ a <+: s
  | [], s => by simp [isPrefix]
  | _ :: _, [] => by simp [isPrefix]
  | x :: xs, y :: ys => by
    rw [isPrefix, Bool.and_eq_true, beq_iff_eq, isPrefix_iff xs ys, List.cons_prefix_cons]

theorem isPrefix_take (a s : Bytes) : isPrefix a s = bytesEqual (s.take a.length) a := by
  rw [Bool.eq_iff_iff, isPrefix_iff, bytesEqual_iff, List.prefix_iff_eq_take, eq_comm]

theorem occursIn_iff (sub : Bytes) : ∀ s : Bytes, occursIn sub s = true ↔ sub <:+: s
  | [] => by rw [occursIn, List.isEmpty_iff, List.infix_nil]
  | c :: cs => by rw [occursIn, Bool.or_eq_true, isPrefix_iff, occursIn_iff sub cs, List.infix_cons_iff]

theorem occursIn_short (sub s : Bytes) (h : s.length < sub.length) : occursIn sub s = false := by
  rw [← Bool.not_eq_true, occursIn_iff]
  exact fun hi => absurd hi.length_le (by omega)

theorem containsLoop_eq (sub : Bytes) (hL : 0 < sub.length) : ∀ (n : Nat) (s : Bytes), n + sub.length = s.length + 1 →
    containsLoop sub n s = occursIn sub s
  | 0, s, h => by rw [occursIn_short sub s (by omega)]; rfl
  | n+1, [], h => by simp at h; omega
  | n+1, c :: cs, h => by
    simp only [containsLoop, occursIn, List.drop_one, List.tail_cons]
    rw [containsLoop_eq sub hL n cs (by simp at h; omega), isPrefix_take]
    cases bytesEqual (List.take sub.length (c :: cs)) sub <;> simp

theorem bytesContains_eq (s sub : Bytes) : bytesContains s sub = occursIn sub s := by
  unfold bytesContains
  by_cases h0 : sub.length = 0
  · rw [if_pos h0]
    have : sub = [] := List.eq_nil_of_length_eq_zero h0
    subst this
    exact ((occursIn_iff [] s).2 (List.nil_infix ..)).symm
  · rw [if_neg h0]
    by_cases h1 : sub.length > s.length
    · rw [if_pos h1, occursIn_short sub s h1]
    · rw [if_neg h1]
      exact containsLoop_eq sub (by omega) _ s (by omega)

theorem toLowerAscii_eq (s : Bytes) : toLowerAscii s = lower s := by
  simp only [toLowerAscii, lower]
  congr 1; funext c
  simp only [lowerByte, ge_iff_le, Bool.and_eq_true, decide_eq_true_eq]

theorem containsIgnoreCase_eq (s sub : Bytes) : containsIgnoreCase s sub = occursIn (lower sub) (lower s) := by
  simp only [containsIgnoreCase, bytesContains_eq, toLowerAscii_eq]

theorem occursIn_trans (a b c : Bytes) (h1 : occursIn a b = true) (h2 : occursIn b c = true) : occursIn a c = true := by
  rw [occursIn_iff] at *
  exact h1.trans h2

theorem occursIn_lower (a b : Bytes) (h : occursIn a b = true) : occursIn (lower a) (lower b) = true := by
  rw [occursIn_iff] at *
  exact h.map _

/-- one detector on one text: ScanString's keyword loop (`!found && len(keywords) > 0` skips the detector) decides
`keywordPass`; a detector that fails contributes nothing -/
theorem scanWith_eq (data : Bytes) (det : Detector) :
    scanWith data det = if keywordPass det data then (det.fromData data).getD [] else [] := by
  have hany : (det.keywords.any fun kw => bytesContains data kw || containsIgnoreCase data kw)
      = det.keywords.any fun kw => occursIn kw data || occursIn (lower kw) (lower data) := by
    congr 1; funext kw; rw [bytesContains_eq, containsIgnoreCase_eq]
  have hskip : (!(det.keywords.any fun kw => bytesContains data kw || containsIgnoreCase data kw)
      && decide (det.keywords.length > 0)) = !keywordPass det data := by
    rw [hany, keywordPass]
    cases det.keywords <;> simp
  simp only [scanWith]
  rw [hskip]
  cases keywordPass det data
  · simp
  · cases det.fromData data <;> simp

theorem scanString_eq (dets : List Detector) (data : Bytes) : scanString dets data = scanText dets data := by
  simp only [scanString, scanText]
  congr 1; funext det; exact scanWith_eq data det

theorem mem_scanText (dets : List Detector) (text : Bytes) (r : DetResult) :
    r ∈ scanText dets text ↔ ∃ det ∈ dets, keywordPass det text = true ∧ ∃ found, det.fromData text = some found ∧ r ∈ found := by
  simp only [scanText, List.mem_flatMap]
  constructor
  · rintro ⟨det, hdet, hr⟩
    by_cases hk : keywordPass det text = true
    · rw [if_pos hk] at hr
      cases hf : det.fromData text with
      | none => rw [hf] at hr; cases hr
      | some found => rw [hf] at hr; exact ⟨det, hdet, hk, found, hf, hr⟩
    · rw [if_neg hk] at hr; cases hr
  · rintro ⟨det, hdet, hk, found, hf, hr⟩
    exact ⟨det, hdet, by rw [if_pos hk, hf]; exact hr⟩

theorem fmtV_nil_short (sh : GoVal → Bytes) : (fmtV sh .nil).length < 8 := by
  simp [fmtV]

/-- a column the row does not have reads as `<nil>`, which is too short to be scanned -/
theorem scanRow_eq (dets : List Detector) (sh : GoVal → Bytes) (db tbl : Bytes) (i : Nat) (row : Row) (l : List Bytes) :
    l.flatMap (scanCell dets sh db tbl i row) =
      (l.filterMap fun c => (lookup c row).map fun v => (c, v)).flatMap (cellFindings dets sh db tbl i) := by
  have h : scanCell dets sh db tbl i row = fun c => cellFindings dets sh db tbl i (c, (lookup c row).getD .nil) := by
    funext c; simp only [scanCell, scanString_eq, cellFindings]
  rw [h]
  exact flatMap_getD (lookup · row) .nil (fun c v => cellFindings dets sh db tbl i (c, v)) (fun _ => if_pos (fmtV_nil_short sh)) l

theorem mem_expectedFindings (dets : List Detector) (sh : GoVal → Bytes) (d : Dump) (f : Finding) :
    f ∈ expectedFindings dets sh d ↔ ∃ D ∈ d, ∃ t ∈ D.tables, ∃ row i, t.rows[i]? = some row ∧
      f ∈ (rowCells t.columns row).flatMap (cellFindings dets sh D.name t.name i) :=
  mem_walk Database.tables Table.rows
    (fun D t ri => (rowCells t.columns ri.1).flatMap (cellFindings dets sh D.name t.name ri.2)) d f

end PgVerif.Proofs.Secrets
