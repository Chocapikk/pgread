/-
  segment.go: the multi-segment loop never faults, and what it reads against the PostgreSQL segment layout of Spec/Block.lean.
-/
import PgVerif.Proofs.Block
namespace PgVerif.Proofs.SegmentMulti
open PgVerif PgVerif.Model

theorem goDiv_ok (a b : Int) (h : b ≠ 0) : goDiv a b = .ok (Int.tdiv a b) := by
  unfold goDiv; rw [if_neg h]; rfl

theorem goMod_ok (a b : Int) (h : b ≠ 0) : goMod a b = .ok (Int.tmod a b) := by
  unfold goMod; rw [if_neg h]; rfl

theorem segAt_ok (segments : List SegmentInfo) (i : Int) (h0 : 0 ≤ i) (h1 : i < segments.length) :
    ∃ s, segAt segments i = .ok s := by
  have hlt : i.toNat < segments.length := by omega
  refine ⟨segments[i.toNat], ?_⟩
  unfold segAt
  rw [if_neg (by omega), List.getElem?_eq_getElem hlt]; rfl

theorem lt_of_tdiv_lt (g bps len : Int) (hb : 0 < bps) (hg : 0 ≤ g) (h : g.tdiv bps < len) : g < len * bps := by
  rw [Int.tdiv_eq_ediv_of_nonneg hg] at h
  exact Int.lt_mul_of_ediv_lt hb h

theorem multiLoop_total (fs : SegFS) (segments : List SegmentInfo) (bps stop : Int) (opts : Option SegmentOptions)
    (hb : 0 < bps) :
    ∀ (fuel : Nat) (blockNum : Int), 0 ≤ blockNum →
      ((segments.length : Int) * bps - blockNum).toNat + 1 ≤ fuel →
      ∃ r, multiLoop fs segments bps stop opts fuel blockNum = .ok r := by
  have hb' : bps ≠ 0 := Int.ne_of_gt hb
  intro fuel
  induction fuel with
  | zero => intro g _ hf; omega
  | succ fuel ih =>
    intro g hg hf
    unfold multiLoop
    refine tot_ite (fun _ => ?_) fun _ => ⟨_, rfl⟩
    rw [goDiv_ok g bps hb', goMod_ok g bps hb']
    simp only [ok_bind]
    refine tot_ite (fun _ => ⟨_, rfl⟩) fun hlen => ?_
    obtain ⟨s, hs'⟩ := segAt_ok segments (g.tdiv bps) (Int.tdiv_nonneg hg (Int.le_of_lt hb)) (Int.not_le.mp hlen)
    rw [hs']
    simp only [ok_bind]
    split
    · exact ⟨_, rfl⟩
    · have hlt : g < (segments.length : Int) * bps := lt_of_tdiv_lt g bps _ hb hg (Int.not_le.mp hlen)
      exact tot_bind (ih (g + 1) (by omega) (by omega)) fun _ _ => ⟨_, rfl⟩

/-- the blocks per segment are at least one: a size below one block is replaced by the default -/
theorem globalBlockToSegment_eq (g sz : Int) :
    globalBlockToSegment g sz =
      .ok (g.tdiv ((if sz < 8192 then defaultSegmentSize else sz).tdiv 8192),
           g.tmod ((if sz < 8192 then defaultSegmentSize else sz).tdiv 8192)) := by
  unfold globalBlockToSegment
  have hpos : (if sz < 8192 then defaultSegmentSize else sz).tdiv 8192 ≠ 0 := by
    have h1 : (8192 : Int) ≤ (if sz < 8192 then defaultSegmentSize else sz) := by
      split
      · unfold defaultSegmentSize; omega
      · omega
    rw [Int.tdiv_eq_ediv_of_nonneg (by omega)]
    omega
  simp only []
  rw [goDiv_ok _ _ hpos, goMod_ok _ _ hpos]
  rfl

/-- the entry ListSegments makes for the file `base.<i>` (`base` for i = 0) with contents `f`; not the `segEntry` of
Proofs/ChecksumDirSpec.lean, a directory entry -/
def segEntry (i : Nat) (f : Bytes) : SegmentInfo :=
  ⟨i, (i : Int), defaultSegmentSize, f.length, f.length / 8192, (i : Int) * defaultSegmentSize⟩

theorem file_map_some (files : List Bytes) (i : Nat) : SegFS.file (files.map some) i = files[i]? := by
  unfold SegFS.file
  rw [List.getElem?_map]
  cases files[i]? <;> rfl

theorem min_succ_sub (n k i : Nat) (h : i < k) : min (n + 1) (k - i) = min n (k - (i + 1)) + 1 := by
  omega

/-- with `base.k` missing and `base.i … base.(k−1)` present the probe loop lists exactly these (or up to its budget), whatever
exists beyond the gap -/
theorem listMore_upto (fs : SegFS) (k : Nat) (hk : fs.file k = none) :
    ∀ (n i : Nat), i ≤ k → (∀ j, i ≤ j → j < k → fs.file j ≠ none) →
      listMore fs n i = (List.range' i (min n (k - i))).map fun j => segEntry j ((fs.file j).getD []) := by
  intro n
  induction n with
  | zero => intro i _ _; simp [listMore]
  | succ n ih =>
    intro i hik hp
    unfold listMore
    by_cases hi : i = k
    · subst hi; rw [hk, Nat.sub_self, Nat.min_zero]; rfl
    · have hlt : i < k := Nat.lt_of_le_of_ne hik hi
      cases hf : fs.file i with
      | none => exact absurd hf (hp i (Nat.le_refl _) hlt)
      | some f =>
        simp only []
        rw [ih (i + 1) hlt (fun j h1 h2 => hp j (Nat.le_of_succ_le h1) h2), min_succ_sub n k i hlt, List.range'_succ,
          List.map_cons, hf]
        rfl

theorem listMore_all (files : List Bytes) (n i : Nat) (hi : i ≤ files.length) :
    listMore (files.map some) n i =
      (List.range' i (min n (files.length - i))).map fun j => segEntry j (files[j]?.getD []) := by
  rw [listMore_upto _ files.length (by rw [file_map_some, List.getElem?_eq_none (Nat.le_refl _)]) n i hi
    (fun j _ hj => by rw [file_map_some, List.getElem?_eq_getElem hj]; exact Option.some_ne_none _)]
  simp only [file_map_some]

theorem listMore_gap (fs : SegFS) (k : Nat) (hk : fs.file k = none) (n i : Nat) (hik : i ≤ k)
    (hp : ∀ j, i ≤ j → j < k → fs.file j ≠ none) :
    (listMore fs n i).map (·.path) = List.range' i (min n (k - i)) := by
  rw [listMore_upto fs k hk n i hik hp, List.map_map]
  exact List.map_id _

/-- at most 1000 files: the probe loop stops at `base.999` -/
theorem listSegments_all (files : List Bytes) (h0 : 0 < files.length) (h1 : files.length ≤ 1000) :
    listSegments (files.map some) =
      (List.range files.length).map fun i => segEntry i (files[i]?.getD []) := by
  unfold listSegments
  rw [file_map_some, listMore_all _ _ _ h0, List.getElem?_eq_getElem h0,
    show min 999 (files.length - 1) = files.length - 1 by omega, List.range_eq_range',
    show files.length = (files.length - 1) + 1 by omega, List.range'_succ, List.map_cons,
    List.getElem?_eq_getElem (by omega)]
  simp only [segEntry, List.singleton_append, Option.getD_some, Int.natCast_zero, Int.zero_mul,
    Nat.zero_add, Nat.add_sub_cancel]

open PgVerif.Spec.BlockAddr PgVerif.Proofs.Block

/-- the segment files of a relation, all present -/
def relFS (rel : Relation) : SegFS := rel.map fun f => some (encFile f)

theorem relFS_eq (rel : Relation) : relFS rel = (rel.map encFile).map some := by
  unfold relFS; rw [List.map_map]; rfl

theorem relFS_file (rel : Relation) (i : Nat) (hi : i < rel.length) :
    SegFS.file (relFS rel) i = some (encFile rel[i]) := by
  rw [relFS_eq, file_map_some, List.getElem?_map, List.getElem?_eq_getElem hi]; rfl

/-- files of at most 2^50 blocks (8 EiB): every block offset fits Go's `int64` -/
def SmallFiles (rel : Relation) : Prop := ∀ f ∈ rel, f.blocks.length ≤ 2 ^ 50

theorem readSegmentBlock_present (fs : SegFS) (i : Nat) (p blockNum : Int) (opts : Option SegmentOptions) (f : Bytes)
    (hf : fs.file i = some f) :
    readSegmentBlock fs i p blockNum opts =
      if blockNum ≥ ((f.length / 8192 : Nat) : Int) then .error .segBeyond
      else fileReadAt f (wrap64 (blockNum * 8192)) 8192 := by
  unfold readSegmentBlock getSegmentInfo
  rw [hf]

theorem fileReadAt_block (f : Bytes) (n : Nat) (h : (n + 1) * 8192 ≤ f.length) (hn : n < 2 ^ 50) :
    fileReadAt f (wrap64 ((n : Int) * 8192)) 8192 = .ok ((f.drop (n * 8192)).take 8192) := by
  simp only [Nat.reducePow] at hn
  rw [wrap64_id _ (by omega) (by omega)]
  unfold fileReadAt
  rw [if_neg (by omega), if_neg (by decide), if_neg (by omega), show ((n : Int) * 8192).toNat = n * 8192 by omega]

theorem readSegmentBlock_page (fs : SegFS) (i : Nat) (p : Int) (n : Nat) (opts : Option SegmentOptions) (f : Bytes)
    (hf : fs.file i = some f) (hsm : (pages f).length ≤ 2 ^ 50) :
    readSegmentBlock fs i p (n : Int) opts =
      match (pages f)[n]? with
      | some pg => .ok pg
      | none => .error .segBeyond := by
  rw [readSegmentBlock_present fs i p n opts f hf, getElem?_pages]
  rw [length_pages] at hsm
  by_cases h : (n + 1) * 8192 ≤ f.length
  · have hn : n < f.length / 8192 := (Nat.le_div_iff_mul_le (by decide)).mpr h
    rw [if_pos h, if_neg (fun hc => Nat.not_le.mpr hn (Int.ofNat_le.mp hc)),
      fileReadAt_block f n h (Nat.lt_of_lt_of_le hn hsm)]
  · have hn : f.length / 8192 ≤ n := Nat.le_of_not_lt fun hlt => h ((Nat.le_div_iff_mul_le (by decide)).mp hlt)
    rw [if_neg h, if_pos (Int.ofNat_le.mpr hn)]

theorem readSegmentBlock_spec (rel : Relation) (hwf : ∀ f ∈ rel, f.WF) (hsm : SmallFiles rel)
    (i : Nat) (hi : i < rel.length) (p : Int) (n : Nat) (opts : Option SegmentOptions) :
    readSegmentBlock (relFS rel) i p (n : Int) opts =
      if h : n < (rel[i]).blocks.length then .ok (encBlock (rel[i]).blocks[n]) else .error .segBeyond := by
  have hf := hwf rel[i] (List.getElem_mem hi)
  rw [readSegmentBlock_page _ i p n opts _ (relFS_file rel i hi)
    (by rw [pages_encFile _ hf, List.length_map]; exact hsm _ (List.getElem_mem hi)), pages_encFile _ hf, List.getElem?_map]
  by_cases hn : n < (rel[i]).blocks.length
  · rw [dif_pos hn, List.getElem?_eq_getElem hn]; rfl
  · rw [dif_neg hn, List.getElem?_eq_none (Nat.le_of_not_lt hn)]; rfl

theorem listSegments_rel (rel : Relation) (h0 : 0 < rel.length) (h1 : rel.length ≤ 1000) :
    listSegments (relFS rel) =
      (List.range rel.length).map fun i => segEntry i ((rel.map encFile)[i]?.getD []) := by
  have := listSegments_all (rel.map encFile) (by simpa using h0) (by simpa using h1)
  rw [relFS_eq, this, List.length_map]

theorem listSegments_rel_length (rel : Relation) (h0 : 0 < rel.length) (h1 : rel.length ≤ 1000) :
    (listSegments (relFS rel)).length = rel.length := by
  rw [listSegments_rel rel h0 h1, List.length_map, List.length_range]

theorem segAt_rel (rel : Relation) (h0 : 0 < rel.length) (h1 : rel.length ≤ 1000) (i : Nat) (hi : i < rel.length) :
    ∃ s, segAt (listSegments (relFS rel)) (i : Int) = .ok s ∧ s.path = i := by
  refine ⟨segEntry i ((rel.map encFile)[i]?.getD []), ?_, rfl⟩
  unfold segAt
  rw [if_neg (by omega), listSegments_rel rel h0 h1, List.getElem?_map, Int.toNat_natCast,
    List.getElem?_range hi]
  rfl

theorem globalBlock_none_seg (rel : Relation) (bps g : Nat) (h : rel.length ≤ g / bps) :
    globalBlock rel bps g = none := by
  unfold globalBlock segmentOf
  rw [List.getElem?_eq_none h]

theorem globalBlock_seg (rel : Relation) (bps g : Nat) (h : g / bps < rel.length) :
    globalBlock rel bps g = (rel[g / bps]).blocks[g % bps]? := by
  unfold globalBlock segmentOf
  rw [List.getElem?_eq_getElem h]

theorem toNat_run (stop : Int) (g : Nat) :
    (stop + 1 - (g : Int)).toNat = if (g : Int) ≤ stop then (stop + 1 - ((g + 1 : Nat) : Int)).toNat + 1 else 0 := by
  split <;> omega

theorem toNat_run_nat (b : Int) (a : Nat) (h : ¬ b < (a : Int)) : (b + 1 - (a : Int)).toNat = b.toNat + 1 - a := by
  omega

/-- the block loop computes the run of global blocks `g, g+1, …, stop` up to the first missing one -/
theorem multiLoop_spec (rel : Relation) (hwf : ∀ f ∈ rel, f.WF) (hsm : SmallFiles rel)
    (h0 : 0 < rel.length) (h1 : rel.length ≤ 1000) (bps : Nat) (hb : 0 < bps) (stop : Int)
    (opts : Option SegmentOptions) :
    ∀ (fuel g : Nat), (rel.length * bps - g) + 1 ≤ fuel →
      multiLoop (relFS rel) (listSegments (relFS rel)) (bps : Int) stop opts fuel (g : Int) =
        .ok ((globalRun rel bps (stop + 1 - (g : Int)).toNat g).flatMap encBlock) := by
  have hb' : (bps : Int) ≠ 0 := Int.natCast_ne_zero.mpr (Nat.pos_iff_ne_zero.mp hb)
  intro fuel
  induction fuel with
  | zero => intro g hf; omega
  | succ fuel ih =>
    intro g hf
    unfold multiLoop
    -- `toNat_run` unfolds the Spec's count `(stop + 1 - g).toNat` in step with the loop's test `g ≤ stop`; fuel is spent only
    -- while `g < rel.length * bps` (`hlt`), every other branch returns at once
    by_cases hs : (g : Int) ≤ stop
    · rw [if_pos hs, goDiv_ok _ _ hb', goMod_ok _ _ hb', ← Int.ofNat_tdiv, ← Int.ofNat_tmod]
      simp only [ok_bind]
      rw [listSegments_rel_length rel h0 h1, toNat_run, if_pos hs]
      unfold globalRun
      by_cases hlen : rel.length ≤ g / bps
      · rw [if_pos (Int.ofNat_le.mpr hlen), globalBlock_none_seg rel bps g hlen]; rfl
      · rw [if_neg (fun h => hlen (Int.ofNat_le.mp h))]
        have hi : g / bps < rel.length := Nat.lt_of_not_ge hlen
        obtain ⟨s, hs1, hs2⟩ := segAt_rel rel h0 h1 (g / bps) hi
        rw [hs1]
        simp only [ok_bind]
        rw [hs2, readSegmentBlock_spec rel hwf hsm (g / bps) hi, globalBlock_seg rel bps g hi]
        by_cases hn : g % bps < (rel[g / bps]).blocks.length
        · rw [dif_pos hn, List.getElem?_eq_getElem hn]
          simp only []
          have hlt : g < rel.length * bps := (Nat.div_lt_iff_lt_mul hb).mp hi
          have := ih (g + 1) (by omega)
          rw [Int.natCast_add, Int.natCast_one] at this
          rw [this, List.flatMap_cons]
          rfl
        · rw [dif_neg hn, List.getElem?_eq_none (Nat.le_of_not_lt hn)]
          rfl
    · rw [if_neg hs, toNat_run, if_neg hs]
      rfl

theorem listSegments_rel_nonempty (rel : Relation) (h0 : 0 < rel.length) (h1 : rel.length ≤ 1000) :
    ¬ (listSegments (relFS rel)).isEmpty = true := by
  rw [List.isEmpty_iff]
  intro h
  have := listSegments_rel_length rel h0 h1
  rw [h] at this
  simp at this
  omega

theorem effSegSize_pos (opts : Option SegmentOptions) : 0 < effSegSize opts := by
  unfold effSegSize
  cases opts with
  | none => decide
  | some o =>
    simp only []
    split
    · assumption
    · decide

theorem readMultiSegmentFile_unfold (fs : SegFS) (a b : Int) (opts : Option SegmentOptions) :
    readMultiSegmentFile fs a b opts =
      if (listSegments fs).isEmpty = true then pure (.error .noSegments)
      else if (effSegSize opts).tdiv 8192 ≤ 0 then pure (.error .smallSegment)
      else if a < 0 then pure (.error .negative)
      else (do
        let data ← multiLoop fs (listSegments fs) ((effSegSize opts).tdiv 8192) b opts
          ((((listSegments fs).length : Int) * (effSegSize opts).tdiv 8192 - a).toNat + 2) a
        pure (.ok data)) := by
  unfold readMultiSegmentFile
  cases opts <;> rfl

/-- ReadMultiSegmentFile returns the blocks `a … b` in PostgreSQL's segment addressing (global block g = block `g mod bps` of file
`g div bps`), cut at the first block that is not there -/
theorem readMultiSegmentFile_eff (rel : Relation) (hwf : ∀ f ∈ rel, f.WF) (hsm : SmallFiles rel)
    (h0 : 0 < rel.length) (h1 : rel.length ≤ 1000) (a : Nat) (b : Int) (opts : Option SegmentOptions)
    (hsz : 8192 ≤ effSegSize opts) :
    readMultiSegmentFile (relFS rel) (a : Int) b opts =
      .ok (.ok (if b < (a : Int) then [] else multiView rel ((effSegSize opts).toNat / 8192) a b.toNat)) := by
  obtain ⟨sz, hS⟩ : ∃ S : Nat, effSegSize opts = (S : Int) :=
    ⟨(effSegSize opts).toNat, (Int.toNat_of_nonneg (Int.le_trans (by decide) hsz)).symm⟩
  rw [readMultiSegmentFile_unfold, hS, Int.toNat_natCast]
  rw [hS] at hsz
  have hbps : 0 < sz / 8192 := Nat.div_pos (Int.ofNat_le.mp hsz) (by decide)
  have hdiv : (sz : Int).tdiv 8192 = ((sz / 8192 : Nat) : Int) := (Int.ofNat_tdiv sz 8192).symm
  have hb1 : ¬ ((sz / 8192 : Nat) : Int) ≤ 0 := by omega
  rw [if_neg (listSegments_rel_nonempty rel h0 h1), hdiv, if_neg hb1, if_neg (Int.not_lt.mpr (Int.natCast_nonneg a)),
    multiLoop_spec rel hwf hsm h0 h1 (sz / 8192) hbps b _ _ a (by
      rw [listSegments_rel_length rel h0 h1]; omega)]
  by_cases hba : b < (a : Int)
  · rw [if_pos hba, toNat_run, if_neg (Int.not_le.mpr hba)]; rfl
  · rw [if_neg hba, toNat_run_nat b a hba]; rfl

theorem readMultiSegmentFile_spec (rel : Relation) (hwf : ∀ f ∈ rel, f.WF) (hsm : SmallFiles rel)
    (h0 : 0 < rel.length) (h1 : rel.length ≤ 1000) (a : Nat) (b : Int) (k : Int) (sz : Nat) (hsz : 8192 ≤ sz) :
    readMultiSegmentFile (relFS rel) (a : Int) b (some ⟨k, (sz : Int)⟩) =
      .ok (.ok (if b < (a : Int) then [] else multiView rel (sz / 8192) a b.toNat)) := by
  have he : effSegSize (some ⟨k, (sz : Int)⟩) = (sz : Int) := by
    unfold effSegSize
    simp only []
    rw [if_pos (by omega)]
  have := readMultiSegmentFile_eff rel hwf hsm h0 h1 a b (some ⟨k, (sz : Int)⟩) (by rw [he]; omega)
  rw [he, Int.toNat_natCast] at this
  exact this

/-- no options, or a non-positive segment size: 1 GiB segments = 131072 blocks -/
theorem readMultiSegmentFile_default (rel : Relation) (hwf : ∀ f ∈ rel, f.WF) (hsm : SmallFiles rel)
    (h0 : 0 < rel.length) (h1 : rel.length ≤ 1000) (a : Nat) (b : Int) (opts : Option SegmentOptions)
    (hd : opts = none ∨ ∃ k sz, sz ≤ 0 ∧ opts = some ⟨k, sz⟩) :
    readMultiSegmentFile (relFS rel) (a : Int) b opts =
      .ok (.ok (if b < (a : Int) then [] else multiView rel 131072 a b.toNat)) := by
  have he : effSegSize opts = defaultSegmentSize := by
    rcases hd with rfl | ⟨k, sz, hsz, rfl⟩
    · rfl
    · unfold effSegSize
      simp only []
      rw [if_neg (by omega)]
  have := readMultiSegmentFile_eff rel hwf hsm h0 h1 a b opts (by rw [he]; unfold defaultSegmentSize; omega)
  rw [he] at this
  exact this

theorem readMultiSegmentFile_noSegments (fs : SegFS) (a b : Int) (opts : Option SegmentOptions)
    (hf0 : fs.file 0 = none) (hf1 : fs.file 1 = none) :
    readMultiSegmentFile fs a b opts = .ok (.error .noSegments) := by
  have : listSegments fs = [] := by
    unfold listSegments listMore
    rw [hf0, hf1]; rfl
  unfold readMultiSegmentFile
  simp only []
  rw [this]; rfl

end PgVerif.Proofs.SegmentMulti
