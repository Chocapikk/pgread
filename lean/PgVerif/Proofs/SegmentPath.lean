/-
  GetSegmentNumberFromPath on well-formed relation file paths: `<dir>/<stem>.<digits>` carries segment number `<digits>`,
  `<dir>/<stem>` (no '.') is segment 0.
-/
import PgVerif.Proofs.Block
namespace PgVerif.Proofs.SegmentPath
open PgVerif PgVerif.Model PgVerif.LastSplit

def IsDirPrefix (dir : Bytes) : Prop := dir = [] ∨ ∃ d, dir = d ++ [47]

theorem afterLast_not_mem (c : UInt8) (s : Bytes) (h : c ∉ s) : afterLast c s = s := by
  rw [afterLast, takeWhile_eq_span, span_reverse_not_mem c s h, List.reverse_reverse]

theorem afterLast_split (c : UInt8) (a b : Bytes) (h : c ∉ b) : afterLast c (a ++ c :: b) = b := by
  rw [afterLast, takeWhile_eq_span, span_reverse_split c a b h, List.reverse_reverse]

theorem dropTrailingSlashes_last (q : Bytes) (x : UInt8) (hx : x ≠ 47) :
    dropTrailingSlashes (q ++ [x]) = q ++ [x] := by
  unfold dropTrailingSlashes
  have e : (q ++ [x]).reverse = x :: q.reverse := by simp
  have hb : (x == 47) = false := by simpa using hx
  rw [e, List.dropWhile_cons]
  simp only [hb, Bool.false_eq_true, if_false]
  simp

theorem pathBase_dir_name (dir name : Bytes) (hd : IsDirPrefix dir) (hn : (47 : UInt8) ∉ name)
    (hne : name ≠ []) : pathBase (dir ++ name) = name := by
  obtain ⟨q, x, e⟩ : ∃ q x, name = q ++ [x] := ⟨_, _, (List.dropLast_concat_getLast hne).symm⟩
  have hx : x ≠ 47 := by
    intro ex
    apply hn
    rw [e, ex]; simp
  have hdrop : dropTrailingSlashes (dir ++ name) = dir ++ name := by
    rw [e, ← List.append_assoc]
    exact dropTrailingSlashes_last (dir ++ q) x hx
  have hafter : afterLast 47 (dir ++ name) = name := by
    rcases hd with h0 | ⟨d, h1⟩
    · rw [h0, List.nil_append]; exact afterLast_not_mem 47 name hn
    · rw [h1, List.append_assoc]
      exact afterLast_split 47 d name hn
  have he1 : (dir ++ name).isEmpty = false :=
    List.isEmpty_eq_false_iff.mpr fun h => hne (List.append_eq_nil_iff.mp h).2
  have he2 : name.isEmpty = false := List.isEmpty_eq_false_iff.mpr hne
  unfold pathBase
  simp only [he1, hdrop, hafter, he2, Bool.false_eq_true, if_false]

theorem digits_not_mem (ds : Bytes) (hdig : ds.all isDigit = true) :
    (47 : UInt8) ∉ ds ∧ (46 : UInt8) ∉ ds := by
  rw [List.all_eq_true] at hdig
  exact ⟨fun hm => absurd (hdig 47 hm) (by decide), fun hm => absurd (hdig 46 hm) (by decide)⟩

theorem segmentNumber_suffix (dir stem ds : Bytes) (hd : IsDirPrefix dir) (hs : (47 : UInt8) ∉ stem)
    (hds : ds ≠ []) (hdig : ds.all isDigit = true) (hval : digitsVal ds < 2 ^ 63) :
    getSegmentNumberFromPath (dir ++ stem ++ 46 :: ds) = (digitsVal ds : Int) := by
  obtain ⟨h47, h46⟩ := digits_not_mem ds hdig
  have hn : (47 : UInt8) ∉ stem ++ 46 :: ds := by
    intro hm
    rcases List.mem_append.mp hm with h | h
    · exact hs h
    · rcases List.mem_cons.mp h with h | h
      · exact absurd h (by decide)
      · exact h47 h
  have hbase : pathBase (dir ++ stem ++ 46 :: ds) = stem ++ 46 :: ds := by
    rw [List.append_assoc]
    exact pathBase_dir_name dir (stem ++ 46 :: ds) hd hn (by simp)
  have hc : (stem ++ 46 :: ds).contains 46 = true := by simp
  unfold getSegmentNumberFromPath
  simp only [hbase, hc, Bool.not_true, Bool.false_eq_true, if_false,
    afterLast_split 46 stem ds h46, Proofs.Block.atoi_digits ds hds hdig, if_pos hval]

theorem segmentNumber_plain (dir stem : Bytes) (hd : IsDirPrefix dir) (hs : (47 : UInt8) ∉ stem)
    (hdot : (46 : UInt8) ∉ stem) (hne : stem ≠ []) :
    getSegmentNumberFromPath (dir ++ stem) = 0 := by
  have hc : stem.contains 46 = false := by simpa using hdot
  unfold getSegmentNumberFromPath
  simp only [pathBase_dir_name dir stem hd hs hne, hc, Bool.not_false, if_true]

end PgVerif.Proofs.SegmentPath
