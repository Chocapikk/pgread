/-
  sequence.go for C20 and C10: IsSequenceFile and the totality of ParseSequenceFile on every byte string; ParseSequenceFile, repaired
  and as written (Model/SequenceOrig.lean), on a page laid out as a sequence page (`SeqPageReads`), of which the encoded page and the
  panic witness are instances; the loop of FindSequences.
-/
import PgVerif.Model.Sequence
import PgVerif.Model.SequenceOrig
import PgVerif.Proofs.KeySort
import PgVerif.Spec.Sequence
import PgVerif.Basic.Lemmas
namespace PgVerif.Proofs
open PgVerif PgVerif.Spec

theorem isSequenceFile_eq (p : Bytes) : Model.isSequenceFile p = .ok (decide (8192 ≤ p.length) && isSeqPage p) := by
  unfold Model.isSequenceFile isSeqPage rdAt seqMagic
  by_cases hl : p.length < 8192
  · rw [if_pos hl, decide_eq_false (by omega)]; rfl
  rw [if_neg hl, decide_eq_true (by omega), Bool.true_and, uN_ok 2 p 16 (by omega), ok_bind]
  have hlt := rd_lt 2 (p.drop 16)
  by_cases hs : rd 2 (p.drop 16) = 0 ∨ rd 2 (p.drop 16) > 8192 - 4
  · rw [if_pos hs]
    have : (decide (0 < rd 2 (p.drop 16)) && decide (rd 2 (p.drop 16) + 4 ≤ 8192)) = false := by
      rcases hs with h | h
      · rw [decide_eq_false (by omega), Bool.false_and]
      · rw [decide_eq_false (by omega : ¬ rd 2 (p.drop 16) + 4 ≤ 8192), Bool.and_false]
    simp only [this, Bool.false_and]; rfl
  · dsimp only
    rw [if_neg hs, uN_ok 4 p _ (by omega), ok_bind, decide_eq_true (by omega : 0 < rd 2 (p.drop 16)),
      decide_eq_true (by omega : rd 2 (p.drop 16) + 4 ≤ 8192)]
    rfl

/-- t_hoff as ParseSequenceFile takes it from a tuple: the byte at 22, or 24 when that is below 23 or beyond the tuple -/
def seqHoff (t : Bytes) : Nat :=
  if (t[22]?.getD 0).toNat < 23 ∨ (t[22]?.getD 0).toNat > t.length then 24 else (t[22]?.getD 0).toNat

/-- what the reads of ParseSequenceFile find in a sequence page whose first line pointer (LP_NORMAL) points to the `len` bytes `t` at `off` -/
structure SeqPageReads (bs : Bytes) (off len : Nat) (t : Bytes) : Prop where
  length : bs.length = 8192
  lower : rd 2 (bs.drop 12) = 28
  special : rd 2 (bs.drop 16) = 8184
  linp : rd 4 (bs.drop 24) = off + 2 ^ 15 * 1 + 2 ^ 17 * len
  magic : bs.drop 8184 = le 4 seqMagic ++ zeros 4
  tuple : slice bs off (off + len) = .ok t

/-- both parsers walk to the tuple and take its t_hoff; they differ in the width of the magic they compare, which this page passes
either way, and in the bounds check of t_hoff, which only the repaired parser makes -/
theorem SeqPageReads.parse {bs t : Bytes} {off len : Nat} (h : SeqPageReads bs off len t) (ho : 0 < off) (hl : 23 ≤ len)
    (hfit : off + len ≤ 8192) :
    Model.parseSequenceFile bs =
      (if seqHoff t > t.length then .ok none else Model.parseSequenceTuple (t.drop (seqHoff t))) ∧
    Model.Orig.parseSequenceFile bs = (sliceFrom t (seqHoff t) >>= Model.Orig.parseSequenceTuple) := by
  have hlen := h.length
  have htl := slice_length _ _ _ _ h.tuple
  obtain ⟨hd1, hd2, _⟩ := itemWord_fields off 1 len (by omega) (by decide) (by omega)
  constructor
  · unfold Model.parseSequenceFile
    rw [if_neg (by omega), uN_ok 2 _ 16 (by omega), ok_bind, h.special, if_neg (by omega), uN_ok 4 _ 8184 (by omega), ok_bind,
      h.magic, rd_le 4 seqMagic _ (by decide), if_neg (by decide), uN_ok 2 _ 12 (by omega), ok_bind, h.lower, if_neg (by omega),
      uN_ok 4 _ 24 (by omega), ok_bind, h.linp]
    dsimp only
    rw [hd1, hd2, if_neg (by omega), h.tuple, ok_bind, if_neg (by omega), idx_getD _ 22 (by omega), ok_bind]
    show (if seqHoff t > t.length then _ else _) = _
    by_cases hh : seqHoff t > t.length
    · rw [if_pos hh, if_pos hh]; rfl
    · rw [if_neg hh, if_neg hh]
      exact bind_eq (sliceFrom_ok t (seqHoff t) (by omega)) rfl
  · unfold Model.Orig.parseSequenceFile
    -- the low two bytes of the stored u32 magic are what the u16 comparison reads
    rw [if_neg (by omega), uN_ok 2 _ 16 (by omega), ok_bind, h.special, if_neg (by omega), uN_ok 2 _ 8184 (by omega), ok_bind,
      h.magic, (by decide +kernel : rd 2 (le 4 seqMagic ++ zeros 4) = 0x1717), if_neg (by decide), uN_ok 2 _ 12 (by omega), ok_bind,
      h.lower, if_neg (by omega), uN_ok 4 _ 24 (by omega), ok_bind, h.linp]
    dsimp only
    rw [hd1, hd2, if_neg (by omega), h.tuple, ok_bind, if_neg (by omega), idx_getD _ 22 (by omega), ok_bind]
    rfl

/-- 12 bytes, the five header members from pd_lower on, the first line pointer, a gap, the tuple, a gap, the special space -/
theorem seqPageReads_layout (h0 g1 t g2 : Bytes) (up psv prune off : Nat) (hh : h0.length = 12)
    (hv : up < 2 ^ 16 ∧ psv < 2 ^ 16 ∧ prune < 2 ^ 32 ∧ off + 2 ^ 15 * 1 + 2 ^ 17 * t.length < 2 ^ 32)
    (hg1 : 28 + g1.length = off) (hg2 : off + t.length + g2.length = 8184) :
    SeqPageReads (h0 ++ (leFields [(2, 28), (2, up), (2, 8184), (2, psv), (4, prune), (4, off + 2 ^ 15 * 1 + 2 ^ 17 * t.length)] ++
      (g1 ++ (t ++ (g2 ++ (le 4 seqMagic ++ zeros 4)))))) off t.length t := by
  have hf := fieldsAt_mid [(2, 28), (2, up), (2, 8184), (2, psv), (4, prune), (4, off + 2 ^ 15 * 1 + 2 ^ 17 * t.length)] h0
    (g1 ++ (t ++ (g2 ++ (le 4 seqMagic ++ zeros 4))))
    (by simp only [List.forall_mem_cons, List.not_mem_nil, false_imp_iff, implies_true, and_true]; omega)
  rw [hh] at hf
  simp only [FieldsAt, uN_eq_ok, Nat.reduceAdd, rdAt] at hf
  generalize hF : leFields [(2, 28), (2, up), (2, 8184), (2, psv), (4, prune), (4, off + 2 ^ 15 * 1 + 2 ^ 17 * t.length)] = F at hf ⊢
  have hFl : F.length = 16 := by rw [← hF, leFields_length]; rfl
  have hpre : (h0 ++ (F ++ g1)).length = off := by simp only [List.length_append, hh, hFl]; omega
  rw [show h0 ++ (F ++ (g1 ++ (t ++ (g2 ++ (le 4 seqMagic ++ zeros 4))))) = (h0 ++ (F ++ g1)) ++ (t ++ (g2 ++ (le 4 seqMagic ++ zeros 4)))
    by simp only [List.append_assoc]] at hf ⊢
  -- of the six fields of `hf`: pd_lower, pd_special, the line pointer
  refine ⟨?_, hf.1.2, hf.2.2.1.2, hf.2.2.2.2.2.1.2, ?_, (at_mid _ t _ hpre).slice⟩
  · simp only [List.length_append, hpre, le_length, zeros_length]; omega
  · rw [← List.append_assoc t, ← List.append_assoc]
    exact List.drop_left' (by simp only [List.length_append, hpre]; omega)

/-- the 17 data bytes of a sequence tuple -/
def seqData (s : SeqState) : Bytes := le 8 (ofSigned 64 s.lastValue) ++ le 8 (ofSigned 64 s.logCnt) ++ [b2byte s.isCalled]

theorem parseSequenceTuple_seqData (s : SeqState) (h1 : -(2 ^ 63 : Int) ≤ s.lastValue) (h2 : s.lastValue < 2 ^ 63) :
    Model.parseSequenceTuple (seqData s) = .ok (some { lastValue := s.lastValue, isCalled := s.isCalled }) := by
  have hl : (seqData s).length = 17 := by simp [seqData]
  unfold Model.parseSequenceTuple Model.i64At
  rw [if_neg (by omega), if_pos (by omega)]
  simp (disch := omega) only [uN_ok, ok_bind, pure_eq_ok]
  rw [if_pos (by omega)]
  simp only [ok_bind]
  have r0 : rd 8 (List.drop 0 (seqData s)) = ofSigned 64 s.lastValue := by
    unfold seqData
    rw [List.drop_zero, List.append_assoc]
    exact rd_le 8 _ _ (ofSigned_lt 64 _)
  have r16 : rd 1 (List.drop 16 (seqData s)) = (b2byte s.isCalled).toNat := by
    unfold seqData
    rw [List.drop_left' (by simp)]
    simp [rd]
  rw [r0, r16, toSigned_ofSigned 64 (by decide) _ h1 h2]
  cases s.isCalled <;> rfl

/-- the only place that looks at the MAXALIGN rounding of `tupOff` -/
theorem tup_bounds (p : SeqPage) (h : p.hoff < 256) :
    23 ≤ p.hoff ∧ 7904 ≤ p.tupOff ∧ p.tupOff + p.tupLen ≤ 8184 := by
  unfold SeqPage.tupOff SeqPage.tupLen SeqPage.hoff at *; omega

theorem encSeqPage_reads (p : SeqPage) (h : p.WF) : SeqPageReads (encSeqPage p) p.tupOff p.tupLen p.tuple := by
  obtain ⟨hh0, hprune, _, _, _, hc, _, _, hhoff, _⟩ := h
  obtain ⟨_, hlo, hhi⟩ := tup_bounds p hhoff
  have htl : p.tuple.length = p.tupLen := by
    simp only [SeqPage.tuple, List.length_append, le_length, hc, List.length_cons, List.length_nil, SeqPage.tupLen, SeqPage.hoff]
  have := seqPageReads_layout p.hdr0 (zeros (p.tupOff - 28)) p.tuple (zeros (8184 - p.tupOff - p.tupLen)) p.tupOff (8192 + 4)
    p.prune p.tupOff hh0 (by omega) (by rw [zeros_length]; omega) (by rw [zeros_length]; omega)
  rw [htl] at this
  simpa [encSeqPage, leFields, List.append_assoc] using this

theorem tuple_parts (p : SeqPage) (h : p.WF) : seqHoff p.tuple = p.hoff ∧ p.tuple.drop p.hoff = seqData p.st := by
  obtain ⟨_, _, _, _, _, hc, _, _, hhoff, _⟩ := h
  have e : p.tuple = (le 4 p.xmin ++ le 4 p.xmax ++ le 4 p.cid ++ p.ctid ++ le 2 p.infomask2 ++ le 2 p.infomask) ++
      ([UInt8.ofNat p.hoff] ++ (p.mid ++ seqData p.st)) := by
    simp [SeqPage.tuple, seqData, List.append_assoc]
  have hl : p.tuple.length = p.hoff + 17 := by rw [e]; simp [hc, seqData, SeqPage.hoff]; omega
  have h22 : p.tuple[22]?.getD 0 = UInt8.ofNat p.hoff := by
    rw [e]; exact (at_mid _ _ _ (by simp [hc])).getD
  constructor
  · unfold seqHoff
    rw [h22, u8_toNat _ hhoff, if_neg (by unfold SeqPage.hoff at *; omega)]
  · rw [e, ← List.append_assoc, ← List.append_assoc]
    exact List.drop_left' (by simp [hc, SeqPage.hoff]; omega)

theorem wf_hoff {p : SeqPage} (h : p.WF) : p.hoff < 256 := h.2.2.2.2.2.2.2.2.1

theorem wf_lastValue {p : SeqPage} (h : p.WF) : -(2 ^ 63 : Int) ≤ p.st.lastValue ∧ p.st.lastValue < 2 ^ 63 :=
  h.2.2.2.2.2.2.2.2.2.1

/-- the defects A62 lie in what the tuple parser as written does with the data -/
theorem parseSequenceFile_enc_tuple (p : SeqPage) (h : p.WF) :
    Model.parseSequenceFile (encSeqPage p) = Model.parseSequenceTuple (seqData p.st) ∧
    Model.Orig.parseSequenceFile (encSeqPage p) = Model.Orig.parseSequenceTuple (seqData p.st) := by
  obtain ⟨h23, hlo, hhi⟩ := tup_bounds p (wf_hoff h)
  have hr := encSeqPage_reads p h
  have htl : p.tuple.length = p.hoff + 17 := by rw [slice_length _ _ _ _ hr.tuple, Nat.add_sub_cancel_left]; rfl
  obtain ⟨h1, h2⟩ := hr.parse (by omega) (by unfold SeqPage.tupLen; omega) (by omega)
  obtain ⟨hh, hd⟩ := tuple_parts p h
  rw [h1, h2, hh, hd, if_neg (by omega), sliceFrom_ok _ _ (by omega), ok_bind, hd]
  exact ⟨rfl, rfl⟩

theorem parseSequenceFile_enc (p : SeqPage) (h : p.WF) :
    Model.parseSequenceFile (encSeqPage p) =
      .ok (some { lastValue := p.st.lastValue, isCalled := p.st.isCalled }) :=
  (parseSequenceFile_enc_tuple p h).1.trans (parseSequenceTuple_seqData p.st (wf_lastValue h).1 (wf_lastValue h).2)

theorem parseSequenceFile_orig_enc (p : SeqPage) (h : p.WF) :
    Model.Orig.parseSequenceFile (encSeqPage p) = Model.Orig.parseSequenceTuple (seqData p.st) :=
  (parseSequenceFile_enc_tuple p h).2

theorem isSeqPage_enc (p : SeqPage) (h : p.WF) : isSeqPage (encSeqPage p) = true := by
  have hr := encSeqPage_reads p h
  unfold isSeqPage rdAt
  rw [hr.special]
  show (decide (0 < 8184) && decide (8184 + 4 ≤ 8192) && rd 4 ((encSeqPage p).drop 8184) == seqMagic) = true
  rw [hr.magic, rd_le 4 seqMagic _ (by decide)]
  rfl

theorem i64At_total (d : Bytes) (off : Nat) (h : off + 8 ≤ d.length) : ∃ v, Model.i64At d off = .ok v :=
  ⟨_, by unfold Model.i64At; rw [uN_ok 8 d off h]; rfl⟩

/-- a flag byte read under its own length guard -/
theorem flag_total (d : Bytes) (c : Prop) [Decidable c] (k : Nat) (hk : c → k < d.length) :
    ∃ b, (if c then do return (← uN 1 d k) != 0 else pure false : M Bool) = .ok b :=
  tot_ite (fun hc => tot_uN (by have := hk hc; omega) fun _ => ⟨_, rfl⟩) fun _ => ⟨_, rfl⟩

theorem parseSequenceTuple_total (d : Bytes) : ∃ r, Model.parseSequenceTuple d = .ok r := by
  unfold Model.parseSequenceTuple
  refine tot_ite (fun _ => ⟨_, rfl⟩) fun h8 => ?_
  refine tot_ite (fun _ => ?_) fun h57 => ?_
  · refine tot_bind (i64At_total d 0 (by omega)) fun _ _ => ?_
    exact tot_bind (flag_total d _ 16 (by omega)) fun _ _ => ⟨_, rfl⟩
  · refine tot_bind (i64At_total d 0 (by omega)) fun _ _ => ?_
    refine tot_bind (i64At_total d 8 (by omega)) fun _ _ => ?_
    refine tot_bind (i64At_total d 16 (by omega)) fun _ _ => ?_
    refine tot_bind (i64At_total d 24 (by omega)) fun _ _ => ?_
    refine tot_bind (i64At_total d 32 (by omega)) fun _ _ => ?_
    refine tot_bind (i64At_total d 40 (by omega)) fun _ _ => ?_
    refine tot_bind (tot_ite (fun _ => tot_uN (by omega) fun _ => ⟨_, rfl⟩) fun _ => ⟨_, rfl⟩) fun p _ => ?_
    exact tot_bind (flag_total d _ p.2 (by omega)) fun _ _ => ⟨_, rfl⟩

theorem and7fff_lt (x : Nat) : x &&& 0x7FFF < 32768 :=
  Nat.lt_succ_of_le Nat.and_le_right

theorem parseSequenceFile_total (bs : Bytes) : ∃ r, Model.parseSequenceFile bs = .ok r := by
  unfold Model.parseSequenceFile
  refine tot_ite (fun _ => ⟨_, rfl⟩) fun h => ?_
  refine tot_uN (by omega) fun special => ?_
  refine tot_ite (fun _ => ⟨_, rfl⟩) fun hs => ?_
  refine tot_uN (by omega) fun magic => ?_
  refine tot_ite (fun _ => ⟨_, rfl⟩) fun _ => ?_
  refine tot_uN (by omega) fun lower => ?_
  refine tot_ite (fun _ => ⟨_, rfl⟩) fun _ => ?_
  refine tot_uN (by omega) fun itemPtr => ?_
  have := and7fff_lt itemPtr
  have := and7fff_lt (itemPtr >>> 17)
  refine tot_ite (fun _ => ⟨_, rfl⟩) fun hi => ?_
  refine tot_bind (slice_total _ _ _ (by omega) (by omega)) fun t _ => ?_
  refine tot_ite (fun _ => ⟨_, rfl⟩) fun ht => ?_
  refine tot_bind (idx_total t 22 (by omega)) fun b _ => ?_
  refine tot_ite (fun _ => ⟨_, rfl⟩) fun hh => ?_
  exact tot_bind ⟨_, sliceFrom_ok t _ (by omega)⟩ fun d _ => parseSequenceTuple_total d

/-- a page with the sequence magic whose only tuple is 23 bytes long with t_hoff = 0 -/
def seqPanicWitness : Bytes :=
  zeros 12 ++ le 2 28 ++ le 2 8160 ++ le 2 8184 ++ le 2 8196 ++ le 4 0 ++ le 4 (8160 + 2 ^ 15 + 2 ^ 17 * 23) ++
    zeros (8184 - 28) ++ le 4 0x1717 ++ zeros 4

/-- t_hoff reads 0 and is replaced by the default 24, one more than the tuple holds -/
theorem seqPanicWitness_reads : SeqPageReads seqPanicWitness 8160 23 (zeros 23) := by
  have := seqPageReads_layout (zeros 12) (zeros 8132) (zeros 23) (zeros 1) 8160 8196 0 8160 (zeros_length _)
    (by simp only [zeros_length]; decide) (by rw [zeros_length]) (by simp only [zeros_length])
  have hz : zeros (8184 - 28) = zeros 8132 ++ (zeros 23 ++ zeros 1) := by simp only [zeros, List.replicate_append_replicate]
  simpa only [seqPanicWitness, hz, leFields, List.flatMap_cons, List.flatMap_nil, List.append_assoc, List.append_nil, zeros_length,
    Nat.mul_one, seqMagic] using this

/-- the record FindSequences builds for a sequence relation `c` whose file holds page `p` -/
def listed (c : Model.ClassInfo) (p : SeqPage) : Model.SequenceData :=
  { name := c.name, oid := c.oid, filenode := c.filenode, lastValue := p.st.lastValue, isCalled := p.st.isCalled }

theorem findSeqLoop_enc (env : Model.SeqEnv) (base : String) (pageOf : Model.ClassInfo → SeqPage)
    (cs : List Model.ClassInfo)
    (h : ∀ c ∈ cs, c.kind = [83] → (pageOf c).WF ∧
      env.fs (base ++ "/" ++ toString c.filenode) = some (encSeqPage (pageOf c))) :
    Model.findSeqLoop env base cs =
      .ok ((cs.filter fun c => c.kind == [83]).map fun c => listed c (pageOf c)) := by
  induction cs with
  | nil => rfl
  | cons c t ih =>
    have iht := ih (fun x hx => h x (by simp [hx]))
    unfold Model.findSeqLoop
    by_cases hk : c.kind = [83]
    · obtain ⟨hwf, hfs⟩ := h c (by simp) hk
      have hk' : (c.kind != [83]) = false := by simp [hk]
      have hk'' : (c.kind == [83]) = true := by simp [hk]
      simp only [hk', Bool.false_eq_true, if_false, hfs, parseSequenceFile_enc _ hwf, ok_bind, iht, pure_eq_ok,
        List.filter_cons, hk'', if_true, List.map_cons]
      rfl
    · have hk' : (c.kind != [83]) = true := by simp [hk]
      have hk'' : (c.kind == [83]) = false := by simp [hk]
      simp only [hk', if_true, iht, List.filter_cons, hk'', Bool.false_eq_true, if_false]

theorem seqVisitOrder_eq (env : Model.SeqEnv) (tables : List Model.ClassInfo)
    (hπ : (env.order tables).Perm tables) (hmap : KeySort.DistinctKeys (fun c : Model.ClassInfo => c.filenode) tables) :
    Model.seqVisitOrder env tables = Model.keySort (·.filenode) tables :=
  KeySort.keySort_perm_invariant _ _ _ hπ (hmap.perm hπ.symm)

end PgVerif.Proofs
