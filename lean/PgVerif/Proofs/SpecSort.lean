/-
  The canonical orders of the cluster specification (`Spec.sortAttrs`, `Spec.sortTables`, `Spec.insertRel`) as
  instances of `Sorting.insertionSort`.
-/
import PgVerif.Spec.Cluster
import PgVerif.Lib.Sorting
namespace PgVerif.Spec
open PgVerif.Sorting List

theorem sortAttrs_eq (l : List AttrRow) : sortAttrs l = insertionSort (fun a b => a.num < b.num) l :=
  foldr_eq_insertionSort (f := insertAttr) _ (fun _ => rfl) (fun _ _ _ => rfl) l

theorem sortAttrs_perm (l : List AttrRow) : sortAttrs l ~ l :=
  sortAttrs_eq l ▸ insertionSort_perm _ l

theorem mem_sortAttrs (x : AttrRow) (l : List AttrRow) : x ∈ sortAttrs l ↔ x ∈ l :=
  (sortAttrs_perm l).mem_iff

/-- the specification inserts before the first greater attnum, Go's `sort.Slice` (as an insertion sort) before the first
that is not smaller: the same on distinct attnums -/
theorem sortAttrs_eq_byKey {l : List AttrRow} (h : (l.map (·.num)).Nodup) : sortAttrs l = insertionSort (byKey (·.num)) l :=
  (sortAttrs_eq l).trans (insertionSort_lt _ h)

theorem nums_nodup_of_rel (live : List AttrRow) (relOID : Nat) (hnd : (live.map fun a => (a.relid, a.num)).Nodup) :
    ((live.filter fun a => decide (a.relid = relOID ∧ a.num > 0)).map (·.num)).Nodup := by
  rw [List.Nodup, pairwise_map] at hnd ⊢
  refine (hnd.filter _).imp_of_mem fun {a b} ha hb hab hn => hab ?_
  have ha' := (of_decide_eq_true (mem_filter.mp ha).2).1
  have hb' := (of_decide_eq_true (mem_filter.mp hb).2).1
  rw [ha', hb', hn]

theorem sortTables_eq (l : List TableDump) : sortTables l = insertionSort (byKey (·.filenode)) l :=
  foldr_eq_insertionSort (f := insertTable) _ (fun _ => rfl) (fun _ _ _ => rfl) l

theorem foldr_insertRel (l : List RelEntry) : l.foldr insertRel [] = insertionSort (byKey (·.filenode)) l :=
  foldr_eq_insertionSort (f := insertRel) _ (fun _ => rfl) (fun _ _ _ => rfl) l

end PgVerif.Spec
