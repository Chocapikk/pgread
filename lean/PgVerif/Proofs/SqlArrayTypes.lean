/-
  pgread's type tables, evaluated: the array types (fix 14; types.go:arrayElemTypes read from the source, TypeName and pgTypeToSQL
  executed) against pg_type, and the column type texts as lists of bare words.
-/
import PgVerif.Proofs.SqlCompose
import PgVerif.Lib.AssocMap
import PgVerif.Generated.Arrays
namespace PgVerif.Proofs.SqlArrayTypes
open PgVerif PgVerif.Export PgVerif.Model.Export PgVerif.Proofs.SqlLex PgVerif.Proofs.SqlCompose
open PgVerif.Spec.SqlLex hiding asc
open PgVerif.Spec.SqlExport (one isOp arrayType elemType castOf isJsonType pgArrayTypes)

def wordTok (w : Bytes) : Tok := .word (fold w)

def keys : List Int := pgArrayTypes.map (·.1)

/-- pgread decodes exactly the array types in the Spec's scope -/
theorem gen_keys : Generated.Export.arrayElemTypes.map (·.1) = keys := by decide

/-- the same table as area `arrays` reads (Generated.Arrays, the decoder's side) -/
theorem same_as_arrays : Generated.Export.arrayElemTypes =
    Generated.Arrays.arrayElemTypes.map (fun p => ((p.1 : Int), (p.2 : Int))) := by decide

/-- per entry of the probe (what the executed code wrote for the cell [true] of that array type).  Only the first conjunct
evaluates the model's text; the others speak of the probe's text and of the element types. -/
def probeOK (e : Int × String × Bool) : Bool :=
  arrayCast e.1 == Export.asc e.2.1 &&
  (arrayType e.1).map (·.2) == some (fold ((Export.asc e.2.1).drop 2)) &&
  wordOK ((Export.asc e.2.1).drop 2) &&
  (arrayElemType e.1).isSome &&
  (isJsonType (elemType e.1) == isJsonOid ((arrayElemType e.1).getD 0)) &&
  (arrayType (elemType e.1)).isNone && (arrayElemType ((arrayElemType e.1).getD 0)).isNone

theorem probe_ok : Generated.Export.arrayCastProbe.all probeOK = true := by
  unfold probeOK arrayCast arrayType typeName pgTypeToSQL Spec.SqlLex.asc Export.asc
  rw [Lit.toList_eq_chars]
  decide +kernel

theorem probe_keys : Generated.Export.arrayCastProbe.map (fun e => (e.1, e.2.2)) =
    Generated.Export.arrayElemTypes.map (fun p => (p.1, isJsonOid p.2)) := by decide

theorem probe_cast {e : Int × String × Bool} (he : e ∈ Generated.Export.arrayCastProbe) : Export.asc e.2.1 = arrayCast e.1 := by
  have hok := List.all_eq_true.mp probe_ok e he
  simp only [probeOK, Bool.and_eq_true, beq_iff_eq] at hok
  exact hok.1.1.1.1.1.1.symm

theorem key_facts {ty : Int} (h : ty ∈ keys) :
    (arrayType ty).map (·.2) = some (fold (pgTypeToSQL (typeName ty) ty)) ∧ wordOK (pgTypeToSQL (typeName ty) ty) = true ∧
    (∃ em, arrayElemType ty = some em) ∧ isJsonType (elemType ty) = isJsonOid ((arrayElemType ty).getD 0) ∧
    arrayType (elemType ty) = none ∧ arrayElemType ((arrayElemType ty).getD 0) = none := by
  have hk : ty ∈ (Generated.Export.arrayCastProbe.map fun e => (e.1, e.2.2)).map (·.1) := by
    rw [probe_keys, List.map_map]; exact gen_keys ▸ h
  obtain ⟨e, he, rfl⟩ : ∃ e ∈ Generated.Export.arrayCastProbe, e.1 = ty := by simpa using hk
  have hok := List.all_eq_true.mp probe_ok e he
  simp only [probeOK, Bool.and_eq_true, beq_iff_eq, Option.isNone_iff_eq_none, Option.isSome_iff_exists] at hok
  obtain ⟨⟨⟨⟨⟨⟨hc, h1⟩, hw⟩, em, hem⟩, hj⟩, hs⟩, hm⟩ := hok
  -- the model's word is the probe's text after `::`
  have : pgTypeToSQL (typeName e.1) e.1 = (Export.asc e.2.1).drop 2 := by
    rw [← hc, arrayCast, hem]; rfl
  rw [this]
  exact ⟨h1, hw, ⟨em, hem⟩, hj, hs, hm⟩

theorem not_key (ty : Int) (h : ty ∉ keys) : arrayType ty = none ∧ arrayElemType ty = none := by
  constructor
  · unfold arrayType; rw [AssocMap.find?_none_of_keys pgArrayTypes ty h]; rfl
  · unfold arrayElemType; rw [AssocMap.find?_none_of_keys Generated.Export.arrayElemTypes ty (by rw [gen_keys]; exact h)]; rfl

def castToks (mt : Int) : List Tok :=
  match arrayElemType mt with
  | some _ => [.op [58], .op [58], wordTok (pgTypeToSQL (typeName mt) mt)]
  | none => []

/-- what the value level needs of a Spec type `st` and the typID `mt` the code formats with.  A column gives (ty, ty); the two
differ only below an array constructor, for `_regproc` (1008): elements regproc (24) for the Spec, oid (26) for pgread -/
structure Pair (st mt : Int) : Prop where
  json : isJsonType st = isJsonOid mt
  cast : ∀ more, castOf st (castToks mt ++ more) = some more
  reads : Reads wordB (arrayCast mt) (castToks mt) ∨ (arrayCast mt = [] ∧ castToks mt = [])
  elemJson : isJsonType (elemType st) = isJsonOid ((arrayElemType mt).getD 0)
  elemLeafS : arrayType (elemType st) = none
  elemLeafM : arrayElemType ((arrayElemType mt).getD 0) = none

theorem elemType_of_none (ty : Int) (h : arrayType ty = none) : elemType ty = 0 := by
  unfold elemType; rw [h]

theorem zero_facts : arrayType 0 = none ∧ arrayElemType 0 = none ∧ isJsonType 0 = isJsonOid 0 := by decide

/-- elements of arrays, the unknown type 0 -/
theorem Pair.leaf (st mt : Int) (hj : isJsonType st = isJsonOid mt) (hs : arrayType st = none) (hm : arrayElemType mt = none) :
    Pair st mt where
  json := hj
  cast := fun more => by simp [castOf, castToks, hs, hm]
  reads := Or.inr ⟨by simp [arrayCast, hm], by simp [castToks, hm]⟩
  elemJson := by rw [elemType_of_none st hs, hm]; exact zero_facts.2.2
  elemLeafS := by rw [elemType_of_none st hs]; exact zero_facts.1
  elemLeafM := by rw [hm]; exact zero_facts.2.1

theorem Pair.elem {st mt : Int} (h : Pair st mt) : Pair (elemType st) ((arrayElemType mt).getD 0) :=
  Pair.leaf _ _ h.elemJson h.elemLeafS h.elemLeafM

theorem colon2 : Reads anyB [58, 58] [.op [58], .op [58]] := by
  have h := reads_self 58 (by decide) (by decide)
  have := Reads.append_cons h h trivial
  simpa using this

theorem Pair.self (ty : Int) : Pair ty ty := by
  by_cases hk : ty ∈ keys
  · obtain ⟨hname, hword, ⟨em, hem⟩, hjson, hleafS, hleafM⟩ := key_facts hk
    cases hat : arrayType ty with
    | none => rw [hat] at hname; simp at hname
    | some p =>
      rw [hat] at hname
      simp only [Option.map_some, Option.some.injEq] at hname
      refine ⟨rfl, fun more => ?_, Or.inl ?_, hjson, hleafS, hleafM⟩
      · simp only [castOf, hat, castToks, hem, wordTok, List.cons_append, List.nil_append]
        simp [one, isOp, hname]
      · simp only [arrayCast, castToks, hem]
        exact Reads.append colon2 (reads_wordOK _ hword) (fun _ _ => trivial)
  · obtain ⟨hs, hm⟩ := not_key ty hk
    exact Pair.leaf ty ty rfl hs hm

def splitSp : Bytes → List Bytes
  | [] => [[]]
  | c :: t =>
    if c = 32 then [] :: splitSp t
    else match splitSp t with
      | w :: ws => (c :: w) :: ws
      | [] => [[c]]

/-- sufficient, and decidable: non-empty words separated by single spaces -/
def wordsText (text : Bytes) : Bool :=
  text == joinB [32] (splitSp text) && (splitSp text).all wordOK && !(splitSp text).isEmpty

theorem reads_wordList : ∀ ws : List Bytes, ws ≠ [] → (∀ w ∈ ws, wordOK w = true) →
    Reads wordB (joinB [32] ws) (ws.map wordTok)
  | [], h, _ => absurd rfl h
  | [w], _, h => by simp only [joinB, List.map]; exact reads_wordOK w (h w (by simp))
  | w :: w2 :: rest, _, h => by
    have h1 := Reads.close (reads_wordOK w (h w (by simp))) 32 (bnd_some (by decide)) sp
    have h2 := reads_wordList (w2 :: rest) (by simp) (fun x hx => h x (by simp [hx]))
    have := Reads.append h1 h2 (fun _ _ => trivial)
    exact Reads.cast this (by simp [joinB, List.append_assoc]) (by simp [wordTok])

theorem reads_wordsText (text : Bytes) (h : wordsText text = true) :
    splitSp text ≠ [] ∧ Reads wordB text ((splitSp text).map wordTok) := by
  simp only [wordsText, Bool.and_eq_true, beq_iff_eq, Bool.not_eq_true', List.all_eq_true] at h
  obtain ⟨⟨h1, h2⟩, h3⟩ := h
  have hne : splitSp text ≠ [] := by intro e; simp [e] at h3
  refine ⟨hne, ?_⟩
  have := reads_wordList (splitSp text) hne h2
  rwa [← h1] at this

/-- every text in the switch of pgTypeToSQL -/
theorem switchTypes_ok : (Generated.Export.sqlTypeSwitch.all fun e => wordsText (Export.asc e.2)) = true := by
  unfold Export.asc
  rw [Lit.toList_eq_chars]
  decide +kernel

/-- every type name of types.go:TypeName, upper-cased (the default branch of pgTypeToSQL) -/
theorem upperTypeNames_ok : (Generated.Export.typeNames.all fun e => wordsText (asciiUpper (Export.asc e.2))) = true := by
  unfold Export.asc
  rw [Lit.toList_eq_chars]
  decide +kernel

end PgVerif.Proofs.SqlArrayTypes
