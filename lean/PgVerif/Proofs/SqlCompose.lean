/-
  `Reads B text toks`: whatever follows `text` (provided its first byte satisfies the boundary condition `B`), the lexer
  reads `text` as exactly the tokens `toks` and continues with what follows.
-/
import PgVerif.Proofs.SqlLex
import PgVerif.Proofs.ExportDec
namespace PgVerif.Proofs.SqlCompose
open PgVerif PgVerif.Export PgVerif.Spec.SqlLex PgVerif.Model.Export PgVerif.Proofs.SqlLex

def addTok (tok : Option Tok) (ts : List Tok) : List Tok := match tok with | some k => k :: ts | none => ts

theorem lexF_fuel (f : Nat) : ∀ bs : Bytes, bs.length < f → lexF (f + 1) bs = lexF f bs := by
  induction f with
  | zero => intro bs h; omega
  | succ f ih =>
    intro bs h
    cases bs with
    | nil => simp [lexF]
    | cons c t =>
      rw [lexF, lexF]
      cases hn : next (c :: t) with
      | none => rfl
      | some p =>
        obtain ⟨tok, rest⟩ := p
        simp only []
        by_cases hl : rest.length < (c :: t).length
        · rw [if_pos hl, if_pos hl, ih rest (by simp only [List.length_cons] at h hl; omega)]
        · rw [if_neg hl, if_neg hl]

theorem lexF_eq_lex (f : Nat) (bs : Bytes) (h : bs.length < f) : lexF f bs = lex bs := by
  unfold lex
  induction f with
  | zero => omega
  | succ f ih =>
    by_cases h' : bs.length < f
    · rw [lexF_fuel f bs h', ih h']
    · have : f = bs.length := by omega
      subst this; rfl

theorem lex_step (bs rest : Bytes) (tok : Option Tok) (hn : next bs = some (tok, rest)) (hl : rest.length < bs.length) :
    lex bs = (lex rest).map (addTok tok) := by
  cases bs with
  | nil => simp at hl
  | cons c t =>
    have : lex (c :: t) = lexF ((c :: t).length + 1) (c :: t) := rfl
    rw [this, lexF, hn]
    simp only []
    rw [if_pos hl, lexF_eq_lex _ rest (by omega)]
    cases tok <;> rfl

/-- boundary conditions are predicates on the first byte of what follows (`none` = end of input) -/
abbrev Bnd := Option UInt8 → Prop

def Reads (B : Bnd) (text : Bytes) (toks : List Tok) : Prop :=
  ∀ rest, B rest.head? → lex (text ++ rest) = (lex rest).map (toks ++ ·)

def anyB : Bnd := fun _ => True

theorem Reads.nil (B : Bnd) : Reads B [] [] := by
  intro rest _; simp

theorem Reads.append {B1 B2 : Bnd} {t1 t2 : Bytes} {k1 k2 : List Tok} (h1 : Reads B1 t1 k1) (h2 : Reads B2 t2 k2)
    (hb : ∀ rest : Bytes, B2 rest.head? → B1 (t2 ++ rest).head?) : Reads B2 (t1 ++ t2) (k1 ++ k2) := by
  intro rest hr
  rw [List.append_assoc, h1 (t2 ++ rest) (hb rest hr), h2 rest hr]
  cases lex rest <;> simp

theorem Reads.append_cons {B1 B2 : Bnd} {t1 : Bytes} {c : UInt8} {t2 : Bytes} {k1 k2 : List Tok} (h1 : Reads B1 t1 k1)
    (h2 : Reads B2 (c :: t2) k2) (hb : B1 (some c)) : Reads B2 (t1 ++ c :: t2) (k1 ++ k2) :=
  Reads.append h1 h2 (fun _ _ => by simpa using hb)

theorem Reads.close {B : Bnd} {t : Bytes} {k k2 : List Tok} (h : Reads B t k) (c : UInt8) (hc : B (some c))
    (h2 : Reads anyB [c] k2) : Reads anyB (t ++ [c]) (k ++ k2) :=
  Reads.append_cons h h2 hc

theorem Reads.seq {t1 t2 : Bytes} {k1 k2 : List Tok} (h1 : Reads anyB t1 k1) (h2 : Reads anyB t2 k2) :
    Reads anyB (t1 ++ t2) (k1 ++ k2) :=
  Reads.append h1 h2 (fun _ _ => trivial)

theorem Reads.cast {B : Bnd} {t t' : Bytes} {k k' : List Tok} (h : Reads B t k) (ht : t = t') (hk : k = k') : Reads B t' k' := by
  subst ht; subst hk; exact h

theorem Reads.ite {B : Bnd} {c : Prop} [Decidable c] {t1 t2 : Bytes} {k1 k2 : List Tok} (h1 : c → Reads B t1 k1)
    (h2 : ¬ c → Reads B t2 k2) : Reads B (if c then t1 else t2) (if c then k1 else k2) := by
  by_cases h : c
  · rw [if_pos h, if_pos h]; exact h1 h
  · rw [if_neg h, if_neg h]; exact h2 h

theorem Reads.flatMap {α} (text : α → Bytes) (toks : α → List Tok) :
    ∀ xs : List α, (∀ x ∈ xs, Reads anyB (text x) (toks x)) → Reads anyB (xs.flatMap text) (xs.flatMap toks)
  | [], _ => by simp only [List.flatMap_nil]; exact Reads.nil _
  | x :: xs, h => by
    have := Reads.seq (h x (by simp)) (Reads.flatMap text toks xs (fun y hy => h y (by simp [hy])))
    exact Reads.cast this (by simp) (by simp)

theorem Reads.weaken {B1 B2 : Bnd} {t : Bytes} {k : List Tok} (h : Reads B1 t k) (hb : ∀ o, B2 o → B1 o) : Reads B2 t k :=
  fun rest hr => h rest (hb _ hr)

theorem Reads.of_next {B : Bnd} (text : Bytes) (tok : Option Tok) (hne : text ≠ [])
    (h : ∀ rest, B rest.head? → next (text ++ rest) = some (tok, rest)) : Reads B text (addTok tok []) := by
  intro rest hr
  rw [lex_step (text ++ rest) rest tok (h rest hr) (by
    cases text with
    | nil => exact absurd rfl hne
    | cons c t => simp only [List.length_append, List.length_cons]; omega)]
  cases tok <;> cases lex rest <;> simp [addTok]

theorem Reads.of_next0 {B : Bnd} (text : Bytes) (tok : Option Tok) (hne : text ≠ []) (h0 : (0 : UInt8) ∉ text)
    (h : ∀ rest, B rest.head? → next0 (text ++ rest) = some (tok, rest)) : Reads B text (addTok tok []) :=
  Reads.of_next text tok hne (fun rest hr => next_of_next0 text rest tok (h rest hr) h0)

/-! `wordB`, `identB`, `strB` are `SqlLex.WordBoundary`, `IdentBoundary`, `StrBoundary` stated on the first byte instead of on the
text that follows (`wordB rest.head?` unfolds to `WordBoundary rest`, and so on): a hypothesis of one form is passed where
the other is expected. -/

/-- a boundary condition `∀ c, o = some c → Q c` before a known byte (or token) is `Q` of it -/
theorem bnd_some {α} {Q : α → Prop} {c : α} (h : Q c) : ∀ d, some c = some d → Q d := fun _ hd => Option.some.inj hd ▸ h

def wordB : Bnd := fun o => ∀ c, o = some c → isIdentCont c = false ∧ c ≠ 39 ∧ c ≠ 38
def identB : Bnd := fun o => ∀ c, o = some c → isIdentCont c = false ∧ c ≠ 39 ∧ c ≠ 38 ∧ c ≠ 34
def strB : Bnd := fun o => ∀ c, o = some c → c ≠ 39 ∧ isSpace c = false ∧ c ≠ 45
/-- after a number: no identifier byte (`next0` refuses a number directly followed by one, scan.l's "trailing junk"; `e` and `E`,
which would open an exponent, are among them) and no `.` (it would continue the number) -/
def numB : Bnd := fun o => ∀ c, o = some c → isIdentCont c = false ∧ c ≠ 46

theorem reads_space (c : UInt8) (h : isSpace c = true) : Reads anyB [c] [] :=
  Reads.of_next0 [c] none (by simp) (by simp; intro e; subst e; simp [isSpace] at h) (fun rest _ => by simp [next0, h])

theorem self_facts (c : UInt8) (h : isSelfOnly c = true) (h46 : c ≠ 46) :
    isSpace c = false ∧ c ≠ 45 ∧ c ≠ 47 ∧ c ≠ 39 ∧ c ≠ 34 ∧ c ≠ 36 ∧ isDigit c = false ∧ isIdentStart c = false := by
  byte_omega

/-- `, ( ) [ ] ; :` -/
theorem reads_self (c : UInt8) (h : isSelfOnly c = true) (h46 : c ≠ 46) : Reads anyB [c] [.op [c]] := by
  obtain ⟨h1, h2, h3, h4, h5, h6, h7, h8⟩ := self_facts c h h46
  exact Reads.of_next0 [c] (some (.op [c])) (by simp) (by simp; intro e; subst e; simp [isSelfOnly] at h) (fun rest _ => by
    simp [next0, h1, h2, h3, h4, h5, h6, h7, h8, h46, h])

theorem sp : Reads anyB [32] [] := reads_space 32 (by decide)
theorem nl : Reads anyB [10] [] := reads_space 10 (by decide)
theorem comma : Reads anyB [44] [.op [44]] := reads_self 44 (by decide) (by decide)

theorem commaSpace : Reads anyB [44, 32] [.op [44]] := by
  have := Reads.seq comma sp
  simpa using this

theorem reads_word (c : UInt8) (w : Bytes) (hc : isIdentStart c = true) (hw : ∀ d ∈ w, isIdentCont d = true) :
    Reads wordB (c :: w) [.word (fold (c :: w))] :=
  Reads.of_next (c :: w) (some (.word (fold (c :: w)))) (by simp) (fun rest hr => next_word c w rest hc hw hr)

def wordOK (w : Bytes) : Bool :=
  match w with
  | [] => false
  | c :: t => isIdentStart c && t.all isIdentCont

theorem reads_wordOK (w : Bytes) (h : wordOK w = true) : Reads wordB w [.word (fold w)] := by
  cases w with
  | nil => simp [wordOK] at h
  | cons c t =>
    simp only [wordOK, Bool.and_eq_true, List.all_eq_true] at h
    exact reads_word c t h.1 h.2

/-- `up`, a literal the tool writes, is read as the bare word `low`; the side condition is a closed fact about the two literals:
left out at a call, it is evaluated there -/
theorem reads_kw (up low : String) (h : (wordOK (Export.asc up) && fold (Export.asc up) == Export.asc low) = true := by decide +kernel) :
    Reads wordB (Export.asc up) [.word (Export.asc low)] := by
  simp only [Bool.and_eq_true, beq_iff_eq] at h
  have := reads_wordOK _ h.1
  rwa [h.2] at this

theorem reads_quoteLiteral (s : Bytes) : Reads strB (quoteLiteral s) [.str (cstr s)] :=
  Reads.of_next _ (some (.str (cstr s))) (by rw [quoteLiteral_eq]; unfold quoteLit; split <;> simp) (fun rest hr => next_quoteLiteral s rest hr)

theorem quoteIdent_ne_nil (n : Bytes) (hn : n ≠ []) : quoteIdent n ≠ [] := by
  unfold quoteIdent; split
  · simp
  · exact hn

theorem reads_quoteIdent (n : Bytes) (hn : n ≠ []) (h0 : (0 : UInt8) ∉ n) : Reads identB (quoteIdent n) [identTok n] :=
  Reads.of_next _ (some (identTok n)) (quoteIdent_ne_nil n hn) (fun rest hr => next_identTok n rest hn h0 hr)

/-- a `--` comment ends only at a line break -/
def nlB : Bnd := fun o => ∀ c, o = some c → isNewline c = true

theorem reads_commentLine (text : Bytes) (h : CommentSafe text) :
    Reads anyB (45 :: 45 :: text ++ [10]) [.comment text] := by
  have h1 : Reads nlB (45 :: 45 :: text) [.comment text] :=
    Reads.of_next _ (some (.comment text)) (by simp) (fun rest hr => by
      have := next_comment text rest h hr
      simpa using this)
  have h2 := reads_space 10 (by decide)
  have := Reads.append_cons h1 h2 (bnd_some (by decide))
  simpa using this

theorem dec_safe (n : Nat) : CommentSafe (dec n) := by
  intro c hc
  have := (ExportDec.dec_props n).2.1 c hc
  simp only [ExportDec.IsDig] at this
  simp only [isNewline, Bool.or_eq_false_iff, beq_eq_false_iff_ne, ne_eq, ← UInt8.toNat_inj, UInt8.toNat_ofNat]
  omega

theorem decInt_safe (i : Int) : CommentSafe (decInt i) := by
  unfold decInt
  split
  · exact CommentSafe.append (a := [45]) (by decide) (dec_safe _)
  · exact dec_safe _

theorem isDigit_of_isDig (c : UInt8) (h : ExportDec.IsDig c) : isDigit c = true := by
  simp only [isDigit, Bool.and_eq_true, decide_eq_true_eq, UInt8.le_iff_toNat_le]
  exact h

theorem digit_facts (c : UInt8) (h : isDigit c = true) :
    isSpace c = false ∧ c ≠ 45 ∧ c ≠ 47 ∧ c ≠ 39 ∧ c ≠ 34 ∧ c ≠ 36 ∧ isOpChar c = false ∧ isIdentCont c = true := by
  byte_omega

theorem notIdentCont_facts (c : UInt8) (h : isIdentCont c = false) : isDigit c = false ∧ c ≠ 101 ∧ c ≠ 69 := by
  byte_omega

theorem scanNumber_digits (ds rest : Bytes) (hd : ∀ c ∈ ds, isDigit c = true) (hr : numB rest.head?) :
    scanNumber (ds ++ rest) = (ds, rest) := by
  have hspan : spanB isDigit (ds ++ rest) = (ds, rest) :=
    spanB_all isDigit ds rest hd (fun c hc => (notIdentCont_facts c (hr c hc).1).1)
  unfold scanNumber
  simp only [hspan]
  cases rest with
  | nil => simp
  | cons c t =>
    have h1 := (hr c rfl).2
    have h2 := notIdentCont_facts c (hr c rfl).1
    simp [h1, h2.2.1, h2.2.2]

theorem reads_digits (ds : Bytes) (hne : ds ≠ []) (hd : ∀ c ∈ ds, isDigit c = true) : Reads numB ds [.num ds] := by
  apply Reads.of_next0 ds (some (.num ds)) hne (by
    intro h; have := hd 0 h; simp [isDigit] at this)
  intro rest hr
  cases ds with
  | nil => exact absurd rfl hne
  | cons d ds' =>
    obtain ⟨h1, h2, h3, h4, h5, h6, _, _⟩ := digit_facts d (hd d (by simp))
    have hsn := scanNumber_digits (d :: ds') rest hd hr
    simp only [List.cons_append] at hsn ⊢
    simp only [next0, h1, h2, h3, h4, h5, h6, hd d (by simp), false_and, if_false, Bool.false_eq_true, true_or, if_true, hsn]
    have : ¬ (rest.head?.any isIdentCont = true) := by
      cases rest with
      | nil => simp
      | cons c t => simp [(hr c rfl).1]
    simp [this]

/-- directly before a digit `-` is read as an operator of its own -/
def digitB : Bnd := fun o => ∃ c, o = some c ∧ isDigit c = true

theorem reads_minus : Reads digitB [45] [.op [45]] := by
  apply Reads.of_next0 [45] (some (.op [45])) (by simp) (by decide)
  intro rest hr
  obtain ⟨d, hd, hdig⟩ := hr
  cases rest with
  | nil => simp at hd
  | cons d' t =>
    simp at hd; subst hd
    obtain ⟨_, h2, _, _, _, _, h7, _⟩ := digit_facts d' hdig
    have hop : opRun (45 :: d' :: t) = ([45], d' :: t) := by
      rw [opRun]
      have : opRun (d' :: t) = ([], d' :: t) := by
        cases t with
        | nil => simp [opRun, h7]
        | cons e t' => simp [opRun, h7]
      simp [this, h2, isOpChar]
    -- `-` is in none of the classes `next0` tests before the operator branch, and `d'` is not a second `-`
    simp [next0, isSpace, h2, isDigit, isIdentStart, isUpper, isLower, isSelfOnly, isOpChar, scanOp, hop]

def intToks (i : Int) : List Tok := if i < 0 then [.op [45], .num (dec i.natAbs)] else [.num (dec i.natAbs)]

theorem reads_decInt (i : Int) : Reads numB (decInt i) (intToks i) := by
  obtain ⟨h1, h2, _⟩ := ExportDec.dec_props i.natAbs
  have hd : ∀ c ∈ dec i.natAbs, isDigit c = true := fun c hc => isDigit_of_isDig c (h2 c hc)
  have hdigits := reads_digits (dec i.natAbs) h1 hd
  unfold decInt intToks
  by_cases hi : i < 0
  · simp only [hi, if_true]
    cases hdec : dec i.natAbs with
    | nil => exact absurd hdec h1
    | cons d ds =>
      rw [hdec] at hdigits hd
      have := Reads.append_cons reads_minus hdigits ⟨d, rfl, hd d (by simp)⟩
      simpa using this
  · simp only [hi, if_false]; exact hdigits

end PgVerif.Proofs.SqlCompose
