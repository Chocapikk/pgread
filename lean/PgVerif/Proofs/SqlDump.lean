/-
  C13_sql, dump level: DatabaseDump.ToSQL and DumpResult.ToSQL read as the expected tokens, which the spec's decoder accepts.
-/
import PgVerif.Proofs.SqlTable
namespace PgVerif.Proofs.SqlDump
open PgVerif PgVerif.Export PgVerif.Model.Export PgVerif.Proofs.SqlLex PgVerif.Proofs.SqlCompose PgVerif.Proofs.SqlValue
open PgVerif.Proofs.SqlTable PgVerif.Proofs.SqlArrayTypes PgVerif.Proofs.SqlWrites
open PgVerif.Spec.SqlLex hiding asc
open PgVerif.Spec.SqlExport (one seqAll)

def tablesToks (F : FloatFmt) (ts : List TableDump) : List Tok := ts.flatMap (tableToks F)

def dbComment1 (d : DatabaseDump) : Bytes :=
  Export.asc " Database: " ++ commentText d.name ++ (Export.asc " (OID: " ++ (dec d.oid ++ Export.asc ")"))
def dbComment2 (d : DatabaseDump) : Bytes := Export.asc " \\connect " ++ commentText d.name

def dbToks (F : FloatFmt) (d : DatabaseDump) : List Tok :=
  .comment (dbComment1 d) :: .comment (dbComment2 d) :: tablesToks F d.tables

def dumpToks (F : FloatFmt) (now : Bytes) (r : DumpResult) : List Tok :=
  .comment (Export.asc " PostgreSQL dump generated by pgread") :: .comment (Export.asc " Generated at: " ++ now) :: r.flatMap (dbToks F)

/-- what the theorems need of a dump: database names without a NUL byte (names are read with cstring()), tables `TableOK` -/
def DumpOK (r : DumpResult) : Prop := ∀ d ∈ r, (0 : UInt8) ∉ d.name ∧ ∀ t ∈ d.tables, TableOK t

theorem dbComment1_safe (d : DatabaseDump) (h0 : (0 : UInt8) ∉ d.name) : CommentSafe (dbComment1 d) :=
  ((show CommentSafe (Export.asc " Database: ") by decide +kernel).append (commentText_safe d.name h0)).append
    ((show CommentSafe (Export.asc " (OID: ") by decide +kernel).append
      ((dec_safe d.oid).append (show CommentSafe (Export.asc ")") by decide +kernel)))

theorem dbComment2_safe (d : DatabaseDump) (h0 : (0 : UInt8) ∉ d.name) : CommentSafe (dbComment2 d) :=
  (show CommentSafe (Export.asc " \\connect ") by decide +kernel).append (commentText_safe d.name h0)

/-- the body of the `flatMap` in `Model.Export.toSQL`: the two comment lines of a database, then `dbToSQL`; named so that
`Writes.flatMap` applies to it -/
def dbText (F : FloatFmt) (db : DatabaseDump) : Bytes :=
  Export.asc "-- Database: " ++ commentText db.name ++ Export.asc " (OID: " ++ dec db.oid ++ Export.asc ")\n" ++
  Export.asc "-- \\connect " ++ commentText db.name ++ Export.asc "\n\n" ++ dbToSQL F db

theorem dbComment1_ok (d : DatabaseDump) :
    Spec.SqlExport.isNameComment (Spec.SqlLex.asc " Database: ") d.name (Spec.SqlLex.asc " (OID: " ++ (dec d.oid ++ Spec.SqlLex.asc ")"))
      (.comment (dbComment1 d)) = true := by
  have := isNameComment_ok (Spec.SqlLex.asc " Database: ") d.name (Spec.SqlLex.asc " (OID: " ++ (dec d.oid ++ Spec.SqlLex.asc ")"))
  simpa [dbComment1, List.append_assoc, asc_eq] using this

theorem dbComment2_ok (d : DatabaseDump) :
    Spec.SqlExport.isNameComment (Spec.SqlLex.asc " \\connect ") d.name [] (.comment (dbComment2 d)) = true := by
  have := isNameComment_ok (Spec.SqlLex.asc " \\connect ") d.name []
  simpa [dbComment2, List.append_assoc, asc_eq] using this

theorem writes_db (F : FloatFmt) (d : DatabaseDump) (h0 : (0 : UInt8) ∉ d.name) (ok : ∀ t ∈ d.tables, TableOK t) :
    W F anyB (dbText F d) (dbToks F d) (Spec.SqlExport.database F d) := by
  have h3 := Writes.flatMap (fun t => tableToSQL F t ++ [10]) (tableToks F) (Spec.SqlExport.table F) d.tables
    (fun t ht => (writes_table F t (ok t ht)).pad nl (fun _ _ => trivial))
  refine ((writes_comment (dbComment1 d) (dbComment1_safe d h0) (dbComment1_ok d)).seq
    (((writes_comment (dbComment2 d) (dbComment2_safe d h0) (dbComment2_ok d)).pad nl (fun _ _ => trivial)).seq h3)).cast
    ?_ (by simp [dbToks, tablesToks]) (fun ts => rfl)
  simp only [dbText, dbToSQL, dbComment1, dbComment2, asc_eq]
  repeat rw [asc_ofList]
  simp only [List.map, List.cons_append, List.nil_append, List.append_assoc]
  rfl

theorem writes_toSQL (F : FloatFmt) (now : Bytes) (hnow : CommentSafe now) (r : DumpResult) (ok : DumpOK r) :
    W F anyB (toSQL F now r) (dumpToks F now r) (Spec.SqlExport.checkDump F r) := by
  have h1 := writes_comment (F := F) (Export.asc " PostgreSQL dump generated by pgread") (by rw [asc_eq, asc_ofList]; decide +kernel)
    (p := fun t => t == .comment (Spec.SqlLex.asc " PostgreSQL dump generated by pgread")) (by simp [asc_eq])
  have h2 := (writes_comment (F := F) (Export.asc " Generated at: " ++ now)
    ((show CommentSafe (Export.asc " Generated at: ") by decide +kernel).append hnow) (p := Spec.SqlExport.isGeneratedAt)
    (by rw [Spec.SqlExport.isGeneratedAt, asc_eq, asc_ofList]; rfl)).pad nl (fun _ _ => trivial)
  have h3 := Writes.flatMap (dbText F) (dbToks F) (Spec.SqlExport.database F) r (fun d hd => writes_db F d (ok d hd).1 (ok d hd).2)
  refine (h1.seq (h2.seq h3)).cast ?_ (by simp [dumpToks]) (fun ts => rfl)
  show _ = Export.asc "-- PostgreSQL dump generated by pgread\n" ++ Export.asc "-- Generated at: " ++ now ++
      Export.asc "\n\n" ++ r.flatMap (dbText F)
  rw [asc_eq]
  repeat rw [asc_ofList]
  simp only [List.map, List.cons_append, List.nil_append, List.append_assoc]
  rfl

/-- the name pgread stores in ColumnInfo.Type for a type oid (types.go:TypeName) -/
abbrev typeNameOf (oid : Int) : Bytes := typeName oid

/-! A float rendering that satisfies both contracts: the hypotheses on `F` are not vacuous. -/

def specialText (nan neg : Bool) : Bytes := if nan then Export.asc "NaN" else if neg then Export.asc "-Inf" else Export.asc "+Inf"

/-- NaN / +Inf / -Inf for the non-finite values, `0` for everything else -/
def exampleF : FloatFmt where
  v64 b := if Spec.Json.isNonFinite64 b then specialText (b % 2 ^ 52 != 0) (b / 2 ^ 63 % 2 == 1) else Export.asc "0"
  v32 b := if Spec.Json.isNonFinite32 b then specialText (b % 2 ^ 23 != 0) (b / 2 ^ 31 % 2 == 1) else Export.asc "0"
  j64 _ := none
  j32 _ := none

theorem specialText_facts (nan neg : Bool) :
    isNonFiniteText (specialText nan neg) = true ∧ Spec.Json.nonFiniteSpelling nan neg (specialText nan neg) = true := by
  cases nan <;> cases neg <;> decide

theorem zero_json (rest : Bytes) (hr : ExportJson.JDelim rest) : Spec.Json.scanNum (Export.asc "0" ++ rest) = some (Export.asc "0", rest) := by
  have := ExportJson.scanNum_sign_digits false [48] rest (by simp) (by intro c hc; simp at hc; subst hc; simp [ExportDec.IsDig]) (by simp) hr.numEnd
  simpa [Export.asc] using this

/-- what the two contracts ask of one rendered text, in the order `exampleF_ok` takes it apart: the two fields of `FloatOK`,
then the two of `FloatSqlOK` -/
theorem exampleText_ok (nf nan neg : Bool) (text : Bytes) (ht : text = if nf then specialText nan neg else Export.asc "0") :
    (isNonFiniteText text = false → nf = false ∧ (∃ c t, text = c :: t ∧ (c = 45 ∨ Spec.Json.isDigit c = true)) ∧
      ∀ rest, ExportJson.JDelim rest → Spec.Json.scanNum (text ++ rest) = some (text, rest)) ∧
    (isNonFiniteText text = true → nf = true ∧ Spec.Json.nonFiniteSpelling nan neg text = true) ∧
    (isNonFiniteText text = false → Reads numB text (numTextToks text)) ∧ (0 : UInt8) ∉ text := by
  subst ht
  cases nf with
  | false =>
    have hz : isNonFiniteText (Export.asc "0") = false := by decide
    simp only [Bool.false_eq_true, if_false, hz]
    exact ⟨fun _ => ⟨trivial, ⟨48, [], rfl, Or.inr (by decide)⟩, zero_json⟩, nofun,
      fun _ => reads_digits [48] (by simp) (by intro c hc; simp at hc; subst hc; decide), by decide⟩
  | true =>
    have hs := specialText_facts nan neg
    simp only [if_true, hs.1]
    exact ⟨nofun, fun _ => ⟨trivial, hs.2⟩, nofun, by cases nan <;> cases neg <;> decide⟩

theorem exampleF_ok : ExportJson.FloatOK exampleF ∧ FloatSqlOK exampleF := by
  have h64 := fun b => exampleText_ok (Spec.Json.isNonFinite64 b) (b % 2 ^ 52 != 0) (b / 2 ^ 63 % 2 == 1) (exampleF.v64 b) rfl
  have h32 := fun b => exampleText_ok (Spec.Json.isNonFinite32 b) (b % 2 ^ 23 != 0) (b / 2 ^ 31 % 2 == 1) (exampleF.v32 b) rfl
  exact ⟨⟨fun b => (h64 b).1, fun b => (h32 b).1, fun b => (h64 b).2.1, fun b => (h32 b).2.1⟩,
    ⟨fun b => (h64 b).2.2.1, fun b => (h32 b).2.2.1, fun b => (h64 b).2.2.2, fun b => (h32 b).2.2.2⟩⟩

end PgVerif.Proofs.SqlDump
