/-
  Helper lemmas for C13 (SQL side): how Spec.SqlLex reads back what the model's quoting functions write.
-/
import PgVerif.Spec.SqlExport
import PgVerif.Model.ExportSql
import PgVerif.Lib.Lit
namespace PgVerif.Proofs.SqlLex
open PgVerif PgVerif.Export PgVerif.Spec.SqlLex PgVerif.Model.Export

/-- facts about byte classes: unfold the predicates to inequalities between `toNat`s and let `omega` decide -/
macro "byte_omega" : tactic => `(tactic| (
  simp only [isIdentStart, isIdentCont, isDolqCont, isUpper, isLower, isSpace, isNewline, isDigit, isSelfOnly, isOpChar,
    isPlainStart, isPlainCont, foldByte,
    Bool.or_eq_true, Bool.and_eq_true, decide_eq_true_eq, beq_iff_eq, Bool.or_eq_false_iff, Bool.and_eq_false_iff,
    beq_eq_false_iff_ne, ne_eq, decide_eq_false_iff_not, Bool.not_eq_true, Bool.not_eq_false,
    UInt8.le_iff_toNat_le, UInt8.lt_iff_toNat_lt, ← UInt8.toNat_inj, UInt8.toNat_ofNat] at *
  <;> omega))

/-- `rw [asc_ofList]` (`rw` unifies a literal with `String.ofList _`, `simp` does not) turns `asc "…"` into the bytes of its
characters: texts cut into literals at different places can then be compared, and no UTF-8 decoding is left to evaluate. -/
theorem asc_ofList (l : List Char) : Spec.SqlLex.asc (String.ofList l) = l.map fun c => UInt8.ofNat c.toNat := by
  simp [Spec.SqlLex.asc]

theorem asc_eq : Export.asc = Spec.SqlLex.asc := rfl

theorem asc_append (s t : String) : Spec.SqlLex.asc (s ++ t) = Spec.SqlLex.asc s ++ Spec.SqlLex.asc t := by
  simp [Spec.SqlLex.asc]

theorem escapeQ_cons (q c : UInt8) (s : Bytes) : escapeQ q (c :: s) = escapeByte q c ++ escapeQ q s := by
  simp [escapeQ]

theorem scanQuoted_escape (q : UInt8) (s rest : Bytes) (hr : rest.head? ≠ some q) :
    scanQuoted q (escapeQ q s ++ q :: rest) = some (s, rest) := by
  induction s with
  | nil =>
    cases rest with
    | nil => simp [escapeQ, scanQuoted]
    | cons c2 t =>
      have : c2 ≠ q := by intro h; apply hr; simp [h]
      simp [escapeQ, scanQuoted, this]
  | cons c s ih =>
    rw [escapeQ_cons]
    by_cases hc : c = q
    · subst hc
      simp only [escapeByte, if_true, List.cons_append, List.nil_append, scanQuoted, ih, Option.map_some]
    · simp only [escapeByte, hc, if_false, List.cons_append, List.nil_append]
      -- `scanQuoted` matches on two bytes: name the byte that follows `c`
      cases h : escapeQ q s ++ q :: rest with
      | nil => simp at h
      | cons c2 t =>
        rw [scanQuoted]
        simp only [hc, if_false]
        rw [← h, ih]
        rfl

theorem spanB_all (p : UInt8 → Bool) (w rest : Bytes) (hw : ∀ c ∈ w, p c = true) (hr : ∀ c, rest.head? = some c → p c = false) :
    spanB p (w ++ rest) = (w, rest) := by
  induction w with
  | nil =>
    cases rest with
    | nil => rfl
    | cons c t => simp [spanB, hr c rfl]
  | cons c w ih =>
    have hc : p c = true := hw c (by simp)
    simp only [List.cons_append, spanB, hc, if_true]
    rw [ih (fun d hd => hw d (by simp [hd]))]

theorem identStart_facts (c : UInt8) (h : isIdentStart c = true) :
    isSpace c = false ∧ c ≠ 45 ∧ c ≠ 47 ∧ c ≠ 39 ∧ c ≠ 34 ∧ c ≠ 36 ∧ isDigit c = false ∧ c ≠ 46 ∧ isIdentCont c = true := by
  byte_omega

/-- no quote; no white space or dash either: white space and `--` comments followed by a quote continue the constant -/
def StrBoundary (rest : Bytes) : Prop := ∀ c, rest.head? = some c → c ≠ 39 ∧ isSpace c = false ∧ c ≠ 45

theorem contAfterString_false (rest : Bytes) (hb : StrBoundary rest) : contAfterString rest = false := by
  cases rest with
  | nil => rfl
  | cons c t =>
    obtain ⟨h1, h2, h3⟩ := hb c rfl
    simp [contAfterString, contScan, h1, h2, h3]

theorem scanEscaped_escape (s rest : Bytes) (hr : rest.head? ≠ some 39) :
    scanEscaped (s.flatMap escapeEByte ++ 39 :: rest) = some (s, rest) := by
  induction s with
  | nil =>
    cases rest with
    | nil => simp [scanEscaped]
    | cons c2 t =>
      have : c2 ≠ 39 := by intro h; apply hr; simp [h]
      simp [scanEscaped, this]
  | cons c s ih =>
    rw [List.flatMap_cons]
    by_cases hq : c = 39
    · subst hq
      simp only [escapeEByte, if_true, List.cons_append, List.nil_append, scanEscaped, ih, Option.map_some]
    · by_cases hb : c = 92
      · subst hb
        simp only [escapeEByte, show ((92 : UInt8) = 39) = False by decide, if_false, if_true, List.cons_append,
          List.nil_append, scanEscaped, ih, Option.map_some]
      · simp only [escapeEByte, hq, hb, if_false, List.cons_append, List.nil_append]
        cases h : s.flatMap escapeEByte ++ 39 :: rest with
        | nil => simp at h
        | cons c2 t =>
          rw [scanEscaped]
          simp only [hq, hb, if_false]
          rw [← h, ih]
          rfl

/-- quoteLiteral after the cut at the first NUL -/
def quoteLit (s : Bytes) : Bytes :=
  if s.contains 92 then 69 :: 39 :: (s.flatMap escapeEByte ++ [39]) else 39 :: (escapeQ 39 s ++ [39])

theorem quoteLiteral_eq (s : Bytes) : quoteLiteral s = quoteLit (cstr s) := rfl

theorem next0_quote (t : Bytes) : next0 (39 :: t) = match scanQuoted 39 t with
      | some (s, rest) => if s.contains 92 || contAfterString rest then none else some (some (.str s), rest)
      | none => none := by
  simp only [next0, show isSpace 39 = false by decide, show ((39 : UInt8) = 45) = False by decide,
    show ((39 : UInt8) = 47) = False by decide, false_and, if_false, Bool.false_eq_true, if_true]
  rfl

theorem next0_quoteLit (s rest : Bytes) (hb : StrBoundary rest) :
    next0 (quoteLit s ++ rest) = some (some (.str s), rest) := by
  have hr : rest.head? ≠ some 39 := by
    intro h; exact (hb 39 h).1 rfl
  unfold quoteLit
  by_cases hbs : s.contains 92 = true
  · -- E'…': the word `E` directly before a quote
    rw [if_pos hbs]
    obtain ⟨h1, h2, h3, h4, h5, h6, h7, h8, _⟩ := identStart_facts 69 (by decide)
    have hspan : spanB isIdentCont (69 :: 39 :: (s.flatMap escapeEByte ++ [39] ++ rest)) =
        ([69], 39 :: (s.flatMap escapeEByte ++ [39] ++ rest)) := by
      simp [spanB, show isIdentCont 69 = true by decide, show isIdentCont 39 = false by decide]
    simp only [List.cons_append, next0, h1, h2, h3, h4, h5, h6, h7, h8, show isIdentStart 69 = true by decide, false_and,
      false_or, if_false, Bool.false_eq_true, if_true, hspan]
    have hfold : fold [69] = [101] := by decide
    simp only [hfold, List.head?_cons, beq_self_eq_true, and_self, if_true, List.drop_succ_cons, List.drop_zero]
    rw [List.append_assoc, List.singleton_append, scanEscaped_escape s rest hr]
    simp [contAfterString_false rest hb]
  · -- '…'
    rw [if_neg hbs]
    have hbs' : ¬ 92 ∈ s := by simpa using hbs
    rw [List.cons_append, List.append_assoc, next0_quote, List.singleton_append, scanQuoted_escape 39 s rest hr]
    simp [contAfterString_false rest hb, hbs']

theorem next0_quotedIdent (n rest : Bytes) (hn : n ≠ []) (hr : rest.head? ≠ some 34) :
    next0 (34 :: (escapeQ 34 n ++ [34]) ++ rest) = some (some (.qident n), rest) := by
  have h34 : isSpace 34 = false := by decide
  simp only [List.cons_append, List.append_assoc, List.nil_append, next0, h34]
  simp only [show ((34 : UInt8) = 45) = False by decide, show ((34 : UInt8) = 47) = False by decide,
    show ((34 : UInt8) = 39) = False by decide, false_and, if_false, Bool.false_eq_true, if_true]
  rw [scanQuoted_escape 34 n rest hr]
  simp [hn]

/-- no identifier byte, and neither `'` nor `&`, which would make  e'…' / u&'…'  of a one-letter word -/
def WordBoundary (rest : Bytes) : Prop := ∀ c, rest.head? = some c → isIdentCont c = false ∧ c ≠ 39 ∧ c ≠ 38

theorem next0_word (c : UInt8) (w rest : Bytes) (hc : isIdentStart c = true) (hw : ∀ d ∈ w, isIdentCont d = true)
    (hb : WordBoundary rest) :
    next0 (c :: w ++ rest) = some (some (.word (fold (c :: w))), rest) := by
  obtain ⟨h1, h2, h3, h4, h5, h6, h7, h8, h9⟩ := identStart_facts c hc
  have hspan : spanB isIdentCont (c :: w ++ rest) = (c :: w, rest) :=
    spanB_all isIdentCont (c :: w) rest (by intro d hd; cases hd with | head => exact h9 | tail _ h => exact hw d h)
      (fun d hd => (hb d hd).1)
  rw [List.cons_append] at hspan ⊢
  simp only [next0, h1, h2, h3, h4, h5, h6, h7, h8, hc, false_and, false_or, if_false, Bool.false_eq_true, if_true, hspan]
  have e1 : ¬ (rest.head? == some 39) = true := by
    intro h; have := (hb 39 (by simpa using h)).2.1; exact this rfl
  have e2 : ¬ (rest.head? == some 38) = true := by
    intro h; have := (hb 38 (by simpa using h)).2.2; exact this rfl
  simp [e1, e2]

def IdentBoundary (rest : Bytes) : Prop := ∀ c, rest.head? = some c → isIdentCont c = false ∧ c ≠ 39 ∧ c ≠ 38 ∧ c ≠ 34

/-- the third fact of the second part is `asciiLower`'s byte function (the Go tool's `strings.ToLower` on ASCII), unfolded -/
theorem plain_facts (c : UInt8) : (isPlainStart c = true → isIdentStart c = true) ∧
    (isPlainCont c = true → isIdentCont c = true ∧ foldByte c = c ∧ (if 65 ≤ c && c ≤ 90 then c + 32 else c) = c) := by
  refine ⟨fun h => by byte_omega, fun h => ⟨by byte_omega, ?_, ?_⟩⟩
  · have : isUpper c = false := by byte_omega
    simp [foldByte, this]
  · have : (65 ≤ c && c ≤ 90) = false := by byte_omega
    simp [this]

/-- every word PostgreSQL refuses as a bare name is in the tool's list -/
theorem mustQuote_subset : ∀ w ∈ Spec.SqlExport.mustQuote, w ∈ reservedWords := by
  unfold Spec.SqlExport.mustQuote reservedWords Spec.SqlLex.asc Export.asc
  rw [Lit.toList_eq_chars]
  decide +kernel

/-- the token `quoteIdent n` is read as -/
def identTok (n : Bytes) : Tok := if (!isPlainIdent n || isReservedWord n) = true then .qident n else .word n

theorem plainIdent_fixed (c : UInt8) (t : Bytes) (hp : isPlainIdent (c :: t) = true) :
    isPlainStart c = true ∧ (∀ d ∈ t, isPlainCont d = true) ∧ fold (c :: t) = c :: t ∧ asciiLower (c :: t) = c :: t := by
  simp only [isPlainIdent, Bool.and_eq_true, List.all_eq_true] at hp
  obtain ⟨hc, ht⟩ := hp
  have hcont : ∀ d ∈ c :: t, isPlainCont d = true := by
    intro d hd
    cases hd with
    | head => simp [isPlainCont, hc]
    | tail _ h => exact ht d h
  exact ⟨hc, ht, (List.map_congr_left fun d hd => ((plain_facts d).2 (hcont d hd)).2.1).trans (List.map_id' _),
    (List.map_congr_left fun d hd => ((plain_facts d).2 (hcont d hd)).2.2).trans (List.map_id' _)⟩

theorem isName_identTok (n : Bytes) : Spec.SqlExport.isName n (identTok n) = true := by
  unfold identTok
  by_cases hq : (!isPlainIdent n || isReservedWord n) = true
  · rw [if_pos hq]; simp [Spec.SqlExport.isName]
  · rw [if_neg hq]
    simp only [Bool.or_eq_true, Bool.not_eq_true', not_or, Bool.not_eq_false, Bool.not_eq_true] at hq
    cases n with
    | nil => exact absurd hq.1 (by decide)
    | cons c t =>
      have hlow := (plainIdent_fixed c t hq.1).2.2.2
      simp only [Spec.SqlExport.isName, beq_self_eq_true, Bool.true_and, Bool.not_eq_true', List.contains_eq_mem,
        decide_eq_false_iff_not]
      intro hm
      have := mustQuote_subset _ hm
      simp [isReservedWord, hlow, this] at hq

theorem next0_identTok (n rest : Bytes) (hn : n ≠ []) (hb : IdentBoundary rest) :
    next0 (quoteIdent n ++ rest) = some (some (identTok n), rest) := by
  unfold quoteIdent identTok
  by_cases hq : (!isPlainIdent n || isReservedWord n) = true
  · rw [if_pos hq, if_pos hq]
    exact next0_quotedIdent n rest hn (fun h => (hb 34 h).2.2.2 rfl)
  · rw [if_neg hq, if_neg hq]
    simp only [Bool.or_eq_true, Bool.not_eq_true', not_or, Bool.not_eq_false, Bool.not_eq_true] at hq
    cases n with
    | nil => exact absurd rfl hn
    | cons c t =>
      obtain ⟨hc, ht, hfold, _⟩ := plainIdent_fixed c t hq.1
      have := next0_word c t rest ((plain_facts c).1 hc) (fun d hd => ((plain_facts d).2 (ht d hd)).1)
        (fun d hd => ⟨(hb d hd).1, (hb d hd).2.1, (hb d hd).2.2.1⟩)
      rwa [hfold] at this

theorem next0_quoteIdent (n rest : Bytes) (hn : n ≠ []) (hb : IdentBoundary rest) :
    ∃ tok, next0 (quoteIdent n ++ rest) = some (some tok, rest) ∧ Spec.SqlExport.isName n tok = true :=
  ⟨identTok n, next0_identTok n rest hn hb, isName_identTok n⟩

theorem next0_comment (text rest : Bytes) (ht : ∀ c ∈ text, isNewline c = false)
    (hr : ∀ c, rest.head? = some c → isNewline c = true) :
    next0 (45 :: 45 :: text ++ rest) = some (some (.comment text), rest) := by
  have h45 : isSpace 45 = false := by decide
  have hs : spanB (fun b => !isNewline b) (text ++ rest) = (text, rest) :=
    spanB_all _ text rest (fun c hc => by simp [ht c hc]) (fun c hc => by simp [hr c hc])
  simp [next0, h45, hs]

theorem commentText_cons (c : UInt8) (s : Bytes) : commentText (c :: s) = commentByte c ++ commentText s := by
  simp [commentText]

theorem commentByte_noNewline (d : UInt8) : ∀ c ∈ commentByte d, isNewline c = false := by
  unfold commentByte
  split
  · decide
  · split
    · decide
    · split
      · decide
      · rename_i h10 h13
        intro c hc
        rw [List.mem_singleton.mp hc]
        simp [isNewline, h10, h13]

theorem commentText_noNewline (s : Bytes) : ∀ c ∈ commentText s, isNewline c = false := by
  intro c hc
  obtain ⟨d, _, hd⟩ := List.mem_flatMap.mp hc
  exact commentByte_noNewline d c hd

theorem commentDecode_commentText (s : Bytes) : Spec.SqlExport.commentDecode (commentText s) = some s := by
  induction s with
  | nil => simp [commentText, Spec.SqlExport.commentDecode]
  | cons c s ih =>
    rw [commentText_cons]
    unfold commentByte
    by_cases h1 : c = 92
    · subst h1; simp [Spec.SqlExport.commentDecode, ih]
    · by_cases h2 : c = 10
      · subst h2; simp [Spec.SqlExport.commentDecode, ih]
      · by_cases h3 : c = 13
        · subst h3; simp [Spec.SqlExport.commentDecode, ih]
        · simp only [h1, h2, h3, if_false, List.cons_append, List.nil_append]
          cases h : commentText s with
          | nil => rw [h] at ih; simp [Spec.SqlExport.commentDecode] at ih ⊢; simp [h1, ih]
          | cons c2 t =>
            rw [Spec.SqlExport.commentDecode]
            simp only [h1, if_false]
            rw [← h, ih]; rfl

theorem isNameComment_ok (pre name suf : Bytes) :
    Spec.SqlExport.isNameComment pre name suf (.comment (pre ++ commentText name ++ suf)) = true := by
  simp only [Spec.SqlExport.isNameComment, Bool.and_eq_true, decide_eq_true_eq, beq_iff_eq]
  refine ⟨⟨⟨by simp only [List.length_append]; omega, by simp⟩, ?_⟩, ?_⟩
  · have : (pre ++ commentText name ++ suf).length - suf.length = (pre ++ commentText name).length := by
      simp only [List.length_append]; omega
    rw [this, List.drop_left' rfl]
  · have : (pre ++ commentText name ++ suf).length - pre.length - suf.length = (commentText name).length := by
      simp only [List.length_append]; omega
    rw [this, List.append_assoc, List.drop_left' rfl, List.take_left' rfl]
    exact commentDecode_commentText name

theorem next_of_next0 (text rest : Bytes) (tok : Option Tok) (h : next0 (text ++ rest) = some (tok, rest)) (h0 : (0 : UInt8) ∉ text) :
    next (text ++ rest) = some (tok, rest) := by
  unfold next
  rw [h]
  simp [h0]

theorem next_none_of_next0 (bs : Bytes) (h : next0 bs = none) : next bs = none := by
  unfold next; rw [h]

theorem next_nul (text rest : Bytes) (tok : Option Tok) (h : next0 (text ++ rest) = some (tok, rest)) (h0 : (0 : UInt8) ∈ text) :
    next (text ++ rest) = none := by
  unfold next
  rw [h]
  simp [h0]

theorem cstr_split (s : Bytes) : (0 : UInt8) ∉ cstr s ∧ (s = cstr s ∨ ∃ t, s = cstr s ++ 0 :: t) := by
  unfold cstr
  induction s with
  | nil => exact ⟨by simp, Or.inl rfl⟩
  | cons c s ih =>
    by_cases hc : c = 0
    · subst hc; exact ⟨by simp [List.takeWhile], Or.inr ⟨s, by simp [List.takeWhile]⟩⟩
    · have : (c != 0) = true := by simpa using hc
      simp only [List.takeWhile, this, List.mem_cons, not_or]
      refine ⟨⟨fun e => hc e.symm, ih.1⟩, ?_⟩
      rcases ih.2 with h | ⟨t, h⟩
      · left; rw [← h]
      · right; exact ⟨t, by rw [List.cons_append, ← h]⟩

theorem cstr_noNul (s : Bytes) : (0 : UInt8) ∉ cstr s := (cstr_split s).1

theorem cstr_of_noNul (s : Bytes) (h : (0 : UInt8) ∉ s) : cstr s = s := by
  rcases (cstr_split s).2 with e | ⟨t, e⟩
  · exact e.symm
  · exact absurd (by rw [e]; simp) h

theorem flatMap_nul (f : UInt8 → Bytes) (hf : ∀ c, (0 : UInt8) ∈ f c ↔ c = 0) (s : Bytes) :
    (0 : UInt8) ∈ s.flatMap f ↔ (0 : UInt8) ∈ s := by
  simp only [List.mem_flatMap, hf, exists_eq_right]

theorem escapeByte_nul (q : UInt8) (hq : q ≠ 0) (c : UInt8) : (0 : UInt8) ∈ escapeByte q c ↔ c = 0 := by
  unfold escapeByte
  split
  · rename_i h; subst h; simp [hq, hq.symm]
  · simp [eq_comm]

theorem escapeEByte_nul (c : UInt8) : (0 : UInt8) ∈ escapeEByte c ↔ c = 0 := by
  unfold escapeEByte
  split
  · rename_i h; subst h; decide
  · split
    · rename_i h; subst h; decide
    · simp [eq_comm]

theorem escapeQ_noNul (q : UInt8) (hq : q ≠ 0) (s : Bytes) (hs : (0 : UInt8) ∉ s) : (0 : UInt8) ∉ escapeQ q s :=
  mt (flatMap_nul _ (escapeByte_nul q hq) s).1 hs

theorem quoteLit_nul (s : Bytes) : (0 : UInt8) ∈ quoteLit s ↔ (0 : UInt8) ∈ s := by
  have h1 : ¬ (0 : UInt8) = 69 := by decide
  have h2 : ¬ (0 : UInt8) = 39 := by decide
  unfold quoteLit
  split
  · simp [flatMap_nul _ escapeEByte_nul, h1, h2]
  · simp [escapeQ, flatMap_nul _ (escapeByte_nul 39 (by decide)), h2]

theorem quoteLit_noNul (s : Bytes) (hs : (0 : UInt8) ∉ s) : (0 : UInt8) ∉ quoteLit s := mt (quoteLit_nul s).1 hs

theorem next_quoteLiteral (s rest : Bytes) (hb : StrBoundary rest) :
    next (quoteLiteral s ++ rest) = some (some (.str (cstr s)), rest) := by
  rw [quoteLiteral_eq]
  exact next_of_next0 _ _ _ (next0_quoteLit (cstr s) rest hb) (quoteLit_noNul _ (cstr_noNul s))

theorem quoteIdent_noNul (n : Bytes) (h0 : (0 : UInt8) ∉ n) : (0 : UInt8) ∉ quoteIdent n := by
  unfold quoteIdent
  split
  · simp only [List.mem_cons, List.mem_append, List.not_mem_nil, or_false, not_or]
    exact ⟨by decide, escapeQ_noNul 34 (by decide) n h0, by decide⟩
  · exact h0

theorem next_identTok (n rest : Bytes) (hn : n ≠ []) (h0 : (0 : UInt8) ∉ n) (hb : IdentBoundary rest) :
    next (quoteIdent n ++ rest) = some (some (identTok n), rest) :=
  next_of_next0 _ _ _ (next0_identTok n rest hn hb) (quoteIdent_noNul n h0)

theorem commentByte_nul (c : UInt8) : (0 : UInt8) ∈ commentByte c ↔ c = 0 := by
  unfold commentByte
  split
  · rename_i h; subst h; decide
  · split
    · rename_i h; subst h; decide
    · split
      · rename_i h; subst h; decide
      · simp [eq_comm]

theorem commentText_noNul (s : Bytes) (hs : (0 : UInt8) ∉ s) : (0 : UInt8) ∉ commentText s :=
  mt (flatMap_nul _ commentByte_nul s).1 hs

/-- no line break (it would end the `--` comment) and no NUL -/
abbrev CommentSafe (bs : Bytes) : Prop := ∀ c ∈ bs, isNewline c = false ∧ c ≠ 0

theorem CommentSafe.append {a b : Bytes} (ha : CommentSafe a) (hb : CommentSafe b) : CommentSafe (a ++ b) := by
  intro c hc
  rcases List.mem_append.mp hc with h | h
  · exact ha c h
  · exact hb c h

theorem commentText_safe (s : Bytes) (h0 : (0 : UInt8) ∉ s) : CommentSafe (commentText s) :=
  fun c hc => ⟨commentText_noNewline s c hc, fun e => commentText_noNul s h0 (e ▸ hc)⟩

theorem next_comment (text rest : Bytes) (h : CommentSafe text) (hr : ∀ c, rest.head? = some c → isNewline c = true) :
    next (45 :: 45 :: text ++ rest) = some (some (.comment text), rest) := by
  apply next_of_next0 _ _ _ (next0_comment text rest (fun c hc => (h c hc).1) hr)
  simp only [List.mem_cons, not_or]
  exact ⟨by decide, by decide, fun h0 => (h 0 h0).2 rfl⟩

theorem identCont_ne_zero (c : UInt8) (h : isIdentCont c = true) : c ≠ 0 := by
  byte_omega

theorem next_word (c : UInt8) (w rest : Bytes) (hc : isIdentStart c = true) (hw : ∀ d ∈ w, isIdentCont d = true)
    (hb : WordBoundary rest) :
    next (c :: w ++ rest) = some (some (.word (fold (c :: w))), rest) := by
  apply next_of_next0 _ _ _ (next0_word c w rest hc hw hb)
  intro h
  simp only [List.mem_cons] at h
  rcases h with h | h
  · exact identCont_ne_zero c (by simp [isIdentCont, hc]) h.symm
  · exact identCont_ne_zero 0 (hw 0 h) rfl

end PgVerif.Proofs.SqlLex
