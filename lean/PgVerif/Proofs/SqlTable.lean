/-
  C13_sql, statement level: the text of TableDump.ToSQL reads as `tableToks`, which the spec's decoder accepts for the table.
-/
import PgVerif.Proofs.SqlValue
namespace PgVerif.Proofs.SqlTable
open PgVerif PgVerif.Export PgVerif.Model.Export PgVerif.Proofs.SqlLex PgVerif.Proofs.SqlCompose PgVerif.Proofs.SqlValue PgVerif.Proofs.SqlWrites
open PgVerif.Spec.SqlLex hiding asc
open PgVerif.Spec.SqlExport (one isWord isOp sepBy sepBy0)

def joinToks : List (List Tok) → List Tok
  | [] => []
  | [k] => k
  | k :: k2 :: rest => k ++ .op [44] :: joinToks (k2 :: rest)

theorem writes_join {S J : Prop} {B : Bnd} {P : TBnd} {α} (text : α → Bytes) (toks : α → List Tok) (item : α → Dec) (sep : Bytes)
    (hsep : Reads anyB sep [.op [44]]) (hs44 : sep.head? = some 44) (hB : B (some 44)) (hP : ∀ r, P (.op [44] :: r)) :
    ∀ xs : List α, xs ≠ [] → (∀ x ∈ xs, Writes S J B P (text x) (toks x) (item x)) →
      Writes S J B P (joinB sep (xs.map text)) (joinToks (xs.map toks)) (sepBy item xs)
  | [], h, _ => absurd rfl h
  | [x], _, h => h x (by simp)
  | x :: y :: rest, _, h =>
    (((h x (by simp)).append (.of hsep (.one (isOp_op 44))) (fun r _ => by
        cases sep with
        | nil => simp at hs44
        | cons s0 st => simp at hs44; subst hs44; exact hB) (fun _ _ => hP _)).seq
      (writes_join text toks item sep hsep hs44 hB hP (y :: rest) nofun (fun z hz => h z (by simp [hz])))).cast
      rfl (by simp [joinToks]) (fun _ => rfl)

def isWordTok : Tok → Bool
  | .word _ => true
  | _ => false

/-- the tokens of a column type text: what the lexer makes of it (so `colToks`, `tableToks` are explicit token lists up to
this part); under `TypeTextOK` they are the bare words of the text (`typeToks_of_reads`) -/
def typeToks (text : Bytes) : List Tok := (lex text).getD []

/-- one or more bare words (the tool takes the text from a fixed table) -/
def TypeTextOK (text : Bytes) : Prop :=
  ∃ ws : List Tok, ws ≠ [] ∧ (∀ t ∈ ws, isWordTok t = true) ∧ Reads wordB text ws

theorem typeToks_of_reads (text : Bytes) (ws : List Tok) (h : Reads wordB text ws) : typeToks text = ws := by
  have := h [] (by intro c hc; simp at hc)
  simp only [List.append_nil] at this
  have h0 : lex [] = some [] := by simp [lex, lexF]
  rw [h0] at this
  simp [typeToks, this]

theorem typeText_reads (text : Bytes) (h : TypeTextOK text) :
    Reads wordB text (typeToks text) ∧ typeToks text ≠ [] ∧ ∀ t ∈ typeToks text, isWordTok t = true := by
  obtain ⟨ws, h1, h2, h3⟩ := h
  rw [typeToks_of_reads text ws h3]
  exact ⟨h3, h1, h2⟩

theorem typeTextOK_of_wordsText (text : Bytes) (h : SqlArrayTypes.wordsText text = true) : TypeTextOK text := by
  obtain ⟨hne, hr⟩ := SqlArrayTypes.reads_wordsText text h
  refine ⟨_, by simpa using hne, ?_, hr⟩
  intro t ht; simp only [List.mem_map] at ht; obtain ⟨w, _, rfl⟩ := ht; rfl

theorem skipWords_words (ws more : List Tok) (hw : ∀ t ∈ ws, isWordTok t = true) (hm : ∀ t, more.head? = some t → isWordTok t = false) :
    Spec.SqlExport.skipWords (ws ++ more) = more := by
  induction ws with
  | nil =>
    cases more with
    | nil => simp [Spec.SqlExport.skipWords]
    | cons t r =>
      have := hm t rfl
      cases t <;> simp [isWordTok] at this <;> simp [Spec.SqlExport.skipWords]
  | cons t ws ih =>
    have := hw t (by simp)
    cases t <;> simp [isWordTok] at this
    simp only [List.cons_append, Spec.SqlExport.skipWords]
    exact ih (fun x hx => hw x (by simp [hx]))

theorem typeWords_words (ws more : List Tok) (hne : ws ≠ []) (hw : ∀ t ∈ ws, isWordTok t = true)
    (hm : ∀ t, more.head? = some t → isWordTok t = false) :
    Spec.SqlExport.typeWords (ws ++ more) = some more := by
  cases ws with
  | nil => exact absurd rfl hne
  | cons t ws =>
    have := hw t (by simp)
    cases t <;> simp [isWordTok] at this
    simp only [List.cons_append, Spec.SqlExport.typeWords]
    rw [skipWords_words ws more (fun x hx => hw x (by simp [hx])) hm]

def sqlType (c : ColumnInfo) : Bytes := pgTypeToSQL c.type c.typID

def colToks (c : ColumnInfo) : List Tok := identTok c.name :: typeToks (sqlType c)

def cellToks (F : FloatFmt) (r : Row) (c : ColumnInfo) : List Tok :=
  match r.get c.name with
  | none => [.word (Export.asc "null")]
  | some v => valueToks F c.typID v

/-- the tokens of one row of VALUES; primed because `Spec.SqlExport.rowToks` is not a token list but the decoder of a row
(`writes_row` has the two side by side) -/
def rowToks' (F : FloatFmt) (cols : List ColumnInfo) (r : Row) : List Tok :=
  .op [40] :: (joinToks (cols.map (cellToks F r)) ++ [.op [41]])

def tableComment (t : TableDump) : Bytes :=
  Export.asc " Table: " ++ commentText t.name ++ (Export.asc " (" ++ decInt t.rowCount ++ Export.asc " rows)")

/-- INSERT INTO name DEFAULT VALUES ; -/
def defaultRowToks (t : TableDump) : List Tok :=
  [.word (Export.asc "insert"), .word (Export.asc "into"), identTok t.name, .word (Export.asc "default"),
   .word (Export.asc "values"), .op [59]]

def insertToks (F : FloatFmt) (t : TableDump) : List Tok :=
  if t.rows.isEmpty then []
  else if t.columns.isEmpty then t.rows.flatMap fun _ => defaultRowToks t
  else [.word (Export.asc "insert"), .word (Export.asc "into"), identTok t.name, .op [40]] ++
    (joinToks (t.columns.map fun c => [identTok c.name]) ++
      (.op [41] :: .word (Export.asc "values") :: (joinToks (t.rows.map (rowToks' F t.columns)) ++ [.op [59]])))

def tableToks (F : FloatFmt) (t : TableDump) : List Tok :=
  [.comment (tableComment t), .word (Export.asc "create"), .word (Export.asc "table"), .word (Export.asc "if"),
   .word (Export.asc "not"), .word (Export.asc "exists"), identTok t.name, .op [40]] ++
  (joinToks (t.columns.map colToks) ++ (.op [41] :: .op [59] :: insertToks F t))

/-- what the theorems need of a table: non-empty names without a NUL byte (pgread reads names with cstring(): a name ends at
its first NUL), column types that read as words -/
structure TableOK (t : TableDump) : Prop where
  name : t.name ≠ []
  nameNul : (0 : UInt8) ∉ t.name
  cols : ∀ c ∈ t.columns, c.name ≠ [] ∧ TypeTextOK (sqlType c)
  colsNul : ∀ c ∈ t.columns, (0 : UInt8) ∉ c.name

theorem writes_cell (F : FloatFmt) (r : Row) (c : ColumnInfo) :
    W F closeB (cellSQL F r c) (cellToks F r c) (Spec.SqlExport.cell F r c) := by
  unfold cellSQL cellToks Spec.SqlExport.cell
  cases r.get c.name with
  | none => exact writes_null
  | some v =>
    -- cellSQL matches `some .nil` on its own (isNullValue), the other constructors go to formatSQLValue
    cases v with
    | nil => exact writes_null
    | _ => exact writes_value F _ c.typID c.typID (SqlArrayTypes.Pair.self c.typID)

theorem spaces4 : Reads anyB (Export.asc "    ") [] := by
  have := Reads.seq (Reads.seq sp sp) (Reads.seq sp sp)
  exact Reads.cast this (by decide) rfl

def rowPiece (F : FloatFmt) (cols : List ColumnInfo) (r : Row) : Bytes :=
  Export.asc "    (" ++ joinB [44, 32] (cols.map (cellSQL F r)) ++ [41]

theorem writes_row (F : FloatFmt) (cols : List ColumnInfo) (hcols : cols ≠ []) (r : Row) :
    W F anyB (rowPiece F cols r) (rowToks' F cols r) (Spec.SqlExport.rowToks F cols r) :=
  ((((writes_op 40).lead spaces4).seq (writes_join (cellSQL F r) (cellToks F r) (Spec.SqlExport.cell F r) [44, 32] commaSpace rfl
      (bnd_some (.inl rfl)) (fun _ => trivial) cols hcols (fun c _ => writes_cell F r c))).append_cons (writes_op 41) (bnd_some (.inr (.inl rfl)))).cast
    (by simp only [rowPiece, List.append_assoc]; rfl) (by simp [rowToks']) (fun ts => rfl)

theorem rowLines_eq (F : FloatFmt) (cols : List ColumnInfo) : ∀ rows : List Row, rows ≠ [] →
    rowLines F cols rows = joinB [44, 10] (rows.map (rowPiece F cols)) ++ [59, 10]
  | [], h => absurd rfl h
  | [r], _ => by simp [rowLines, rowPiece, joinB, List.append_assoc]; decide
  | r :: r2 :: rest, _ => by
    have ih := rowLines_eq F cols (r2 :: rest) nofun
    simp only [rowLines, ih, rowPiece, List.map, joinB, List.append_assoc]
    congr 2

theorem writes_rowLines (F : FloatFmt) (cols : List ColumnInfo) (hcols : cols ≠ []) (rows : List Row) (hrows : rows ≠ []) :
    W F anyB (rowLines F cols rows) (joinToks (rows.map (rowToks' F cols)) ++ [.op [59]])
      (fun ts => (sepBy (Spec.SqlExport.rowToks F cols) rows ts).bind (one (isOp 59))) :=
  ((writes_join (rowPiece F cols) (rowToks' F cols) (Spec.SqlExport.rowToks F cols) [44, 10] ((Reads.seq comma nl).cast rfl rfl) rfl
      trivial (fun _ => trivial) rows hrows (fun r _ => writes_row F cols hcols r)).seq ((writes_op 59).pad nl (fun _ _ => trivial))).cast
    (rowLines_eq F cols rows hrows).symm rfl (fun ts => rfl)

theorem writes_ident {F : FloatFmt} (n : Bytes) (hn : n ≠ []) (h0 : (0 : UInt8) ∉ n) :
    W F identB (quoteIdent n) [identTok n] (one (Spec.SqlExport.isName n)) :=
  .of (reads_quoteIdent n hn h0) (.one (isName_identTok n))

theorem identSp {F : FloatFmt} (n : Bytes) (hn : n ≠ []) (h0 : (0 : UInt8) ∉ n) :
    W F anyB (quoteIdent n ++ [32]) [identTok n] (one (Spec.SqlExport.isName n)) :=
  (writes_ident n hn h0).pad sp (fun _ _ => bnd_some (by decide))

/-- a key word and a space (side condition as for `reads_kw`) -/
theorem kw {F : FloatFmt} (up low : String)
    (h : (wordOK (Export.asc up) && fold (Export.asc up) == Export.asc low) = true := by decide +kernel) :
    W F anyB (Export.asc up ++ [32]) [.word (Export.asc low)] (one (isWord low)) :=
  (writes_kw up low h).pad sp (fun _ _ => bnd_some (by decide))

/-! `typeWords` takes every bare word, so what follows a column definition must not be a word (it is a comma or the closing
parenthesis): the one decoder of the export that looks ahead. -/

def notWordHead : TBnd := fun ts => ∀ t, ts.head? = some t → isWordTok t = false

theorem notWordHead_op (c : Bytes) (r : List Tok) : notWordHead (.op c :: r) := bnd_some rfl

def colPiece (c : ColumnInfo) : Bytes := Export.asc "    " ++ quoteIdent c.name ++ 32 :: sqlType c

/-- `    name TYPE`, before a comma or a line break -/
theorem writes_col {F : FloatFmt} (c : ColumnInfo) (hn : c.name ≠ []) (h0 : (0 : UInt8) ∉ c.name) (ht : TypeTextOK (sqlType c)) :
    Writes (FloatSqlOK F) (ExportJson.FloatOK F) wordB notWordHead (colPiece c) (colToks c) (Spec.SqlExport.column c) := by
  obtain ⟨h1, h2, h3⟩ := typeText_reads _ ht
  exact (((identSp c.name hn h0).lead spaces4).seq (.of h1 (fun more hm => typeWords_words _ more h2 h3 hm))).cast
    (by simp [colPiece, List.append_assoc]) rfl (fun _ => rfl)

theorem columnLines_eq : ∀ cols : List ColumnInfo, cols ≠ [] → columnLines cols = joinB [44, 10] (cols.map colPiece) ++ [10]
  | [], h => absurd rfl h
  | [c], _ => by simp [columnLines, colPiece, sqlType, joinB, List.append_assoc]
  | c :: c2 :: rest, _ => by
    have ih := columnLines_eq (c2 :: rest) nofun
    simp [columnLines, ih, colPiece, sqlType, joinB, List.append_assoc]

theorem writes_columnLines {F : FloatFmt} : ∀ cols : List ColumnInfo, (∀ c ∈ cols, c.name ≠ [] ∧ TypeTextOK (sqlType c)) →
    (∀ c ∈ cols, (0 : UInt8) ∉ c.name) →
    Writes (FloatSqlOK F) (ExportJson.FloatOK F) anyB notWordHead (columnLines cols) (joinToks (cols.map colToks))
      (sepBy0 Spec.SqlExport.column cols)
  | [], _, _ => .blank (Reads.nil _)
  | c :: cs, h, h0 =>
    ((writes_join colPiece colToks Spec.SqlExport.column [44, 10] ((Reads.seq comma nl).cast rfl rfl) rfl (bnd_some (by decide))
        (notWordHead_op _) (c :: cs) nofun (fun x hx => writes_col x (h x hx).1 (h0 x hx) (h x hx).2)).pad nl
      (fun _ _ => bnd_some (by decide))).cast (columnLines_eq (c :: cs) nofun).symm rfl (fun _ => rfl)

theorem tableComment_safe (t : TableDump) (h0 : (0 : UInt8) ∉ t.name) : CommentSafe (tableComment t) :=
  ((show CommentSafe (Export.asc " Table: ") by decide +kernel).append (commentText_safe t.name h0)).append
    ((show CommentSafe (Export.asc " (") by decide +kernel).append
      ((decInt_safe t.rowCount).append (show CommentSafe (Export.asc " rows)") by decide +kernel)))

theorem tableComment_ok (t : TableDump) :
    Spec.SqlExport.isNameComment (Spec.SqlLex.asc " Table: ") t.name
      (Spec.SqlLex.asc " (" ++ (decInt t.rowCount ++ Spec.SqlLex.asc " rows)")) (.comment (tableComment t)) = true := by
  have := isNameComment_ok (Spec.SqlLex.asc " Table: ") t.name (Spec.SqlLex.asc " (" ++ (decInt t.rowCount ++ Spec.SqlLex.asc " rows)"))
  simpa [tableComment, List.append_assoc, asc_eq] using this

theorem writes_comment {F : FloatFmt} (text : Bytes) (h : CommentSafe text) {p : Tok → Bool} (hp : p (.comment text) = true) :
    W F anyB (45 :: 45 :: text ++ [10]) [.comment text] (one p) :=
  .of (reads_commentLine text h) (.one hp)

/-- one composition along `Spec.SqlExport.table` -/
theorem writes_table (F : FloatFmt) (t : TableDump) (ok : TableOK t) :
    W F anyB (tableToSQL F t) (tableToks F t) (Spec.SqlExport.table F t) := by
  have hname := identSp (F := F) t.name ok.name ok.nameNul
  have hinto := ((kw (F := F) "INSERT" "insert").seq (kw "INTO" "into")).withDec (Takes.words ["insert", "into"]) rfl
  -- INSERT INTO name DEFAULT VALUES;   once per row
  have hdefault := hinto.seq (hname.seq ((((kw "DEFAULT" "default").seq (writes_kw "VALUES" "values")).withDec
    (Takes.words ["default", "values"]) rfl).append_cons ((writes_op 59).pad nl (fun _ _ => trivial))
    (bnd_some (by decide))))
  -- INSERT INTO name (columns) VALUES rows;
  have hinsert := fun hc hr => hinto.seq (hname.seq ((writes_op 40).seq
    ((writes_join (fun c : ColumnInfo => quoteIdent c.name) (fun c => [identTok c.name]) (fun c => one (Spec.SqlExport.isName c.name))
        [44, 32] commaSpace rfl (bnd_some (.inl rfl)) (fun _ => trivial) t.columns hc
        (fun c hc => (writes_ident c.name (ok.cols c hc).1 (ok.colsNul c hc)).weaken closeB_identB)).append
      (((writes_op 41).pad sp (fun _ _ => trivial)).seq
        (((writes_kw "VALUES" "values").pad nl (fun _ _ => bnd_some (by decide))).seq
          (writes_rowLines F t.columns hc t.rows hr)))
      (fun _ _ => bnd_some (.inr (.inl rfl))) (fun _ _ => trivial))))
  have hins := Writes.ite (c := t.rows.isEmpty = true) (fun _ => Writes.blank (S := FloatSqlOK F) (J := ExportJson.FloatOK F) (Reads.nil anyB))
    (fun he => Writes.ite (c := t.columns.isEmpty = true)
      (fun _ => Writes.flatMap _ _ (fun _ : Row => Spec.SqlExport.defaultRow t.name) t.rows (fun _ _ => hdefault.cast rfl rfl (fun _ => rfl)))
      (fun hc => hinsert (by intro h; simp [h] at hc) (by intro h; simp [h] at he)))
  -- `-- Table: …` / CREATE TABLE IF NOT EXISTS name ( / columns / );
  have hcols := (writes_columnLines (F := F) t.columns ok.cols ok.colsNul).append
    ((writes_op 41).seq (((writes_op 59).pad (Reads.seq nl nl) (fun _ _ => trivial)).seq hins)) (fun _ _ => trivial)
    (fun _ _ => notWordHead_op _ _)
  refine ((writes_comment (tableComment t) (tableComment_safe t ok.nameNul) (tableComment_ok t)).seq
    ((((kw "CREATE" "create").seq ((kw "TABLE" "table").seq ((kw "IF" "if").seq ((kw "NOT" "not").seq (kw "EXISTS" "exists"))))).withDec
      (Takes.words ["create", "table", "if", "not", "exists"]) rfl).seq
    (hname.seq (((writes_op 40).pad nl (fun _ _ => trivial)).seq hcols)))).cast ?_ ?_ (fun ts => rfl)
  · -- the same bytes, cut into literals at different places: compare them character by character (see `asc_ofList`)
    simp only [tableToSQL, insertText, tableComment, asc_eq]
    repeat rw [asc_ofList]
    simp only [List.map, List.cons_append, List.nil_append, List.append_assoc]
    rfl
  · simp [tableToks, insertToks, defaultRowToks]

end PgVerif.Proofs.SqlTable
