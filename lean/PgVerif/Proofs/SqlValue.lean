/-
  C13_sql, value level: `formatSQLValue` writes `valueToks` for `Spec.SqlExport.value`, both halves in one recursion on the
  value (`writes_value`); typID is the column's type, or the element type of its array type.
-/
import PgVerif.Proofs.SqlArrayTypes
import PgVerif.Proofs.ExportJson
import PgVerif.Proofs.SqlWrites
namespace PgVerif.Proofs.SqlValue
open PgVerif PgVerif.Export PgVerif.Model.Export PgVerif.Proofs.SqlLex PgVerif.Proofs.SqlCompose PgVerif.Proofs.SqlArrayTypes
  PgVerif.Proofs.SqlWrites
open PgVerif.Spec.SqlLex hiding asc
open PgVerif.Spec.SqlExport (one isWord isOp signedNum floatCell value values jsonDoc elemType castOf isJsonType)

/-- `,` `)` `]` -/
def closeB : Bnd := fun o => ∀ c, o = some c → c = 44 ∨ c = 41 ∨ c = 93

theorem closeB_elim {Q : UInt8 → Prop} (h44 : Q 44) (h41 : Q 41) (h93 : Q 93) :
    ∀ o, closeB o → ∀ c, o = some c → Q c := fun _ h c hc => by
  rcases h c hc with e | e | e <;> subst e <;> assumption

theorem closeB_wordB : ∀ o, closeB o → wordB o := closeB_elim (by decide) (by decide) (by decide)
theorem closeB_identB : ∀ o, closeB o → identB o := closeB_elim (by decide) (by decide) (by decide)
theorem closeB_strB : ∀ o, closeB o → strB o := closeB_elim (by decide) (by decide) (by decide)
theorem closeB_numB : ∀ o, closeB o → numB o := closeB_elim (by decide) (by decide) (by decide)

/-- `-` is an operator of its own -/
def numTextToks (text : Bytes) : List Tok :=
  match text with
  | c :: ds => if c = 45 then [.op [45], .num ds] else [.num text]
  | [] => [.num []]

/-- the contract on `%v` of finite floats, SQL side: the text is read as a number, optionally preceded by `-` -/
structure FloatSqlOK (F : FloatFmt) : Prop where
  r64 : ∀ b, isNonFiniteText (F.v64 b) = false → Reads numB (F.v64 b) (numTextToks (F.v64 b))
  r32 : ∀ b, isNonFiniteText (F.v32 b) = false → Reads numB (F.v32 b) (numTextToks (F.v32 b))
  nul64 : ∀ b, (0 : UInt8) ∉ F.v64 b
  nul32 : ∀ b, (0 : UInt8) ∉ F.v32 b

def floatToks (text : Bytes) : List Tok := if isNonFiniteText text then [.str text] else numTextToks text

def jsonTok (F : FloatFmt) (v : GoVal) : List Tok := [.str (writeJSONValue F v)]

mutual
/-- the tokens of `formatSQLValue F ty v` -/
def valueToks (F : FloatFmt) (ty : Int) : GoVal → List Tok
  | .nil => [.word (asc "null")]
  | .bool b => if isJsonOid ty then jsonTok F (.bool b) else [.word (if b then asc "true" else asc "false")]
  | .int i => if isJsonOid ty then jsonTok F (.int i) else intToks i
  | .f64 b => if isJsonOid ty then jsonTok F (.f64 b) else floatToks (F.v64 b)
  | .f32 b => if isJsonOid ty then jsonTok F (.f32 b) else floatToks (F.v32 b)
  | .str s => if isJsonOid ty then jsonTok F (.str s) else [.str (cstr s)]
  | .arr [] => if isJsonOid ty then jsonTok F (.arr []) else [.str (asc "{}")]
  | .arr (x :: xs) => if isJsonOid ty then jsonTok F (.arr (x :: xs)) else
      .word (asc "array") :: .op [91] :: (elemsToks F ((arrayElemType ty).getD 0) (x :: xs) ++ .op [93] :: castToks ty)
  | .obj kvs => jsonTok F (.obj kvs)
def elemsToks (F : FloatFmt) (ty : Int) : List GoVal → List Tok
  | [] => []
  | [x] => valueToks F ty x
  | x :: y :: rest => valueToks F ty x ++ .op [44] :: elemsToks F ty (y :: rest)
end

theorem hexLow_ne_zero (n : Nat) (h : n < 16) : hexLow n ≠ 0 := by
  have : ∀ k : Fin 16, hexLow k.val ≠ 0 := by decide
  exact this ⟨n, h⟩

theorem jsonByte_noNul (c : UInt8) : (0 : UInt8) ∉ jsonByte c := by
  unfold jsonByte
  split
  · rename_i h1
    simp only [List.mem_cons, List.not_mem_nil, or_false, not_or]
    exact ⟨by decide, by rcases h1 with h | h <;> subst h <;> decide⟩
  · split
    · rename_i h2
      have hlt : c.toNat < 32 := by simpa [UInt8.lt_iff_toNat_lt] using h2
      simp only [List.mem_cons, List.not_mem_nil, or_false, not_or]
      exact ⟨by decide, by decide, by decide, by decide, (hexLow_ne_zero _ (by omega)).symm, (hexLow_ne_zero _ (by omega)).symm⟩
    · rename_i h2
      simp only [List.mem_cons, List.not_mem_nil, or_false]
      intro e; exact h2 (by rw [← e]; decide)

theorem jsonString_noNul (s : Bytes) : (0 : UInt8) ∉ jsonString s := by
  simp only [jsonString, List.mem_cons, List.mem_append, List.mem_flatMap, List.not_mem_nil, or_false, not_or, not_exists,
    not_and]
  exact ⟨by decide, fun c _ => jsonByte_noNul c, by decide⟩

theorem floatJson_noNul (text : Bytes) (h0 : (0 : UInt8) ∉ text) :
    (0 : UInt8) ∉ (if isNonFiniteText text then 34 :: (text ++ [34]) else text) := by
  split
  · simp only [List.mem_cons, List.mem_append, List.not_mem_nil, or_false, not_or]
    exact ⟨by decide, h0, by decide⟩
  · exact h0

mutual
theorem json_noNul (F : FloatFmt) (hS : FloatSqlOK F) : ∀ v : GoVal, (0 : UInt8) ∉ writeJSONValue F v
  | .nil => by simp only [writeJSONValue]; decide
  | .bool true => by simp only [writeJSONValue, if_true]; decide
  | .bool false => by simp only [writeJSONValue, Bool.false_eq_true, if_false]; decide
  | .int i => by simp only [writeJSONValue]; exact fun h => (decInt_safe i 0 h).2 rfl
  | .f64 b => by simp only [writeJSONValue]; exact floatJson_noNul _ (hS.nul64 b)
  | .f32 b => by simp only [writeJSONValue]; exact floatJson_noNul _ (hS.nul32 b)
  | .str s => by simp only [writeJSONValue]; exact jsonString_noNul s
  | .arr xs => by
    simp only [writeJSONValue, List.mem_cons, List.mem_append, List.not_mem_nil, or_false, not_or]
    exact ⟨by decide, jsonElems_noNul F hS xs, by decide⟩
  | .obj kvs => by
    simp only [writeJSONValue, List.mem_cons, List.mem_append, List.not_mem_nil, or_false, not_or]
    exact ⟨by decide, jsonMembers_noNul F hS kvs, by decide⟩
theorem jsonElems_noNul (F : FloatFmt) (hS : FloatSqlOK F) : ∀ xs : List GoVal, (0 : UInt8) ∉ jsonElems F xs
  | [] => by simp [jsonElems]
  | [x] => by simp only [jsonElems]; exact json_noNul F hS x
  | x :: y :: ys => by
    simp only [jsonElems, List.mem_cons, List.mem_append, not_or]
    exact ⟨json_noNul F hS x, by decide, jsonElems_noNul F hS (y :: ys)⟩
theorem jsonMembers_noNul (F : FloatFmt) (hS : FloatSqlOK F) : ∀ kvs : List (Bytes × GoVal), (0 : UInt8) ∉ jsonMembers F kvs
  | [] => by simp [jsonMembers]
  | [(k, v)] => by
    simp only [jsonMembers, List.mem_cons, List.mem_append, not_or]
    exact ⟨jsonString_noNul k, by decide, json_noNul F hS v⟩
  | (k, v) :: kv2 :: rest => by
    simp only [jsonMembers, List.mem_cons, List.mem_append, not_or]
    exact ⟨⟨jsonString_noNul k, by decide, json_noNul F hS v⟩, by decide, jsonMembers_noNul F hS (kv2 :: rest)⟩
end

theorem nonFinite_cstr (text : Bytes) (h : isNonFiniteText text = true) : cstr text = text := by
  simp only [isNonFiniteText, Bool.or_eq_true, beq_iff_eq] at h
  rcases h with (h | h) | h <;> subst h <;> decide

theorem reads_floatText (text : Bytes) (h : isNonFiniteText text = false → Reads numB text (numTextToks text)) :
    Reads closeB (if isNonFiniteText text then quoteLiteral text else text) (floatToks text) := by
  unfold floatToks
  refine Reads.ite (fun hs => ?_) (fun hs => (h (by simpa using hs)).weaken closeB_numB)
  have := (reads_quoteLiteral text).weaken closeB_strB
  rwa [nonFinite_cstr text hs] at this

theorem mapToJSON_eq (F : FloatFmt) (kvs : List (Bytes × GoVal)) : mapToJSON F kvs = writeJSONValue F (.obj kvs) := by
  simp [writeJSONValue, mapToJSON]

theorem signedNum_numTextToks (text : Bytes) : Takes anyT (signedNum text) (numTextToks text) := fun more _ => by
  cases text with
  | nil => simp [signedNum, numTextToks, one]
  | cons c ds =>
    by_cases hc : c = 45
    · subst hc; simp [signedNum, numTextToks, one, isOp]
    · simp only [numTextToks, hc, if_false]
      unfold signedNum
      split
      · rename_i heq; simp at heq; exact absurd heq.1 hc
      · simp [one]

theorem intToks_eq (i : Int) : intToks i = numTextToks (decInt i) := by
  obtain ⟨h1, h2, _⟩ := ExportDec.dec_props i.natAbs
  unfold intToks decInt
  by_cases hi : i < 0
  · simp [hi, numTextToks]
  · simp only [hi, if_false]
    cases hd : dec i.natAbs with
    | nil => exact absurd hd h1
    | cons d ds =>
      have : d ≠ 45 := by
        intro h; have := h2 d (by rw [hd]; simp); subst h; simp [ExportDec.IsDig] at this
      simp [numTextToks, this]

theorem floatCell_floatToks (nf nan neg : Bool) (text : Bytes)
    (h1 : isNonFiniteText text = false → nf = false)
    (h2 : isNonFiniteText text = true → nf = true ∧ Spec.Json.nonFiniteSpelling nan neg text = true) :
    Takes anyT (floatCell nf nan neg text) (floatToks text) := fun more _ => by
  unfold floatToks floatCell
  by_cases hs : isNonFiniteText text = true
  · simp [hs, (h2 hs).1, (h2 hs).2, one]
  · have hs' : isNonFiniteText text = false := by simpa using hs
    simp only [hs', h1 hs', Bool.false_eq_true, if_false]
    exact signedNum_numTextToks text more trivial

theorem cstr_same (s : Bytes) : Spec.SqlExport.cstr s = cstr s := rfl

/-! `W F`: the reading half under the SQL contract on `%v`, the decoding half under the JSON contract. -/

abbrev W (F : FloatFmt) (B : Bnd) := Writes (FloatSqlOK F) (ExportJson.FloatOK F) B anyT

section
variable {F : FloatFmt}

theorem writes_kw (up low : String) (h : (wordOK (Export.asc up) && fold (Export.asc up) == Export.asc low) = true := by decide +kernel) :
    W F wordB (Export.asc up) [.word (Export.asc low)] (one (isWord low)) :=
  .of (reads_kw up low h) (.one (isWord_asc low))

theorem writes_op (c : UInt8) (h : isSelfOnly c = true := by decide) (h46 : c ≠ 46 := by decide) :
    W F anyB [c] [.op [c]] (one (isOp c)) :=
  .of (reads_self c h h46) (.one (isOp_op c))

theorem writes_commaSpace : W F anyB [44, 32] [.op [44]] (one (isOp 44)) := .of commaSpace (.one (isOp_op 44))

theorem writes_null : W F closeB (Export.asc "NULL") [.word (Export.asc "null")] (one (isWord "null")) :=
  (writes_kw "NULL" "null").weaken closeB_wordB

theorem writes_decInt (i : Int) : W F closeB (decInt i) (intToks i) (signedNum (decInt i)) :=
  .of ((reads_decInt i).weaken closeB_numB) (intToks_eq i ▸ signedNum_numTextToks _)

theorem writes_str (s : Bytes) : W F closeB (quoteLiteral s) [.str (cstr s)] (one fun t => t == .str (Spec.SqlExport.cstr s)) :=
  .of ((reads_quoteLiteral s).weaken closeB_strB) (.one (by simp [cstr_same]))

theorem writes_emptyArray :
    W F closeB (Export.asc "'{}'") [.str (Export.asc "{}")] (one fun t => t == .str (Spec.SqlLex.asc "{}")) :=
  .of (((reads_quoteLiteral (Export.asc "{}")).weaken closeB_strB).cast (by decide) (by decide)) (.one (by simp [asc_eq]))

theorem writes_json (F : FloatFmt) (v : GoVal) : W F closeB (jsonLiteral F v) (jsonTok F v) (jsonDoc F v) where
  reads hS := by
    have := (reads_quoteLiteral (writeJSONValue F v)).weaken closeB_strB
    rwa [cstr_of_noNul _ (json_noNul F hS v)] at this
  takes hF := .one (by
    simp only [Spec.Json.textAgrees, ExportJson.parse_value F hF v]
    exact ExportJson.agrees_jsonOf F hF v)

/-- in a json/jsonb column every value but NULL is JSON text: text, tokens and decoder branch together -/
theorem jsonOr (F : FloatFmt) (v : GoVal) {st mt : Int} (hp : Pair st mt) {t : Bytes} {k : List Tok} {d : Dec}
    (h : W F closeB t k d) :
    W F closeB (if isJsonOid mt then jsonLiteral F v else t) (if isJsonOid mt then jsonTok F v else k)
      (fun ts => if isJsonType st then jsonDoc F v ts else d ts) := by
  simp only [hp.json]
  exact Writes.ite (fun _ => writes_json F v) (fun _ => h)

theorem writes_cast {st mt : Int} (hp : Pair st mt) : W F closeB (arrayCast mt) (castToks mt) (castOf st) := by
  refine ⟨fun _ => ?_, fun _ more _ => hp.cast more⟩
  rcases hp.reads with h | ⟨h1, h2⟩
  · exact h.weaken closeB_wordB
  · rw [h1, h2]; exact Reads.nil _

end

mutual
theorem writes_value (F : FloatFmt) : ∀ (v : GoVal) (st mt : Int), Pair st mt →
    W F closeB (formatSQLValue F mt v) (valueToks F mt v) (value F st v)
  | .nil, _, _, _ => writes_null
  | .bool true, _, _, hp => jsonOr F (.bool true) hp ((writes_kw "TRUE" "true").weaken closeB_wordB)
  | .bool false, _, _, hp => jsonOr F (.bool false) hp ((writes_kw "FALSE" "false").weaken closeB_wordB)
  | .int i, _, _, hp => jsonOr F (.int i) hp (writes_decInt i)
  | .f64 b, _, _, hp => jsonOr F (.f64 b) hp ⟨fun hS => reads_floatText (F.v64 b) (hS.r64 b),
      fun hF => floatCell_floatToks _ _ _ _ (fun h => (hF.num64 b h).1) (hF.special64 b)⟩
  | .f32 b, _, _, hp => jsonOr F (.f32 b) hp ⟨fun hS => reads_floatText (F.v32 b) (hS.r32 b),
      fun hF => floatCell_floatToks _ _ _ _ (fun h => (hF.num32 b h).1) (hF.special32 b)⟩
  | .str s, _, _, hp => jsonOr F (.str s) hp (writes_str s)
  | .obj kvs, _, _, _ =>
    (writes_json F (.obj kvs)).cast (by simp only [formatSQLValue, mapToJSON_eq, jsonLiteral, ite_self]) rfl (fun _ => rfl)
  | .arr [], _, _, hp => jsonOr F (.arr []) hp writes_emptyArray
  | .arr (x :: xs), _, _, hp =>
    -- ARRAY [ elems ] cast
    (jsonOr F (.arr (x :: xs)) hp (((((writes_kw "ARRAY" "array").append_cons (writes_op 91) (bnd_some (by decide))).seq
      (writes_elems F (x :: xs) nofun _ _ hp.elem)).append_cons (writes_op 93) (bnd_some (.inr (.inr rfl)))).seq (writes_cast hp))).cast
      (by simp [formatSQLValue, Export.asc, List.append_assoc]) (by simp [valueToks, List.append_assoc]) (fun _ => rfl)
theorem writes_elems (F : FloatFmt) : ∀ (xs : List GoVal), xs ≠ [] → ∀ (st mt : Int), Pair st mt →
    W F closeB (sqlElems F mt xs) (elemsToks F mt xs) (values F st xs)
  | [], h, _, _, _ => absurd rfl h
  | [x], _, st, mt, hp => writes_value F x st mt hp
  | x :: y :: rest, _, st, mt, hp =>
    -- x , ␣ rest
    (((writes_value F x st mt hp).append_cons writes_commaSpace (bnd_some (.inl rfl))).seq (writes_elems F (y :: rest) nofun st mt hp)).cast
      (by simp [sqlElems]) (by simp [elemsToks]) (fun _ => rfl)
end

theorem reads_elems (F : FloatFmt) (hS : FloatSqlOK F) : ∀ (xs : List GoVal) (st mt : Int), Pair st mt →
    Reads closeB (sqlElems F mt xs) (elemsToks F mt xs)
  | [], _, _, _ => by simp only [sqlElems, elemsToks]; exact Reads.nil _
  | x :: xs, st, mt, hp => (writes_elems F (x :: xs) nofun st mt hp).reads hS

theorem values_elemsToks (F : FloatFmt) (hF : ExportJson.FloatOK F) : ∀ (xs : List GoVal), xs ≠ [] → ∀ (st mt : Int), Pair st mt →
    ∀ (more : List Tok), values F st xs (elemsToks F mt xs ++ more) = some more :=
  fun xs hne st mt hp more => (writes_elems F xs hne st mt hp).takes hF more trivial

end PgVerif.Proofs.SqlValue
