/-
  Writing for a decoder: the lexer reads a text as certain tokens (`Reads`), and the Spec's decoder takes exactly these tokens
  off the front of a token list (`Takes`); `Writes` is the pair.  Both halves look one step ahead: the lexer at the byte that
  follows (`B`), a decoder at the tokens that follow its own (`P`).
-/
import PgVerif.Proofs.SqlCompose
import PgVerif.Spec.SqlExport
namespace PgVerif.Proofs.SqlWrites
open PgVerif PgVerif.Spec.SqlLex PgVerif.Proofs.SqlCompose

abbrev Dec := List Tok → Option (List Tok)

abbrev TBnd := List Tok → Prop

def anyT : TBnd := fun _ => True

/-- the decoder accepts `toks` and hands on, untouched, whatever follows them (provided `P` holds of it) -/
def Takes (P : TBnd) (dec : Dec) (toks : List Tok) : Prop := ∀ more, P more → dec (toks ++ more) = some more

variable {P P1 P2 : TBnd} {d d' d1 d2 : Dec} {k k' k1 k2 : List Tok}

theorem Takes.nil : Takes P some [] := fun _ _ => rfl

theorem Takes.one {p : Tok → Bool} {t : Tok} (h : p t = true) : Takes P (Spec.SqlExport.one p) [t] := fun more _ => by
  simp [Spec.SqlExport.one, h]

theorem Takes.bind (h1 : Takes P1 d1 k1) (h2 : Takes P2 d2 k2) (hP : ∀ more, P2 more → P1 (k2 ++ more)) :
    Takes P2 (fun ts => (d1 ts).bind d2) (k1 ++ k2) := fun more hm => by
  simp only [List.append_assoc, h1 (k2 ++ more) (hP more hm), Option.bind_some, h2 more hm]

theorem Takes.cast (h : Takes P d k) (hd : ∀ ts, d ts = d' ts) (hk : k = k') : Takes P d' k' := by
  subst hk; intro more hm; rw [← hd]; exact h more hm

theorem Takes.ite {c : Prop} [Decidable c] (h1 : c → Takes P d1 k1) (h2 : ¬ c → Takes P d2 k2) :
    Takes P (fun ts => if c then d1 ts else d2 ts) (if c then k1 else k2) := by
  by_cases h : c
  · simp only [if_pos h]; exact h1 h
  · simp only [if_neg h]; exact h2 h

theorem Takes.seqAll {α} {item : α → Dec} {toks : α → List Tok} :
    ∀ xs : List α, (∀ x ∈ xs, Takes anyT (item x) (toks x)) → Takes anyT (Spec.SqlExport.seqAll item xs) (xs.flatMap toks)
  | [], _, more, _ => by simp [Spec.SqlExport.seqAll]
  | x :: xs, h, more, _ => by
    simp only [Spec.SqlExport.seqAll, List.flatMap_cons, List.append_assoc]
    rw [h x (by simp) _ trivial]
    exact Takes.seqAll xs (fun y hy => h y (by simp [hy])) more trivial

theorem isWord_asc (w : String) : Spec.SqlExport.isWord w (.word (Export.asc w)) = true := by
  simp [Spec.SqlExport.isWord, SqlLex.asc_eq]

theorem isOp_op (c : UInt8) : Spec.SqlExport.isOp c (.op [c]) = true := by simp [Spec.SqlExport.isOp]

theorem Takes.words : ∀ ws : List String, Takes anyT (Spec.SqlExport.words ws) (ws.map fun w => .word (Export.asc w))
  | [] => fun _ _ => rfl
  | w :: ws => ((Takes.one (P := anyT) (isWord_asc w)).bind (Takes.words ws) (fun _ _ => trivial)).cast (fun _ => rfl) rfl

/-- `S` and `J` are what the reading half and the decoding half may assume: the two contracts on the library's `%v` of
floats (`SqlValue.FloatSqlOK`, `ExportJson.FloatOK`), each of which only its own half needs -/
structure Writes (S J : Prop) (B : Bnd) (P : TBnd) (text : Bytes) (toks : List Tok) (dec : Dec) : Prop where
  reads : S → Reads B text toks
  takes : J → Takes P dec toks

namespace Writes
variable {S J : Prop} {B B1 B2 : Bnd} {t t' t1 t2 : Bytes}

theorem of (h1 : Reads B t k) (h2 : Takes P d k) : Writes S J B P t k d := ⟨fun _ => h1, fun _ => h2⟩

theorem blank (h : Reads B t []) : Writes S J B P t [] some := .of h Takes.nil

theorem append (h1 : Writes S J B1 P1 t1 k1 d1) (h2 : Writes S J B2 P2 t2 k2 d2)
    (hb : ∀ rest : Bytes, B2 rest.head? → B1 (t2 ++ rest).head?) (hP : ∀ more, P2 more → P1 (k2 ++ more)) :
    Writes S J B2 P2 (t1 ++ t2) (k1 ++ k2) (fun ts => (d1 ts).bind d2) :=
  ⟨fun s => (h1.reads s).append (h2.reads s) hb, fun j => (h1.takes j).bind (h2.takes j) hP⟩

theorem append_cons {c : UInt8} (h1 : Writes S J B1 anyT t1 k1 d1) (h2 : Writes S J B2 P (c :: t2) k2 d2) (hb : B1 (some c)) :
    Writes S J B2 P (t1 ++ c :: t2) (k1 ++ k2) (fun ts => (d1 ts).bind d2) :=
  h1.append h2 (fun _ _ => by simpa using hb) (fun _ _ => trivial)

theorem seq (h1 : Writes S J anyB anyT t1 k1 d1) (h2 : Writes S J B P t2 k2 d2) :
    Writes S J B P (t1 ++ t2) (k1 ++ k2) (fun ts => (d1 ts).bind d2) :=
  h1.append h2 (fun _ _ => trivial) (fun _ _ => trivial)

theorem pad (h1 : Writes S J B1 P t1 k d) (h2 : Reads B2 t2 []) (hb : ∀ rest : Bytes, B2 rest.head? → B1 (t2 ++ rest).head?) :
    Writes S J B2 P (t1 ++ t2) k d :=
  ⟨fun s => ((h1.reads s).append h2 hb).cast rfl (by simp), h1.takes⟩

theorem lead (h1 : Reads anyB t1 []) (h2 : Writes S J B P t2 k d) : Writes S J B P (t1 ++ t2) k d :=
  ⟨fun s => (h1.append (h2.reads s) (fun _ _ => trivial)).cast rfl (by simp), h2.takes⟩

/-- the same text and tokens under another decoder that takes these tokens -/
theorem withDec (h : Writes S J B P1 t k d) (h' : Takes P d' k') (hk : k = k') : Writes S J B P t k' d' :=
  ⟨fun s => (h.reads s).cast rfl hk, fun _ => h'⟩

theorem cast (h : Writes S J B P t k d) (ht : t = t') (hk : k = k') (hd : ∀ ts, d ts = d' ts) : Writes S J B P t' k' d' :=
  ⟨fun s => (h.reads s).cast ht hk, fun j => (h.takes j).cast hd hk⟩

theorem weaken (h : Writes S J B1 P t k d) (hb : ∀ o, B2 o → B1 o) : Writes S J B2 P t k d :=
  ⟨fun s => (h.reads s).weaken hb, h.takes⟩

theorem ite {c : Prop} [Decidable c] (h1 : c → Writes S J B P t1 k1 d1) (h2 : ¬ c → Writes S J B P t2 k2 d2) :
    Writes S J B P (if c then t1 else t2) (if c then k1 else k2) (fun ts => if c then d1 ts else d2 ts) :=
  ⟨fun s => Reads.ite (fun h => (h1 h).reads s) (fun h => (h2 h).reads s),
   fun j => Takes.ite (fun h => (h1 h).takes j) (fun h => (h2 h).takes j)⟩

theorem flatMap {α} (text : α → Bytes) (toks : α → List Tok) (item : α → Dec) (xs : List α)
    (h : ∀ x ∈ xs, Writes S J anyB anyT (text x) (toks x) (item x)) :
    Writes S J anyB anyT (xs.flatMap text) (xs.flatMap toks) (Spec.SqlExport.seqAll item xs) :=
  ⟨fun s => Reads.flatMap text toks xs (fun x hx => (h x hx).reads s), fun j => Takes.seqAll xs (fun x hx => (h x hx).takes j)⟩

theorem lex_eq (h : Writes S J anyB P t k d) (s : S) : lex t = some k := by
  have hl0 : lex [] = some [] := by simp [lex, lexF]
  simpa [hl0] using h.reads s [] trivial

theorem verdict_ok (h : Writes S J anyB anyT t k d) (s : S) (j : J) : Spec.SqlExport.verdict d t = "ok" := by
  have h2 : d k = some [] := by simpa using h.takes j [] trivial
  simp only [Spec.SqlExport.verdict, h.lex_eq s, h2]

end Writes

end PgVerif.Proofs.SqlWrites
