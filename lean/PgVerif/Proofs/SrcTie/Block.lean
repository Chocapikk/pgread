/-
  `DefaultSegmentSize`, the only package-level integer constant of blockrange.go, segment.go and checksum.go, as
  harness/cmd/srcfacts extracts it from the current source (Generated/Src.lean), is the 1 GiB the model and the Spec (131072
  blocks per segment) were written against.
-/
import PgVerif.Generated.Src
namespace PgVerif.Proofs.SrcTie.Block
open PgVerif.Generated
theorem segment_DefaultSegmentSize : Src.segment.DefaultSegmentSize = 0x40000000 := by decide
end PgVerif.Proofs.SrcTie.Block
