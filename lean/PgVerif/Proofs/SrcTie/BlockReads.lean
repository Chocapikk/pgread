/-
  `ParseBlockInfo` (blockrange.go), `VerifyPageChecksum`, `computePageChecksum`, `pgChecksumBlock` (checksum.go) against
  `PageHeaderData` (bufpage.h) as `Spec.BlockAddr.encHdr` writes it, translator style (`ReadsKit`).
  pd_lsn is read in two steps assigned to one target (`lsn` / `result.LSN`): the tie is by order, first read = xlogid, second =
  xrecoff (which of the two is shifted is the model's business).
  `computePageChecksum` and `pgChecksumBlock` do not read but ZERO `pageCopy[8]` and `pageCopy[9]`; srcfacts lists index
  expressions on either side of an assignment, with an empty target here.
  Not covered (not constant-bounded): the 32-bit words `pageCopy[i : i+4]` of the checksum loops.
-/
import PgVerif.Generated.Src
import PgVerif.Spec.Block
import PgVerif.Proofs.SrcTie.ReadsKit
import PgVerif.Lib.Lit
namespace PgVerif.Proofs.SrcTie.BlockReads
open PgVerif PgVerif.Spec.BlockAddr PgVerif.Proofs.SrcTie.ReadsKit

/-- `PageHeaderData` up to the line pointer array -/
def layout : Layout :=
  [("pd_lsn.xlogid".toList, 4), ("pd_lsn.xrecoff".toList, 4), ("pd_checksum".toList, 2), ("pd_flags".toList, 2),
   ("pd_lower".toList, 2), ("pd_upper".toList, 2), ("pd_special".toList, 2), ("pd_pagesize_version".toList, 2),
   ("pd_prune_xid".toList, 4)]

def members (h : PageHdr) : List Bytes :=
  [le 4 h.xlogid, le 4 h.xrecoff, le 2 h.checksum, le 2 h.flags, le 2 h.lower, le 2 h.upper, le 2 h.special, le 2 h.psv,
   le 4 h.prune]

theorem encHdr_eq (h : PageHdr) : encHdr h = (members h).flatten := by
  simp only [encHdr, members, List.flatten_cons, List.flatten_nil, List.append_nil]

theorem fits (h : PageHdr) : Fits layout (members h) := by
  simp only [Fits, members, layout, Layout.widths, List.map_cons, List.map_nil, le_length]

theorem header_size : layout.size = 24 := by decide

theorem encBlock_read (b : RawBlock) (name : List Char) (lo hi : Nat) (hs : layout.span name = some (lo, hi)) :
    ∃ (i : Nat) (q : Bytes), (layout[i]?).map Prod.fst = some name ∧ (members b.hdr)[i]? = some q ∧
      ((encBlock b).drop lo).take (hi - lo) = q := by
  rw [encBlock, encHdr_eq]
  exact read_member layout (members b.hdr) b.body (fits b.hdr) name lo hi hs

/-- target in blockrange.go ↦ member -/
def expectInfo : Expect :=
  [fld "lsn".toList layout "pd_lsn.xlogid".toList, fld "lsn".toList layout "pd_lsn.xrecoff".toList,
   fld "info.Checksum".toList layout "pd_checksum".toList, fld "info.Flags".toList layout "pd_flags".toList,
   fld "info.Lower".toList layout "pd_lower".toList, fld "info.Upper".toList layout "pd_upper".toList,
   fld "info.Special".toList layout "pd_special".toList, fld "psv".toList layout "pd_pagesize_version".toList]

/-- every constant-bounded read of the current `ParseBlockInfo` is one whole `PageHeaderData` member, the one its target names;
`lsn` is read as xlogid then xrecoff (pd_prune_xid is not reported and not read) -/
theorem ParseBlockInfo_reads_are_spec_fields :
    readsAreFields expectInfo Generated.SrcReads.ParseBlockInfo = true := by
  unfold expectInfo layout Generated.SrcReads.ParseBlockInfo
  rw [Lit.toList_eq_chars]
  decide +kernel

theorem ParseBlockInfo_expected_fields_are_read :
    expectedAreRead expectInfo Generated.SrcReads.ParseBlockInfo = true :=
  expectedAreRead_of_reads _ _ ParseBlockInfo_reads_are_spec_fields (by
    unfold expectInfo layout Generated.SrcReads.ParseBlockInfo
    rw [Lit.toList_eq_chars]
    decide +kernel)

/-- target in checksum.go ↦ member -/
def expectVerify : Expect :=
  [fld "result.StoredChecksum".toList layout "pd_checksum".toList,
   fld "result.LSN".toList layout "pd_lsn.xlogid".toList, fld "result.LSN".toList layout "pd_lsn.xrecoff".toList]

/-- the stored checksum ← pd_checksum, the LSN ← xlogid then xrecoff -/
theorem VerifyPageChecksum_reads_are_spec_fields :
    readsAreFields expectVerify Generated.SrcReads.VerifyPageChecksum = true := by
  unfold expectVerify layout Generated.SrcReads.VerifyPageChecksum
  rw [Lit.toList_eq_chars]
  decide +kernel

theorem VerifyPageChecksum_expected_fields_are_read :
    expectedAreRead expectVerify Generated.SrcReads.VerifyPageChecksum = true :=
  expectedAreRead_of_reads _ _ VerifyPageChecksum_reads_are_spec_fields (by
    unfold expectVerify layout Generated.SrcReads.VerifyPageChecksum
    rw [Lit.toList_eq_chars]
    decide +kernel)

/-- the bytes that must be zeroed before the checksum is computed: those of pd_checksum, one at a time -/
def expectZeroed : Expect := (bytesOf (layout.span "pd_checksum".toList)).map fun s => ("".toList, s)

/-- `pageCopy[8] = 0; pageCopy[9] = 0` are exactly the bytes of pd_checksum, each once, in order -/
theorem computePageChecksum_reads_are_spec_fields :
    readsAreFields expectZeroed Generated.SrcReads.computePageChecksum = true := by
  unfold expectZeroed layout Generated.SrcReads.computePageChecksum
  rw [Lit.toList_eq_chars]
  decide +kernel

theorem computePageChecksum_expected_fields_are_read :
    expectedAreRead expectZeroed Generated.SrcReads.computePageChecksum = true :=
  expectedAreRead_of_reads _ _ computePageChecksum_reads_are_spec_fields (by
    unfold expectZeroed layout Generated.SrcReads.computePageChecksum
    rw [Lit.toList_eq_chars]
    decide +kernel)

/-- `pgChecksumBlock`, which `computePageChecksum` calls on its copy, zeroes the bytes again -/
theorem pgChecksumBlock_reads_are_spec_fields :
    readsAreFields expectZeroed Generated.SrcReads.pgChecksumBlock = true := by
  unfold expectZeroed layout Generated.SrcReads.pgChecksumBlock
  rw [Lit.toList_eq_chars]
  decide +kernel

theorem pgChecksumBlock_expected_fields_are_read :
    expectedAreRead expectZeroed Generated.SrcReads.pgChecksumBlock = true :=
  expectedAreRead_of_reads _ _ pgChecksumBlock_reads_are_spec_fields (by
    unfold expectZeroed layout Generated.SrcReads.pgChecksumBlock
    rw [Lit.toList_eq_chars]
    decide +kernel)

example : layout.span "pd_checksum".toList = some (8, 10) ∧ expectZeroed.map (·.2) = [some (8, 9), some (9, 10)] := by decide +kernel

end PgVerif.Proofs.SrcTie.BlockReads
