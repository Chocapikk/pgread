/-
  Source-level tie for area `cluster`: the four catalog filenode oids of catalog.go, as harness/cmd/srcfacts extracts them from the
  repository's current source (Generated/Src.lean), equal the values model and Spec were written against: 0x4ee = 1262, 0x4ec = 1260,
  0x4eb = 1259, 0x4e1 = 1249, written in decimal inside the path strings (`global/1262`, `base/<db>/1259`, `base/<db>/1249`; `global/1260`
  in Model/ExtraCluster.lean).  Not covered: remote.go formats these constants into its paths, but pgdump.go:dumpDataDirRows spells the
  same numbers as string literals ("1262", "1259", "1249"), which no constant table sees; the correspondence families tie those.
-/
import PgVerif.Generated.Src
namespace PgVerif.Proofs.SrcTie.Cluster
open PgVerif.Generated
theorem catalog_PGDatabase : Src.catalog.PGDatabase = 0x4ee := by decide
theorem catalog_PGAuthID : Src.catalog.PGAuthID = 0x4ec := by decide
theorem catalog_PGClass : Src.catalog.PGClass = 0x4eb := by decide
theorem catalog_PGAttribute : Src.catalog.PGAttribute = 0x4e1 := by decide
end PgVerif.Proofs.SrcTie.Cluster
