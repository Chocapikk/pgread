/-
  The package-level integer constants of control.go, relmap.go and sequence.go, as harness/cmd/srcfacts extracts them from the
  current source (Generated/Src.lean, rewritten on every run), against the values the model and the Spec were written for
  (hand-written).  A changed magic, size or state number breaks the theorem named after it at build time.
-/
import PgVerif.Generated.Src
namespace PgVerif.Proofs.SrcTie.Control
open PgVerif.Generated
theorem control_DBStateStartup : Src.control.DBStateStartup = 0 := by decide
theorem control_DBStateShutdowned : Src.control.DBStateShutdowned = 1 := by decide
theorem control_DBStateShutdownedInRecovery : Src.control.DBStateShutdownedInRecovery = 2 := by decide
theorem control_DBStateShutdowning : Src.control.DBStateShutdowning = 3 := by decide
theorem control_DBStateInCrashRecovery : Src.control.DBStateInCrashRecovery = 4 := by decide
theorem control_DBStateInArchiveRecovery : Src.control.DBStateInArchiveRecovery = 5 := by decide
theorem control_DBStateInProduction : Src.control.DBStateInProduction = 6 := by decide
theorem relmap_RelMapMagic : Src.relmap.RelMapMagic = 0x592717 := by decide
theorem relmap_RelMapMaxMappings : Src.relmap.RelMapMaxMappings = 62 := by decide
/-- fixes/control/09: MAX_MAPPINGS of the PostgreSQL 16 layout (`Spec.relmapMax16`), then its sizeof(RelMapFile)
(`Spec.RelMapLayout.v16.size`) -/
theorem relmap_RelMapMaxMappingsV16 : Src.relmap.RelMapMaxMappingsV16 = 64 := by decide
theorem relmap_RelMapFileSizeV16 : Src.relmap.RelMapFileSizeV16 = 524 := by decide
theorem sequence_SequenceMagic : Src.sequence.SequenceMagic = 0x1717 := by decide
end PgVerif.Proofs.SrcTie.Control
