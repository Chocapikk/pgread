/-
  Source tie for ParseControlFile (C16): each constant-bounded read of the input that harness/cmd/srcfacts extracts from the current
  source (`Generated.SrcReads.ParseControlFile`: target, from, to) is one whole member of `ControlFileData` as `Spec.ControlData.fields`
  lays it out, the one its assignment target names (`expect`, hand-written against control.go and pg_control.h); a read moved, narrowed,
  widened or assigned to another field breaks an obligation at build time.  The Spec's field list has no member names, so `expect`
  names a member by its index; the widths do not depend on the data, so the spans are those of the default value.
-/
import PgVerif.Generated.Src
import PgVerif.Spec.Control
import PgVerif.Lib.Lit
namespace PgVerif.Proofs.SrcTie.ControlReads
open PgVerif PgVerif.Spec

def fieldSpans : Nat → List Field → List (Nat × Nat)
  | _, [] => []
  | off, (w, _) :: fs => (off, off + w) :: fieldSpans (off + w) fs

def controlSpans : List (Nat × Nat) := fieldSpans 0 (default : ControlData).fields

/-- assignment target in control.go ↦ index of the Spec field it must be read from -/
def expect : List (List Char × Nat) :=
  [("cf.SystemIdentifier".toList, 0), ("cf.PGControlVersion".toList, 1), ("cf.CatalogVersionNo".toList, 2), ("cf.State".toList, 3),
   ("checkpointLSN".toList, 6), ("redoLSN".toList, 7), ("cf.TimeLineID".toList, 8), ("cf.PrevTimeLineID".toList, 9),
   ("cf.FullPageWrites".toList, 10), ("cf.NextXID".toList, 12), ("cf.NextXIDEpoch".toList, 13), ("cf.NextOID".toList, 14),
   ("cf.NextMulti".toList, 15), ("cf.NextMultiOffset".toList, 16), ("cf.OldestXID".toList, 17), ("cf.OldestXIDDB".toList, 18),
   ("cf.OldestMulti".toList, 19), ("cf.OldestMultiDB".toList, 20), ("cpTime".toList, 22), ("cf.OldestCommitTsXID".toList, 23),
   ("cf.NewestCommitTsXID".toList, 24), ("cf.OldestActiveXID".toList, 25), ("walLevel".toList, 35), ("cf.WALLogHints".toList, 36),
   ("cf.MaxConnections".toList, 38), ("cf.MaxWorkerProcesses".toList, 39), ("cf.MaxWALSenders".toList, 40),
   ("cf.MaxPreparedXacts".toList, 41), ("cf.MaxLocksPerXact".toList, 42), ("cf.TrackCommitTS".toList, 43), ("cf.MaxAlign".toList, 45),
   ("floatVal".toList, 46), ("cf.BlockSize".toList, 47), ("cf.BlocksPerSeg".toList, 48), ("cf.WALBlockSize".toList, 49),
   ("cf.WALSegmentSize".toList, 50), ("cf.NameDataLen".toList, 51), ("cf.IndexMaxKeys".toList, 52), ("cf.TOASTMaxChunk".toList, 53),
   ("cf.LargeObjectChunk".toList, 54), ("cf.DataChecksumsEnabled".toList, 58)]

def readOK (r : List Char × Nat × Nat) : Bool :=
  match expect.lookup r.1 with
  | some i => controlSpans[i]? == some (r.2.1, r.2.2)
  | none => false

/-- About the Spec only: the code reads the crc at `crcOffset`, a local variable, so that read is not constant-bounded, not in
`Generated.SrcReads.ParseControlFile`, and its 288 is tied by the correspondence families alone. -/
theorem control_spans_end : (controlSpans.getLast?.map (·.2)) = some 288 := by decide +kernel

/-- every read is one whole `ControlFileData` member, the one its assignment target names -/
theorem control_reads_are_spec_fields : Generated.SrcReads.ParseControlFile.all readOK = true := by
  unfold Generated.SrcReads.ParseControlFile readOK expect
  rw [Lit.toList_eq_chars]
  decide +kernel

/-- every member of the table is still read -/
theorem control_expected_fields_are_read :
    expect.all (fun e => Generated.SrcReads.ParseControlFile.any (fun r => r.1 == e.1)) = true := by
  unfold Generated.SrcReads.ParseControlFile expect
  rw [Lit.toList_eq_chars]
  decide +kernel

end PgVerif.Proofs.SrcTie.ControlReads
