/-
  Source tie, area heap: the integer constants of page.go and tuple.go, as harness/cmd/srcfacts extracts them from the current source
  (Generated/Src.lean), are the literals model and Spec were written against; a changed size breaks the named theorem at build time.
-/
import PgVerif.Generated.Src
namespace PgVerif.Proofs.SrcTie.Heap
open PgVerif.Generated
theorem page_PageSize : Src.page.PageSize = 0x2000 := by decide
theorem page_headerSize : Src.page.headerSize = 24 := by decide
theorem page_itemIDSize : Src.page.itemIDSize = 4 := by decide
theorem tuple_tupleHeaderSize : Src.tuple.tupleHeaderSize = 23 := by decide
end PgVerif.Proofs.SrcTie.Heap
