/-
  Source tie for heap pages and tuples (C02, C09, C03), translator style (`ReadsKit`): `parseHeader` (page.go) against
  `PageHeaderData` (bufpage.h) and `ParseHeapTuple` (tuple.go) against `HeapTupleHeaderData` (htup_details.h), as `Spec.encPage` and
  `Spec.encTuple` write them.  The Spec keeps pd_lsn, pd_checksum, pd_flags as one 12-byte blob `hdr0` (`BlockReads` ties them).
  `parseHeader` builds its result in a composite literal: srcfacts gives the reads of `Lower:` and `Upper:` the empty target, so
  they are tied by order.  Not covered (not constant-bounded): the line pointers (`parseItems`), the tuple slice in `ParsePage`,
  the null bitmap and the data of `ParseHeapTuple`.
-/
import PgVerif.Generated.Src
import PgVerif.Spec.Heap
import PgVerif.Proofs.SrcTie.ReadsKit
import PgVerif.Lib.Lit
namespace PgVerif.Proofs.SrcTie.HeapReads
open PgVerif PgVerif.Spec PgVerif.Proofs.SrcTie.ReadsKit

/-- `PageHeaderData` up to the line pointer array, at the granularity of `Spec.encPage` -/
def pageLayout : Layout :=
  [("pd_lsn,pd_checksum,pd_flags".toList, 12), ("pd_lower".toList, 2), ("pd_upper".toList, 2), ("pd_special".toList, 2),
   ("pd_pagesize_version".toList, 2), ("pd_prune_xid".toList, 4)]

def pageMembers (p : Page) : List Bytes :=
  [p.hdr0, le 2 p.lower, le 2 p.upper, le 2 p.special, le 2 (8192 + p.version), le 4 p.prune]

def pageRest (p : Page) : Bytes := p.lps.flatMap p.encLP ++ (p.free ++ (p.slots.flatMap slotBytes ++ p.tail))

theorem encPage_eq (p : Page) : encPage p = (pageMembers p).flatten ++ pageRest p := by
  simp [encPage, pageMembers, pageRest, List.append_assoc]

theorem page_fits (p : Page) (h : p.WF) : Fits pageLayout (pageMembers p) := by
  show [p.hdr0.length, (le 2 p.lower).length, (le 2 p.upper).length, (le 2 p.special).length,
    (le 2 (8192 + p.version)).length, (le 4 p.prune).length] = [12, 2, 2, 2, 2, 4]
  simp only [le_length, h.1]

/-- the line pointers start at 24 -/
theorem page_header_size : pageLayout.size = 24 := by decide

theorem encPage_read (p : Page) (h : p.WF) (name : List Char) (lo hi : Nat) (hs : pageLayout.span name = some (lo, hi)) :
    ∃ (i : Nat) (q : Bytes), (pageLayout[i]?).map Prod.fst = some name ∧ (pageMembers p)[i]? = some q ∧
      ((encPage p).drop lo).take (hi - lo) = q := by
  rw [encPage_eq]
  exact read_member pageLayout (pageMembers p) (pageRest p) (page_fits p h) name lo hi hs

/-- target in page.go ↦ member -/
def expectHeader : Expect :=
  [fld "psv".toList pageLayout "pd_pagesize_version".toList,
   fld "".toList pageLayout "pd_lower".toList,     -- Lower:
   fld "".toList pageLayout "pd_upper".toList]     -- Upper:

/-- **Every constant-bounded read of the current `parseHeader` is one whole `PageHeaderData` member: `psv` ←
pd_pagesize_version, and the two fields of the literal ← pd_lower, pd_upper in this order.** -/
theorem parseHeader_reads_are_spec_fields :
    readsAreFields expectHeader Generated.SrcReads.parseHeader = true := by
  unfold expectHeader pageLayout Generated.SrcReads.parseHeader
  rw [Lit.toList_eq_chars]
  decide +kernel

theorem parseHeader_expected_fields_are_read :
    expectedAreRead expectHeader Generated.SrcReads.parseHeader = true :=
  expectedAreRead_of_reads _ _ parseHeader_reads_are_spec_fields (by
    unfold expectHeader pageLayout Generated.SrcReads.parseHeader
    rw [Lit.toList_eq_chars]
    decide +kernel)

/-- `HeapTupleHeaderData` up to t_hoff -/
def tupleLayout : Layout :=
  [("t_xmin".toList, 4), ("t_xmax".toList, 4), ("t_cid".toList, 4), ("t_ctid".toList, 6), ("t_infomask2".toList, 2),
   ("t_infomask".toList, 2), ("t_hoff".toList, 1)]

def tupleMembers (t : Tuple) : List Bytes :=
  [le 4 t.xmin, le 4 t.xmax, le 4 t.cid, t.ctid, le 2 t.infomask2, le 2 t.infomask, [UInt8.ofNat t.hoff]]

theorem encTuple_eq (t : Tuple) : encTuple t = (tupleMembers t).flatten ++ (t.mid ++ t.data) := by
  simp [encTuple, tupleMembers, List.append_assoc]

theorem tuple_fits (t : Tuple) (h : t.WF) : Fits tupleLayout (tupleMembers t) := by
  show [(le 4 t.xmin).length, (le 4 t.xmax).length, (le 4 t.cid).length, t.ctid.length, (le 2 t.infomask2).length,
    (le 2 t.infomask).length, 1] = [4, 4, 4, 6, 2, 2, 1]
  simp only [le_length, h.1]

/-- the null bitmap starts at 23 -/
theorem tuple_header_size : tupleLayout.size = 23 := by decide

theorem encTuple_read (t : Tuple) (h : t.WF) (name : List Char) (lo hi : Nat) (hs : tupleLayout.span name = some (lo, hi)) :
    ∃ (i : Nat) (q : Bytes), (tupleLayout[i]?).map Prod.fst = some name ∧ (tupleMembers t)[i]? = some q ∧
      ((encTuple t).drop lo).take (hi - lo) = q := by
  rw [encTuple_eq]
  exact read_member tupleLayout (tupleMembers t) (t.mid ++ t.data) (tuple_fits t h) name lo hi hs

def expectTuple : Expect :=
  [fld "infomask".toList tupleLayout "t_infomask".toList, fld "infomask2".toList tupleLayout "t_infomask2".toList,
   fld "hoff".toList tupleLayout "t_hoff".toList]

/-- **Every constant-bounded read of the current `ParseHeapTuple` is one whole `HeapTupleHeaderData` member, the
one its target names** (`infomask` ← t_infomask @20, `infomask2` ← t_infomask2 @18, `hoff` ← t_hoff @22). -/
theorem ParseHeapTuple_reads_are_spec_fields :
    readsAreFields expectTuple Generated.SrcReads.ParseHeapTuple = true := by
  unfold expectTuple tupleLayout Generated.SrcReads.ParseHeapTuple
  rw [Lit.toList_eq_chars]
  decide +kernel

theorem ParseHeapTuple_expected_fields_are_read :
    expectedAreRead expectTuple Generated.SrcReads.ParseHeapTuple = true :=
  expectedAreRead_of_reads _ _ ParseHeapTuple_reads_are_spec_fields (by
    unfold expectTuple tupleLayout Generated.SrcReads.ParseHeapTuple
    rw [Lit.toList_eq_chars]
    decide +kernel)

/-- the hypotheses are satisfiable: an empty page of layout version 4 and a one-column tuple -/
example : (⟨zeros 12, 8192, 4, 0, [], zeros 8168, [], []⟩ : Page).WF ∧
    pageLayout.span "pd_upper".toList = some (14, 16) :=
  -- with the free space a variable no step evaluates a list of 8168 bytes
  have wf (free : Bytes) (hl : free.length = 8168) : (⟨zeros 12, 8192, 4, 0, [], free, [], []⟩ : Page).WF := by
    refine ⟨zeros_length 12, (by decide : 8192 < 65536), (by decide : 1 ≤ 4), (by decide : 4 ≤ 10), (by decide : 0 < 2 ^ 32),
      nofun, nofun, ?_, List.nodup_nil⟩
    show 24 + 4 * 0 + free.length + 0 + 0 = 8192
    rw [hl]
  ⟨wf _ (zeros_length _), by decide +kernel⟩

example : (⟨2, 0, 0, zeros 6, 1, 0x0900, [0], [7]⟩ : Tuple).WF ∧ tupleLayout.span "t_infomask".toList = some (20, 22) := by
  decide +kernel

end PgVerif.Proofs.SrcTie.HeapReads
