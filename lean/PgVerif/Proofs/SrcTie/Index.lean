/-
  Source tie for area `index`: 46 of the 52 integer constants of index.go, as harness/cmd/srcfacts extracts them from the current source
  (Generated/Src.lean), equal the values the model and the Spec were written against.  No theorem: six flag masks that reach the model
  through the generated flag-name table only (BTPHasFullXid, the four LH state bits, BRINEvacuatePage).
-/
import PgVerif.Generated.Src
import PgVerif.Model.Index
namespace PgVerif.Proofs.SrcTie.Index
open PgVerif.Generated
theorem index_IndexTypeUnknown : Src.index.IndexTypeUnknown = 0 := by decide
theorem index_IndexTypeBTree : Src.index.IndexTypeBTree = 1 := by decide
theorem index_IndexTypeHash : Src.index.IndexTypeHash = 2 := by decide
theorem index_IndexTypeGiST : Src.index.IndexTypeGiST = 3 := by decide
theorem index_IndexTypeGIN : Src.index.IndexTypeGIN = 4 := by decide
theorem index_IndexTypeSPGiST : Src.index.IndexTypeSPGiST = 5 := by decide
theorem index_IndexTypeBRIN : Src.index.IndexTypeBRIN = 6 := by decide
theorem index_BTMaxCycleID : Src.index.BTMaxCycleID = ((PgVerif.Model.Index.BTMaxCycleID : Nat) : Int) := by decide
theorem index_BTMetaMagic : Src.index.BTMetaMagic = 0x53162 := by decide
theorem index_BTPageMagic : Src.index.BTPageMagic = 0x1234 := by decide
theorem index_BTPLeaf : Src.index.BTPLeaf = 1 := by decide
theorem index_BTPRoot : Src.index.BTPRoot = 2 := by decide
theorem index_BTPDeleted : Src.index.BTPDeleted = 4 := by decide
theorem index_BTPMeta : Src.index.BTPMeta = 8 := by decide
theorem index_BTPHalfDead : Src.index.BTPHalfDead = 16 := by decide
theorem index_BTPSplitEnd : Src.index.BTPSplitEnd = 32 := by decide
theorem index_BTPHasGarbage : Src.index.BTPHasGarbage = 64 := by decide
theorem index_BTPIncompleteSplit : Src.index.BTPIncompleteSplit = 128 := by decide
theorem index_HashoPageID : Src.index.HashoPageID = 0xff80 := by decide
theorem index_LHUnused : Src.index.LHUnused = 0 := by decide
theorem index_LHOverflow : Src.index.LHOverflow = 1 := by decide
theorem index_LHBucket : Src.index.LHBucket = 2 := by decide
theorem index_LHBitmap : Src.index.LHBitmap = 4 := by decide
theorem index_LHMeta : Src.index.LHMeta = 8 := by decide
theorem index_GISTPageID : Src.index.GISTPageID = 0xff81 := by decide
theorem index_FLeaf : Src.index.FLeaf = 1 := by decide
theorem index_FDeleted : Src.index.FDeleted = 2 := by decide
theorem index_FTuplesDeleted : Src.index.FTuplesDeleted = 4 := by decide
theorem index_FFollowRight : Src.index.FFollowRight = 8 := by decide
theorem index_FHasGarbage : Src.index.FHasGarbage = 16 := by decide
theorem index_GINData : Src.index.GINData = 1 := by decide
theorem index_GINLeaf : Src.index.GINLeaf = 2 := by decide
theorem index_GINDeleted : Src.index.GINDeleted = 4 := by decide
theorem index_GINMeta : Src.index.GINMeta = 8 := by decide
theorem index_GINList : Src.index.GINList = 16 := by decide
theorem index_GINListFullrow : Src.index.GINListFullrow = 32 := by decide
theorem index_GINIncompleteSplit : Src.index.GINIncompleteSplit = 64 := by decide
theorem index_GINCompressed : Src.index.GINCompressed = 128 := by decide
theorem index_SPGISTPageID : Src.index.SPGISTPageID = 0xff82 := by decide
theorem index_SPGISTMeta : Src.index.SPGISTMeta = 1 := by decide
theorem index_SPGISTDeleted : Src.index.SPGISTDeleted = 2 := by decide
theorem index_SPGISTLeaf : Src.index.SPGISTLeaf = 4 := by decide
theorem index_SPGISTNulls : Src.index.SPGISTNulls = 8 := by decide
theorem index_BRINPageTypeMeta : Src.index.BRINPageTypeMeta = 0xf091 := by decide
theorem index_BRINPageTypeRevmap : Src.index.BRINPageTypeRevmap = 0xf092 := by decide
theorem index_BRINPageTypeRegular : Src.index.BRINPageTypeRegular = 0xf093 := by decide
end PgVerif.Proofs.SrcTie.Index
