/-
  Source tie (see `ReadsKit`) of the functions of index.go with constant-bounded reads against `PageHeaderData`, the six special spaces
  and the three metapages as the Spec encoders write them.  It rests on the Spec alone: what it needs of `encPage` is proved here, not
  taken from Proofs/IndexEnc.lean.  The tables say which slice a read indexes (srcfacts does not record it), checked against index.go.
-/
import PgVerif.Generated.Src
import PgVerif.Spec.Index
import PgVerif.Proofs.SrcTie.ReadsKit
import PgVerif.Lib.Lit
namespace PgVerif.Proofs.SrcTie.IndexReads
open PgVerif PgVerif.Spec.Index PgVerif.Proofs.SrcTie.ReadsKit

/-- `PageHeaderData` (bufpage.h) up to the line pointer array -/
def pageLayout : Layout :=
  [("pd_lsn.xlogid".toList, 4), ("pd_lsn.xrecoff".toList, 4), ("pd_checksum".toList, 2), ("pd_flags".toList, 2),
   ("pd_lower".toList, 2), ("pd_upper".toList, 2), ("pd_special".toList, 2), ("pd_pagesize_version".toList, 2),
   ("pd_prune_xid".toList, 4)]

/-- the special space of each access method: `BTPageOpaqueData` (nbtree.h), `HashPageOpaqueData` (hash.h), `GISTPageOpaqueData` (gist.h),
`GinPageOpaqueData` (ginblock.h), `SpGistPageOpaqueData` (spgist_private.h), `BrinSpecialSpace` (brin_page.h) -/
def opaqueLayout : AM → Layout
  | .btree => [("btpo_prev".toList, 4), ("btpo_next".toList, 4), ("btpo_level".toList, 4), ("btpo_flags".toList, 2),
               ("btpo_cycleid".toList, 2)]
  | .hash => [("hasho_prevblkno".toList, 4), ("hasho_nextblkno".toList, 4), ("hasho_bucket".toList, 4),
              ("hasho_flag".toList, 2), ("hasho_page_id".toList, 2)]
  | .gist => [("nsn".toList, 8), ("rightlink".toList, 4), ("flags".toList, 2), ("gist_page_id".toList, 2)]
  | .gin => [("rightlink".toList, 4), ("maxoff".toList, 2), ("flags".toList, 2)]
  | .spgist => [("flags".toList, 2), ("nRedirection".toList, 2), ("nPlaceholder".toList, 2), ("spgist_page_id".toList, 2)]
  | .brin => [("vector[0]".toList, 2), ("vector[1]".toList, 2), ("vector[2] flags".toList, 2), ("vector[3] page type".toList, 2)]

/-- `BTMetaPageData`, `HashMetaPageData`, `GinMetaPageData` (at page offset 24), the members the Spec carries: 24, 36 and 52 bytes -/
def metaLayout : AM → Layout
  | .btree => [("btm_magic".toList, 4), ("btm_version".toList, 4), ("btm_root".toList, 4), ("btm_level".toList, 4),
               ("btm_fastroot".toList, 4), ("btm_fastlevel".toList, 4)]
  | .hash => [("hashm_magic".toList, 4), ("hashm_version".toList, 4), ("hashm_ntuples".toList, 8), ("hashm_ffactor".toList, 2),
              ("hashm_bsize".toList, 2), ("hashm_bmsize".toList, 2), ("hashm_bmshift".toList, 2), ("hashm_maxbucket".toList, 4),
              ("hashm_highmask".toList, 4), ("hashm_lowmask".toList, 4)]
  | .gin => [("head".toList, 4), ("tail".toList, 4), ("tailFreeSize".toList, 4), ("nPendingPages".toList, 4),
             ("nPendingHeapTuples".toList, 8), ("nTotalPages".toList, 4), ("nEntryPages".toList, 4), ("nDataPages".toList, 4),
             ("(padding)".toList, 4), ("nEntries".toList, 8), ("ginVersion".toList, 4)]
  | _ => []

/-- a relation file as a sequence of blocks: all the tie needs is block 0 -/
def fileLayout : Layout := [("block 0".toList, 8192)]

def pageMembers (p : Page) : List Bytes :=
  [le 4 p.xlogid, le 4 p.xrecoff, le 2 p.checksum, le 2 p.pdflags, le 2 p.lower, le 2 p.upper, le 2 p.special, le 2 p.psv,
   le 4 p.prune]

theorem encPage_eq (p : Page) : encPage p = (pageMembers p).flatten ++ (p.body ++ encOpaque p.op) := by
  simp [encPage, pageMembers, List.append_assoc]

theorem page_fits (p : Page) : Fits pageLayout (pageMembers p) := rfl

theorem page_header_size : pageLayout.size = 24 := by decide

def opaqueMembers : Opaque → List Bytes
  | .btree p n l f c => [le 4 p, le 4 n, le 4 l, le 2 f, le 2 c]
  | .hash p n b f => [le 4 p, le 4 n, le 4 b, le 2 f, le 2 hashPageId]
  | .gist nsn r f => [le 8 nsn, le 4 r, le 2 f, le 2 gistPageId]
  | .gin r m f => [le 4 r, le 2 m, le 2 f]
  | .spgist f a b => [le 2 f, le 2 a, le 2 b, le 2 spgistPageId]
  | .brin a b f t => [le 2 a, le 2 b, le 2 f, le 2 t]

theorem encOpaque_eq (o : Opaque) : encOpaque o = (opaqueMembers o).flatten := by
  cases o <;> simp [encOpaque, opaqueMembers]

theorem opaque_fits (o : Opaque) : Fits (opaqueLayout o.am) (opaqueMembers o) := by
  cases o <;> rfl

/-- the MAXALIGNed sizes the Spec uses for `pd_special` -/
theorem opaque_sizes : ∀ am ∈ AM.all, (opaqueLayout am).size = am.opaqueSize := by decide

theorem encOpaque_length (o : Opaque) : (encOpaque o).length = o.size := by
  cases o <;> simp [encOpaque, Opaque.size, Opaque.am, AM.opaqueSize]

theorem encPage_length (p : Page) (h : p.WF) : (encPage p).length = 8192 := by
  obtain ⟨_, _, _, _, _, _, h1, h2, h3, h4, _⟩ := h
  have hs : p.op.size ≤ 16 := by cases hop : p.op <;> simp [Opaque.size, Opaque.am, AM.opaqueSize]
  rw [encPage_eq, List.length_append, fits_length pageLayout _ (page_fits p), List.length_append, h4, encOpaque_length]
  unfold Page.special at *
  have := page_header_size
  omega

theorem encPage_special (p : Page) (h : p.WF) : (encPage p).drop p.special = encOpaque p.op := by
  obtain ⟨_, _, _, _, _, _, h1, h2, h3, h4, _⟩ := h
  have hl : ((pageMembers p).flatten ++ p.body).length = p.special := by
    rw [List.length_append, fits_length pageLayout _ (page_fits p), h4]
    have := page_header_size
    omega
  rw [encPage_eq, ← List.append_assoc, ← hl, List.drop_left]

def metaMembers : Meta → List Bytes
  | .btree m => [le 4 btMagic, le 4 m.version, le 4 m.root, le 4 m.level, le 4 m.fastroot, le 4 m.fastlevel]
  | .hash m => [le 4 m.magic, le 4 m.version, le 8 m.ntuples, le 2 m.ffactor, le 2 m.bsize, le 2 m.bmsize, le 2 m.bmshift,
      le 4 m.maxbucket, le 4 m.highmask, le 4 m.lowmask]
  | .gin m => [le 4 m.head, le 4 m.tail, le 4 m.tailFree, le 4 m.nPendingPages, le 8 m.nPendingHeapTuples, le 4 m.nTotalPages,
      le 4 m.nEntryPages, le 4 m.nDataPages, le 4 m.pad, le 8 m.nEntries, le 4 m.version]

theorem encMeta_eq (m : Meta) : encMeta m = (metaMembers m).flatten := by
  cases m <;> simp [encMeta, metaMembers]

theorem meta_fits (m : Meta) : Fits (metaLayout m.am) (metaMembers m) := by
  cases m <;> rfl

theorem encPage_read (p : Page) (name : List Char) (lo hi : Nat) (hs : pageLayout.span name = some (lo, hi)) :
    ∃ (i : Nat) (q : Bytes), (pageLayout[i]?).map Prod.fst = some name ∧ (pageMembers p)[i]? = some q ∧
      ((encPage p).drop lo).take (hi - lo) = q := by
  rw [encPage_eq]
  exact read_member pageLayout (pageMembers p) (p.body ++ encOpaque p.op) (page_fits p) name lo hi hs

/-- the special space is `page[pd_special:]` (`encPage_special`) -/
theorem encOpaque_read (o : Opaque) (name : List Char) (lo hi : Nat) (hs : (opaqueLayout o.am).span name = some (lo, hi)) :
    ∃ (i : Nat) (q : Bytes), ((opaqueLayout o.am)[i]?).map Prod.fst = some name ∧ (opaqueMembers o)[i]? = some q ∧
      ((encOpaque o).drop lo).take (hi - lo) = q := by
  have := read_member (opaqueLayout o.am) (opaqueMembers o) [] (opaque_fits o) name lo hi hs
  rwa [List.append_nil, ← encOpaque_eq] at this

/-- the metapage contents are `page[24:]`, a prefix of the body of block 0 (`File.metaOK`) -/
theorem encMeta_read (m : Meta) (rest : Bytes) (name : List Char) (lo hi : Nat)
    (hs : (metaLayout m.am).span name = some (lo, hi)) :
    ∃ (i : Nat) (q : Bytes), ((metaLayout m.am)[i]?).map Prod.fst = some name ∧ (metaMembers m)[i]? = some q ∧
      ((encMeta m ++ rest).drop lo).take (hi - lo) = q := by
  rw [encMeta_eq]
  exact read_member (metaLayout m.am) (metaMembers m) rest (meta_fits m) name lo hi hs

def expectBTreeSpecial : Expect :=
  [fld "info.PrevBlock".toList (opaqueLayout .btree) "btpo_prev".toList, fld "info.NextBlock".toList (opaqueLayout .btree) "btpo_next".toList,
   fld "info.Level".toList (opaqueLayout .btree) "btpo_level".toList, fld "info.Flags".toList (opaqueLayout .btree) "btpo_flags".toList]

/-- every constant-bounded read of `parseBTreePageSpecial` in the current source is one whole `BTPageOpaqueData` member, the one the
table lists for its target (btpo_cycleid is not reported and not read here); the theorems of this form below say the same of their
function and table -/
theorem parseBTreePageSpecial_reads_are_spec_fields :
    readsAreFields expectBTreeSpecial Generated.SrcReads.parseBTreePageSpecial = true := by
  unfold expectBTreeSpecial opaqueLayout Generated.SrcReads.parseBTreePageSpecial
  rw [Lit.toList_eq_chars]
  decide +kernel

theorem parseBTreePageSpecial_expected_fields_are_read :
    expectedAreRead expectBTreeSpecial Generated.SrcReads.parseBTreePageSpecial = true :=
  expectedAreRead_of_reads _ _ parseBTreePageSpecial_reads_are_spec_fields (by
    unfold expectBTreeSpecial opaqueLayout Generated.SrcReads.parseBTreePageSpecial
    rw [Lit.toList_eq_chars]
    decide +kernel)

def expectHashSpecial : Expect :=
  [fld "info.PrevBlock".toList (opaqueLayout .hash) "hasho_prevblkno".toList, fld "info.NextBlock".toList (opaqueLayout .hash) "hasho_nextblkno".toList,
   fld "bucket".toList (opaqueLayout .hash) "hasho_bucket".toList, fld "info.Flags".toList (opaqueLayout .hash) "hasho_flag".toList]

theorem parseHashPageSpecial_reads_are_spec_fields :
    readsAreFields expectHashSpecial Generated.SrcReads.parseHashPageSpecial = true := by
  unfold expectHashSpecial opaqueLayout Generated.SrcReads.parseHashPageSpecial
  rw [Lit.toList_eq_chars]
  decide +kernel

theorem parseHashPageSpecial_expected_fields_are_read :
    expectedAreRead expectHashSpecial Generated.SrcReads.parseHashPageSpecial = true :=
  expectedAreRead_of_reads _ _ parseHashPageSpecial_reads_are_spec_fields (by
    unfold expectHashSpecial opaqueLayout Generated.SrcReads.parseHashPageSpecial
    rw [Lit.toList_eq_chars]
    decide +kernel)

def expectGiSTSpecial : Expect :=
  [fld "info.RightLink".toList (opaqueLayout .gist) "rightlink".toList, fld "info.Flags".toList (opaqueLayout .gist) "flags".toList]

/-- rightlink @8 (after the 8-byte nsn), flags @12 -/
theorem parseGiSTPageSpecial_reads_are_spec_fields :
    readsAreFields expectGiSTSpecial Generated.SrcReads.parseGiSTPageSpecial = true := by
  unfold expectGiSTSpecial opaqueLayout Generated.SrcReads.parseGiSTPageSpecial
  rw [Lit.toList_eq_chars]
  decide +kernel

theorem parseGiSTPageSpecial_expected_fields_are_read :
    expectedAreRead expectGiSTSpecial Generated.SrcReads.parseGiSTPageSpecial = true :=
  expectedAreRead_of_reads _ _ parseGiSTPageSpecial_reads_are_spec_fields (by
    unfold expectGiSTSpecial opaqueLayout Generated.SrcReads.parseGiSTPageSpecial
    rw [Lit.toList_eq_chars]
    decide +kernel)

def expectGINSpecial : Expect :=
  [fld "info.RightLink".toList (opaqueLayout .gin) "rightlink".toList, fld "maxOff".toList (opaqueLayout .gin) "maxoff".toList,
   fld "info.Flags".toList (opaqueLayout .gin) "flags".toList]

theorem parseGINPageSpecial_reads_are_spec_fields :
    readsAreFields expectGINSpecial Generated.SrcReads.parseGINPageSpecial = true := by
  unfold expectGINSpecial opaqueLayout Generated.SrcReads.parseGINPageSpecial
  rw [Lit.toList_eq_chars]
  decide +kernel

theorem parseGINPageSpecial_expected_fields_are_read :
    expectedAreRead expectGINSpecial Generated.SrcReads.parseGINPageSpecial = true :=
  expectedAreRead_of_reads _ _ parseGINPageSpecial_reads_are_spec_fields (by
    unfold expectGINSpecial opaqueLayout Generated.SrcReads.parseGINPageSpecial
    rw [Lit.toList_eq_chars]
    decide +kernel)

def expectSPGiSTSpecial : Expect := [fld "info.Flags".toList (opaqueLayout .spgist) "flags".toList]

theorem parseSPGiSTPageSpecial_reads_are_spec_fields :
    readsAreFields expectSPGiSTSpecial Generated.SrcReads.parseSPGiSTPageSpecial = true := by
  unfold expectSPGiSTSpecial opaqueLayout Generated.SrcReads.parseSPGiSTPageSpecial
  rw [Lit.toList_eq_chars]
  decide +kernel

theorem parseSPGiSTPageSpecial_expected_fields_are_read :
    expectedAreRead expectSPGiSTSpecial Generated.SrcReads.parseSPGiSTPageSpecial = true :=
  expectedAreRead_of_reads _ _ parseSPGiSTPageSpecial_reads_are_spec_fields (by
    unfold expectSPGiSTSpecial opaqueLayout Generated.SrcReads.parseSPGiSTPageSpecial
    rw [Lit.toList_eq_chars]
    decide +kernel)

def expectBRINSpecial : Expect :=
  [fld "info.Flags".toList (opaqueLayout .brin) "vector[2] flags".toList,
   fld "pageType".toList (opaqueLayout .brin) "vector[3] page type".toList]

/-- the flags from vector[2], the page type (compared with BRIN_PAGETYPE_META / BRIN_PAGETYPE_REVMAP) from vector[3] -/
theorem parseBRINPageSpecial_reads_are_spec_fields :
    readsAreFields expectBRINSpecial Generated.SrcReads.parseBRINPageSpecial = true := by
  unfold expectBRINSpecial opaqueLayout Generated.SrcReads.parseBRINPageSpecial
  rw [Lit.toList_eq_chars]
  decide +kernel

theorem parseBRINPageSpecial_expected_fields_are_read :
    expectedAreRead expectBRINSpecial Generated.SrcReads.parseBRINPageSpecial = true :=
  expectedAreRead_of_reads _ _ parseBRINPageSpecial_reads_are_spec_fields (by
    unfold expectBRINSpecial opaqueLayout Generated.SrcReads.parseBRINPageSpecial
    rw [Lit.toList_eq_chars]
    decide +kernel)

def expectBTreeMeta : Expect :=
  [fld "special".toList pageLayout "pd_special".toList,
   fld "magic".toList (metaLayout .btree) "btm_magic".toList,
   fld "".toList (metaLayout .btree) "btm_version".toList,     -- Version:
   fld "".toList (metaLayout .btree) "btm_root".toList,        -- Root:
   fld "".toList (metaLayout .btree) "btm_level".toList,       -- Level:
   fld "".toList (metaLayout .btree) "btm_fastroot".toList,    -- FastRoot:
   fld "".toList (metaLayout .btree) "btm_fastlevel".toList]   -- FastLevel:

/-- the fields of the returned literal have the empty target and are tied by order (the literal's keys in the comments above) -/
theorem parseBTreeMeta_reads_are_spec_fields :
    readsAreFields expectBTreeMeta Generated.SrcReads.parseBTreeMeta = true := by
  unfold expectBTreeMeta pageLayout metaLayout Generated.SrcReads.parseBTreeMeta
  rw [Lit.toList_eq_chars]
  decide +kernel

theorem parseBTreeMeta_expected_fields_are_read :
    expectedAreRead expectBTreeMeta Generated.SrcReads.parseBTreeMeta = true :=
  expectedAreRead_of_reads _ _ parseBTreeMeta_reads_are_spec_fields (by
    unfold expectBTreeMeta pageLayout metaLayout Generated.SrcReads.parseBTreeMeta
    rw [Lit.toList_eq_chars]
    decide +kernel)

def expectHashMeta : Expect :=
  [fld "special".toList pageLayout "pd_special".toList,
   fld "maxBucket".toList (metaLayout .hash) "hashm_maxbucket".toList,
   fld "".toList (metaLayout .hash) "hashm_magic".toList,      -- Magic:
   fld "".toList (metaLayout .hash) "hashm_version".toList,    -- Version:
   fld "".toList (metaLayout .hash) "hashm_highmask".toList,   -- HighMask:
   fld "".toList (metaLayout .hash) "hashm_lowmask".toList,    -- LowMask:
   fld "".toList (metaLayout .hash) "hashm_ffactor".toList,    -- FFactor:
   fld "".toList (metaLayout .hash) "hashm_ntuples".toList]    -- NumTuples:

theorem parseHashMeta_reads_are_spec_fields :
    readsAreFields expectHashMeta Generated.SrcReads.parseHashMeta = true := by
  unfold expectHashMeta pageLayout metaLayout Generated.SrcReads.parseHashMeta
  rw [Lit.toList_eq_chars]
  decide +kernel

theorem parseHashMeta_expected_fields_are_read :
    expectedAreRead expectHashMeta Generated.SrcReads.parseHashMeta = true :=
  expectedAreRead_of_reads _ _ parseHashMeta_reads_are_spec_fields (by
    unfold expectHashMeta pageLayout metaLayout Generated.SrcReads.parseHashMeta
    rw [Lit.toList_eq_chars]
    decide +kernel)

def expectGINMeta : Expect :=
  [fld "special".toList pageLayout "pd_special".toList,
   fld "flags".toList (opaqueLayout .gin) "flags".toList,
   fld "".toList (metaLayout .gin) "ginVersion".toList,          -- Version:
   fld "".toList (metaLayout .gin) "head".toList,                -- Head:
   fld "".toList (metaLayout .gin) "tail".toList,                -- Tail:
   fld "".toList (metaLayout .gin) "tailFreeSize".toList,        -- TailFreeSize:
   fld "".toList (metaLayout .gin) "nPendingPages".toList,       -- NPendingPages:
   fld "".toList (metaLayout .gin) "nPendingHeapTuples".toList,  -- NPendingHeapTuples:
   fld "".toList (metaLayout .gin) "nTotalPages".toList,         -- NTotalPages:
   fld "".toList (metaLayout .gin) "nEntryPages".toList,         -- NEntryPages:
   fld "".toList (metaLayout .gin) "nDataPages".toList,          -- NDataPages:
   fld "".toList (metaLayout .gin) "nEntries".toList]            -- NEntries:

/-- nEntries @40, after the 4-byte alignment hole -/
theorem parseGINMeta_reads_are_spec_fields :
    readsAreFields expectGINMeta Generated.SrcReads.parseGINMeta = true := by
  unfold expectGINMeta pageLayout opaqueLayout metaLayout Generated.SrcReads.parseGINMeta
  rw [Lit.toList_eq_chars]
  decide +kernel

theorem parseGINMeta_expected_fields_are_read :
    expectedAreRead expectGINMeta Generated.SrcReads.parseGINMeta = true :=
  expectedAreRead_of_reads _ _ parseGINMeta_reads_are_spec_fields (by
    unfold expectGINMeta pageLayout opaqueLayout metaLayout Generated.SrcReads.parseGINMeta
    rw [Lit.toList_eq_chars]
    decide +kernel)

/-- `flags` is assigned twice: first the B-tree flag word, later the GIN one -/
def expectDetect : Expect :=
  [fld "special".toList pageLayout "pd_special".toList,
   fld "cycleID".toList (opaqueLayout .btree) "btpo_cycleid".toList,
   fld "flags".toList (opaqueLayout .btree) "btpo_flags".toList,
   fld "flags".toList (opaqueLayout .gin) "flags".toList]

theorem detectIndexType_reads_are_spec_fields :
    readsAreFields expectDetect Generated.SrcReads.detectIndexType = true := by
  unfold expectDetect pageLayout opaqueLayout Generated.SrcReads.detectIndexType
  rw [Lit.toList_eq_chars]
  decide +kernel

theorem detectIndexType_expected_fields_are_read :
    expectedAreRead expectDetect Generated.SrcReads.detectIndexType = true :=
  expectedAreRead_of_reads _ _ detectIndexType_reads_are_spec_fields (by
    unfold expectDetect pageLayout opaqueLayout Generated.SrcReads.detectIndexType
    rw [Lit.toList_eq_chars]
    decide +kernel)

def expectIndexPage : Expect :=
  [fld "info.LSN".toList pageLayout "pd_lsn.xlogid".toList, fld "info.LSN".toList pageLayout "pd_lsn.xrecoff".toList,
   fld "lower".toList pageLayout "pd_lower".toList, fld "upper".toList pageLayout "pd_upper".toList,
   fld "special".toList pageLayout "pd_special".toList]

/-- the LSN is read as xlogid then xrecoff -/
theorem parseIndexPage_reads_are_spec_fields :
    readsAreFields expectIndexPage Generated.SrcReads.parseIndexPage = true := by
  unfold expectIndexPage pageLayout Generated.SrcReads.parseIndexPage
  rw [Lit.toList_eq_chars]
  decide +kernel

theorem parseIndexPage_expected_fields_are_read :
    expectedAreRead expectIndexPage Generated.SrcReads.parseIndexPage = true :=
  expectedAreRead_of_reads _ _ parseIndexPage_reads_are_spec_fields (by
    unfold expectIndexPage pageLayout Generated.SrcReads.parseIndexPage
    rw [Lit.toList_eq_chars]
    decide +kernel)

/-- `data[0:PageSize]` is handed to the detector and (one call per method) to the metapage parser -/
def expectFile : Expect :=
  [fld "info.Type".toList fileLayout "block 0".toList, fld "meta".toList fileLayout "block 0".toList,
   fld "meta".toList fileLayout "block 0".toList, fld "meta".toList fileLayout "block 0".toList]

theorem ParseIndexFile_reads_are_spec_fields :
    readsAreFields expectFile Generated.SrcReads.ParseIndexFile = true := by
  unfold expectFile fileLayout Generated.SrcReads.ParseIndexFile
  rw [Lit.toList_eq_chars]
  decide +kernel

theorem ParseIndexFile_expected_fields_are_read :
    expectedAreRead expectFile Generated.SrcReads.ParseIndexFile = true :=
  expectedAreRead_of_reads _ _ ParseIndexFile_reads_are_spec_fields (by
    unfold expectFile fileLayout Generated.SrcReads.ParseIndexFile
    rw [Lit.toList_eq_chars]
    decide +kernel)

/-- the spans the hypotheses of the `_read` theorems range over; DESIGN.md section 3 offsets -/
example : pageLayout.span "pd_special".toList = some (16, 18) ∧ (opaqueLayout .gist).span "rightlink".toList = some (8, 12) ∧
    (metaLayout .hash).span "hashm_maxbucket".toList = some (24, 28) ∧ (metaLayout .gin).span "nEntries".toList = some (40, 48) ∧
    (metaLayout .gin).span "ginVersion".toList = some (48, 52) := by
  unfold pageLayout opaqueLayout metaLayout
  rw [Lit.toList_eq_chars]
  decide +kernel

end PgVerif.Proofs.SrcTie.IndexReads
