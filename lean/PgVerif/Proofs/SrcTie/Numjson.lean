/-
  Source tie for area `numjson`: the twelve package-level constants of jsonb.go, as harness/cmd/srcfacts extracts them from the
  current source (Generated/Src.lean), equal the literals of the Lean model.  Not tied: the masks jsonb.go itself writes as
  literals (0x70000000 in decodeJEntry; 0xC000, 0x8000, 0x2000, 0x0040, 0x003F in the numeric decoders).
-/
import PgVerif.Generated.Src
namespace PgVerif.Proofs.SrcTie.Numjson
open PgVerif.Generated
theorem jsonb_jbCMask : Src.jsonb.jbCMask = 0xfffffff := by decide
theorem jsonb_jbFObject : Src.jsonb.jbFObject = 0x20000000 := by decide
theorem jsonb_jbFArray : Src.jsonb.jbFArray = 0x40000000 := by decide
theorem jsonb_jbFScalar : Src.jsonb.jbFScalar = 0x10000000 := by decide
theorem jsonb_jeOffMask : Src.jsonb.jeOffMask = 0xfffffff := by decide
theorem jsonb_jeHasOff : Src.jsonb.jeHasOff = 0x80000000 := by decide
theorem jsonb_jeString : Src.jsonb.jeString = 0 := by decide
theorem jsonb_jeNumeric : Src.jsonb.jeNumeric = 0x10000000 := by decide
theorem jsonb_jeBoolFalse : Src.jsonb.jeBoolFalse = 0x20000000 := by decide
theorem jsonb_jeBoolTrue : Src.jsonb.jeBoolTrue = 0x30000000 := by decide
theorem jsonb_jeNull : Src.jsonb.jeNull = 0x40000000 := by decide
theorem jsonb_jeContainer : Src.jsonb.jeContainer = 0x50000000 := by decide
end PgVerif.Proofs.SrcTie.Numjson
