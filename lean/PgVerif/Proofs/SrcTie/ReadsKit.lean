/-
  The kit of the source ties `Proofs/SrcTie/<Name>Reads.lean`.  `harness/cmd/srcfacts` lists, per Go function, every constant-bounded read of
  a byte slice with its assignment target (`Generated.SrcReads.<fn>`, regenerated on every run); a tie writes PostgreSQL's struct as a
  `Layout` and evaluates `readsAreFields` / `expectedAreRead`.  A target read several times is tied by the ORDER of its reads.
-/
import PgVerif.Basic.Bytes
namespace PgVerif.Proofs.SrcTie.ReadsKit
open PgVerif

/-- one entry of `Generated.SrcReads.<fn>`: (assignment target, from, to) -/
abbrev Read := List Char × Nat × Nat

/-- a struct as PostgreSQL lays it out: (member name, width in bytes) in declaration order, alignment holes
and unread tails as members of their own -/
abbrev Layout := List (List Char × Nat)

/-- (from, to) of consecutive members of the given widths, the first one starting at `off` -/
def spansFrom : Nat → List Nat → List (Nat × Nat)
  | _, [] => []
  | off, w :: ws => (off, off + w) :: spansFrom (off + w) ws

def Layout.widths (l : Layout) : List Nat := l.map (·.2)
def Layout.spans (l : Layout) : List (Nat × Nat) := spansFrom 0 l.widths
def Layout.size (l : Layout) : Nat := l.widths.sum

def spanFrom : Nat → Layout → List Char → Option (Nat × Nat)
  | _, [], _ => none
  | off, (n, w) :: l, m => if n == m then some (off, off + w) else spanFrom (off + w) l m

/-- the byte span of the (first) member called `m` -/
def Layout.span (l : Layout) (m : List Char) : Option (Nat × Nat) := spanFrom 0 l m

/-- the expectation table of one function: (Go assignment target, byte span it must be read from), built with `fld` -/
abbrev Expect := List (List Char × Option (Nat × Nat))

/-- `fld target layout member`: `target` is read from `member` of `layout` -/
def fld (t : List Char) (l : Layout) (m : List Char) : List Char × Option (Nat × Nat) := (t, l.span m)

/-- the spans read into target `t`, in source order -/
def got (reads : List Read) (t : List Char) : List (Option (Nat × Nat)) :=
  (reads.filter (·.1 == t)).map fun r => some r.2

/-- the spans the table lists for target `t`, in table order -/
def wanted (ex : Expect) (t : List Char) : List (Option (Nat × Nat)) := (ex.filter (·.1 == t)).map (·.2)

/-- every read goes to a target of the table, and the reads of that target are, in source order, the members listed for it -/
def readsAreFields (ex : Expect) (reads : List Read) : Bool := reads.all fun r => got reads r.1 == wanted ex r.1

/-- every entry of the table names an existing member and its target is still read -/
def expectedAreRead (ex : Expect) (reads : List Read) : Bool :=
  ex.all fun e => e.2.isSome && reads.any (·.1 == e.1)

/-- the one-byte spans of a span: a member that the code touches byte by byte -/
def bytesOf (s : Option (Nat × Nat)) : List (Option (Nat × Nat)) :=
  match s with
  | some (lo, hi) => (List.range (hi - lo)).map fun i => some (lo + i, lo + i + 1)
  | none => [none]

/-- an entry whose target is read names an existing member: its span is among the spans read into that target -/
theorem expectedAreRead_of_reads (ex : Expect) (reads : List Read) (h1 : readsAreFields ex reads = true)
    (h2 : (ex.all fun e => reads.any (·.1 == e.1)) = true) : expectedAreRead ex reads = true := by
  unfold expectedAreRead
  rw [List.all_eq_true] at h2 ⊢
  intro e he
  have hr := h2 e he
  rw [Bool.and_eq_true]
  refine ⟨?_, hr⟩
  obtain ⟨r, hrm, hre⟩ := List.any_eq_true.mp hr
  have hre' : r.1 = e.1 := eq_of_beq hre
  have heq : got reads r.1 = wanted ex r.1 := eq_of_beq (List.all_eq_true.mp h1 r hrm)
  have hmem : e.2 ∈ wanted ex r.1 :=
    List.mem_map.mpr ⟨e, List.mem_filter.mpr ⟨he, by rw [hre']; exact beq_self_eq_true _⟩, rfl⟩
  rw [← heq] at hmem
  obtain ⟨r', _, hr'⟩ := List.mem_map.mp hmem
  rw [← hr']; rfl

def Fits (l : Layout) (ps : List Bytes) : Prop := ps.map List.length = l.widths

/-- `spansFrom`: all spans, by position -/
theorem spansFrom_read (rest : Bytes) : ∀ (ps : List Bytes) (ws : List Nat) (pre : Bytes) (off i lo hi : Nat),
    ps.map List.length = ws → pre.length = off → (spansFrom off ws)[i]? = some (lo, hi) →
    ∃ p, ps[i]? = some p ∧ ((pre ++ (ps.flatten ++ rest)).drop lo).take (hi - lo) = p
  | [], ws, pre, off, i, lo, hi, hw, _, h => by
    subst hw; simp [spansFrom] at h
  | p :: ps, ws, pre, off, i, lo, hi, hw, hpre, h => by
    subst hw
    cases i with
    | zero =>
      simp only [List.map_cons, spansFrom, List.getElem?_cons_zero, Option.some.injEq, Prod.mk.injEq] at h
      refine ⟨p, by simp, ?_⟩
      obtain ⟨h1, h2⟩ := h
      subst h1 h2 hpre
      simp [List.append_assoc]
    | succ i =>
      simp only [List.map_cons, spansFrom, List.getElem?_cons_succ] at h
      have := spansFrom_read rest ps (ps.map List.length) (pre ++ p) (off + p.length) i lo hi rfl (by simp [hpre]) h
      obtain ⟨q, hq, hr⟩ := this
      refine ⟨q, by simpa using hq, ?_⟩
      simpa [List.append_assoc] using hr

/-- `spanFrom`: one span, by name -/
theorem spanFrom_index : ∀ (l : Layout) (off : Nat) (m : List Char) (s : Nat × Nat), spanFrom off l m = some s →
    ∃ i : Nat, (l[i]?).map Prod.fst = some m ∧ (spansFrom off l.widths)[i]? = some s
  | [], _, _, _, h => by simp [spanFrom] at h
  | (n, w) :: l, off, m, s, h => by
    unfold spanFrom at h
    by_cases hn : (n == m) = true
    · rw [if_pos hn] at h
      exact ⟨0, by simpa using hn, by simpa [Layout.widths, spansFrom] using h⟩
    · rw [if_neg hn] at h
      obtain ⟨i, h1, h2⟩ := spanFrom_index l (off + w) m s h
      exact ⟨i + 1, by simpa using h1, by simpa [Layout.widths, spansFrom] using h2⟩

/-- `ps` = the member encodings in declaration order, `rest` = whatever follows the struct -/
theorem read_member (l : Layout) (ps : List Bytes) (rest : Bytes) (hf : Fits l ps) (m : List Char) (lo hi : Nat)
    (hs : l.span m = some (lo, hi)) :
    ∃ (i : Nat) (p : Bytes), (l[i]?).map Prod.fst = some m ∧ ps[i]? = some p ∧ ((ps.flatten ++ rest).drop lo).take (hi - lo) = p := by
  obtain ⟨i, h1, h2⟩ := spanFrom_index l 0 m (lo, hi) hs
  obtain ⟨p, hp, hr⟩ := spansFrom_read rest ps l.widths [] 0 i lo hi hf rfl h2
  exact ⟨i, p, h1, hp, by simpa using hr⟩

theorem fits_length (l : Layout) (ps : List Bytes) (hf : Fits l ps) : ps.flatten.length = l.size := by
  unfold Fits at hf
  simp only [Layout.size, ← hf, List.length_flatten]

end PgVerif.Proofs.SrcTie.ReadsKit
