/-
  Source tie for ParseRelMapFile and relMapIsV16 (relmap.go, C20; kit: `ReadsKit`): each constant-bounded read is one whole member of
  `RelMapFile` (relmapper.c) as `Spec.encRelMapRaw` lays it out in either layout, the one its target names; the two crc bodies of
  relMapIsV16 are exactly the members before the crc (`Spec.relmapBody`).  `rm.CRC` is read at 520 in the `isV16` branch and at 504 in
  the other: tied in source order.  Not covered (not constant-bounded): the mapping entries `data[offset : offset+4]`.
-/
import PgVerif.Generated.Src
import PgVerif.Spec.Relmap
import PgVerif.Proofs.SrcTie.ReadsKit
import PgVerif.Lib.Lit
import PgVerif.Lib.Lists
namespace PgVerif.Proofs.SrcTie.RelmapReads
open PgVerif PgVerif.Spec PgVerif.Proofs.SrcTie.ReadsKit

/-- `RelMapFile` of relmapper.c, PostgreSQL 12–15: MAX_MAPPINGS = 62, 512 bytes -/
def layout : Layout :=
  [("magic".toList, 4), ("num_mappings".toList, 4), ("mappings".toList, 496), ("crc".toList, 4), ("pad".toList, 4)]

/-- the members as the Spec encoder writes them (unused mapping slots belong to `mappings`) -/
def members (magic count : Nat) (m : RelMap) : List Bytes :=
  [le 4 magic, le 4 count, m.mappings.flatMap encMapping ++ m.unused, le 4 m.crc, m.pad]

theorem enc_eq (magic count : Nat) (m : RelMap) : encRelMapRaw magic count m = (members magic count m).flatten := by
  simp [encRelMapRaw, members]

/-- (`Proofs.flatMap_encMapping_length` of Proofs/Relmap.lean once more: the source ties import no Proofs module) -/
theorem mappings_length (ms : List (Nat × Nat)) : (ms.flatMap encMapping).length = 8 * ms.length :=
  length_flatMap_const encMapping ms fun a _ => by simp [encMapping]

theorem fits (magic count : Nat) (m : RelMap) (h : m.WF) : Fits layout (members magic count m) := by
  obtain ⟨h1, h2, _, h4, _⟩ := h
  unfold relmapMax at h1 h2
  simp only [Fits, members, layout, Layout.widths, List.map_cons, List.map_nil, le_length, List.length_append,
    mappings_length, h2, h4]
  have : 8 * m.mappings.length + 8 * (62 - m.mappings.length) = 496 := by omega
  rw [this]

theorem enc_length (magic count : Nat) (m : RelMap) (h : m.WF) : (encRelMapRaw magic count m).length = 512 := by
  rw [enc_eq, fits_length layout _ (fits magic count m h)]; decide

theorem enc_read (magic count : Nat) (m : RelMap) (h : m.WF) (name : List Char) (lo hi : Nat)
    (hs : layout.span name = some (lo, hi)) :
    ∃ (i : Nat) (p : Bytes), (layout[i]?).map Prod.fst = some name ∧ (members magic count m)[i]? = some p ∧
      ((encRelMapRaw magic count m).drop lo).take (hi - lo) = p := by
  have := read_member layout (members magic count m) [] (fits magic count m h) name lo hi hs
  simpa [enc_eq] using this

/-- `RelMapFile` of relmapper.c, PostgreSQL 16: MAX_MAPPINGS = 64, no padding, 524 bytes -/
def layout16 : Layout :=
  [("magic".toList, 4), ("num_mappings".toList, 4), ("mappings".toList, 512), ("crc".toList, 4)]

def members16 (magic count : Nat) (m : RelMap) : List Bytes :=
  [le 4 magic, le 4 count, m.mappings.flatMap encMapping ++ m.unused, le 4 m.crc]

theorem enc_eq16 (magic count : Nat) (m : RelMap) (h : m.WF16) :
    encRelMapRaw magic count m = (members16 magic count m).flatten := by
  have hp : m.pad = [] := List.eq_nil_of_length_eq_zero h.2.2.2.1
  simp [encRelMapRaw, members16, hp]

theorem fits16 (magic count : Nat) (m : RelMap) (h : m.WF16) : Fits layout16 (members16 magic count m) := by
  obtain ⟨h1, h2, _, _, _⟩ := h
  unfold relmapMax16 at h1 h2
  simp only [Fits, members16, layout16, Layout.widths, List.map_cons, List.map_nil, le_length, List.length_append,
    mappings_length, h2]
  have : 8 * m.mappings.length + 8 * (64 - m.mappings.length) = 512 := by omega
  rw [this]

theorem enc_length16 (magic count : Nat) (m : RelMap) (h : m.WF16) : (encRelMapRaw magic count m).length = 524 := by
  rw [enc_eq16 magic count m h, fits_length layout16 _ (fits16 magic count m h)]; decide

theorem enc_read16 (magic count : Nat) (m : RelMap) (h : m.WF16) (name : List Char) (lo hi : Nat)
    (hs : layout16.span name = some (lo, hi)) :
    ∃ (i : Nat) (p : Bytes), (layout16[i]?).map Prod.fst = some name ∧ (members16 magic count m)[i]? = some p ∧
      ((encRelMapRaw magic count m).drop lo).take (hi - lo) = p := by
  have := read_member layout16 (members16 magic count m) [] (fits16 magic count m h) name lo hi hs
  simpa [enc_eq16 magic count m h] using this

theorem common_spans : layout16.span "magic".toList = layout.span "magic".toList ∧
    layout16.span "num_mappings".toList = layout.span "num_mappings".toList ∧
    layout.span "crc".toList = some (504, 508) ∧ layout16.span "crc".toList = some (520, 524) := by decide +kernel

/-- assignment target in relmap.go ↦ member of `RelMapFile`; `rm.CRC` twice, in source order: the `if isV16` branch, then the `else` -/
def expect : Expect :=
  [fld "rm.Magic".toList layout "magic".toList, fld "rm.NumMappings".toList layout "num_mappings".toList,
   fld "rm.CRC".toList layout16 "crc".toList, fld "rm.CRC".toList layout "crc".toList]

/-- `rm.Magic` ← magic, `rm.NumMappings` ← num_mappings, `rm.CRC` ← crc of the 16 layout, then crc of the 12–15 layout -/
theorem ParseRelMapFile_reads_are_spec_fields :
    readsAreFields expect Generated.SrcReads.ParseRelMapFile = true := by
  unfold expect layout layout16 Generated.SrcReads.ParseRelMapFile
  rw [Lit.toList_eq_chars]
  decide +kernel

theorem ParseRelMapFile_expected_fields_are_read :
    expectedAreRead expect Generated.SrcReads.ParseRelMapFile = true :=
  expectedAreRead_of_reads _ _ ParseRelMapFile_reads_are_spec_fields (by
    unfold expect layout layout16 Generated.SrcReads.ParseRelMapFile
    rw [Lit.toList_eq_chars]
    decide +kernel)

/-- magic and num_mappings taken from the PostgreSQL 16 layout: the same bytes (`common_spans`) -/
def expect16 : Expect :=
  [fld "rm.Magic".toList layout16 "magic".toList, fld "rm.NumMappings".toList layout16 "num_mappings".toList,
   fld "rm.CRC".toList layout16 "crc".toList, fld "rm.CRC".toList layout "crc".toList]

theorem ParseRelMapFile_reads_are_spec_fields_v16 :
    readsAreFields expect16 Generated.SrcReads.ParseRelMapFile = true := by decide +kernel

theorem ParseRelMapFile_expected_fields_are_read_v16 :
    expectedAreRead expect16 Generated.SrcReads.ParseRelMapFile = true :=
  expectedAreRead_of_reads _ _ ParseRelMapFile_reads_are_spec_fields_v16 (by decide +kernel)

/-- `target` is read from everything that precedes `member` in `layout`: the bytes a crc member covers -/
def before (t : List Char) (l : Layout) (m : List Char) : List Char × Option (Nat × Nat) :=
  (t, (l.span m).map fun s => (0, s.1))

/-- assignment target in relMapIsV16 ↦ bytes of `RelMapFile`: the 16 candidate (`bodyV16`, `crcV16`), then the 12–15 one (`body`, `crc`) -/
def expectIsV16 : Expect :=
  [before "bodyV16".toList layout16 "crc".toList, fld "crcV16".toList layout16 "crc".toList,
   before "body".toList layout "crc".toList, fld "crc".toList layout "crc".toList]

/-- every read of `relMapIsV16` is the crc member of one layout or exactly the bytes before it -/
theorem relMapIsV16_reads_are_spec_fields :
    readsAreFields expectIsV16 Generated.SrcReads.relMapIsV16 = true := by
  unfold expectIsV16 layout layout16 Generated.SrcReads.relMapIsV16
  rw [Lit.toList_eq_chars]
  decide +kernel

theorem relMapIsV16_expected_fields_are_read :
    expectedAreRead expectIsV16 Generated.SrcReads.relMapIsV16 = true :=
  expectedAreRead_of_reads _ _ relMapIsV16_reads_are_spec_fields (by
    unfold expectIsV16 layout layout16 Generated.SrcReads.relMapIsV16
    rw [Lit.toList_eq_chars]
    decide +kernel)

/-- the body spans are what `Spec.relmapBody` takes -/
theorem body_spans_are_spec :
    (before "body".toList layout "crc".toList).2 = some (0, RelMapLayout.v12.crcOffset) ∧
    (before "bodyV16".toList layout16 "crc".toList).2 = some (0, RelMapLayout.v16.crcOffset) ∧
    layout.span "crc".toList = some (RelMapLayout.v12.crcOffset, RelMapLayout.v12.crcOffset + 4) ∧
    layout16.span "crc".toList = some (RelMapLayout.v16.crcOffset, RelMapLayout.v16.crcOffset + 4) ∧
    layout.size = RelMapLayout.v12.size ∧ layout16.size = RelMapLayout.v16.size := by decide +kernel

theorem enc_body (magic count : Nat) (m : RelMap) (h : m.WF) :
    (encRelMapRaw magic count m).take 504 = le 4 magic ++ (le 4 count ++ (m.mappings.flatMap encMapping ++ m.unused)) := by
  obtain ⟨h1, h2, _, _, _⟩ := h
  unfold relmapMax at h1 h2
  have e : encRelMapRaw magic count m =
      (le 4 magic ++ (le 4 count ++ (m.mappings.flatMap encMapping ++ m.unused))) ++ (le 4 m.crc ++ m.pad) := by
    simp [encRelMapRaw, List.append_assoc]
  rw [e, List.take_left']
  simp only [List.length_append, le_length, mappings_length, h2]; omega

theorem enc_body16 (magic count : Nat) (m : RelMap) (h : m.WF16) :
    (encRelMapRaw magic count m).take 520 = le 4 magic ++ (le 4 count ++ (m.mappings.flatMap encMapping ++ m.unused)) := by
  obtain ⟨h1, h2, _, _, _⟩ := h
  unfold relmapMax16 at h1 h2
  have e : encRelMapRaw magic count m =
      (le 4 magic ++ (le 4 count ++ (m.mappings.flatMap encMapping ++ m.unused))) ++ (le 4 m.crc ++ m.pad) := by
    simp [encRelMapRaw, List.append_assoc]
  rw [e, List.take_left']
  simp only [List.length_append, le_length, mappings_length, h2]; omega

example : (⟨[], zeros 512, 7, []⟩ : RelMap).WF16 ∧ layout16.span "crc".toList = some (520, 524) :=
  ⟨by simp [RelMap.WF16, relmapMax16], by decide +kernel⟩

/-- the hypotheses of `enc_read` can be met: an empty map; `num_mappings` is bytes 4..8 -/
example : (⟨[], zeros 496, 7, zeros 4⟩ : RelMap).WF ∧ layout.span "num_mappings".toList = some (4, 8) :=
  ⟨by simp [RelMap.WF, relmapMax], by decide +kernel⟩

end PgVerif.Proofs.SrcTie.RelmapReads
