/-
  Every package-level integer constant of types.go (the type oids; binary.go has none), as harness/cmd/srcfacts extracts it from the
  current source into Generated/Src.lean on every run, equals the model's constant of the same name.
-/
import PgVerif.Generated.Src
import PgVerif.Model.Scalars
namespace PgVerif.Proofs.SrcTie.Scalars
open PgVerif.Generated
theorem types_OidBool : Src.types.OidBool = ((PgVerif.Model.Scalars.OidBool : Nat) : Int) := by decide
theorem types_OidBytea : Src.types.OidBytea = ((PgVerif.Model.Scalars.OidBytea : Nat) : Int) := by decide
theorem types_OidChar : Src.types.OidChar = ((PgVerif.Model.Scalars.OidChar : Nat) : Int) := by decide
theorem types_OidName : Src.types.OidName = ((PgVerif.Model.Scalars.OidName : Nat) : Int) := by decide
theorem types_OidInt8 : Src.types.OidInt8 = ((PgVerif.Model.Scalars.OidInt8 : Nat) : Int) := by decide
theorem types_OidInt2 : Src.types.OidInt2 = ((PgVerif.Model.Scalars.OidInt2 : Nat) : Int) := by decide
theorem types_OidInt4 : Src.types.OidInt4 = ((PgVerif.Model.Scalars.OidInt4 : Nat) : Int) := by decide
theorem types_OidText : Src.types.OidText = ((PgVerif.Model.Scalars.OidText : Nat) : Int) := by decide
theorem types_OidOid : Src.types.OidOid = ((PgVerif.Model.Scalars.OidOid : Nat) : Int) := by decide
theorem types_OidTid : Src.types.OidTid = ((PgVerif.Model.Scalars.OidTid : Nat) : Int) := by decide
theorem types_OidXid : Src.types.OidXid = ((PgVerif.Model.Scalars.OidXid : Nat) : Int) := by decide
theorem types_OidCid : Src.types.OidCid = ((PgVerif.Model.Scalars.OidCid : Nat) : Int) := by decide
theorem types_OidJSON : Src.types.OidJSON = ((PgVerif.Model.Scalars.OidJSON : Nat) : Int) := by decide
theorem types_OidXML : Src.types.OidXML = ((PgVerif.Model.Scalars.OidXML : Nat) : Int) := by decide
theorem types_OidPoint : Src.types.OidPoint = ((PgVerif.Model.Scalars.OidPoint : Nat) : Int) := by decide
theorem types_OidLseg : Src.types.OidLseg = ((PgVerif.Model.Scalars.OidLseg : Nat) : Int) := by decide
theorem types_OidPath : Src.types.OidPath = ((PgVerif.Model.Scalars.OidPath : Nat) : Int) := by decide
theorem types_OidBox : Src.types.OidBox = ((PgVerif.Model.Scalars.OidBox : Nat) : Int) := by decide
theorem types_OidPolygon : Src.types.OidPolygon = ((PgVerif.Model.Scalars.OidPolygon : Nat) : Int) := by decide
theorem types_OidLine : Src.types.OidLine = ((PgVerif.Model.Scalars.OidLine : Nat) : Int) := by decide
theorem types_OidCircle : Src.types.OidCircle = ((PgVerif.Model.Scalars.OidCircle : Nat) : Int) := by decide
theorem types_OidCidr : Src.types.OidCidr = ((PgVerif.Model.Scalars.OidCidr : Nat) : Int) := by decide
theorem types_OidFloat4 : Src.types.OidFloat4 = ((PgVerif.Model.Scalars.OidFloat4 : Nat) : Int) := by decide
theorem types_OidFloat8 : Src.types.OidFloat8 = ((PgVerif.Model.Scalars.OidFloat8 : Nat) : Int) := by decide
theorem types_OidMacaddr8 : Src.types.OidMacaddr8 = ((PgVerif.Model.Scalars.OidMacaddr8 : Nat) : Int) := by decide
theorem types_OidMoney : Src.types.OidMoney = ((PgVerif.Model.Scalars.OidMoney : Nat) : Int) := by decide
theorem types_OidMacaddr : Src.types.OidMacaddr = ((PgVerif.Model.Scalars.OidMacaddr : Nat) : Int) := by decide
theorem types_OidInet : Src.types.OidInet = ((PgVerif.Model.Scalars.OidInet : Nat) : Int) := by decide
theorem types_OidBpchar : Src.types.OidBpchar = ((PgVerif.Model.Scalars.OidBpchar : Nat) : Int) := by decide
theorem types_OidVarchar : Src.types.OidVarchar = ((PgVerif.Model.Scalars.OidVarchar : Nat) : Int) := by decide
theorem types_OidDate : Src.types.OidDate = ((PgVerif.Model.Scalars.OidDate : Nat) : Int) := by decide
theorem types_OidTime : Src.types.OidTime = ((PgVerif.Model.Scalars.OidTime : Nat) : Int) := by decide
theorem types_OidTimestamp : Src.types.OidTimestamp = ((PgVerif.Model.Scalars.OidTimestamp : Nat) : Int) := by decide
theorem types_OidTimestampTZ : Src.types.OidTimestampTZ = ((PgVerif.Model.Scalars.OidTimestampTZ : Nat) : Int) := by decide
theorem types_OidInterval : Src.types.OidInterval = ((PgVerif.Model.Scalars.OidInterval : Nat) : Int) := by decide
theorem types_OidTimeTZ : Src.types.OidTimeTZ = ((PgVerif.Model.Scalars.OidTimeTZ : Nat) : Int) := by decide
theorem types_OidBit : Src.types.OidBit = ((PgVerif.Model.Scalars.OidBit : Nat) : Int) := by decide
theorem types_OidVarbit : Src.types.OidVarbit = ((PgVerif.Model.Scalars.OidVarbit : Nat) : Int) := by decide
theorem types_OidNumeric : Src.types.OidNumeric = ((PgVerif.Model.Scalars.OidNumeric : Nat) : Int) := by decide
theorem types_OidUUID : Src.types.OidUUID = ((PgVerif.Model.Scalars.OidUUID : Nat) : Int) := by decide
theorem types_OidPgLsn : Src.types.OidPgLsn = ((PgVerif.Model.Scalars.OidPgLsn : Nat) : Int) := by decide
theorem types_OidTsvector : Src.types.OidTsvector = ((PgVerif.Model.Scalars.OidTsvector : Nat) : Int) := by decide
theorem types_OidTsquery : Src.types.OidTsquery = ((PgVerif.Model.Scalars.OidTsquery : Nat) : Int) := by decide
theorem types_OidJSONB : Src.types.OidJSONB = ((PgVerif.Model.Scalars.OidJSONB : Nat) : Int) := by decide
theorem types_OidJSONPath : Src.types.OidJSONPath = ((PgVerif.Model.Scalars.OidJSONPath : Nat) : Int) := by decide
theorem types_OidInt4Range : Src.types.OidInt4Range = ((PgVerif.Model.Scalars.OidInt4Range : Nat) : Int) := by decide
theorem types_OidNumRange : Src.types.OidNumRange = ((PgVerif.Model.Scalars.OidNumRange : Nat) : Int) := by decide
theorem types_OidTsRange : Src.types.OidTsRange = ((PgVerif.Model.Scalars.OidTsRange : Nat) : Int) := by decide
theorem types_OidTsTzRange : Src.types.OidTsTzRange = ((PgVerif.Model.Scalars.OidTsTzRange : Nat) : Int) := by decide
theorem types_OidDateRange : Src.types.OidDateRange = ((PgVerif.Model.Scalars.OidDateRange : Nat) : Int) := by decide
theorem types_OidInt8Range : Src.types.OidInt8Range = ((PgVerif.Model.Scalars.OidInt8Range : Nat) : Int) := by decide
end PgVerif.Proofs.SrcTie.Scalars
