/-
  Source-level tie, translator style (see `ReadsKit`), for `decodeInterval`, `decodePoint`, `decodeInet` and the header fields of
  `decodePathOrPolygon` against the stored forms `Spec.Scalars.enc` writes: `Interval` (datatype/timestamp.h: time int64, day int32,
  month int32), `Point` (utils/geo_decls.h: x, y float8), `inet_struct` (utils/inet.h, as stored: family u8 (2 = IPv4, 3 = IPv6),
  bits u8, ipaddr[4 | 16]; no is_cidr byte on disk), `PATH` / `POLYGON` (at their layouts below).
  `decodeInet` reads the four IPv4 address bytes a second time at offsets 4..8, in a branch for payloads of at least 8 bytes (the wire
  format of `inet_send`, which PostgreSQL never stores; unreachable for a stored IPv4 value, `inet_v4_stored_length`): those reads are
  tied to `sendLayout`, NOT backed by a Spec encoder.  The IPv6 groups and the points are read at variable offsets and do not occur
  in `Generated.SrcReads`; the other constant-bounded reads of `decodeScalar` have no assignment target and the extractor does not
  list them.
-/
import PgVerif.Generated.Src
import PgVerif.Spec.Scalars
import PgVerif.Proofs.SrcTie.ReadsKit
import PgVerif.Lib.Lit
namespace PgVerif.Proofs.SrcTie.ScalarsReads
open PgVerif PgVerif.Spec.Scalars PgVerif.Proofs.SrcTie.ReadsKit

def intervalLayout : ReadsKit.Layout := [("time".toList, 8), ("day".toList, 4), ("month".toList, 4)]

def intervalMembers (months days us : Int) : List Bytes :=
  [le 8 (ofSigned 64 us), le 4 (ofSigned 32 days), le 4 (ofSigned 32 months)]

theorem interval_eq (months days us : Int) : enc (.interval months days us) = (intervalMembers months days us).flatten := by
  show le 8 _ ++ le 4 _ ++ le 4 _ = _
  simp only [intervalMembers, List.flatten_cons, List.flatten_nil, List.append_nil, List.append_assoc]

theorem interval_fits (months days us : Int) : Fits intervalLayout (intervalMembers months days us) := by
  simp [Fits, intervalMembers, intervalLayout, ReadsKit.Layout.widths]

theorem interval_read (months days us : Int) (name : List Char) (lo hi : Nat) (hs : intervalLayout.span name = some (lo, hi)) :
    ∃ (i : Nat) (q : Bytes), (intervalLayout[i]?).map Prod.fst = some name ∧ (intervalMembers months days us)[i]? = some q ∧
      ((enc (.interval months days us)).drop lo).take (hi - lo) = q := by
  rw [interval_eq, ← List.append_nil (intervalMembers months days us).flatten]
  exact read_member intervalLayout (intervalMembers months days us) [] (interval_fits months days us) name lo hi hs

def expectInterval : Expect :=
  [fld "us".toList intervalLayout "time".toList, fld "days".toList intervalLayout "day".toList,
   fld "months".toList intervalLayout "month".toList]

/-- **Every constant-bounded read of the current `decodeInterval` is one whole `Interval` member, the one its
target names** (`us` ← time @0, `days` ← day @8, `months` ← month @12). -/
theorem decodeInterval_reads_are_spec_fields :
    readsAreFields expectInterval Generated.SrcReads.decodeInterval = true := by
  unfold expectInterval intervalLayout Generated.SrcReads.decodeInterval
  rw [Lit.toList_eq_chars]
  decide +kernel

theorem decodeInterval_expected_fields_are_read :
    expectedAreRead expectInterval Generated.SrcReads.decodeInterval = true :=
  expectedAreRead_of_reads _ _ decodeInterval_reads_are_spec_fields (by
    unfold expectInterval intervalLayout Generated.SrcReads.decodeInterval
    rw [Lit.toList_eq_chars]
    decide +kernel)

def pointLayout : ReadsKit.Layout := [("x".toList, 8), ("y".toList, 8)]

def pointMembers (p : Pt) : List Bytes := [le 8 p.1, le 8 p.2]

theorem point_eq (p : Pt) : enc (.point p) = (pointMembers p).flatten := by
  show le 8 p.1 ++ le 8 p.2 = _
  simp only [pointMembers, List.flatten_cons, List.flatten_nil, List.append_nil]

theorem point_fits (p : Pt) : Fits pointLayout (pointMembers p) := by
  simp [Fits, pointMembers, pointLayout, ReadsKit.Layout.widths]

theorem point_read (p : Pt) (name : List Char) (lo hi : Nat) (hs : pointLayout.span name = some (lo, hi)) :
    ∃ (i : Nat) (q : Bytes), (pointLayout[i]?).map Prod.fst = some name ∧ (pointMembers p)[i]? = some q ∧
      ((enc (.point p)).drop lo).take (hi - lo) = q := by
  rw [point_eq, ← List.append_nil (pointMembers p).flatten]
  exact read_member pointLayout (pointMembers p) [] (point_fits p) name lo hi hs

def expectPoint : Expect := [fld "x".toList pointLayout "x".toList, fld "y".toList pointLayout "y".toList]

/-- **Every constant-bounded read of the current `decodePoint` is one whole `Point` member, the one its target
names.** -/
theorem decodePoint_reads_are_spec_fields :
    readsAreFields expectPoint Generated.SrcReads.decodePoint = true := by
  unfold expectPoint pointLayout Generated.SrcReads.decodePoint
  rw [Lit.toList_eq_chars]
  decide +kernel

theorem decodePoint_expected_fields_are_read :
    expectedAreRead expectPoint Generated.SrcReads.decodePoint = true :=
  expectedAreRead_of_reads _ _ decodePoint_reads_are_spec_fields (by
    unfold expectPoint pointLayout Generated.SrcReads.decodePoint
    rw [Lit.toList_eq_chars]
    decide +kernel)

def inet4Layout : ReadsKit.Layout :=
  [("family".toList, 1), ("bits".toList, 1), ("ipaddr[0]".toList, 1), ("ipaddr[1]".toList, 1), ("ipaddr[2]".toList, 1),
   ("ipaddr[3]".toList, 1)]

/-- the wire format of `inet_send` (network.c) for an IPv4 address: family, bits, is_cidr, nb, then the address.
NOT an on-disk layout and not backed by a Spec encoder -/
def sendLayout : ReadsKit.Layout :=
  [("family".toList, 1), ("bits".toList, 1), ("is_cidr".toList, 1), ("nb".toList, 1), ("ipaddr[0]".toList, 1),
   ("ipaddr[1]".toList, 1), ("ipaddr[2]".toList, 1), ("ipaddr[3]".toList, 1)]

def inetMembers (v6 : Bool) (addr : Bytes) (bits : Nat) : List Bytes :=
  [[if v6 then 3 else 2], [UInt8.ofNat bits]] ++ addr.map fun b => [b]

theorem flatten_singletons (bs : Bytes) : (bs.map fun b => [b]).flatten = bs := by
  induction bs with
  | nil => rfl
  | cons a t ih => simp [ih]

theorem inet_eq (cidr v6 : Bool) (addr : Bytes) (bits : Nat) :
    enc (.inet cidr v6 addr bits) = (inetMembers v6 addr bits).flatten := by
  show [_, _] ++ addr = _
  simp only [inetMembers, flatten_singletons, List.flatten_cons, 
    List.cons_append, List.nil_append]

theorem inet4_fits (cidr : Bool) (addr : Bytes) (bits : Nat) (h : (Val.inet cidr false addr bits).WF) :
    Fits inet4Layout (inetMembers false addr bits) := by
  have h' : (addr.length == 4 && _) = true := h
  have hl : addr.length = 4 := by
    simp only [Bool.and_eq_true, beq_iff_eq] at h'
    exact h'.1
  match addr, hl with
  | [a, b, c, d], _ => rfl

/-- hence `decodeInet` takes its short-format branch -/
theorem inet_v4_stored_length (cidr : Bool) (addr : Bytes) (bits : Nat) (h : (Val.inet cidr false addr bits).WF) :
    (enc (.inet cidr false addr bits)).length = 6 := by
  rw [inet_eq, fits_length inet4Layout _ (inet4_fits cidr addr bits h)]; decide

theorem inet4_read (cidr : Bool) (addr : Bytes) (bits : Nat) (h : (Val.inet cidr false addr bits).WF) (name : List Char)
    (lo hi : Nat) (hs : inet4Layout.span name = some (lo, hi)) :
    ∃ (i : Nat) (q : Bytes), (inet4Layout[i]?).map Prod.fst = some name ∧ (inetMembers false addr bits)[i]? = some q ∧
      ((enc (.inet cidr false addr bits)).drop lo).take (hi - lo) = q := by
  rw [inet_eq, ← List.append_nil (inetMembers false addr bits).flatten]
  exact read_member inet4Layout (inetMembers false addr bits) [] (inet4_fits cidr addr bits h) name lo hi hs

/-- `addr` is assigned in two branches: the stored form first, the `inet_send` form second -/
def expectInet : Expect :=
  [fld "family".toList inet4Layout "family".toList, fld "bits".toList inet4Layout "bits".toList,
   fld "addr".toList inet4Layout "ipaddr[0]".toList, fld "addr".toList inet4Layout "ipaddr[1]".toList,
   fld "addr".toList inet4Layout "ipaddr[2]".toList, fld "addr".toList inet4Layout "ipaddr[3]".toList,
   fld "addr".toList sendLayout "ipaddr[0]".toList, fld "addr".toList sendLayout "ipaddr[1]".toList,
   fld "addr".toList sendLayout "ipaddr[2]".toList, fld "addr".toList sendLayout "ipaddr[3]".toList]

/-- **Every constant-bounded read of the current `decodeInet` is one whole member: `family`, `bits` and the four
address bytes of the stored `inet_struct` (the branch every stored IPv4 value takes), then — in the IPv4 branch for
payloads of 8 bytes or more, which no stored IPv4 value reaches (`inet_v4_stored_length`) — the four address bytes of
the `inet_send` wire format (`sendLayout`, not a Spec layout).** -/
theorem decodeInet_reads_are_spec_fields :
    readsAreFields expectInet Generated.SrcReads.decodeInet = true := by
  unfold expectInet inet4Layout sendLayout Generated.SrcReads.decodeInet
  rw [Lit.toList_eq_chars]
  decide +kernel

theorem decodeInet_expected_fields_are_read :
    expectedAreRead expectInet Generated.SrcReads.decodeInet = true :=
  expectedAreRead_of_reads _ _ decodeInet_reads_are_spec_fields (by
    unfold expectInet inet4Layout sendLayout Generated.SrcReads.decodeInet
    rw [Lit.toList_eq_chars]
    decide +kernel)

/-- `PATH` (utils/geo_decls.h) after the varlena header: npts int32, closed int32, dummy int32, then the points -/
def pathLayout : ReadsKit.Layout := [("npts".toList, 4), ("closed".toList, 4), ("dummy".toList, 4)]

/-- `POLYGON` after the varlena header: npts int32, boundbox BOX (32 bytes), then the points -/
def polygonLayout : ReadsKit.Layout := [("npts".toList, 4), ("boundbox".toList, 32)]

/-- the head of `path_send`'s wire format (geo_ops.c): closed byte, npts int32 — the layout of the fallback branch, written
here from the PostgreSQL source and NOT backed by a Spec encoder (PostgreSQL never stores it) -/
def pathSendLayout : ReadsKit.Layout := [("closed".toList, 1), ("npts".toList, 4)]

def pathHead (closed : Bool) (pts : List Pt) : List Bytes := [le 4 pts.length, le 4 (if closed then 1 else 0), le 4 0]
def polygonHead (bbox : Bytes) (pts : List Pt) : List Bytes := [le 4 pts.length, bbox]

theorem path_eq (closed : Bool) (pts : List Pt) : enc (.path closed pts) = (pathHead closed pts).flatten ++ pts.flatMap encPt := by
  show le 4 _ ++ le 4 _ ++ le 4 0 ++ _ = _
  simp only [pathHead, List.flatten_cons, List.flatten_nil, List.append_nil, List.append_assoc]

theorem polygon_eq (bbox : Bytes) (pts : List Pt) : enc (.polygon bbox pts) = (polygonHead bbox pts).flatten ++ pts.flatMap encPt := by
  show le 4 _ ++ bbox ++ _ = _
  simp only [polygonHead, List.flatten_cons, List.flatten_nil, List.append_nil, List.append_assoc]

theorem path_fits (closed : Bool) (pts : List Pt) : Fits pathLayout (pathHead closed pts) := by
  simp [Fits, pathHead, pathLayout, ReadsKit.Layout.widths]

theorem polygon_fits (bbox : Bytes) (pts : List Pt) (h : (Val.polygon bbox pts).WF) : Fits polygonLayout (polygonHead bbox pts) := by
  have h' : (bbox.length == 32 && _ && _ && _) = true := h
  have hl : bbox.length = 32 := by
    simp only [Bool.and_eq_true, beq_iff_eq] at h'
    exact h'.1.1.1
  simp only [Fits, polygonHead, List.map_cons, List.map_nil, le_length, hl]
  rfl

theorem path_read (closed : Bool) (pts : List Pt) (name : List Char) (lo hi : Nat) (hs : pathLayout.span name = some (lo, hi)) :
    ∃ (i : Nat) (q : Bytes), (pathLayout[i]?).map Prod.fst = some name ∧ (pathHead closed pts)[i]? = some q ∧
      ((enc (.path closed pts)).drop lo).take (hi - lo) = q := by
  rw [path_eq]
  exact read_member pathLayout (pathHead closed pts) (pts.flatMap encPt) (path_fits closed pts) name lo hi hs

theorem polygon_read (bbox : Bytes) (pts : List Pt) (h : (Val.polygon bbox pts).WF) (name : List Char) (lo hi : Nat)
    (hs : polygonLayout.span name = some (lo, hi)) :
    ∃ (i : Nat) (q : Bytes), (polygonLayout[i]?).map Prod.fst = some name ∧ (polygonHead bbox pts)[i]? = some q ∧
      ((enc (.polygon bbox pts)).drop lo).take (hi - lo) = q := by
  rw [polygon_eq]
  exact read_member polygonLayout (polygonHead bbox pts) (pts.flatMap encPt) (polygon_fits bbox pts h) name lo hi hs

/-- `closed` is assigned in two branches: the stored form first, the `path_send` form (fallback) second -/
def expectPath : Expect :=
  [fld "n".toList pathLayout "npts".toList, fld "closed".toList pathLayout "closed".toList,
   fld "closed".toList pathSendLayout "closed".toList, fld "npts".toList pathSendLayout "npts".toList]

/-- **Every constant-bounded read of the current `decodePathOrPolygon` is one whole member: `n` ← npts @0 and `closed` ←
closed @4 of the stored `PATH` (npts sits at the same span in `POLYGON`: `polygon_npts_same_span`), then — in the fallback
branch, which no stored value reaches (`Props.C04.C04_path_layouts`) — the closed byte @0 and npts @1 of the `path_send`
wire format (`pathSendLayout`, not a Spec layout).**  The points are read at variable offsets (`first + i*16`) and do
not occur in `Generated.SrcReads`. -/
theorem decodePathOrPolygon_reads_are_spec_fields :
    readsAreFields expectPath Generated.SrcReads.decodePathOrPolygon = true := by
  unfold expectPath pathLayout pathSendLayout Generated.SrcReads.decodePathOrPolygon
  rw [Lit.toList_eq_chars]
  decide +kernel

theorem decodePathOrPolygon_expected_fields_are_read :
    expectedAreRead expectPath Generated.SrcReads.decodePathOrPolygon = true :=
  expectedAreRead_of_reads _ _ decodePathOrPolygon_reads_are_spec_fields (by
    unfold expectPath pathLayout pathSendLayout Generated.SrcReads.decodePathOrPolygon
    rw [Lit.toList_eq_chars]
    decide +kernel)

theorem polygon_npts_same_span : polygonLayout.span "npts".toList = pathLayout.span "npts".toList := by decide

/-- the hypotheses are satisfiable: 192.168.0.1/24 -/
example : (Val.inet false false [192, 168, 0, 1] 24).WF ∧ inet4Layout.span "ipaddr[3]".toList = some (5, 6) ∧
    intervalLayout.span "month".toList = some (12, 16) ∧ pointLayout.span "y".toList = some (8, 16) ∧
    pathLayout.span "closed".toList = some (4, 8) ∧ polygonLayout.span "boundbox".toList = some (4, 36) ∧
    (Val.polygon (zeros 32) [(0, 0)]).WF := by decide +kernel

end PgVerif.Proofs.SrcTie.ScalarsReads
