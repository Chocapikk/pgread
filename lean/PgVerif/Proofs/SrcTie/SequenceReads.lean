/-
  Source tie for IsSequenceFile, ParseSequenceFile, parseSequenceTuple (sequence.go, C20; kit: `ReadsKit`): each constant-bounded read is
  one whole member of the page `Spec.encSeqPage` writes (`PageHeaderData` with the first line pointer, `HeapTupleHeaderData` up to t_hoff,
  `FormData_pg_sequence_data` at t_hoff), the one its target names.  srcfacts does not record which slice a read indexes (page, tuple,
  tuple data): the tables say it by naming the layout, checked against sequence.go.  Not covered (not constant-bounded): the magic
  `data[special:]`, the tuple slice, `tupleData[hoff:]`, the PostgreSQL ≤ 9.6 branch of `parseSequenceTuple`; log_cnt is not read.
-/
import PgVerif.Generated.Src
import PgVerif.Spec.Sequence
import PgVerif.Proofs.SrcTie.ReadsKit
import PgVerif.Lib.Lit
namespace PgVerif.Proofs.SrcTie.SequenceReads
open PgVerif PgVerif.Spec PgVerif.Proofs.SrcTie.ReadsKit

/-- `PageHeaderData` (bufpage.h; pd_lsn, pd_checksum, pd_flags as the Spec's one 12-byte blob) with the first line pointer -/
def pageLayout : Layout :=
  [("pd_lsn,pd_checksum,pd_flags".toList, 12), ("pd_lower".toList, 2), ("pd_upper".toList, 2), ("pd_special".toList, 2),
   ("pd_pagesize_version".toList, 2), ("pd_prune_xid".toList, 4), ("pd_linp[0]".toList, 4)]

/-- `HeapTupleHeaderData` (htup_details.h) up to t_hoff -/
def tupleLayout : Layout :=
  [("t_xmin".toList, 4), ("t_xmax".toList, 4), ("t_cid".toList, 4), ("t_ctid".toList, 6), ("t_infomask2".toList, 2),
   ("t_infomask".toList, 2), ("t_hoff".toList, 1)]

/-- `FormData_pg_sequence_data` (sequence.h) -/
def dataLayout : Layout := [("last_value".toList, 8), ("log_cnt".toList, 8), ("is_called".toList, 1)]

def pageMembers (p : SeqPage) : List Bytes :=
  [p.hdr0, le 2 28, le 2 p.tupOff, le 2 8184, le 2 (8192 + 4), le 4 p.prune, le 4 (p.tupOff + 2 ^ 15 * 1 + 2 ^ 17 * p.tupLen)]

def pageRest (p : SeqPage) : Bytes :=
  zeros (p.tupOff - 28) ++ (p.tuple ++ (zeros (8184 - p.tupOff - p.tupLen) ++ (le 4 seqMagic ++ zeros 4)))

theorem encSeqPage_eq (p : SeqPage) : encSeqPage p = (pageMembers p).flatten ++ pageRest p := by
  simp [encSeqPage, pageMembers, pageRest, List.append_assoc]

theorem page_fits (p : SeqPage) (h : p.WF) : Fits pageLayout (pageMembers p) := by
  simp [Fits, pageMembers, pageLayout, Layout.widths, h.1]

def tupleMembers (p : SeqPage) : List Bytes :=
  [le 4 p.xmin, le 4 p.xmax, le 4 p.cid, p.ctid, le 2 p.infomask2, le 2 p.infomask, [UInt8.ofNat p.hoff]]

def dataMembers (s : SeqState) : List Bytes :=
  [le 8 (ofSigned 64 s.lastValue), le 8 (ofSigned 64 s.logCnt), [b2byte s.isCalled]]

theorem tuple_eq (p : SeqPage) : p.tuple = (tupleMembers p).flatten ++ (p.mid ++ (dataMembers p.st).flatten) := by
  simp [SeqPage.tuple, tupleMembers, dataMembers, List.append_assoc]

theorem tuple_fits (p : SeqPage) (h : p.WF) : Fits tupleLayout (tupleMembers p) := by
  simp [Fits, tupleMembers, tupleLayout, Layout.widths, h.2.2.2.2.2.1]

theorem data_fits (s : SeqState) : Fits dataLayout (dataMembers s) := by
  simp [Fits, dataMembers, dataLayout, Layout.widths]

theorem sizes : pageLayout.size = 28 ∧ tupleLayout.size = 23 ∧ dataLayout.size = 17 := by decide +kernel

theorem tuple_data (p : SeqPage) (h : p.WF) : p.tuple.drop p.hoff = (dataMembers p.st).flatten := by
  have hl : ((tupleMembers p).flatten ++ p.mid).length = p.hoff := by
    rw [List.length_append, fits_length tupleLayout _ (tuple_fits p h)]
    rw [sizes.2.1, SeqPage.hoff]
  rw [tuple_eq, ← List.append_assoc, ← hl, List.drop_left]

theorem encSeqPage_read (p : SeqPage) (h : p.WF) (name : List Char) (lo hi : Nat) (hs : pageLayout.span name = some (lo, hi)) :
    ∃ (i : Nat) (q : Bytes), (pageLayout[i]?).map Prod.fst = some name ∧ (pageMembers p)[i]? = some q ∧
      ((encSeqPage p).drop lo).take (hi - lo) = q := by
  have := read_member pageLayout (pageMembers p) (pageRest p) (page_fits p h) name lo hi hs
  simpa [encSeqPage_eq] using this

theorem tuple_read (p : SeqPage) (h : p.WF) (name : List Char) (lo hi : Nat) (hs : tupleLayout.span name = some (lo, hi)) :
    ∃ (i : Nat) (q : Bytes), (tupleLayout[i]?).map Prod.fst = some name ∧ (tupleMembers p)[i]? = some q ∧
      (p.tuple.drop lo).take (hi - lo) = q := by
  have := read_member tupleLayout (tupleMembers p) (p.mid ++ (dataMembers p.st).flatten) (tuple_fits p h) name lo hi hs
  simpa [tuple_eq] using this

theorem data_read (p : SeqPage) (h : p.WF) (name : List Char) (lo hi : Nat) (hs : dataLayout.span name = some (lo, hi)) :
    ∃ (i : Nat) (q : Bytes), (dataLayout[i]?).map Prod.fst = some name ∧ (dataMembers p.st)[i]? = some q ∧
      ((p.tuple.drop p.hoff).drop lo).take (hi - lo) = q := by
  have := read_member dataLayout (dataMembers p.st) [] (data_fits p.st) name lo hi hs
  simpa [tuple_data p h] using this

def expectIs : Expect := [fld "special".toList pageLayout "pd_special".toList]

/-- the one read of `IsSequenceFile` is the whole pd_special -/
theorem IsSequenceFile_reads_are_spec_fields :
    readsAreFields expectIs Generated.SrcReads.IsSequenceFile = true := by
  unfold expectIs pageLayout Generated.SrcReads.IsSequenceFile
  rw [Lit.toList_eq_chars]
  decide +kernel

theorem IsSequenceFile_expected_fields_are_read :
    expectedAreRead expectIs Generated.SrcReads.IsSequenceFile = true :=
  expectedAreRead_of_reads _ _ IsSequenceFile_reads_are_spec_fields (by
    unfold expectIs pageLayout Generated.SrcReads.IsSequenceFile
    rw [Lit.toList_eq_chars]
    decide +kernel)

def expectFile : Expect :=
  [fld "special".toList pageLayout "pd_special".toList, fld "lower".toList pageLayout "pd_lower".toList,
   fld "itemPtr".toList pageLayout "pd_linp[0]".toList, fld "hoff".toList tupleLayout "t_hoff".toList]

/-- `special` ← pd_special, `lower` ← pd_lower, `itemPtr` ← the first line pointer (page offset 24), `hoff` ← t_hoff (tuple offset 22) -/
theorem ParseSequenceFile_reads_are_spec_fields :
    readsAreFields expectFile Generated.SrcReads.ParseSequenceFile = true := by
  unfold expectFile pageLayout tupleLayout Generated.SrcReads.ParseSequenceFile
  rw [Lit.toList_eq_chars]
  decide +kernel

theorem ParseSequenceFile_expected_fields_are_read :
    expectedAreRead expectFile Generated.SrcReads.ParseSequenceFile = true :=
  expectedAreRead_of_reads _ _ ParseSequenceFile_reads_are_spec_fields (by
    unfold expectFile pageLayout tupleLayout Generated.SrcReads.ParseSequenceFile
    rw [Lit.toList_eq_chars]
    decide +kernel)

def expectTuple : Expect :=
  [fld "seq.LastValue".toList dataLayout "last_value".toList, fld "seq.IsCalled".toList dataLayout "is_called".toList]

/-- the PostgreSQL ≥ 10 branch: `seq.LastValue` ← last_value @0, `seq.IsCalled` ← is_called @16 -/
theorem parseSequenceTuple_reads_are_spec_fields :
    readsAreFields expectTuple Generated.SrcReads.parseSequenceTuple = true := by
  unfold expectTuple dataLayout Generated.SrcReads.parseSequenceTuple
  rw [Lit.toList_eq_chars]
  decide +kernel

theorem parseSequenceTuple_expected_fields_are_read :
    expectedAreRead expectTuple Generated.SrcReads.parseSequenceTuple = true :=
  expectedAreRead_of_reads _ _ parseSequenceTuple_reads_are_spec_fields (by
    unfold expectTuple dataLayout Generated.SrcReads.parseSequenceTuple
    rw [Lit.toList_eq_chars]
    decide +kernel)

/-- the hypotheses are satisfiable: a sequence at 41, called -/
example : (⟨⟨41, 32, true⟩, zeros 12, 0, 700, 0, 0, zeros 6, 3, 0x0900, [0]⟩ : SeqPage).WF ∧
    dataLayout.span "is_called".toList = some (16, 17) ∧ pageLayout.span "pd_linp[0]".toList = some (24, 28) := by decide +kernel

end PgVerif.Proofs.SrcTie.SequenceReads
