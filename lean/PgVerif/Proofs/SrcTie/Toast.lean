/-
  The integer constants of toast.go as harness/cmd/srcfacts extracts them from the current source (Generated/Src.lean), against the
  values written here by hand.  Only `ToastCompressionLZ4` is read by the code (ReassembleTOAST; the model writes `p.method == 1`);
  the other four are used by no Go code (ParseTOASTPointer and IsTOASTPointer compare with the literals 0x01, 0x02, 0x12, as the
  model does).
-/
import PgVerif.Generated.Src
namespace PgVerif.Proofs.SrcTie.Toast
open PgVerif.Generated
theorem toast_ToastCompressionPGLZ : Src.toast.ToastCompressionPGLZ = 0 := by decide
theorem toast_ToastCompressionLZ4 : Src.toast.ToastCompressionLZ4 = 1 := by decide
theorem toast_VarTagExternal : Src.toast.VarTagExternal = 1 := by decide
theorem toast_VarTagCompressedExternal : Src.toast.VarTagCompressedExternal = 2 := by decide
theorem toast_VarTagIndirect : Src.toast.VarTagIndirect = 1 := by decide
end PgVerif.Proofs.SrcTie.Toast
