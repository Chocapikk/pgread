/-
  Source tie for the on-disk TOAST pointer (C08), translator style (`ReadsKit`).  PostgreSQL's external pointer is `varattrib_1b_e`
  {va_header u8 = 0x01, va_tag u8 = 18 (VARTAG_ONDISK)} followed by `varatt_external` {va_rawsize i32, va_extinfo u32, va_valueid Oid,
  va_toastrelid Oid} (postgres.h / varatt.h), 18 bytes, as `Spec.Toast.encExtPtr` writes it.
  `ParseTOASTPointer` and `IsTOASTPointer` have ONE constant-bounded read each, `data[0]` = `va_header` (the Go variable is called
  `tag`, but `va_tag` = `data[1]` is read by neither; that 0x02 / 0x12 are accepted as first byte is the recorded finding held in place
  by TestIsTOASTPointer / TestParseTOASTPointer, not a matter of offsets).
  Not covered: `ParseTOASTPointer` reads the four `varatt_external` members as `data[offset : offset+4]` with a running `offset`, so
  they are not constant-bounded and do not occur in `Generated.SrcReads`; the model and the correspondence family tie them
  (Proofs/ToastPtr.lean, C08).  `toastVisible` (fixes/toast/21) has two constant-bounded reads, tied to t_infomask and t_xmin of
  `HeapTupleHeaderData` as `Spec.encTuple` writes it (`HeapReads.tupleLayout`).
-/
import PgVerif.Generated.Src
import PgVerif.Spec.Toast
import PgVerif.Proofs.SrcTie.ReadsKit
import PgVerif.Lib.Lit
import PgVerif.Proofs.SrcTie.HeapReads
namespace PgVerif.Proofs.SrcTie.ToastReads
open PgVerif PgVerif.Spec.Toast PgVerif.Proofs.SrcTie.ReadsKit

/-- `varattrib_1b_e` + `varatt_external` -/
def layout : ReadsKit.Layout :=
  [("va_header".toList, 1), ("va_tag".toList, 1), ("va_rawsize".toList, 4), ("va_extinfo".toList, 4),
   ("va_valueid".toList, 4), ("va_toastrelid".toList, 4)]

def members (p : ExtPtr) : List Bytes :=
  [[1], [18], le 4 p.rawsize, le 4 (p.extsize + 2 ^ 30 * p.method), le 4 p.valueid, le 4 p.toastrelid]

theorem enc_eq (p : ExtPtr) : encExtPtr p = (members p).flatten := by
  simp [encExtPtr, members]

theorem fits (p : ExtPtr) : Fits layout (members p) := by
  simp only [Fits, members, layout, ReadsKit.Layout.widths, List.map, le_length, List.length_cons, List.length_nil]

theorem enc_length (p : ExtPtr) : (encExtPtr p).length = 18 := by
  rw [enc_eq, fits_length layout _ (fits p)]; decide

theorem enc_read (p : ExtPtr) (rest : Bytes) (name : List Char) (lo hi : Nat) (hs : layout.span name = some (lo, hi)) :
    ∃ (i : Nat) (q : Bytes), (layout[i]?).map Prod.fst = some name ∧ (members p)[i]? = some q ∧
      ((encExtPtr p ++ rest).drop lo).take (hi - lo) = q := by
  rw [enc_eq]
  exact read_member layout (members p) rest (fits p) name lo hi hs

/-- the offsets DESIGN.md section 3 gives for the pointer: rawsize @2, extinfo @6, valueid @10, toastrelid @14 -/
theorem layout_offsets :
    layout.span "va_rawsize".toList = some (2, 6) ∧ layout.span "va_extinfo".toList = some (6, 10) ∧
    layout.span "va_valueid".toList = some (10, 14) ∧ layout.span "va_toastrelid".toList = some (14, 18) := by decide +kernel

def expectParse : Expect := [fld "tag".toList layout "va_header".toList]
def expectIs : Expect := [fld "first".toList layout "va_header".toList]

/-- **The only constant-bounded read of the current `ParseTOASTPointer` is the whole `va_header` byte.** -/
theorem ParseTOASTPointer_reads_are_spec_fields :
    readsAreFields expectParse Generated.SrcReads.ParseTOASTPointer = true := by
  unfold expectParse layout Generated.SrcReads.ParseTOASTPointer
  rw [Lit.toList_eq_chars]
  decide +kernel

theorem ParseTOASTPointer_expected_fields_are_read :
    expectedAreRead expectParse Generated.SrcReads.ParseTOASTPointer = true :=
  expectedAreRead_of_reads _ _ ParseTOASTPointer_reads_are_spec_fields (by
    unfold expectParse layout Generated.SrcReads.ParseTOASTPointer
    rw [Lit.toList_eq_chars]
    decide +kernel)

/-- **The only constant-bounded read of the current `IsTOASTPointer` is the whole `va_header` byte.** -/
theorem IsTOASTPointer_reads_are_spec_fields :
    readsAreFields expectIs Generated.SrcReads.IsTOASTPointer = true := by
  unfold expectIs layout Generated.SrcReads.IsTOASTPointer
  rw [Lit.toList_eq_chars]
  decide +kernel

theorem IsTOASTPointer_expected_fields_are_read :
    expectedAreRead expectIs Generated.SrcReads.IsTOASTPointer = true :=
  expectedAreRead_of_reads _ _ IsTOASTPointer_reads_are_spec_fields (by
    unfold expectIs layout Generated.SrcReads.IsTOASTPointer
    rw [Lit.toList_eq_chars]
    decide +kernel)

/-- the hypothesis of `enc_read` is satisfiable: `va_header` is byte 0, `va_tag` byte 1 -/
example : layout.span "va_header".toList = some (0, 1) ∧ layout.span "va_tag".toList = some (1, 2) := by decide +kernel

def expectVisible : Expect :=
  [fld "infomask".toList HeapReads.tupleLayout "t_infomask".toList, fld "xmin".toList HeapReads.tupleLayout "t_xmin".toList]

/-- **Every constant-bounded read of `toastVisible` is one whole `HeapTupleHeaderData` member, the one its target names**
(`infomask` ← t_infomask @20, `xmin` ← t_xmin @0) — and nothing else of the header (t_xmax @4 in particular) is read. -/
theorem toastVisible_reads_are_spec_fields :
    readsAreFields expectVisible Generated.SrcReads.toastVisible = true := by
  unfold expectVisible  Generated.SrcReads.toastVisible
  rw [Lit.toList_eq_chars]
  decide +kernel

theorem toastVisible_expected_fields_are_read :
    expectedAreRead expectVisible Generated.SrcReads.toastVisible = true :=
  expectedAreRead_of_reads _ _ toastVisible_reads_are_spec_fields (by
    unfold expectVisible  Generated.SrcReads.toastVisible
    rw [Lit.toList_eq_chars]
    decide +kernel)

example : HeapReads.tupleLayout.span "t_xmin".toList = some (0, 4) ∧ HeapReads.tupleLayout.span "t_infomask".toList = some (20, 22) := by
  decide +kernel

end PgVerif.Proofs.SrcTie.ToastReads
