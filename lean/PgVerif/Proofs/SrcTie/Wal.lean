/-
  Source-level tie for area `wal`: every package-level integer constant of wal.go, as harness/cmd/srcfacts extracts it from the
  current source (Generated/Src.lean, rewritten on every run), equals the value the model and the Spec are written with; a changed
  constant breaks its theorem at build time.  Hand-written expectations.
-/
import PgVerif.Generated.Src
import PgVerif.Model.Wal
import PgVerif.Spec.Wal
namespace PgVerif.Proofs.SrcTie.Wal
open PgVerif.Generated
theorem wal_WAL_MAGIC_16 : Src.wal.WAL_MAGIC_16 = 0xd113 := by decide
theorem wal_WAL_MAGIC_15 : Src.wal.WAL_MAGIC_15 = 0xd110 := by decide
theorem wal_WAL_MAGIC_14 : Src.wal.WAL_MAGIC_14 = 0xd10d := by decide
theorem wal_WAL_MAGIC_13 : Src.wal.WAL_MAGIC_13 = 0xd106 := by decide
theorem wal_WAL_MAGIC_12 : Src.wal.WAL_MAGIC_12 = 0xd101 := by decide
theorem wal_WALPageSize : Src.wal.WALPageSize = 0x2000 := by decide
theorem wal_XLogRecordSize : Src.wal.XLogRecordSize = 24 := by decide
theorem wal_ShortHeaderSize : Src.wal.ShortHeaderSize = 24 := by decide
theorem wal_LongHeaderSize : Src.wal.LongHeaderSize = 40 := by decide
/-- fixes/wal/11: the bound parseXLogRecord puts on xl_tot_len is PostgreSQL's XLogRecordMaxSize (xlogrecord.h: 1020 MiB); the
constants of the source, of the model and of `Spec.Wal.WalRecord.WF` are one number -/
theorem wal_XLogRecordMaxSize : Src.wal.XLogRecordMaxSize = 1069547520 := by decide
theorem wal_XLogRecordMaxSize_model : Src.wal.XLogRecordMaxSize = (Model.Wal.xlogRecordMaxSize : Int) ∧
    Src.wal.XLogRecordMaxSize = (Spec.Wal.xlogRecordMaxSize : Int) := by decide
theorem wal_XLP_FIRST_IS_CONTRECORD : Src.wal.XLP_FIRST_IS_CONTRECORD = 1 := by decide
theorem wal_XLP_LONG_HEADER : Src.wal.XLP_LONG_HEADER = 2 := by decide
theorem wal_XLP_BKP_REMOVABLE : Src.wal.XLP_BKP_REMOVABLE = 4 := by decide
theorem wal_RM_XLOG_ID : Src.wal.RM_XLOG_ID = 0 := by decide
theorem wal_RM_XACT_ID : Src.wal.RM_XACT_ID = 1 := by decide
theorem wal_RM_SMGR_ID : Src.wal.RM_SMGR_ID = 2 := by decide
theorem wal_RM_CLOG_ID : Src.wal.RM_CLOG_ID = 3 := by decide
theorem wal_RM_DBASE_ID : Src.wal.RM_DBASE_ID = 4 := by decide
theorem wal_RM_TBLSPC_ID : Src.wal.RM_TBLSPC_ID = 5 := by decide
theorem wal_RM_MULTIXACT_ID : Src.wal.RM_MULTIXACT_ID = 6 := by decide
theorem wal_RM_RELMAP_ID : Src.wal.RM_RELMAP_ID = 7 := by decide
theorem wal_RM_STANDBY_ID : Src.wal.RM_STANDBY_ID = 8 := by decide
theorem wal_RM_HEAP2_ID : Src.wal.RM_HEAP2_ID = 9 := by decide
theorem wal_RM_HEAP_ID : Src.wal.RM_HEAP_ID = 10 := by decide
theorem wal_RM_BTREE_ID : Src.wal.RM_BTREE_ID = 11 := by decide
theorem wal_RM_HASH_ID : Src.wal.RM_HASH_ID = 12 := by decide
theorem wal_RM_GIN_ID : Src.wal.RM_GIN_ID = 13 := by decide
theorem wal_RM_GIST_ID : Src.wal.RM_GIST_ID = 14 := by decide
theorem wal_RM_SEQ_ID : Src.wal.RM_SEQ_ID = 15 := by decide
theorem wal_RM_SPGIST_ID : Src.wal.RM_SPGIST_ID = 16 := by decide
theorem wal_RM_BRIN_ID : Src.wal.RM_BRIN_ID = 17 := by decide
theorem wal_RM_COMMIT_TS_ID : Src.wal.RM_COMMIT_TS_ID = 18 := by decide
theorem wal_RM_REPLORIGIN_ID : Src.wal.RM_REPLORIGIN_ID = 19 := by decide
theorem wal_RM_GENERIC_ID : Src.wal.RM_GENERIC_ID = 20 := by decide
theorem wal_RM_LOGICALMSG_ID : Src.wal.RM_LOGICALMSG_ID = 21 := by decide
theorem wal_XLOG_HEAP_INSERT : Src.wal.XLOG_HEAP_INSERT = 0 := by decide
theorem wal_XLOG_HEAP_DELETE : Src.wal.XLOG_HEAP_DELETE = 16 := by decide
theorem wal_XLOG_HEAP_UPDATE : Src.wal.XLOG_HEAP_UPDATE = 32 := by decide
theorem wal_XLOG_HEAP_TRUNCATE : Src.wal.XLOG_HEAP_TRUNCATE = 48 := by decide
theorem wal_XLOG_HEAP_HOT_UPDATE : Src.wal.XLOG_HEAP_HOT_UPDATE = 64 := by decide
theorem wal_XLOG_HEAP_CONFIRM : Src.wal.XLOG_HEAP_CONFIRM = 80 := by decide
theorem wal_XLOG_HEAP_LOCK : Src.wal.XLOG_HEAP_LOCK = 96 := by decide
theorem wal_XLOG_HEAP_INPLACE : Src.wal.XLOG_HEAP_INPLACE = 112 := by decide
/-- fixes/wal/12: XLOG_HEAP_INIT_PAGE (heapam_xlog.h; also XLOG_BRIN_INIT_PAGE), the bit operationNameFor keeps in the
opcode of Heap, Heap2 and BRIN records -/
theorem wal_XLOG_HEAP_INIT_PAGE : Src.wal.XLOG_HEAP_INIT_PAGE = 128 := by decide
theorem wal_XLOG_XACT_COMMIT : Src.wal.XLOG_XACT_COMMIT = 0 := by decide
theorem wal_XLOG_XACT_PREPARE : Src.wal.XLOG_XACT_PREPARE = 16 := by decide
theorem wal_XLOG_XACT_ABORT : Src.wal.XLOG_XACT_ABORT = 32 := by decide
theorem wal_XLOG_XACT_COMMIT_PREPARED : Src.wal.XLOG_XACT_COMMIT_PREPARED = 48 := by decide
theorem wal_XLOG_XACT_ABORT_PREPARED : Src.wal.XLOG_XACT_ABORT_PREPARED = 64 := by decide
theorem wal_XLOG_XACT_ASSIGNMENT : Src.wal.XLOG_XACT_ASSIGNMENT = 80 := by decide
end PgVerif.Proofs.SrcTie.Wal
