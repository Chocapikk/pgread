/-
  Source-level tie for WAL pages and records (C17), translator style (see `ReadsKit`): the constant-bounded reads of
  `parsePageHeader`, `parseXLogRecord`, `parseWALPage` and `ScanWALDirectory` (wal.go) against `XLogPageHeaderData` /
  `XLogLongPageHeaderData` (xlog_internal.h) and `XLogRecord` (xlogrecord.h) as the Spec encoders write them.
  `parsePageHeader` and `parseXLogRecord` build their result in a composite literal assigned to `h` / `rec`: srcfacts names all
  reads inside the literal after that variable, so they are tied by order (the order of the literal's keys).
  Not covered (not constant-bounded): the block reference headers (`parseBlockRefsFor`) and the continuation logic.
-/
import PgVerif.Generated.Src
import PgVerif.Spec.Wal
import PgVerif.Proofs.SrcTie.ReadsKit
import PgVerif.Lib.Lit
namespace PgVerif.Proofs.SrcTie.WalReads
open PgVerif PgVerif.Spec.Wal PgVerif.Proofs.SrcTie.ReadsKit

/-- `XLogPageHeaderData` (MAXALIGNed: 24 bytes) -/
def shortLayout : ReadsKit.Layout :=
  [("xlp_magic".toList, 2), ("xlp_info".toList, 2), ("xlp_tli".toList, 4), ("xlp_pageaddr".toList, 8),
   ("xlp_rem_len".toList, 4), ("(padding)".toList, 4)]

/-- `XLogLongPageHeaderData` = the short header + three members -/
def longLayout : ReadsKit.Layout :=
  shortLayout ++ [("xlp_sysid".toList, 8), ("xlp_seg_size".toList, 4), ("xlp_xlog_blcksz".toList, 4)]

def shortMembers (magic info tli addr rem : Nat) : List Bytes :=
  [le 2 magic, le 2 info, le 4 tli, le 8 addr, le 4 rem, zeros 4]

/-- the members of the header of page 0 of a segment -/
def longMembers (s : WalSegment) (rem : Nat) : List Bytes :=
  shortMembers s.magic (pageInfo s 0 rem) s.tli (s.startAddr + 8192 * 0) rem ++ [le 8 s.sysid, le 4 s.segSize, le 4 8192]

theorem pageHdrBytes_eq (magic info tli addr rem : Nat) (ext : Bytes) :
    pageHdrBytes magic info tli addr rem ext = (shortMembers magic info tli addr rem).flatten ++ ext := by
  simp [pageHdrBytes, shortMembers]

theorem pageHeader0_eq (s : WalSegment) (rem : Nat) : pageHeader s 0 rem = (longMembers s rem).flatten := by
  simp [pageHeader, pageHdrBytes, longExt, longMembers, shortMembers]

theorem short_fits (magic info tli addr rem : Nat) : Fits shortLayout (shortMembers magic info tli addr rem) := by
  rfl

theorem long_fits (s : WalSegment) (rem : Nat) : Fits longLayout (longMembers s rem) := by
  rfl

/-- `ShortHeaderSize` and `LongHeaderSize` -/
theorem header_sizes : shortLayout.size = 24 ∧ longLayout.size = 40 := by decide

theorem pageHeader_read (s : WalSegment) (k rem : Nat) (rest : Bytes) (name : List Char) (lo hi : Nat)
    (hs : shortLayout.span name = some (lo, hi)) :
    ∃ (i : Nat) (q : Bytes), (shortLayout[i]?).map Prod.fst = some name ∧
      (shortMembers s.magic (pageInfo s k rem) s.tli (s.startAddr + 8192 * k) rem)[i]? = some q ∧
      ((pageHeader s k rem ++ rest).drop lo).take (hi - lo) = q := by
  have := read_member shortLayout _ (longExt s k ++ rest) (short_fits s.magic (pageInfo s k rem) s.tli (s.startAddr + 8192 * k) rem)
    name lo hi hs
  simpa [pageHeader, pageHdrBytes_eq, List.append_assoc] using this

theorem pageHeader0_read (s : WalSegment) (rem : Nat) (rest : Bytes) (name : List Char) (lo hi : Nat)
    (hs : longLayout.span name = some (lo, hi)) :
    ∃ (i : Nat) (q : Bytes), (longLayout[i]?).map Prod.fst = some name ∧ (longMembers s rem)[i]? = some q ∧
      ((pageHeader s 0 rem ++ rest).drop lo).take (hi - lo) = q := by
  have := read_member longLayout (longMembers s rem) rest (long_fits s rem) name lo hi hs
  simpa [pageHeader0_eq] using this

/-- target in wal.go ↦ member; the five reads named `h` are the values of the literal's keys in source order -/
def expectPageHeader : Expect :=
  [fld "h".toList longLayout "xlp_magic".toList,        -- Magic:
   fld "h".toList longLayout "xlp_info".toList,         -- Info:
   fld "h".toList longLayout "xlp_tli".toList,          -- TimelineID:
   fld "h".toList longLayout "xlp_pageaddr".toList,     -- PageAddr:
   fld "h".toList longLayout "xlp_rem_len".toList,      -- RemLen:
   fld "h.SystemID".toList longLayout "xlp_sysid".toList, fld "h.SegSize".toList longLayout "xlp_seg_size".toList,
   fld "h.BlockSize".toList longLayout "xlp_xlog_blcksz".toList]

/-- every constant-bounded read of the current `parsePageHeader` is one whole member of `XLogLongPageHeaderData`, the one
`expectPageHeader` lists for it -/
theorem parsePageHeader_reads_are_spec_fields :
    readsAreFields expectPageHeader Generated.SrcReads.parsePageHeader = true := by
  unfold expectPageHeader longLayout Generated.SrcReads.parsePageHeader
  rw [Lit.toList_eq_chars]
  decide +kernel

theorem parsePageHeader_expected_fields_are_read :
    expectedAreRead expectPageHeader Generated.SrcReads.parsePageHeader = true :=
  expectedAreRead_of_reads _ _ parsePageHeader_reads_are_spec_fields (by
    unfold expectPageHeader longLayout Generated.SrcReads.parsePageHeader
    rw [Lit.toList_eq_chars]
    decide +kernel)

/-- `ScanWALDirectory` looks at the first page header of a segment file directly -/
def expectScan : Expect :=
  [fld "magic".toList longLayout "xlp_magic".toList, fld "summary.TimelineID".toList longLayout "xlp_tli".toList]

/-- the constant-bounded reads of the current `ScanWALDirectory` are xlp_magic and xlp_tli of the first page -/
theorem ScanWALDirectory_reads_are_spec_fields :
    readsAreFields expectScan Generated.SrcReads.ScanWALDirectory = true := by
  unfold expectScan longLayout Generated.SrcReads.ScanWALDirectory
  rw [Lit.toList_eq_chars]
  decide +kernel

theorem ScanWALDirectory_expected_fields_are_read :
    expectedAreRead expectScan Generated.SrcReads.ScanWALDirectory = true :=
  expectedAreRead_of_reads _ _ ScanWALDirectory_reads_are_spec_fields (by
    unfold expectScan longLayout Generated.SrcReads.ScanWALDirectory
    rw [Lit.toList_eq_chars]
    decide +kernel)

/-- `XLogRecord` -/
def recLayout : ReadsKit.Layout :=
  [("xl_tot_len".toList, 4), ("xl_xid".toList, 4), ("xl_prev".toList, 8), ("xl_info".toList, 1), ("xl_rmid".toList, 1),
   ("(padding)".toList, 2), ("xl_crc".toList, 4)]

def recMembers (r : WalRecord) : List Bytes :=
  [le 4 r.totLen, le 4 r.xid, le 8 r.prev, [UInt8.ofNat r.info], [UInt8.ofNat r.rmid], [0, 0], le 4 r.crc]

theorem encRecord_eq (r : WalRecord) : encRecord r = (recMembers r).flatten ++ encBody r := by
  simp [encRecord, encRecHeader, recMembers]

theorem rec_fits (r : WalRecord) : Fits recLayout (recMembers r) := by
  rfl

/-- `XLogRecordSize` -/
theorem rec_header_size : recLayout.size = 24 := by decide

theorem encRecord_read (r : WalRecord) (rest : Bytes) (name : List Char) (lo hi : Nat)
    (hs : recLayout.span name = some (lo, hi)) :
    ∃ (i : Nat) (q : Bytes), (recLayout[i]?).map Prod.fst = some name ∧ (recMembers r)[i]? = some q ∧
      ((encRecord r ++ rest).drop lo).take (hi - lo) = q := by
  have := read_member recLayout (recMembers r) (encBody r ++ rest) (rec_fits r) name lo hi hs
  simpa [encRecord_eq, List.append_assoc] using this

/-- the five reads named `rec` are the values of the literal's keys in source order -/
def expectRecord : Expect :=
  [fld "totalLen".toList recLayout "xl_tot_len".toList,
   fld "rec".toList recLayout "xl_xid".toList,      -- TransactionID:
   fld "rec".toList recLayout "xl_prev".toList,     -- PrevLSN:
   fld "rec".toList recLayout "xl_info".toList,     -- Info:
   fld "rec".toList recLayout "xl_rmid".toList,     -- ResourceMgr:
   fld "rec".toList recLayout "xl_crc".toList]      -- CRC:

/-- every constant-bounded read of the current `parseXLogRecord` is one whole `XLogRecord` member, the one `expectRecord` lists
for it -/
theorem parseXLogRecord_reads_are_spec_fields :
    readsAreFields expectRecord Generated.SrcReads.parseXLogRecord = true := by
  unfold expectRecord recLayout Generated.SrcReads.parseXLogRecord
  rw [Lit.toList_eq_chars]
  decide +kernel

theorem parseXLogRecord_expected_fields_are_read :
    expectedAreRead expectRecord Generated.SrcReads.parseXLogRecord = true :=
  expectedAreRead_of_reads _ _ parseXLogRecord_reads_are_spec_fields (by
    unfold expectRecord recLayout Generated.SrcReads.parseXLogRecord
    rw [Lit.toList_eq_chars]
    decide +kernel)

/-- `parseWALPage` peeks at the total length of the record at the current position (`recData[0:4]`) -/
def expectWALPage : Expect := [fld "totalLen".toList recLayout "xl_tot_len".toList]

/-- the constant-bounded read of the current `parseWALPage` is xl_tot_len of the record at `pos` -/
theorem parseWALPage_reads_are_spec_fields :
    readsAreFields expectWALPage Generated.SrcReads.parseWALPage = true := by
  unfold expectWALPage recLayout Generated.SrcReads.parseWALPage
  rw [Lit.toList_eq_chars]
  decide +kernel

theorem parseWALPage_expected_fields_are_read :
    expectedAreRead expectWALPage Generated.SrcReads.parseWALPage = true :=
  expectedAreRead_of_reads _ _ parseWALPage_reads_are_spec_fields (by
    unfold expectWALPage recLayout Generated.SrcReads.parseWALPage
    rw [Lit.toList_eq_chars]
    decide +kernel)

/-- the spans the hypotheses of the `_read` theorems range over -/
example : longLayout.span "xlp_sysid".toList = some (24, 32) ∧ shortLayout.span "xlp_pageaddr".toList = some (8, 16) ∧
    recLayout.span "xl_crc".toList = some (20, 24) := by decide +kernel

end PgVerif.Proofs.SrcTie.WalReads
