/-
  TOAST relation pages whose line pointer arrays hold LP_UNUSED / LP_DEAD / LP_REDIRECT entries (`Spec.Toast.toastPageH`,
  `encToastRelH`).
-/
import PgVerif.Proofs.ToastRel
namespace PgVerif.Proofs.Toast
open PgVerif PgVerif.Spec PgVerif.Spec.Toast PgVerif.Model.Toast

theorem holeLPs_filterMap {β} (f : LP → Option β) (hf : ∀ a b c, f (.other a b c) = none) (start : Nat) (g : List Hole) :
    (holeLPs start g).filterMap f = [] := by
  induction g generalizing start with
  | nil => rfl
  | cons h g ih =>
    by_cases hc : h.storage.isEmpty = true
    · simp only [holeLPs, hc, if_true, List.filterMap_cons, hf, ih]
    · simp only [holeLPs, hc, if_false, List.filterMap_cons, hf, ih, Bool.false_eq_true]

theorem lpsH_filterMap {β} (f : LP → Option β) (hf : ∀ a b c, f (.other a b c) = none) (st : Nat → Nat) (hs : Holes)
    (l : List Nat) :
    (l.flatMap fun i => holeLPs (st i) (holesAt hs i) ++ [LP.normal i]).filterMap f = l.filterMap (fun i => f (.normal i)) := by
  induction l with
  | nil => rfl
  | cons i l ih =>
    simp only [List.flatMap_cons, List.filterMap_append, holeLPs_filterMap f hf, List.nil_append, ih]
    simp only [List.filterMap_cons, List.filterMap_nil]
    cases f (.normal i) <;> simp

theorem toastPageH_slots_snd (es : List Entry) (hs : Holes) : (toastPageH es hs).slots.map (·.2) = es.map Entry.tuple := by
  show (es.zipIdx.map fun (e, i) => (junkAt hs i, e.tuple)).map (·.2) = _
  rw [List.map_map]
  exact (List.map_map (f := Prod.fst) (g := Entry.tuple)).symm.trans (congrArg _ (List.zipIdx_map_fst 0 es))

theorem toastPageH_tuples (es : List Entry) (hs : Holes) : (toastPageH es hs).normalTuples = es.map Entry.tuple := by
  have hlen : (toastPageH es hs).slots.length = es.length := by
    rw [← List.length_map (·.2), toastPageH_slots_snd, List.length_map]
  rw [← toastPageH_slots_snd es hs, ← range_filterMap (fun s : Bytes × Tuple => s.2) (toastPageH es hs).slots, hlen]
  unfold Page.normalTuples toastPageH
  extract_lets n slots tail lower upper startOf
  show (((List.range n).flatMap fun i => holeLPs (startOf i) (holesAt hs i) ++ [LP.normal i]) ++
    holeLPs (startOf n) (holesAt hs n)).filterMap _ = _
  rw [List.filterMap_append, holeLPs_filterMap _ (fun _ _ _ => rfl), List.append_nil, lpsH_filterMap _ (fun _ _ _ => rfl)]

theorem xminOK_toastPageH (es : List Entry) (hs : Holes) (he : ∀ e ∈ es, e.WF) : xminOK (Block.page (toastPageH es hs)) := by
  intro s hsm
  have h2 : s.2 ∈ (toastPageH es hs).slots.map (·.2) := List.mem_map_of_mem hsm
  rw [toastPageH_slots_snd] at h2
  obtain ⟨e, hem, heq⟩ := List.mem_map.1 h2
  rw [← heq]
  exact (he e hem).2.2.2.1

/-- every page is a well-formed PostgreSQL page (`Spec.Page.WF`) and every stored row is well formed.  Decidable; family `toast`
of the driver checks the page half on every generated page (`pageFitsH`, `Spec.Page.WF`; tag `pagewf=0` if violated). -/
def LayoutHWF (lay : Layout) (holes : List Holes) : Prop :=
  ∀ p ∈ lay.zipIdx, (toastPageH p.1 (holes.getD p.2 [])).WF ∧ ∀ e ∈ p.1, e.WF

instance (lay : Layout) (holes : List Holes) : Decidable (LayoutHWF lay holes) := by unfold LayoutHWF; infer_instance

theorem blocksH_tuples (holes : List Holes) (lay : Layout) (k : Nat) :
    ((lay.zipIdx k).map fun p => Block.page (toastPageH p.1 (holes.getD p.2 []))).flatMap Block.tuples =
      lay.flatten.map Entry.tuple := by
  induction lay generalizing k with
  | nil => rfl
  | cons pg lay ih =>
    simp only [List.zipIdx_cons, List.map_cons, List.flatMap_cons, Block.tuples, toastPageH_tuples, List.flatten_cons,
      List.map_append, ih]

theorem readTOASTTable_holes (lay : Layout) (holes : List Holes) (h : LayoutHWF lay holes) :
    readTOASTTable (encToastRelH lay holes) = .ok (lay.liveRows.map toChunk) := by
  refine readTOASTTable_entries lay _ ?_ ?_ (blocksH_tuples holes lay 0) fun pg hpg e hem => ?_
  · intro b hb
    obtain ⟨p, hp, rfl⟩ := List.mem_map.mp hb
    exact (h p hp).1
  · intro b hb
    obtain ⟨p, hp, rfl⟩ := List.mem_map.mp hb
    exact xminOK_toastPageH _ _ (h p hp).2
  · obtain ⟨i, hlt, hget⟩ := List.getElem_of_mem hpg
    exact (h (pg, i) (by rw [List.mem_zipIdx_iff_getElem?]; simp [hget, hlt])).2 e hem

theorem holeCount_nil (n : Nat) : holeCount [] n = 0 := by
  unfold holeCount
  generalize List.range (n + 1) = l
  induction l with
  | nil => rfl
  | cons i l ih => rw [List.map_cons, List.sum_cons, ih]; rfl

theorem toastPageH_nil (es : List Entry) : toastPageH es [] = toastPage es := by
  have hs : (es.zipIdx.map fun x => (([] : Bytes), x.1.tuple)) = es.map fun e => (([] : Bytes), e.tuple) :=
    (List.map_map (f := Prod.fst) (g := fun e : Entry => (([] : Bytes), e.tuple))).symm.trans
      (congrArg _ (List.zipIdx_map_fst 0 es))
  have hsum : ((es.map fun e => (([] : Bytes), e.tuple)).map slotLen).sum = (es.map fun e => e.len).sum := by
    simp only [List.map_map, Function.comp_def, slotLen, List.length_nil, Nat.zero_add, Entry.len]
  have h0 : ∀ i, holesAt [] i = [] := fun _ => rfl
  have hj : ∀ i, junkAt [] i = [] := fun _ => rfl
  unfold toastPageH toastPage
  simp only [holeCount_nil, h0, hj, hs, hsum, holeLPs, List.nil_append, List.append_nil, List.length_nil, Nat.add_zero,
    ← List.map_eq_flatMap]
  congr 2
  omega

theorem encToastRelH_nil (lay : Layout) : encToastRelH lay [] = encToastRel lay := by
  unfold encToastRelH encToastRel
  congr 1
  exact (List.map_congr_left fun p _ => congrArg Block.page (toastPageH_nil p.1)).trans
    ((List.map_map (f := Prod.fst) (g := fun pg => Block.page (toastPage pg))).symm.trans
      (congrArg _ (List.zipIdx_map_fst 0 lay)))

theorem layoutHWF_nil (lay : Layout) (h : lay.WF) : LayoutHWF lay [] := by
  intro p hp
  have hm : p.1 ∈ lay := List.mem_of_getElem? (List.mem_zipIdx_iff_getElem?.mp hp)
  exact ⟨toastPageH_nil p.1 ▸ toastPage_wf p.1 (h _ hm).1 (h _ hm).2, (h _ hm).2⟩

theorem toastBlocks_wf (lay : Layout) (h : lay.WF) : ∀ b ∈ lay.map (fun pg => Block.page (toastPage pg)), b.WF ∧ xminOK b := by
  intro b hb
  obtain ⟨pg, hpg, rfl⟩ := List.mem_map.mp hb
  exact ⟨toastPage_wf pg (h pg hpg).1 (h pg hpg).2, toastPageH_nil pg ▸ xminOK_toastPageH pg [] (h pg hpg).2⟩

end PgVerif.Proofs.Toast
