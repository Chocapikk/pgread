/-
  ParseTOASTPointer on the encoding of an external pointer.
-/
import PgVerif.Model.Toast
import PgVerif.Spec.Toast
import PgVerif.Basic.Lemmas
namespace PgVerif.Proofs.Toast
open PgVerif PgVerif.Model.Toast PgVerif.Spec.Toast

/-- toast.go's `binary.LittleEndian.Uint32(data[lo : lo+4])`; beyond the data the two fault differently (slice bounds, index) -/
theorem le32_eq (data : Bytes) (lo : Nat) (h : lo + 4 ≤ data.length) : le32 data lo = uN 4 data lo :=
  (uN_slice 4 lo data h).trans (uN_ok 4 data lo h).symm

theorem le32_of_uN {data : Bytes} {lo v : Nat} (h : uN 4 data lo = .ok v) : le32 data lo = .ok v :=
  (le32_eq data lo (uN_eq_ok.1 h).1).trans h

theorem parseTOASTPointer_enc (p : ExtPtr) (h : p.WF) (trailing : Bytes) :
    parseTOASTPointer (encExtPtr p ++ trailing) =
      .ok (some ⟨p.rawsize, p.extsize, p.valueid, p.toastrelid, p.compressed, p.method⟩) := by
  -- `ExtPtr.WF`: every field fits its bits (`omega` uses them); `h2 : p.extsize < 2 ^ 30` is what makes va_extinfo split (`unpack`).
  -- `hf` below: the four words at 2 / 6 / 10 / 14 read back, in that order
  obtain ⟨h1, h2, h3, h4, h5⟩ := h
  have hlen : (encExtPtr p ++ trailing).length = 18 + trailing.length := by simp [encExtPtr]; omega
  have hei : p.extsize + 2 ^ 30 * p.method < 2 ^ 32 := by omega
  have hf := fieldsAt_mid [(4, p.rawsize), (4, p.extsize + 2 ^ 30 * p.method), (4, p.valueid), (4, p.toastrelid)] [1, 18] trailing
    (by simp only [List.forall_mem_cons, List.not_mem_nil, false_imp_iff, implies_true, and_true]; omega)
  rw [show [1, 18] ++ (leFields [(4, p.rawsize), (4, p.extsize + 2 ^ 30 * p.method), (4, p.valueid), (4, p.toastrelid)] ++ trailing) =
    encExtPtr p ++ trailing by simp [encExtPtr, leFields]] at hf
  simp only [FieldsAt, List.length_cons, List.length_nil, Nat.reduceAdd] at hf
  obtain ⟨m1, m2⟩ := unpack p.extsize p.method 30 h2
  unfold parseTOASTPointer
  rw [if_neg (by omega)]
  refine bind_eq rfl ?_
  rw [if_neg (by decide), if_neg (by omega)]
  refine bind_eq (le32_of_uN hf.1) (bind_eq (le32_of_uN hf.2.1) (bind_eq (le32_of_uN hf.2.2.1) (bind_eq (le32_of_uN hf.2.2.2.1) ?_)))
  rw [m1, m2]
  rfl

end PgVerif.Proofs.Toast
