/-
  ReassembleTOAST on the chunks of a stored value: filter by id, sort by sequence number, concatenate, decompress.
-/
import PgVerif.Proofs.ToastRel
import PgVerif.Proofs.ToastPtr
import PgVerif.Proofs.Pglz
import PgVerif.Proofs.Lz4
namespace PgVerif.Proofs.Toast
open PgVerif PgVerif.Model PgVerif.Model.Toast PgVerif.Spec PgVerif.Spec.Toast PgVerif.Proofs

theorem chunkRowsFrom_id (id k : Nat) (ps : List Bytes) : ∀ r ∈ chunkRowsFrom id k ps, r.id = id := by
  induction ps generalizing k with
  | nil => intro r hr; simp [chunkRowsFrom] at hr
  | cons p ps ih =>
    intro r hr
    simp only [chunkRowsFrom, List.mem_cons] at hr
    rcases hr with rfl | hr
    · rfl
    · exact ih (k + 1) r hr

theorem chunkRowsFrom_seq_ge (id k : Nat) (ps : List Bytes) : ∀ r ∈ chunkRowsFrom id k ps, k ≤ r.seq := by
  induction ps generalizing k with
  | nil => intro r hr; simp [chunkRowsFrom] at hr
  | cons p ps ih =>
    intro r hr
    simp only [chunkRowsFrom, List.mem_cons] at hr
    rcases hr with rfl | hr
    · exact Nat.le_refl _
    · have := ih (k + 1) r hr; omega

theorem chunkRowsFrom_sorted (id k : Nat) (ps : List Bytes) :
    (chunkRowsFrom id k ps).Pairwise (fun a b => a.seq < b.seq) := by
  induction ps generalizing k with
  | nil => simp [chunkRowsFrom]
  | cons p ps ih =>
    simp only [chunkRowsFrom, List.pairwise_cons]
    refine ⟨?_, ih (k + 1)⟩
    intro r hr
    have := chunkRowsFrom_seq_ge id (k + 1) ps r hr
    show k < r.seq
    omega

theorem chunkRowsFrom_data (id k : Nat) (ps : List Bytes) :
    (chunkRowsFrom id k ps).flatMap (·.data) = ps.flatten := by
  induction ps generalizing k with
  | nil => rfl
  | cons p ps ih => simp [chunkRowsFrom, ih]

theorem pieces_flatten (cuts : List Nat) (bs : Bytes) (h : bs.length ≤ cuts.sum) : (pieces cuts bs).flatten = bs := by
  induction cuts generalizing bs with
  | nil => simp at h; subst h; rfl
  | cons n ns ih =>
    simp only [pieces, List.flatten_cons]
    rw [ih (bs.drop n) (by simp at h ⊢; omega), List.take_append_drop]

/-- `sort.SliceStable` by ChunkSeq, as `reassembleTOAST` calls it -/
theorem sort_perm_sorted (L S : List Chunk) (hp : L.Perm S) (hs : S.Pairwise (fun a b => a.seq < b.seq)) :
    L.mergeSort (fun a b => decide (a.seq ≤ b.seq)) = S := by
  have hperm := (List.mergeSort_perm L fun a b => decide (a.seq ≤ b.seq)).trans hp
  refine Sorting.eq_of_sorted_perm (r := Sorting.byKey Chunk.seq) hperm ?_ (hs.imp Int.le_of_lt) ?_
  · exact (List.pairwise_mergeSort (le := fun a b : Chunk => decide (a.seq ≤ b.seq))
      (fun a b c h1 h2 => decide_eq_true (Int.le_trans (of_decide_eq_true h1) (of_decide_eq_true h2)))
      (fun a b => by simp only [Bool.or_eq_true, decide_eq_true_eq]; exact Int.le_total _ _) L).imp of_decide_eq_true
  · exact (Sorting.antisymmOn_key Chunk.seq (List.pairwise_map.mpr (hs.imp Int.ne_of_lt))).perm hperm.symm

theorem ptrOf_wf (v : ToastValue) (h : v.WF) : (ptrOf v).WF := by
  obtain ⟨h1, h2, ⟨hc1, hc2, hc3⟩, h4, h5⟩ := h
  have hm : v.content.method < 4 := by cases v.content <;> simp [Content.method]
  have hst : v.content.stored.length < 2 ^ 30 := by
    cases hc : v.content with
    | plain raw => rw [hc] at hc2; simp [Content.stored, Content.original] at hc2 ⊢; omega
    | pglz ts => rw [hc] at hc3 hc2; simp only at hc3; omega
    | lz4 b => rw [hc] at hc3 hc2; simp only at hc3; omega
  exact ⟨by show v.content.original.length + 4 < 2 ^ 32; omega, hst, hm, h1, h2⟩

/-- what ParseTOASTPointer makes of the pointer of `v` -/
def mptr (v : ToastValue) : Ptr :=
  ⟨v.content.original.length + 4, v.content.stored.length, v.id, v.relid,
   decide (v.content.stored.length + 4 < v.content.original.length + 4), v.content.method⟩

theorem parse_ptrOf (v : ToastValue) (h : v.WF) :
    parseTOASTPointer (encExtPtr (ptrOf v)) = .ok (some (mptr v)) := by
  have := parseTOASTPointer_enc (ptrOf v) (ptrOf_wf v h) []
  simpa [ptrOf, mptr, ExtPtr.compressed] using this

theorem decompressStored_pglz (zlib : Bytes → Nat → Option Bytes) (v : ToastValue) (ts : List Pglz.Tok)
    (hc : v.content = .pglz ts) (hw : Pglz.PglzWF ts) (h4 : 4 ≤ (Pglz.renderPglz ts).length)
    (hpos : 0 < (Pglz.expand ts).length) :
    decompressStored zlib (mptr v) v.content.stored = .ok v.content.original := by
  have hd := Pglz.decompressPGLZ_render ts hw h4
  have hs : sliceFrom v.content.stored 4 = .ok (Pglz.renderPglz ts) := by
    rw [hc, sliceFrom_ok _ _ (by simp [Content.stored])]
    simp only [Content.stored]
    rw [List.drop_left' (by simp)]
  unfold decompressStored
  simp only [mptr, hs, ok_bind, Nat.add_sub_cancel]
  rw [hc]
  simp only [Content.method, Content.original, show ((0 : Nat) == 1) = false from rfl, Bool.false_eq_true, if_false,
    pure_eq_ok, ok_bind, hd]
  rw [if_pos hpos]

theorem decompressStored_lz4 (zlib : Bytes → Nat → Option Bytes) (v : ToastValue) (b : Lz4.Block)
    (hc : v.content = .lz4 b) (hw : Lz4.Lz4WF b) :
    decompressStored zlib (mptr v) v.content.stored = .ok v.content.original := by
  have hd := Lz4.decompressLZ4_render b hw
  have hs : sliceFrom v.content.stored 4 = .ok (Lz4.render b) := by
    rw [hc, sliceFrom_ok _ _ (by simp [Content.stored])]
    simp only [Content.stored]
    rw [List.drop_left' (by simp)]
  unfold decompressStored
  simp only [mptr, hs, ok_bind, Nat.add_sub_cancel]
  rw [hc]
  simp only [Content.method, Content.original, beq_self_eq_true, if_true, hd, ok_bind]
  rfl

theorem reassemble_rows (zlib : Bytes → Nat → Option Bytes) (rows : List Row) (v : ToastValue) (h : v.WF)
    (hs : (rows.filter fun r => r.id == v.id).Perm (chunkRows v)) :
    reassembleTOAST zlib (rows.map toChunk) v.id (some (mptr v)) = .ok (some v.content.original) := by
  have hp : ((rows.map toChunk).filter (·.id == v.id)).Perm ((chunkRows v).map toChunk) :=
    filter_toChunk rows v.id ▸ hs.map toChunk
  obtain ⟨h1, h2, ⟨hc1, hc2, hc3⟩, h4, h5⟩ := h
  unfold reassembleTOAST
  extract_lets valueChunks sorted data
  -- sorted selection = the value's chunks in order, so `data` is the stored form
  have hsort : sorted = (chunkRows v).map toChunk := by
    refine sort_perm_sorted _ _ hp ?_
    rw [List.pairwise_map]
    exact (chunkRowsFrom_sorted v.id 0 _).imp (fun h => by simp only [toChunk]; omega)
  have hdata : data = v.content.stored := by
    show sorted.flatMap (·.data) = _
    rw [hsort, List.flatMap_map]
    exact (chunkRowsFrom_data _ _ _).trans (pieces_flatten _ _ (by omega))
  have hne : valueChunks.length ≠ 0 := by
    intro h0
    have hnil : sorted = [] := by rw [hsort, List.length_eq_zero_iff.mp (hp.length_eq.symm.trans h0)]
    have : data = [] := by
      show sorted.flatMap _ = []
      rw [hnil]; rfl
    rw [hdata] at this
    rw [this] at hc1; simp at hc1
  -- a value stored smaller than it is, in more than the 4 bytes of va_tcinfo, takes the decompression branch
  have hcond : v.content.stored.length < v.content.original.length → 4 < v.content.stored.length →
      ((mptr v).isCompressed && decide (v.content.stored.length > 4) && decide ((mptr v).rawSize ≥ 4)) = true := by
    intro a b; simp [mptr]; omega
  rw [if_neg hne, hdata]
  dsimp only
  cases hc : v.content with
  | plain raw =>
    have hcomp : (mptr v).isCompressed = false := by simp [mptr, hc, Content.stored, Content.original]
    rw [hcomp, if_neg (by simp)]
    rw [hc] at hc1
    cases raw with
    | nil => simp [Content.stored] at hc1
    | cons _ _ => rfl
  | pglz ts =>
    rw [hc] at hc3; simp only at hc3
    obtain ⟨hw, hlt⟩ := hc3
    have h4s : 4 ≤ (Pglz.renderPglz ts).length :=
      Pglz.pglz_stream_ge4 ts hw (by simp [Content.stored, Content.original] at hlt; omega)
    rw [← hc] at hlt ⊢
    rw [if_pos (hcond hlt (by rw [hc]; simp [Content.stored]; omega)), decompressStored_pglz zlib v ts hc hw h4s
      (by rw [hc] at hlt; exact Nat.lt_of_le_of_lt (Nat.zero_le _) hlt)]
    rfl
  | lz4 b =>
    rw [hc] at hc3; simp only at hc3
    obtain ⟨hw, hlt⟩ := hc3
    rw [← hc] at hlt ⊢
    rw [if_pos (hcond hlt (by rw [hc]; simp [Content.stored, Lz4.render, Lz4.renderLast]; omega)),
      decompressStored_lz4 zlib v b hc hw]
    rfl

theorem readValue_rows (zlib : Bytes → Nat → Option Bytes) (readFile : Nat → Option Bytes) (rows : List Row)
    (v : ToastValue) (hv : v.WF) (hs : (rows.filter fun r => r.id == v.id).Perm (chunkRows v))
    (pre post : List (Nat × List Chunk)) (hasDir : Bool) (hpre : ∀ t ∈ pre, t.1 ≠ v.relid) :
    readValue zlib readFile ⟨pre ++ (v.relid, rows.map toChunk) :: post, hasDir⟩ (encExtPtr (ptrOf v)) =
      .ok (some v.content.original, ⟨pre ++ (v.relid, rows.map toChunk) :: post, hasDir⟩) := by
  have hlk : List.lookup (mptr v).toastRelID (pre ++ (v.relid, rows.map toChunk) :: post) = some (rows.map toChunk) := by
    show List.lookup v.relid _ = _
    rw [List.lookup_append, AssocMap.lookup_none_of_keys pre _ hpre, Option.none_or, List.lookup_cons, beq_self_eq_true]
  simp only [readValue, parse_ptrOf v hv, ok_bind, hlk, Option.isNone_some, Bool.false_and, Bool.false_eq_true, if_false,
    pure_eq_ok]
  rw [show (mptr v).valueID = v.id from rfl, reassemble_rows zlib rows v hv hs]
  rfl

end PgVerif.Proofs.Toast
