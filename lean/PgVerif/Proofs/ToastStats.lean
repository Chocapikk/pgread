/-
  GetTOASTVerboseInfo: its two Go maps (association lists in the model) satisfy `MapInv` of Lib/AssocMap.lean, the report `StatsOK`.
-/
import PgVerif.Proofs.ToastRel
import PgVerif.Proofs.KeySort
namespace PgVerif.Proofs.Toast
open PgVerif PgVerif.Model PgVerif.Model.Toast PgVerif.Spec PgVerif.Spec.Toast PgVerif.Proofs

/-- `AssocMap.upsert` at the key type `Nat` (`upsert_eq`) -/
def upsert {β} (m : List (Nat × β)) (k : Nat) (ins : β) (upd : β → β) : List (Nat × β) :=
  if m.any (·.1 == k) then m.map fun kv => if kv.1 == k then (kv.1, upd kv.2) else kv
  else m ++ [(k, ins)]

/-- `AssocMap.MapInv` at the key type `Nat` (`mapInv_iff`) -/
structure MapInv {α β} (key : α → Nat) (S : List α → β) (m : List (Nat × β)) (xs : List α) : Prop where
  distinct : (m.map (·.1)).Pairwise (· ≠ ·)
  entries : ∀ kv ∈ m, kv.2 = S (xs.filter (key · == kv.1)) ∧ xs.filter (key · == kv.1) ≠ []
  present : ∀ x ∈ xs, ∃ kv ∈ m, kv.1 = key x

theorem upsert_eq {β} (m : List (Nat × β)) (k : Nat) (ins : β) (upd : β → β) :
    upsert m k ins upd = AssocMap.upsert m k ins upd := rfl

theorem mapInv_iff {α β} {key : α → Nat} {S : List α → β} {m : List (Nat × β)} {xs : List α} :
    MapInv key S m xs ↔ AssocMap.MapInv key S m xs :=
  ⟨fun h => ⟨h.1, h.2, h.3⟩, fun h => ⟨h.1, h.2, h.3⟩⟩

theorem MapInv.perm {α β} {key : α → Nat} {S : List α → β} {m m' : List (Nat × β)} {xs : List α}
    (h : MapInv key S m xs) (hp : m'.Perm m) : MapInv key S m' xs :=
  mapInv_iff.2 ((mapInv_iff.1 h).perm hp)

theorem groupInsert_eq (m : List (Nat × List Chunk)) (c : Chunk) :
    groupInsert m c = upsert m c.id [c] (· ++ [c]) := rfl

theorem countInsert_eq (m : List (Nat × Nat)) (k : Nat) : countInsert m k = upsert m k 1 (· + 1) := rfl

/-- `valueChunks`: under each chunk id, exactly the chunks with that id, in order -/
theorem groups_inv (cs : List Chunk) : MapInv (fun c : Chunk => c.id) id (cs.foldl groupInsert []) cs :=
  -- `groupInsert m c` unfolds to `AssocMap.upsert m c.id [c] (· ++ [c])` (`groupInsert_eq`, `upsert_eq`), `[] ++ cs` to `cs`
  mapInv_iff.2 (AssocMap.foldl_upsert_inv (fun c : Chunk => c.id) id (fun c => [c]) (fun c l => l ++ [c])
    (fun _ => rfl) (fun _ _ _ => rfl) cs [] [] (AssocMap.mapInv_nil _ _))

/-- `ChunkDistribution`: under each count, the number of values having that many chunks -/
theorem counts_inv (ns : List Nat) : MapInv (fun n : Nat => n) List.length (ns.foldl countInsert []) ns :=
  mapInv_iff.2 (AssocMap.foldl_upsert_inv (fun n : Nat => n) List.length (fun _ => 1) (fun _ n => n + 1)
    (fun _ => rfl) (fun l x _ => by simp) ns [] [] (AssocMap.mapInv_nil _ _))

/-- What a correct per-table report says about a (non-empty) list of live rows.  The ascending order fixes `values` completely
(`StatsOK.values_unique`); `distribution` is a Go map: no order. -/
structure StatsOK (relid : Nat) (rows : List Row) (i : VerboseInfo) : Prop where
  relid : i.toastRelID = relid
  totalChunks : i.totalChunks = rows.length
  totalSize : i.totalSize = (rows.map (·.data.length)).sum
  avg : i.avgNum = (rows.map (·.data.length)).sum ∧ i.avgDen = rows.length
  unique : i.uniqueValues = i.values.length
  -- follows from `valuesSorted`; a field of its own because `values_unique` and `C08_analyzeTOAST_stats` take it in this form.
  -- `Pairwise (· ≠ ·)` is the definition of `List.Nodup` and of `KeySort.DistinctKeys`: pass it as either.
  valuesDistinct : (i.values.map (·.chunkID)).Pairwise (· ≠ ·)
  valuesSorted : (i.values.map (·.chunkID)).Pairwise (· < ·)
  valuesTally : ∀ x ∈ i.values, x.numChunks = (rows.filter (·.id == x.chunkID)).length ∧ x.numChunks ≠ 0 ∧
    x.totalSize = ((rows.filter (·.id == x.chunkID)).map (·.data.length)).sum
  valuesAll : ∀ r ∈ rows, ∃ x ∈ i.values, x.chunkID = r.id
  maxOK : (∀ x ∈ i.values, x.numChunks ≤ i.maxChunksPerValue) ∧ ∃ x ∈ i.values, x.numChunks = i.maxChunksPerValue
  distDistinct : (i.distribution.map (·.1)).Pairwise (· ≠ ·)
  distTally : ∀ kv ∈ i.distribution, kv.2 = (i.values.filter (·.numChunks == kv.1)).length ∧ kv.2 ≠ 0
  distAll : ∀ x ∈ i.values, ∃ kv ∈ i.distribution, kv.1 = x.numChunks

theorem StatsOK.mem_ids {relid : Nat} {rows : List Row} {i : VerboseInfo} (h : StatsOK relid rows i) (k : Nat) :
    k ∈ i.values.map (·.chunkID) ↔ ∃ r ∈ rows, r.id = k := by
  constructor
  · intro hk
    obtain ⟨x, hx, rfl⟩ := List.mem_map.1 hk
    obtain ⟨hcnt, hnz, _⟩ := h.valuesTally x hx
    obtain ⟨r, hr⟩ := List.exists_mem_of_ne_nil _ fun hnil => hnz (hcnt.trans (congrArg List.length hnil))
    exact ⟨r, (List.mem_filter.mp hr).1, by simpa using (List.mem_filter.mp hr).2⟩
  · rintro ⟨r, hr, rfl⟩
    obtain ⟨x, hx, hxr⟩ := h.valuesAll r hr
    exact List.mem_map.2 ⟨x, hx, hxr⟩

theorem verboseInfo_rows_with (π : GroupOrder) (hπ : ∀ l, (π l).Perm l) (relid : Nat) (rows : List Row) (hne : rows ≠ []) :
    StatsOK relid rows (buildInfoWith π relid (rows.map toChunk)) := by
  unfold buildInfoWith
  extract_lets groups visited totalSize vals
  have G0 : MapInv (fun c : Chunk => c.id) id groups (rows.map toChunk) := groups_inv _
  have hperm : visited.Perm groups := (KeySort.keySort_perm _ _).trans (hπ _)
  -- `G`: the invariant of the value map, carried along the rearrangement to the list the loop visits; `D` below: the same
  -- invariant of the count map.  Every field of `StatsOK` is read off `G` or `D`.
  have G := G0.perm hperm
  have hstrict : visited.Pairwise (fun x y => x.1 < y.1) :=
    KeySort.keySort_strict _ _ (KeySort.DistinctKeys.perm (hπ _).symm G0.distinct)
  have hsum : totalSize = (rows.map (·.data.length)).sum := by
    simp [totalSize, List.map_map, Function.comp_def, toChunk]
  have hvals : ∀ x ∈ vals, x.numChunks = (rows.filter (·.id == x.chunkID)).length ∧ x.numChunks ≠ 0 ∧
      x.totalSize = ((rows.filter (·.id == x.chunkID)).map (·.data.length)).sum := by
    intro x hx
    obtain ⟨g, hg, rfl⟩ := List.mem_map.mp hx
    obtain ⟨e1, e2⟩ := G.entries g hg
    simp only [id] at e1
    rw [filter_toChunk] at e1 e2
    simp only [e1, List.length_map, List.map_map, Function.comp_def, toChunk]
    refine ⟨trivial, ?_, trivial⟩
    intro h0
    apply e2
    rw [List.length_eq_zero_iff.mp h0]; rfl
  have hall : ∀ r ∈ rows, ∃ x ∈ vals, x.chunkID = r.id := by
    intro r hr
    obtain ⟨g, hg, e⟩ := G.present (toChunk r) (List.mem_map.mpr ⟨r, hr, rfl⟩)
    exact ⟨_, List.mem_map.mpr ⟨g, hg, rfl⟩, e⟩
  have D := counts_inv (vals.map (·.numChunks))
  have hsorted : (vals.map (·.chunkID)).Pairwise (· < ·) := by
    simp only [vals, List.map_map, Function.comp_def]; rw [List.pairwise_map]; exact hstrict
  have hmax : (∀ x ∈ vals, x.numChunks ≤ (vals.map (·.numChunks)).foldl max 0) ∧
      ∃ x ∈ vals, x.numChunks = (vals.map (·.numChunks)).foldl max 0 := by
    have hge := fun x hx => (foldl_max_ge (vals.map (·.numChunks)) 0).2 _ (List.mem_map.mpr ⟨x, hx, rfl⟩)
    refine ⟨hge, ?_⟩
    rcases foldl_max_mem (vals.map (·.numChunks)) 0 with h | h
    · -- the maximum is 0 only if there is no value; but there is a row, and its value has a chunk
      exfalso
      obtain ⟨r, hr⟩ := List.exists_mem_of_ne_nil rows hne
      obtain ⟨x, hx, -⟩ := hall r hr
      have hle := hge x hx
      rw [h] at hle
      exact (hvals x hx).2.1 (by omega)
    · obtain ⟨x, hx, e⟩ := List.mem_map.mp h
      exact ⟨x, hx, e⟩
  have hdist : ∀ kv ∈ (vals.map (·.numChunks)).foldl countInsert [],
      kv.2 = (vals.filter (·.numChunks == kv.1)).length ∧ kv.2 ≠ 0 := by
    intro kv hkv
    obtain ⟨e1, e2⟩ := D.entries kv hkv
    rw [List.filter_map] at e1 e2
    refine ⟨by rw [e1, List.length_map]; rfl, ?_⟩
    rw [e1]
    intro h0
    apply e2
    rw [List.length_eq_zero_iff.mp h0]
  exact {
    relid := rfl
    totalChunks := by simp
    totalSize := hsum
    avg := ⟨hsum, by simp⟩
    unique := by simp [vals, hperm.length_eq]
    valuesDistinct := hsorted.imp Nat.ne_of_lt
    valuesSorted := hsorted
    valuesTally := hvals
    valuesAll := hall
    maxOK := hmax
    distDistinct := D.distinct
    distTally := hdist
    distAll := fun x hx => D.present x.numChunks (List.mem_map.mpr ⟨x, hx, rfl⟩) }

theorem verboseInfo_rows (relid : Nat) (rows : List Row) (hne : rows ≠ []) :
    StatsOK relid rows (buildInfo relid (rows.map toChunk)) :=
  verboseInfo_rows_with id (fun l => List.Perm.refl l) relid rows hne

/-- what C11 states of GetTOASTVerboseInfo (Props/C11Maps.lean) -/
theorem buildInfoWith_order_independent (π π' : GroupOrder) (hπ : ∀ l, (π l).Perm l) (hπ' : ∀ l, (π' l).Perm l)
    (relid : Nat) (chunks : List Chunk) : buildInfoWith π relid chunks = buildInfoWith π' relid chunks := by
  unfold buildInfoWith
  dsimp only
  have G0 := groups_inv chunks
  have : keySort (fun g : Nat × List Chunk => g.1) (π (chunks.foldl groupInsert [])) =
      keySort (fun g : Nat × List Chunk => g.1) (π' (chunks.foldl groupInsert [])) :=
    KeySort.keySort_perm_invariant _ _ _ ((hπ _).trans (hπ' _).symm) (KeySort.DistinctKeys.perm (hπ _).symm G0.distinct)
  simp only [this]

theorem verboseInfo_of_chunks (π : GroupOrder) (hπ : ∀ l, (π l).Perm l) (relid : Nat) (data : Bytes) (rows : List Row)
    (h : readTOASTTable data = .ok (rows.map toChunk)) :
    (rows = [] → getTOASTVerboseInfoWith π relid data = .ok none) ∧
    (rows ≠ [] → ∃ i, getTOASTVerboseInfoWith π relid data = .ok (some i) ∧ StatsOK relid rows i) := by
  unfold getTOASTVerboseInfoWith
  rw [h]
  constructor
  · rintro rfl; rfl
  · intro hne
    refine ⟨_, ?_, verboseInfo_rows_with π hπ relid rows hne⟩
    simp only [ok_bind]
    rw [if_neg (by simpa using hne)]
    rfl

theorem getTOASTVerboseInfoWith_order_independent (π π' : GroupOrder) (hπ : ∀ l, (π l).Perm l) (hπ' : ∀ l, (π' l).Perm l)
    (relid : Nat) (data : Bytes) : getTOASTVerboseInfoWith π relid data = getTOASTVerboseInfoWith π' relid data := by
  unfold getTOASTVerboseInfoWith
  simp only [buildInfoWith_order_independent π π' hπ hπ']

theorem StatsOK.values_unique {relid : Nat} {rows : List Row} {i j : VerboseInfo}
    (hi : StatsOK relid rows i) (hj : StatsOK relid rows j) : i.values = j.values := by
  -- same set of chunk ids (those occurring in rows), each entry determined by its id, both sorted by id
  have key : ∀ (a b : VerboseInfo), StatsOK relid rows a → StatsOK relid rows b → ∀ x ∈ a.values, x ∈ b.values := by
    intro a b ha hb x hx
    obtain ⟨n1, n0, n2⟩ := ha.valuesTally x hx
    obtain ⟨r, hr, hrid⟩ := (ha.mem_ids _).mp (List.mem_map_of_mem hx)
    obtain ⟨y, hy, hyid⟩ := hb.valuesAll r hr
    obtain ⟨m1, _, m2⟩ := hb.valuesTally y hy
    have hid : y.chunkID = x.chunkID := by rw [hyid, hrid]
    have : y = x := by
      cases x; cases y
      simp only at hid n1 n2 m1 m2
      subst hid
      simp only [ValueInfo.mk.injEq, true_and]
      exact ⟨by rw [m1, n1], by rw [m2, n2]⟩
    rw [← this]; exact hy
  have hsub1 := key i j hi hj
  have hsub2 := key j i hj hi
  have hnd : ∀ (a : VerboseInfo), StatsOK relid rows a → a.values.Nodup := by
    intro a ha
    have := ha.valuesDistinct
    rw [List.pairwise_map] at this
    exact this.imp (fun hne e => hne (by rw [e]))
  have hp : i.values.Perm j.values :=
    (List.perm_ext_iff_of_nodup (hnd i hi) (hnd j hj)).mpr (fun x => ⟨hsub1 x, hsub2 x⟩)
  have s1 := hi.valuesSorted; have s2 := hj.valuesSorted
  rw [List.pairwise_map] at s1 s2
  exact Sorting.eq_of_sorted_perm (r := Sorting.byKey fun x : ValueInfo => x.chunkID) hp (s1.imp Nat.le_of_lt)
    (s2.imp Nat.le_of_lt) (Sorting.antisymmOn_key _ hi.valuesDistinct)

end PgVerif.Proofs.Toast
