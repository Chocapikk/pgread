/-
  The toast models on arbitrary bytes (C10): the scan of a relation file as a list function (each equation is also totality), the
  other `do` blocks followed with `tot_bind` / `tot_ite`; ParseTOASTPointer, IsTOASTPointer, ReassembleTOAST and ReadValue are followed
  in Props/C10/Toast.lean.  The block at the end continues namespace `ToastSize` of Proofs/DecompLoops.lean.
-/
import PgVerif.Proofs.HeapFile
import PgVerif.Proofs.CollectM
import PgVerif.Proofs.Varlena
namespace PgVerif.Proofs.Toast
open PgVerif PgVerif.Model PgVerif.Model.Toast PgVerif.Proofs

theorem readVarlena_total (data : Bytes) : ∃ r, readVarlena data = .ok r := ⟨_, readVarlena_eq data⟩

theorem chunkOf_total (tdata : Bytes) : ∃ r, chunkOf tdata = .ok r := by
  unfold chunkOf
  refine tot_ite (fun _ => ⟨_, rfl⟩) fun h => tot_uN (by omega) fun _ => tot_uN (by omega) fun _ => ?_
  have hal : align 8 4 = 8 := by decide
  dsimp only
  rw [hal]
  refine tot_ite (fun hlt => ?_) fun _ => tot_bind ⟨_, rfl⟩ fun _ _ => tot_ite (fun _ => ⟨_, rfl⟩) fun _ => ⟨_, rfl⟩
  exact tot_bind ⟨_, sliceFrom_ok _ _ (by omega)⟩ fun _ _ => tot_bind (readVarlena_total _) fun _ _ =>
    tot_bind ⟨_, rfl⟩ fun _ _ => tot_ite (fun _ => ⟨_, rfl⟩) fun _ => ⟨_, rfl⟩

/-- toast.go:toastVisible as a function of the bytes of a tuple -/
def visOf (raw : Bytes) : Bool :=
  if rd 2 (raw.drop 20) &&& 0x0100 != 0 then true
  else if rd 2 (raw.drop 20) &&& 0x0200 != 0 then false
  else rd 4 (raw.drop 0) != 0

/-- 23 bytes is what ParseHeapTuple accepts; toastVisible reads t_xmin @0 and t_infomask @20 -/
theorem toastVisible_eq (raw : Bytes) (h : 23 ≤ raw.length) : Model.Toast.toastVisible raw = .ok (visOf raw) := by
  unfold Model.Toast.toastVisible visOf
  rw [uN_ok 2 raw 20 (by omega), ok_bind]
  split
  · rfl
  · split
    · rfl
    · rw [uN_ok 4 raw 0 (by omega)]; rfl

/-- one line pointer in readTOASTTuples: ParsePage's step `itemOf` (Proofs/HeapPage.lean) without the claimed storage (there is no
overlap guard), kept if `toastVisible` of the same storage says so -/
def toastItemOf (data : Bytes) (upper : Nat) (it : ItemID) : Option HeapTuple :=
  if accepted upper it = true then
    (tupleOf ((data.take (it.offset + it.length)).drop it.offset)).filter fun _ =>
      visOf ((data.take (it.offset + it.length)).drop it.offset)
  else none

theorem toastPageItem_eq_ok (data : Bytes) (hd : 8192 ≤ data.length) (upper : Nat) (it : ItemID) :
    toastPageItem data upper it = .ok (toastItemOf data upper it) := by
  unfold toastPageItem toastItemOf
  by_cases ha : accepted upper it = true
  · obtain ⟨⟨h1, h2⟩, h3, h4⟩ := (accepted_iff upper it).mp ha
    rw [if_pos ha, if_neg (by simp only [Bool.or_eq_true, bne_iff_ne, beq_iff_eq]; omega),
      if_neg (by simp only [Bool.or_eq_true, decide_eq_true_eq]; omega), slice_ok _ _ _ (by omega) (by omega), ok_bind,
      parseHeapTuple_eq, ok_bind]
    cases ht : tupleOf ((data.take (it.offset + it.length)).drop it.offset) with
    | none => rfl
    | some t =>
      rw [toastVisible_eq _ (tupleOf_length ht)]
      simp only [ok_bind, pure_eq_ok, Option.filter]
  · -- a pointer that is not accepted fails one of the two guards
    rw [if_neg ha]
    by_cases h1 : (it.flags != 1 || it.length == 0) = true
    · rw [if_pos h1]; rfl
    · rw [if_neg h1, if_pos]; rfl
      simp only [Bool.or_eq_true, bne_iff_ne, beq_iff_eq, not_or, Decidable.not_not] at h1
      have := mt (accepted_iff upper it).mpr ha
      simp only [Bool.or_eq_true, decide_eq_true_eq]
      omega

/-- one page of toast.go:readTOASTTuples -/
def toastTuplesOf (pg : Bytes) : List HeapTuple :=
  if validHeader (hdrOf pg) = false then []
  else (itemsFrom pg (hdrOf pg).lower (itemCount (hdrOf pg).lower) 24).filterMap (toastItemOf pg (hdrOf pg).upper)

theorem toastPageTuples_eq (pg : Bytes) (h : 8192 ≤ pg.length) : toastPageTuples pg = .ok (toastTuplesOf pg) := by
  have hh : parseHeader pg = .ok (hdrOf pg) := parseHeader_ok pg (by omega)
  unfold toastPageTuples toastTuplesOf
  rw [hh, ok_bind]
  cases hv : validHeader (hdrOf pg) with
  | false => rw [if_pos (by decide), if_pos rfl]; rfl
  | true =>
    rw [if_neg (by decide), if_neg (by decide), parseItems, parseItemsLoop_eq, ok_bind]
    exact collectM_eq_filterMap _ _ _ fun it _ => toastPageItem_eq_ok pg h _ it

theorem readTOASTTuplesFrom_eq (data : Bytes) (n off : Nat) (hn : data.length < off + 8192 * n) :
    readTOASTTuplesFrom data n off = .ok ((pages (data.drop off)).flatMap toastTuplesOf) := by
  induction n generalizing off with
  | zero => rw [pages_drop_short (by omega)]; rfl
  | succ n ih =>
    unfold readTOASTTuplesFrom
    by_cases hc : off + 8192 ≤ data.length
    · rw [if_pos hc, slice_ok _ _ _ hc (by omega), ok_bind, toastPageTuples_eq _ (by rw [List.length_drop, List.length_take]; omega),
        ok_bind, ih _ (by omega), ok_bind, pages_drop_step hc, List.flatMap_cons]
      rfl
    · rw [if_neg hc, pages_drop_short (Nat.lt_of_not_le hc)]; rfl

theorem readTOASTTuples_eq (data : Bytes) : readTOASTTuples data = .ok ((pages data).flatMap toastTuplesOf) :=
  readTOASTTuplesFrom_eq data _ 0 (by omega)

theorem readTOASTTable_total (data : Bytes) : ∃ r, readTOASTTable data = .ok r :=
  tot_bind ⟨_, readTOASTTuples_eq data⟩ fun _ _ => collectM_total _ _ fun _ => chunkOf_total _

/-- the decompression branch of ReassembleTOAST, as an elimination rule over a `motive` so that totality
(`motive x := ∃ r, x = .ok r`) and size (`motive x := x = .ok r → …`) are both instances -/
theorem decompressStored_cases (zlib : Bytes → Nat → Option Bytes) (p : Ptr) (data : Bytes) (h : 4 ≤ data.length)
    {motive : M Bytes → Prop}
    (lz4 : ∀ d, Lz4.decompressLZ4 (data.drop 4) (p.rawSize - 4) = .ok (some d) → motive (.ok d))
    (pglz : ∀ d, Pglz.decompressPGLZ (data.drop 4) (p.rawSize - 4) = .ok (some d) → motive (.ok d))
    (fall : ∀ z, zlib data (min (p.rawSize - 4) (255 * data.length)) = some z → motive (.ok z))
    (stored : motive (.ok data))
    (fault : ∀ e, Lz4.decompressLZ4 (data.drop 4) (p.rawSize - 4) = .error e ∨
      Pglz.decompressPGLZ (data.drop 4) (p.rawSize - 4) = .error e → motive (.error e)) :
    motive (decompressStored zlib p data) := by
  unfold decompressStored
  extract_lets rawSize limit
  rw [sliceFrom_ok _ _ h, ok_bind]
  extract_lets rest
  -- `rest`: what is done with the outcome of the LZ4 attempt, the same in both arms of `if p.method == 1`
  have hrest : ∀ a, (∀ d, a = some d → motive (.ok d)) → motive (rest a) := by
    intro a ha
    cases a with
    | some d => exact ha d rfl
    | none =>
      have hfall : motive (match zlib data limit with | some z => pure z | none => pure data) := by
        cases hz : zlib data limit with
        | some z => exact fall z hz
        | none => exact stored
      dsimp only [rest]
      cases hb : Pglz.decompressPGLZ (data.drop 4) rawSize with
      | error e => exact fault e (.inr hb)
      | ok b =>
        cases b with
        | none => exact hfall
        | some d =>
          dsimp only [ok_bind]
          split
          · exact pglz d hb
          · exact hfall
  split
  · cases ha : Lz4.decompressLZ4 (data.drop 4) rawSize with
    | error e => exact fault e (.inl ha)
    | ok a => exact hrest a fun d hd => lz4 d (hd ▸ ha)
  · exact hrest none fun d hd => nomatch hd

theorem decompressStored_total (zlib : Bytes → Nat → Option Bytes) (p : Ptr) (data : Bytes) (h : 4 ≤ data.length) :
    ∃ r, decompressStored zlib p data = .ok r := by
  refine decompressStored_cases zlib p data h (motive := fun x => ∃ r, x = .ok r) (fun d _ => ⟨d, rfl⟩) (fun d _ => ⟨d, rfl⟩)
    (fun z _ => ⟨z, rfl⟩) ⟨data, rfl⟩ fun e he => ?_
  obtain ⟨a, ha⟩ := decompressLZ4_total (data.drop 4) (p.rawSize - 4)
  obtain ⟨b, hb⟩ := decompressPGLZ_total (data.drop 4) (p.rawSize - 4)
  rw [ha, hb] at he
  rcases he with he | he <;> cases he

theorem getTOASTVerboseInfoWith_total (π : GroupOrder) (relid : Nat) (data : Bytes) :
    ∃ r, getTOASTVerboseInfoWith π relid data = .ok r :=
  tot_bind (readTOASTTable_total data) fun _ _ => tot_ite (fun _ => ⟨_, rfl⟩) fun _ => ⟨_, rfl⟩

end PgVerif.Proofs.Toast

namespace PgVerif.Proofs.ToastSize
open PgVerif PgVerif.Model PgVerif.Model.Toast

theorem decompressStored_len (zlib : Bytes → Nat → Option Bytes) (hz : ZlibBounded zlib) (p : Ptr) (data r : Bytes)
    (h4 : 4 ≤ data.length) (h : decompressStored zlib p data = .ok r) :
    r.length ≤ (p.rawSize - 4) + data.length ∧ r.length ≤ 255 * data.length := by
  revert h
  refine Proofs.Toast.decompressStored_cases zlib p data h4 (motive := fun x => x = .ok r → _) ?_ ?_ ?_ ?_ ?_
  · intro d hd e; cases e
    have := decompressLZ4_len _ _ _ hd
    simp only [List.length_drop] at this; omega
  · intro d hd e; cases e
    have := decompressPGLZ_bound _ _ _ hd
    simp only [List.length_drop] at this; omega
  · intro z hzl e; cases e
    have := hz _ _ _ hzl; omega
  · intro e; cases e; omega
  · intro _ _ e; cases e

/-- the bytes ReassembleTOAST has in hand for value `valueID`: the data of that value's chunks -/
def chunkBytes (chunks : List Chunk) (valueID : Nat) : Nat := ((chunks.filter (·.id == valueID)).flatMap (·.data)).length

/-- ReassembleTOAST by its three exits: nothing; the value's chunk bytes in sequence order; `decompressStored` of
them, reached only with more than the 4 bytes of va_tcinfo in hand. -/
theorem reassembleTOAST_cases {P : M (Option Bytes) → Prop} (zlib : Bytes → Nat → Option Bytes) (chunks : List Chunk)
    (valueID : Nat) (ptr : Option Ptr) (hnone : P (.ok none))
    (hplain : ∀ data : Bytes, data.length = chunkBytes chunks valueID → P (.ok (some data)))
    (hcomp : ∀ (p : Ptr) (data : Bytes), ptr = some p → data.length = chunkBytes chunks valueID → 4 < data.length →
      P (decompressStored zlib p data >>= fun d => pure (some d))) :
    P (reassembleTOAST zlib chunks valueID ptr) := by
  unfold reassembleTOAST
  extract_lets valueChunks sorted data
  -- sorting permutes the chunks: the concatenation keeps its length
  have hperm : data.length = chunkBytes chunks valueID := ((List.mergeSort_perm _ _).flatMap_right _).length_eq
  have hasis : P (pure (if data.isEmpty = true then none else some data)) := by
    split
    · exact hnone
    · exact hplain data hperm
  split
  · exact hnone
  · cases ptr with
    | none => exact hasis
    | some p =>
      dsimp only
      split
      · rename_i hc
        simp only [Bool.and_eq_true, decide_eq_true_eq] at hc
        exact hcomp p data rfl hperm hc.1.2
      · exact hasis

end PgVerif.Proofs.ToastSize
