/-
  types.go:ReadVarlena as a function without faults (`varlenaOf`).  The Go function is modelled twice, in Model/Toast.lean with
  shifts and masks and in Model/Rows.lean with `/` and `%`; here the first is `varlenaOf`, Proofs/Rows.lean adds the second.
-/
import PgVerif.Model.Toast
import PgVerif.Spec.Rows
import PgVerif.Proofs.InlineComp
import PgVerif.Basic.Lemmas
namespace PgVerif.Proofs.Rows
open PgVerif PgVerif.Model PgVerif.Spec

/-- types.go:ReadVarlena; the `.error` arm of the inline-compressed branch is never taken (`InlineComp.inlineDecompress_total`) -/
def varlenaOf (data : Bytes) : Option Bytes × Nat :=
  let first := (data[0]?.getD 0).toNat
  let total := rd 4 data / 4
  if data.length = 0 then (none, 0)
  else if first % 2 = 1 ∧ first ≠ 1 then
    if data.length < first / 2 then (none, 1) else (some ((data.take (first / 2)).drop 1), first / 2)
  else if first = 1 then
    if 18 ≤ data.length ∧ (data[1]?.getD 0).toNat = 18 then (none, 18) else (none, 1)
  else if data.length < 4 then (none, 0)
  else if total < 4 ∨ data.length < total then (none, 4)
  else (if rd 4 data % 4 = 2 ∧ 8 ≤ total then (match inlineDecompress data total with | .ok v => v | .error _ => none)
        else some ((data.take total).drop 4), total)

theorem _root_.PgVerif.Proofs.Toast.readVarlena_eq (data : Bytes) : Toast.readVarlena data = .ok (varlenaOf data) := by
  unfold Toast.readVarlena varlenaOf
  by_cases h0 : data.length = 0
  · simp only [if_pos h0]; rfl
  · simp only [if_neg h0]
    rw [idx_getD data 0 (by omega)]
    simp only [ok_bind]
    generalize data[0]?.getD 0 = b
    have hu (x c : UInt8) : x = c ↔ x.toNat = c.toNat := UInt8.toNat_inj.symm
    -- the model's conditions in the spelling of `varlenaOf`: `/ 2 ^ k` for `>>> k`, `% 2` for `&&& 1`, Prop for Bool
    simp only [Nat.shiftRight_eq_div_pow, Bool.and_eq_true, Bool.or_eq_true, decide_eq_true_eq, beq_iff_eq, bne_iff_ne, ne_eq,
      show b.toNat &&& 1 = b.toNat % 2 from land_mask _ 1, show b = 1 ↔ b.toNat = 1 from hu b 1, Nat.pow_one,
      show (2 : Nat) ^ 2 = 4 from rfl, ge_iff_le]
    generalize b.toNat = first
    by_cases hs : first % 2 = 1 ∧ first ≠ 1
    · rw [if_pos hs, if_pos hs]
      by_cases hf : data.length < first / 2
      · rw [if_pos (Or.inr hf), if_pos hf]; rfl
      · rw [if_neg (by omega), if_neg hf, slice_ok _ _ _ (by omega) (by omega)]; rfl
    · rw [if_neg hs, if_neg hs]
      by_cases h1 : first = 1
      · rw [if_pos h1, if_pos h1]
        by_cases h18 : 18 ≤ data.length
        · rw [if_pos h18, idx_getD data 1 (by omega)]
          simp only [ok_bind, h18, true_and, hu _ 18, show (18 : UInt8).toNat = 18 from rfl]
          split <;> rfl
        · rw [if_neg h18, if_neg (fun h => h18 h.1)]; rfl
      · rw [if_neg h1, if_neg h1]
        by_cases h4 : data.length < 4
        · rw [if_pos h4, if_pos h4]; rfl
        · rw [if_neg h4, if_neg h4, uN_ok 4 data 0 (by omega), List.drop_zero]
          simp only [ok_bind]
          by_cases hf : rd 4 data / 4 < 4 ∨ data.length < rd 4 data / 4
          · rw [if_pos hf, if_pos hf]; rfl
          · rw [if_neg hf, if_neg hf]
            by_cases hz : rd 4 data % 4 = 2 ∧ 8 ≤ rd 4 data / 4
            · rw [if_pos hz, if_pos hz]
              obtain ⟨v, hv⟩ := InlineComp.inlineDecompress_total data _ hz.2 (by omega)
              rw [hv]; rfl
            · rw [if_neg hz, if_neg hz, slice_ok _ _ _ (by omega) (by omega)]; rfl

theorem shortHdr_toNat (n : Nat) (h : n ≤ 126) : (UInt8.ofNat (2 * (n + 1) + 1)).toNat = 2 * (n + 1) + 1 :=
  u8_toNat _ (by omega)

/-- Lib/Reads' `take_drop_mid` with the equation `hn` turned round -/
theorem take_drop_mid (a p rest : Bytes) (n : Nat) (hn : n = a.length) :
    ((a ++ (p ++ rest)).take (p.length + n)).drop n = p :=
  PgVerif.take_drop_mid a p rest n hn.symm

/-- the header is in `formDatum`'s spelling; on literal bytes apply it as a term or with `simpa using`: `rw` will not find the pattern -/
theorem varlenaOf_short (p rest : Bytes) (hp : p.length ≤ 126) :
    varlenaOf (UInt8.ofNat (2 * (p.length + 1) + 1) :: (p ++ rest)) = (some p, p.length + 1) := by
  have htd := take_drop_mid [UInt8.ofNat (2 * (p.length + 1) + 1)] p rest 1 rfl
  unfold varlenaOf
  simp only [List.getElem?_cons_zero, Option.getD_some, shortHdr_toNat p.length hp]
  rw [if_neg (by simp), if_pos ⟨by omega, by omega⟩, show (2 * (p.length + 1) + 1) / 2 = p.length + 1 by omega,
    if_neg (by simp only [List.length_cons, List.length_append]; omega)]
  exact congrArg (fun x => (some x, p.length + 1)) htd

theorem varlenaOf_ext (body rest : Bytes) (hb : body.length = 16) :
    varlenaOf (1 :: 18 :: (body ++ rest)) = (none, 18) := by
  unfold varlenaOf
  simp only [List.getElem?_cons_zero, List.getElem?_cons_succ, Option.getD_some]
  rw [if_neg (by simp), if_neg (by decide), if_pos (by decide),
    if_pos ⟨by simp only [List.length_cons, List.length_append]; omega, by decide⟩]

theorem varlenaOf_hdr4 (h : Nat) (body : Bytes) (h32 : h < 2 ^ 32) (hev : h % 2 = 0) (h4 : 4 ≤ h / 4)
    (hl : h / 4 ≤ 4 + body.length) :
    varlenaOf (le 4 h ++ body) =
      (if h % 4 = 2 ∧ 8 ≤ h / 4 then (match inlineDecompress (le 4 h ++ body) (h / 4) with | .ok v => v | .error _ => none)
        else some (((le 4 h ++ body).take (h / 4)).drop 4), h / 4) := by
  have hrd : rd 4 (le 4 h ++ body) = h := rd_le 4 h body (by omega)
  have hb : ((le 4 h ++ body)[0]?.getD 0).toNat = h % 256 := by
    rw [show le 4 h ++ body = UInt8.ofNat (h % 256) :: (le 3 (h / 256) ++ body) from rfl]
    simp [UInt8.toNat_ofNat']
  have hlen : (le 4 h ++ body).length = 4 + body.length := by simp
  unfold varlenaOf
  simp only [hrd, hb, hlen]
  rw [if_neg (by omega), if_neg (by omega), if_neg (by omega), if_neg (by omega), if_neg (by omega)]

/-- `h` is a variable with its equation so that a caller whose header is written differently can rewrite it first -/
theorem varlenaOf_long (h : Nat) (p rest : Bytes) (hh : h = (p.length + 4) * 4)
    (hlt : p.length + 4 < 2 ^ 30) :
    varlenaOf (le 4 h ++ (p ++ rest)) = (some p, p.length + 4) := by
  have h4 : h / 4 = p.length + 4 := by omega
  rw [varlenaOf_hdr4 h _ (by omega) (by omega) (by omega) (by simp; omega), if_neg (by omega), h4,
    take_drop_mid (le 4 h) p rest 4 (by simp)]

/-- fix 09: the ORIGINAL bytes, and the stored length consumed -/
theorem varlenaOf_comp (z : Comp) (rest : Bytes) (hz : z.WF) (hlt : z.stored.length + 4 < 2 ^ 30) :
    varlenaOf (le 4 ((z.stored.length + 4) * 4 + 2) ++ (z.stored ++ rest)) = (some z.original, z.stored.length + 4) := by
  have henc := InlineComp.inlineDecompress_enc z (le 4 ((z.stored.length + 4) * 4 + 2)) rest (by simp) hz
  have hs4 : 4 ≤ z.stored.length := by simp [Comp.stored]
  have h4 : ((z.stored.length + 4) * 4 + 2) / 4 = z.stored.length + 4 := by omega
  rw [varlenaOf_hdr4 _ _ (by omega) (by omega) (by omega) (by simp; omega), if_pos ⟨by omega, by omega⟩, h4, henc]

theorem varlenaOf_some {data v : Bytes} {n : Nat} (h : varlenaOf data = (some v, n)) :
    n ≤ data.length ∧ ((∃ k, 1 ≤ k ∧ k ≤ n ∧ v = (data.take n).drop k) ∨
      (8 ≤ n ∧ inlineDecompress data n = .ok (some v))) := by
  unfold varlenaOf at h
  simp only [] at h
  generalize (data[0]?.getD 0).toNat = first at h
  by_cases h0 : data.length = 0
  · rw [if_pos h0] at h; cases h
  rw [if_neg h0] at h
  by_cases hs : first % 2 = 1 ∧ first ≠ 1
  · rw [if_pos hs] at h
    by_cases hf : data.length < first / 2
    · rw [if_pos hf] at h; cases h
    · rw [if_neg hf] at h
      obtain ⟨hv, rfl⟩ := Prod.mk.inj h
      obtain rfl := Option.some.inj hv
      exact ⟨by omega, Or.inl ⟨1, by omega, by omega, rfl⟩⟩
  rw [if_neg hs] at h
  by_cases h1 : first = 1
  · rw [if_pos h1] at h; split at h <;> cases h
  rw [if_neg h1] at h
  by_cases h4 : data.length < 4
  · rw [if_pos h4] at h; cases h
  rw [if_neg h4] at h
  by_cases hf : rd 4 data / 4 < 4 ∨ data.length < rd 4 data / 4
  · rw [if_pos hf] at h; cases h
  rw [if_neg hf] at h
  obtain ⟨hv, rfl⟩ := Prod.mk.inj h
  by_cases hz : rd 4 data % 4 = 2 ∧ 8 ≤ rd 4 data / 4
  · rw [if_pos hz] at hv
    refine ⟨by omega, Or.inr ⟨hz.2, ?_⟩⟩
    cases hd : inlineDecompress data (rd 4 data / 4) with
    | error e => rw [hd] at hv; cases hv
    | ok w => rw [hd] at hv; rw [← hv]
  · rw [if_neg hz] at hv
    obtain rfl := Option.some.inj hv
    exact ⟨by omega, Or.inl ⟨4, by omega, by omega, rfl⟩⟩

end PgVerif.Proofs.Rows
