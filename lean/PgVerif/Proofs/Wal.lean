/-
  The WAL parsers of Model/Wal.lean (wal.go) on arbitrary input: totality (C10) and closed forms.
-/
import PgVerif.Basic.Lemmas
import PgVerif.Model.Wal
import PgVerif.Spec.Wal
namespace PgVerif.Proofs.Wal
open PgVerif PgVerif.Model.Wal

theorem imagePart_total (data : Bytes) (p15 : Bool) (ff pos dt : Nat) :
    ∃ r, imagePart data p15 ff pos dt = .ok r := by
  unfold imagePart afterImage
  refine tot_ite (fun _ => tot_ite (fun _ => ⟨_, rfl⟩) fun h => ?_) fun _ => ⟨_, rfl⟩
  rw [uN_ok 2 data pos (by omega), idx_ok data (pos + 4) (by omega)]
  exact ⟨_, rfl⟩

theorem relPart_total (data : Bytes) (ff pos : Nat) (last : Option RelFileNode) :
    ∃ r, relPart data ff pos last = .ok r := by
  unfold relPart
  refine tot_ite (fun _ => tot_ite (fun _ => ⟨_, rfl⟩) fun h => ?_) fun _ => ⟨_, rfl⟩
  rw [uN_ok 4 data pos (by omega), uN_ok 4 data (pos + 4) (by omega), uN_ok 4 data (pos + 8) (by omega)]
  exact ⟨_, rfl⟩

theorem blockStep_total (data : Bytes) (p15 : Bool) (pos dt : Nat) (last : Option RelFileNode)
    (h : pos + 4 ≤ data.length) : ∃ r, blockStep data p15 pos dt last = .ok r := by
  unfold blockStep
  rw [idx_ok data pos (by omega), ok_bind]
  refine tot_ite (fun _ => ⟨_, rfl⟩) fun _ => ?_
  rw [idx_ok data (pos + 1) (by omega), uN_ok 2 data (pos + 2) (by omega), ok_bind, ok_bind]
  refine tot_bind (imagePart_total ..) fun ip _ => ?_
  cases ip with
  | none => exact ⟨_, rfl⟩
  | some pd =>
    refine tot_bind (relPart_total ..) fun rp _ => ?_
    cases rp with
    | none => exact ⟨_, rfl⟩
    | some rp =>
      refine tot_ite (fun _ => ⟨_, rfl⟩) fun hc => ?_
      rw [uN_ok 4 data rp.2 (by omega)]
      exact ⟨_, rfl⟩

theorem blockLoop_total (data : Bytes) (p15 : Bool) (fuel pos dt : Nat) (last : Option RelFileNode) :
    ∃ r, blockLoop data p15 fuel pos dt last = .ok r := by
  induction fuel generalizing pos dt last with
  | zero => exact ⟨_, rfl⟩
  | succ fuel ih =>
    unfold blockLoop
    refine tot_ite (fun hc => tot_bind (blockStep_total data p15 pos dt last hc.1) fun st _ => ?_) fun _ => ⟨_, rfl⟩
    cases st with
    | none => exact ⟨_, rfl⟩
    | some s => exact tot_bind (ih s.pos s.dataTotal s.lastRel) fun _ _ => ⟨_, rfl⟩

theorem parseBlockRefsFor_total (data : Bytes) (magic : Nat) : ∃ r, parseBlockRefsFor data magic = .ok r :=
  blockLoop_total _ _ _ _ _ _

theorem parseXLogRecord_shape (data : Bytes) (lsn magic : Nat) :
    ∃ r, parseXLogRecord data lsn magic = .ok r ∧ (r.2 = 0 ∨ 24 ≤ r.2) := by
  unfold parseXLogRecord
  split
  · exact ⟨_, rfl, .inl rfl⟩
  · rename_i hl
    rw [uN_ok 4 data 0 (by omega)]
    simp only [ok_bind]
    split
    · exact ⟨_, rfl, .inl rfl⟩
    · rename_i ht
      simp only [Bool.or_eq_true, decide_eq_true_eq, not_or] at ht
      rw [uN_ok 4 data 4 (by omega), uN_ok 8 data 8 (by omega), idx_ok data 16 (by omega), idx_ok data 17 (by omega),
        uN_ok 4 data 20 (by omega)]
      simp only [ok_bind]
      split
      · rename_i hb
        simp only [Bool.and_eq_true, decide_eq_true_eq] at hb
        rw [slice_ok data 24 _ hb.2 (by omega)]
        simp only [ok_bind]
        obtain ⟨bl, hbl⟩ := parseBlockRefsFor_total ((data.take (rd 4 (data.drop 0))).drop 24) magic
        simp only [hbl, ok_bind]
        exact ⟨_, rfl, .inr (by simp only []; omega)⟩
      · exact ⟨_, rfl, .inr (by simp only []; omega)⟩

theorem parseXLogRecord_total (data : Bytes) (lsn magic : Nat) : ∃ r, parseXLogRecord data lsn magic = .ok r :=
  (parseXLogRecord_shape data lsn magic).imp fun _ h => h.1

/-- progress of the record loop: an iteration that goes on advances by at least 24 bytes, so the fuel `data.length` of
`recordLoop` cannot run out (no theorem states that) -/
theorem parseXLogRecord_consumed (data : Bytes) (lsn magic : Nat) (r : Option Record × Nat)
    (h : parseXLogRecord data lsn magic = .ok r) : r.2 = 0 ∨ 24 ≤ r.2 := by
  obtain ⟨r', h', hc⟩ := parseXLogRecord_shape data lsn magic
  rw [h] at h'
  cases h'
  exact hc

def walHdr (d : Bytes) : PageHeader :=
  if rdAt 2 2 d &&& 0x0002 != 0 && d.length ≥ 40 then
    { magic := rdAt 2 0 d, info := rdAt 2 2 d, tli := rdAt 4 4 d, pageAddr := rdAt 8 8 d, remLen := rdAt 4 16 d,
      sysid := rdAt 8 24 d, segSize := rdAt 4 32 d, blockSize := rdAt 4 36 d }
  else { magic := rdAt 2 0 d, info := rdAt 2 2 d, tli := rdAt 4 4 d, pageAddr := rdAt 8 8 d, remLen := rdAt 4 16 d }

theorem parsePageHeader_eq (d : Bytes) (h : 24 ≤ d.length) : parsePageHeader d = .ok (walHdr d) := by
  unfold parsePageHeader walHdr rdAt
  rw [uN_ok 2 d 0 (by omega), uN_ok 2 d 2 (by omega), uN_ok 4 d 4 (by omega), uN_ok 8 d 8 (by omega),
    uN_ok 4 d 16 (by omega)]
  simp only [ok_bind]
  split
  · rename_i hc
    have : 40 ≤ d.length := by simp only [Bool.and_eq_true, decide_eq_true_eq] at hc; exact hc.2
    rw [uN_ok 8 d 24 (by omega), uN_ok 4 d 32 (by omega), uN_ok 4 d 36 (by omega)]
    rfl
  · rfl

/-- one iteration of continuationData's loop: what a page gives towards `need` missing bytes -/
def contChunk (pg : Bytes) (need : Nat) : Option Bytes :=
  if !isValidMagic (walHdr pg).magic || (walHdr pg).info &&& 0x0001 == 0 || (walHdr pg).remLen != need then none
  else some ((pg.drop (headerSize (walHdr pg).info)).take need)

def contPure (fol : Bytes) (need : Nat) : Option Bytes :=
  if need = 0 then some []
  else if _h : fol.length < 8192 then none
  else (contChunk (fol.take 8192) need).bind fun c => (contPure (fol.drop 8192) (need - c.length)).map (c ++ ·)
termination_by fol.length
decreasing_by rw [List.length_drop]; omega

theorem contPure_zero (fol : Bytes) : contPure fol 0 = some [] := by
  rw [contPure, if_pos rfl]

theorem contPure_few (fol : Bytes) (need : Nat) (hneed : need ≠ 0) (hlen : fol.length < 8192) :
    contPure fol need = none := by
  rw [contPure, if_neg hneed, dif_pos hlen]

theorem contPure_page (fol : Bytes) (need : Nat) (hneed : need ≠ 0) (hlen : 8192 ≤ fol.length) :
    contPure fol need =
      (contChunk (fol.take 8192) need).bind fun c => (contPure (fol.drop 8192) (need - c.length)).map (c ++ ·) := by
  rw [contPure, if_neg hneed, dif_neg (by omega)]

theorem contChunk_length (pg : Bytes) (need : Nat) (c : Bytes) (hpg : pg.length = 8192) (h : contChunk pg need = some c) :
    c.length = min need (8192 - headerSize (walHdr pg).info) := by
  unfold contChunk at h
  split at h
  · cases h
  · cases h
    rw [List.length_take, List.length_drop, hpg]

theorem headerSize_cases (info : Nat) : headerSize info = 24 ∨ headerSize info = 40 := by
  unfold headerSize; split <;> simp

theorem contLoop_eq (fuel : Nat) (fol : Bytes) (need : Nat) (hf : need ≤ fuel) :
    contLoop fuel fol need = .ok (contPure fol need) := by
  induction fuel generalizing fol need with
  | zero =>
    rw [show need = 0 by omega, contPure_zero]
    rfl
  | succ fuel ih =>
    rw [contLoop]
    by_cases hneed : need = 0
    · rw [if_neg (by omega), hneed, contPure_zero]
      rfl
    · rw [if_pos (by omega)]
      by_cases hlen : fol.length < 8192
      · rw [if_pos hlen, contPure_few fol need hneed hlen]
        rfl
      · have hpg : (fol.take 8192).length = 8192 := by rw [List.length_take]; omega
        rw [if_neg hlen, sliceTo_ok fol 8192 (by omega), ok_bind, parsePageHeader_eq _ (by omega), ok_bind,
          contPure_page fol need hneed (by omega), contChunk]
        split
        · rfl
        · have hhs := headerSize_cases (walHdr (fol.take 8192)).info
          generalize headerSize (walHdr (fol.take 8192)).info = hs at hhs ⊢
          -- Go's `n` is `min need (8192 - hs)`, and the slice `page[hs : hs+n]` is `drop hs` then `take need`: what `contChunk`
          -- gives; after that the two recursions line up
          have hn : (if 8192 - hs > need then need else 8192 - hs) = min need (8192 - hs) := by split <;> omega
          have hc : ((fol.take 8192).take (hs + min need (8192 - hs))).drop hs = ((fol.take 8192).drop hs).take need := by
            rw [List.drop_take, Nat.add_sub_cancel_left, List.take_eq_take_iff, List.length_drop, hpg]
            omega
          simp only [hn]
          rw [slice_ok _ _ _ (by omega) (by omega), sliceFrom_ok fol 8192 (by omega), ok_bind, ok_bind,
            ih _ _ (by omega), ok_bind, hc, Option.bind_some, List.length_take, List.length_drop, hpg]
          cases contPure (fol.drop 8192) (need - min need (8192 - hs)) <;> rfl

def contData (fol : Bytes) (need : Nat) : Option Bytes := if need = 0 then none else contPure fol need

theorem contData_zero (fol : Bytes) : contData fol 0 = none := rfl

theorem contData_of_ne {need : Nat} (h : need ≠ 0) (fol : Bytes) : contData fol need = contPure fol need := if_neg h

theorem continuationData_eq (fol : Bytes) (need : Nat) : continuationData fol need = .ok (contData fol need) := by
  unfold continuationData
  by_cases h : need = 0
  · rw [if_neg (by omega), h]
    rfl
  · rw [if_pos (by omega), contData_of_ne h, contLoop_eq _ _ _ (Nat.le_refl _)]

theorem contPure_some (fol : Bytes) (need : Nat) (out : Bytes) (h : contPure fol need = some out) :
    out.length = need ∧ need ≤ fol.length := by
  induction fol, need using contPure.induct generalizing out with
  | case1 fol =>
    rw [contPure_zero] at h
    cases h
    exact ⟨rfl, Nat.zero_le _⟩
  | case2 fol need hneed hlen =>
    rw [contPure_few fol need hneed hlen] at h
    cases h
  | case3 fol need hneed hlen ih =>
    rw [contPure_page fol need hneed (by omega)] at h
    simp only [Option.bind_eq_some_iff, Option.map_eq_some_iff] at h
    obtain ⟨c, hc, more, hm, rfl⟩ := h
    have := ih c more hm
    have := contChunk_length _ _ _ (by rw [List.length_take]; omega) hc
    rw [List.length_append, List.length_drop] at *
    omega

theorem contData_some (fol : Bytes) (need : Nat) (out : Bytes) (h : contData fol need = some out) :
    out.length = need ∧ need ≤ fol.length := by
  by_cases h0 : need = 0
  · rw [h0, contData_zero] at h
    cases h
  · exact contPure_some fol need out (contData_of_ne h0 fol ▸ h)

theorem continuationData_total (fol : Bytes) (need : Nat) : ∃ r, continuationData fol need = .ok r :=
  ⟨_, continuationData_eq fol need⟩

theorem recordBytes_total (tail fol : Bytes) (h : 4 ≤ tail.length) : ∃ r, recordBytes tail fol = .ok r := by
  unfold recordBytes
  rw [uN_ok 4 tail 0 (by omega), ok_bind]
  refine tot_ite (fun _ => tot_bind (continuationData_total ..) fun c _ => ?_) fun _ => ⟨_, rfl⟩
  cases c <;> exact ⟨_, rfl⟩

/-- so the buffer parseWALPage builds from it, `make([]byte, 0, totalLen)`, is filled exactly -/
theorem continuationData_length (fol : Bytes) (need : Nat) (out : Bytes)
    (h : continuationData fol need = .ok (some out)) : out.length = need ∧ need ≤ fol.length :=
  contData_some fol need out (Except.ok.inj ((continuationData_eq fol need).symm.trans h))

/-- fixes/wal/11: the guard `totalLen-len(recData) <= len(following)` of parseWALPage never changes a result, it only keeps
the buffer that is allocated below the size of the input -/
theorem continuationData_short (fol : Bytes) (need : Nat) (hs : fol.length < need) :
    continuationData fol need = .ok none := by
  rw [continuationData_eq]
  cases h : contData fol need with
  | none => rfl
  | some out => exact absurd (contData_some fol need out h).2 (by omega)

/-- parseWALPage's reassembly without the allocation guard (`continuationData_short`) -/
theorem recordBytes_eq (tail fol : Bytes) :
    recordBytes tail fol = (do
      let totalLen ← uN 4 tail 0
      if totalLen > tail.length then do
        match ← continuationData fol (totalLen - tail.length) with
        | some cont => pure (tail ++ cont)
        | none => pure tail
      else pure tail) := by
  unfold recordBytes
  cases uN 4 tail 0 with
  | error e => rfl
  | ok totalLen =>
    simp only [ok_bind]
    by_cases h1 : totalLen > tail.length
    · by_cases h2 : totalLen - tail.length ≤ fol.length
      · rw [if_pos (by simp only [Bool.and_eq_true, decide_eq_true_eq]; exact ⟨h1, h2⟩), if_pos h1]
        rfl
      · rw [if_neg (by simp only [Bool.and_eq_true, decide_eq_true_eq]; omega), if_pos h1,
          continuationData_short fol _ (by omega)]
        rfl
    · rw [if_neg (by simp only [Bool.and_eq_true, decide_eq_true_eq]; omega), if_neg h1]

theorem recordBytes_length (tail fol out : Bytes) (h : recordBytes tail fol = .ok out) :
    out.length ≤ tail.length + fol.length ∧ (out = tail ∨ uN 4 tail 0 = .ok out.length) := by
  rw [recordBytes_eq] at h
  obtain ⟨totalLen, hu, h⟩ := bind_eq_ok h
  rw [hu]
  by_cases h1 : totalLen > tail.length
  · rw [if_pos h1] at h
    obtain ⟨r, hc, h⟩ := bind_eq_ok h
    cases r with
    | none => cases h; exact ⟨by omega, .inl rfl⟩
    | some cont =>
      obtain ⟨hl, hf⟩ := continuationData_length fol _ cont hc
      cases h
      refine ⟨by rw [List.length_append]; omega, .inr ?_⟩
      rw [List.length_append, hl]
      congr 1; congr 1; omega
  · rw [if_neg h1] at h
    cases h; exact ⟨by omega, .inl rfl⟩

theorem recordLoop_total (data fol : Bytes) (pa magic fuel pos : Nat) :
    ∃ r, recordLoop data fol pa magic fuel pos = .ok r := by
  induction fuel generalizing pos with
  | zero => exact ⟨_, rfl⟩
  | succ fuel ih =>
    unfold recordLoop
    refine tot_ite (fun hc => ?_) fun _ => ⟨_, rfl⟩
    rw [sliceFrom_ok data pos (by omega), ok_bind]
    refine tot_ite (fun _ => ⟨_, rfl⟩) fun _ => ?_
    refine tot_bind (recordBytes_total _ fol (by rw [List.length_drop]; omega)) fun rb _ => ?_
    refine tot_bind (parseXLogRecord_total rb _ magic) fun rc _ => ?_
    exact tot_ite (fun _ => ⟨_, rfl⟩) fun _ => tot_bind (ih _) fun _ _ => ⟨_, rfl⟩

theorem parseWALPage_eq (pg fol : Bytes) :
    parseWALPage pg fol = if pg.length < 24 ∨ isValidMagic (walHdr pg).magic = false then .ok none
      else (recordLoop pg fol (walHdr pg).pageAddr (walHdr pg).magic pg.length (startPos (walHdr pg))).map some := by
  unfold parseWALPage
  by_cases h : pg.length < 24
  · rw [if_pos h, if_pos (.inl h)]
    rfl
  · rw [if_neg h, parsePageHeader_eq pg (by omega), ok_bind]
    cases hv : isValidMagic (walHdr pg).magic
    · rw [if_pos (show (!false) = true from rfl), if_pos (.inr rfl)]
      rfl
    · rw [if_neg (show ¬ (!true) = true by decide), if_neg (by simp [h])]
      cases recordLoop pg fol (walHdr pg).pageAddr (walHdr pg).magic pg.length (startPos (walHdr pg)) <;> rfl

theorem parseWALPage_total (data fol : Bytes) : ∃ r, parseWALPage data fol = .ok r := by
  rw [parseWALPage_eq]
  exact tot_ite (fun _ => ⟨_, rfl⟩) fun _ => tot_map _ (recordLoop_total ..)

/-- fixes/wal/06 -/
theorem isValidMagic_iff (m : Nat) : isValidMagic m = true ↔ m ∈ Spec.Wal.pageMagics := by
  simp [isValidMagic, Spec.Wal.pageMagics, Spec.Wal.pageMagicTable]
  omega

/-- `magic < WAL_MAGIC_15` is the tool's version test -/
theorem pre15_eq (m : Nat) (h : m ∈ Spec.Wal.pageMagics) : Spec.Wal.pre15 m = decide (m < 0xD110) := by
  simp only [Spec.Wal.pageMagics, Spec.Wal.pageMagicTable, List.map_cons, List.map_nil, List.mem_cons, List.not_mem_nil, or_false] at h
  rcases h with h | h | h | h | h <;> subst h <;> decide

theorem version_label : ∀ vm ∈ Spec.Wal.pageMagicTable, pgVersionFromMagic vm.2 = toString vm.1 := by decide

end PgVerif.Proofs.Wal
