/-
  The second half of per-page independence (the first is `fileRecs_append`, WalPages.lean): the bytes after a page matter only
  through the continuation data they carry.
-/
import PgVerif.Proofs.WalPages
namespace PgVerif.Proofs.Wal
open PgVerif PgVerif.Model.Wal

theorem contPure_through (x b b' : Bytes) (m : Nat) (hx : x.length = m * 8192)
    (hb : ∀ need, contPure b need = contPure b' need) (need : Nat) :
    contPure (x ++ b) need = contPure (x ++ b') need := by
  induction m generalizing x need with
  | zero =>
    rw [List.length_eq_zero_iff.mp (by omega : x.length = 0)]
    exact hb need
  | succ m ih =>
    by_cases hneed : need = 0
    · rw [hneed, contPure_zero, contPure_zero]
    · have hl : 8192 ≤ x.length := by omega
      rw [contPure_page _ _ hneed (by rw [List.length_append]; omega),
        contPure_page (x ++ b') _ hneed (by rw [List.length_append]; omega),
        List.take_append_of_le_length hl, List.take_append_of_le_length hl,
        List.drop_append_of_le_length hl, List.drop_append_of_le_length hl]
      simp only [ih (x.drop 8192) (by rw [List.length_drop]; omega)]

theorem contPure_of_data (b b' : Bytes) (hb : ∀ need, continuationData b need = continuationData b' need) (need : Nat) :
    contPure b need = contPure b' need := by
  by_cases hneed : need = 0
  · rw [hneed, contPure_zero, contPure_zero]
  · have := hb need
    rw [continuationData_eq, continuationData_eq, contData_of_ne hneed, contData_of_ne hneed] at this
    exact Except.ok.inj this

theorem continuationData_through (x b b' : Bytes) (m : Nat) (hx : x.length = m * 8192)
    (hb : ∀ need, continuationData b need = continuationData b' need) (need : Nat) :
    continuationData (x ++ b) need = continuationData (x ++ b') need := by
  rw [continuationData_eq, continuationData_eq, contData, contData,
    contPure_through x b b' m hx (contPure_of_data b b' hb)]

theorem recordLoop_congr (data f1 f2 : Bytes) (h : ∀ need, continuationData f1 need = continuationData f2 need)
    (pa magic fuel pos : Nat) : recordLoop data f1 pa magic fuel pos = recordLoop data f2 pa magic fuel pos := by
  induction fuel generalizing pos with
  | zero => rfl
  | succ fuel ih =>
    have hb : ∀ tail, recordBytes tail f1 = recordBytes tail f2 := by
      intro tail; rw [recordBytes_eq, recordBytes_eq]; simp only [h]
    unfold recordLoop
    simp only [hb, ih]

theorem pageRecs_congr (pg f1 f2 : Bytes) (h : ∀ need, continuationData f1 need = continuationData f2 need) :
    pageRecs pg f1 = pageRecs pg f2 := by
  unfold pageRecs
  rw [parseWALPage_eq, parseWALPage_eq, recordLoop_congr _ f1 f2 h]

theorem prefixRecs_congr (a b b' : Bytes) (n : Nat) (ha : a.length = n * 8192)
    (hb : ∀ need, continuationData b need = continuationData b' need) : prefixRecs a b = prefixRecs a b' := by
  induction n generalizing a with
  | zero =>
    rw [List.length_eq_zero_iff.mp (by omega : a.length = 0)]
    rfl
  | succ n ih =>
    obtain ⟨_, hrest, hp⟩ := prefixRecs_succ a b n ha
    obtain ⟨_, _, hp'⟩ := prefixRecs_succ a b' n ha
    rw [hp, hp', ih _ hrest, pageRecs_congr _ _ _ (continuationData_through (a.drop 8192) b b' n hrest hb)]

theorem prefixRecs_nil (a : Bytes) (n : Nat) (ha : a.length = n * 8192) : prefixRecs a [] = fileRecs a := by
  have h := fileRecs_append a [] n ha
  rw [List.append_nil, fileRecs_short [] (by simp), List.append_nil] at h
  exact h.symm

theorem contData_zeros (m need : Nat) : contData (zeros m) need = none := by
  by_cases hneed : need = 0
  · rw [hneed]
    rfl
  · rw [contData_of_ne hneed]
    by_cases hm : m < 8192
    · exact contPure_few _ _ hneed (by rw [zeros_length]; exact hm)
    · rw [contPure_page _ _ hneed (by rw [zeros_length]; omega),
        show (zeros m).take 8192 = zeros (min 8192 m) from List.take_replicate ..,
        contChunk_bad_magic _ _ (walHdr_zeros _)]
      rfl

theorem continuationData_zeros (m need : Nat) : continuationData (zeros m) need = .ok none := by
  rw [continuationData_eq, contData_zeros]

end PgVerif.Proofs.Wal
