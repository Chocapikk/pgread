/-
  ScanWALDirectory / GetRecentWALRecords as functions of the record list of the accepted files (`allRecords`); the file selection.
-/
import PgVerif.Proofs.WalPages
import PgVerif.Proofs.WalNames
namespace PgVerif.Proofs.Wal
open PgVerif PgVerif.Model.Wal

/-- the records ParseWALFile returns for a file of the directory (`none` = the file is rejected) -/
def recsOpt (dir : Dir) (name : String) : Option (List Record) :=
  if (readFile dir name).length < 40 then none else some (fileRecs (readFile dir name))

def recsOf (dir : Dir) (name : String) : List Record := (recsOpt dir name).getD []

theorem parseWALFile_dir (dir : Dir) (name : String) : parseWALFile (readFile dir name) = .ok (recsOpt dir name) :=
  parseWALFile_eq _

/-- all records of the directory: the files in `sort.Strings` order, each file's records in order -/
def allRecords (dir : Dir) : List Record := (walFiles dir).flatMap (recsOf dir)

def takeLast (n : Nat) (xs : List α) : List α := xs.drop (xs.length - n)

theorem takeLast_append {α} (n : Nat) (xs ys : List α) (h : n ≤ ys.length) : takeLast n (xs ++ ys) = takeLast n ys := by
  unfold takeLast
  rw [List.length_append, List.drop_append]
  have : xs.length + ys.length - n - xs.length = ys.length - n := by omega
  rw [this, List.drop_of_length_le (by omega), List.nil_append]

def recentPure (dir : Dir) (limit : Nat) : List String → List Record → List Record
  | [], acc => acc
  | n :: ns, acc => if acc.length < limit then recentPure dir limit ns (recsOf dir n ++ acc) else acc

theorem recentLoop_eq (dir : Dir) (limit : Nat) (ns : List String) (acc : List Record) :
    recentLoop dir (limit : Int) ns acc = .ok (recentPure dir limit ns acc) := by
  induction ns generalizing acc with
  | nil => rfl
  | cons n ns ih =>
    unfold recentLoop recentPure
    by_cases h : acc.length < limit
    · rw [if_pos (by omega), if_pos h, parseWALFile_dir]
      simp only [ok_bind]
      unfold recsOf
      cases recsOpt dir n with
      | none => simpa using ih acc
      | some rs => simpa using ih (rs ++ acc)
    · rw [if_neg (by omega), if_neg h]; rfl

theorem recentPure_takeLast (dir : Dir) (limit : Nat) (ns : List String) (acc : List Record) :
    takeLast limit (recentPure dir limit ns acc) = takeLast limit (ns.reverse.flatMap (recsOf dir) ++ acc) := by
  induction ns generalizing acc with
  | nil => simp [recentPure]
  | cons n ns ih =>
    unfold recentPure
    by_cases h : acc.length < limit
    · rw [if_pos h, ih]
      simp [List.flatMap_append, List.append_assoc]
    · rw [if_neg h, takeLast_append _ _ _ (by omega)]

theorem recentFrom_eq (dir : Dir) (n : Nat) : recentFrom dir (n : Int) = .ok (takeLast n (allRecords dir)) := by
  unfold recentFrom
  rw [recentLoop_eq]
  simp only [ok_bind]
  have h := recentPure_takeLast dir n (walFiles dir).reverse []
  rw [List.reverse_reverse, List.append_nil] at h
  unfold allRecords
  rw [← h]
  split
  · rename_i hc
    rw [if_neg (by omega)]
    simp only [Int.toNat_natCast, takeLast]; rfl
  · rename_i hc
    simp only [takeLast, pure_eq_ok]
    rw [show (recentPure dir n (walFiles dir).reverse []).length - n = 0 by omega, List.drop_zero]

theorem getRecentWALRecords_eq (dir : Dir) (limit : Int) :
    getRecentWALRecords dir limit = .ok (takeLast limit.toNat (allRecords dir)) := by
  unfold getRecentWALRecords
  rw [show (if limit < 0 then 0 else limit) = ((limit.toNat : Nat) : Int) by split <;> omega, recentFrom_eq]

def lookupD [BEq κ] : List (κ × Nat) → κ → Nat
  | [], _ => 0
  | e :: m, k => if e.1 == k then e.2 else lookupD m k

def keys (m : List (κ × β)) : List κ := m.map (·.1)

theorem bump_eq [BEq κ] (m : List (κ × Nat)) (k : κ) : bump m k = AssocMap.upsert m k 1 (· + 1) := rfl

theorem put_eq [BEq κ] (m : List (κ × β)) (k : κ) (v : β) : put m k v = AssocMap.upsert m k v fun _ => v := rfl

theorem lookupD_eq [BEq κ] [LawfulBEq κ] (m : List (κ × Nat)) (k : κ) : lookupD m k = (m.lookup k).getD 0 := by
  induction m with
  | nil => rfl
  | cons e m ih =>
    rw [lookupD, List.lookup_cons, Bool.beq_comm (a := k), ih]
    cases e.1 == k <;> rfl

theorem lookupD_not_mem [BEq κ] [LawfulBEq κ] [DecidableEq κ] (m : List (κ × Nat)) (k : κ) (h : ¬ k ∈ keys m) : lookupD m k = 0 := by
  rw [lookupD_eq, AssocMap.lookup_none_of_keys m k fun e he hk => h (hk ▸ List.mem_map_of_mem he)]
  rfl

theorem lookupD_of_mem [BEq κ] [LawfulBEq κ] (m : List (κ × Nat)) (k : κ) (v : Nat)
    (hm : (k, v) ∈ m) (hn : (keys m).Nodup) : lookupD m k = v := by
  rw [lookupD_eq, AssocMap.lookup_of_mem hn hm]
  rfl

/-- a map counted up from nothing.  `bump` is `upsert` (`bump_eq`): the three facts are read off the invariant of Lib/AssocMap.lean
with the number of occurrences as the summary of a key. -/
theorem counted [BEq κ] [LawfulBEq κ] [DecidableEq κ] {m : List (κ × Nat)} {ks : List κ} (h : m = ks.foldl bump []) :
    (keys m).Nodup ∧ (∀ k, k ∈ keys m ↔ k ∈ ks) ∧ ∀ k, lookupD m k = ks.count k := by
  subst h
  have h : AssocMap.MapInv id List.length (ks.foldl bump []) ks :=
    AssocMap.foldl_upsert_inv id List.length (fun _ => 1) (fun _ n => n + 1) (fun _ => rfl) (fun _ _ _ => by simp) ks [] []
      (AssocMap.mapInv_nil _ _)
  refine ⟨h.distinct, fun k => ⟨fun hk => ?_, fun hk => ?_⟩, fun k => ?_⟩
  · obtain ⟨kv, hkv, rfl⟩ := List.mem_map.mp hk
    obtain ⟨x, hx⟩ := List.exists_mem_of_ne_nil _ (h.entries kv hkv).2
    obtain ⟨hx, e⟩ := List.mem_filter.mp hx
    exact eq_of_beq e ▸ hx
  · obtain ⟨kv, hkv, e⟩ := h.present k hk
    exact List.mem_map.mpr ⟨kv, hkv, e⟩
  · rw [lookupD_eq, List.count_eq_length_filter]
    cases hl : (ks.foldl bump []).lookup k with
    | some v => exact (h.entries _ (AssocMap.lookup_mem _ _ _ hl)).1
    | none =>
      -- an absent key does not occur: every element's key is present
      refine (List.length_eq_zero_iff.mpr (List.filter_eq_nil_iff.mpr fun x hx hc => ?_)).symm
      obtain ⟨kv, hkv, e⟩ := h.present x hx
      have := AssocMap.lookup_of_mem h.distinct hkv
      rw [e, show id x = k from eq_of_beq hc, hl] at this
      cases this

/-- the table keys one record contributes: `db/rel` of every block reference with a relation whose filenode is not 0 -/
def tableKeys (bs : List BlockRef) : List String :=
  bs.filterMap fun b => match b.rel with
    | some r => if r.rel != 0 then some (tableKey r) else none
    | none => none

theorem tallyBlocks_eq (tables : List (String × Nat)) (bs : List BlockRef) :
    tallyBlocks tables bs = (tableKeys bs).foldl bump tables := by
  induction bs generalizing tables with
  | nil => rfl
  | cons b bs ih =>
    unfold tallyBlocks tableKeys
    cases hr : b.rel with
    | none => simp only [List.filterMap_cons, hr]; exact ih tables
    | some r =>
      simp only [List.filterMap_cons, hr]
      by_cases h0 : (r.rel != 0) = true
      · simp only [h0, if_true, List.foldl_cons]; exact ih _
      · simp only [h0, Bool.false_eq_true, if_false]; exact ih tables

/-- the commit/abort verdict a record gives to its transaction -/
def verdict (r : Record) : Option String :=
  if r.xid != 0 && r.rmid == 1 then
    if containsSub r.operation "COMMIT" then some "COMMIT"
    else if containsSub r.operation "ABORT" then some "ABORT" else none
  else none

def nameVerdict (op : String) : Option String :=
  if containsSub op "COMMIT" then some "COMMIT" else if containsSub op "ABORT" then some "ABORT" else none

theorem verdict_xact (r : Record) (hx : r.xid ≠ 0) (hr : r.rmid = 1) : verdict r = nameVerdict r.operation := by
  unfold verdict
  rw [if_pos (by simp [hx, hr])]
  rfl

theorem xact_runs : ∀ cls, opRunsOf cls 1 = Generated.Wal.opRuns16 1
  | 0 => rfl
  | 1 => rfl
  | _ + 2 => rfl

/-- by name, at the start of each run -/
theorem xact_names : ∀ e ∈ Generated.Wal.opRuns16 1, nameVerdict e.2.2 = Spec.Wal.xactStatus 1 e.1 := by decide +kernel

/-- every info byte has the opcode bits (XLOG_XACT_OPMASK 0x70) of the start of its run, or lies in no run and has opcode 0x70 -/
theorem xact_opcodes : ((List.range 256).all fun info => match runOf (Generated.Wal.opRuns16 1) info with
    | some e => info &&& 0x70 == e.1 &&& 0x70
    | none => info &&& 0x70 == 0x70) = true := by decide +kernel

/-- xact_identify looks at the opcode bits only -/
theorem xactStatus_congr (a b : Nat) (h : a &&& 0x70 = b &&& 0x70) : Spec.Wal.xactStatus 1 a = Spec.Wal.xactStatus 1 b := by
  unfold Spec.Wal.xactStatus
  simp only [h]

theorem nameVerdict_default (info : Nat) : nameVerdict (defaultOpName info) = none := by
  simp [nameVerdict, containsSub, containsAux, defaultOpName, List.isPrefixOf]

theorem nameVerdict_xact (cls info : Nat) (hi : info < 256) :
    nameVerdict (opNameIn (opRunsOf cls 1) info) = Spec.Wal.xactStatus 1 info := by
  have h := List.all_eq_true.mp xact_opcodes info (List.mem_range.mpr hi)
  rw [xact_runs, opNameIn_eq]
  cases hr : runOf (Generated.Wal.opRuns16 1) info with
  | none =>
    rw [hr] at h
    rw [nameVerdict_default, xactStatus_congr info 0x70 (beq_iff_eq.mp h)]
    rfl
  | some e =>
    rw [hr] at h
    rw [xact_names e (List.mem_of_find?_eq_some hr)]
    exact xactStatus_congr _ _ (beq_iff_eq.mp h).symm

def statusStep (m : List (Nat × String)) (r : Record) : List (Nat × String) :=
  match verdict r with
  | some v => put m r.xid v
  | none => m

def xidKeys (rs : List Record) : List Nat := (rs.map (·.xid)).filter (· != 0)

theorem mem_xidKeys (rs : List Record) (x : Nat) : x ∈ xidKeys rs ↔ x ≠ 0 ∧ ∃ r ∈ rs, r.xid = x := by
  unfold xidKeys
  simp only [List.mem_filter, List.mem_map, bne_iff_ne, ne_eq]
  constructor
  · rintro ⟨⟨r, hr, rfl⟩, h0⟩; exact ⟨h0, r, hr, rfl⟩
  · rintro ⟨h0, r, hr, rfl⟩; exact ⟨⟨r, hr, rfl⟩, h0⟩

/-! `tallyRecord` field by field: each later step of the loop body keeps the fields it does not assign, so the projection
moves inward through the `if`s and both branches of those that assign other fields agree (`ite_self`). -/

theorem tallyRecord_ops (t : Tally) (r : Record) : (tallyRecord t r).ops = bump t.ops r.operation := by
  simp only [tallyRecord, apply_ite Tally.ops, ite_self]

theorem tallyRecord_tables (t : Tally) (r : Record) : (tallyRecord t r).tables = (tableKeys r.blocks).foldl bump t.tables := by
  simp only [tallyRecord, apply_ite Tally.tables, ite_self, tallyBlocks_eq]

theorem tallyRecord_count (t : Tally) (r : Record) : (tallyRecord t r).recordCount = t.recordCount + 1 := by
  simp only [tallyRecord, apply_ite Tally.recordCount, ite_self]

theorem tallyRecord_seg (t : Tally) (r : Record) : (tallyRecord t r).segmentCount = t.segmentCount := by
  simp only [tallyRecord, apply_ite Tally.segmentCount, ite_self]

theorem tallyRecord_txnOps (t : Tally) (r : Record) :
    (tallyRecord t r).txnOps = if r.xid != 0 then bump t.txnOps r.xid else t.txnOps := by
  simp only [tallyRecord, apply_ite Tally.txnOps, ite_self]

theorem tallyRecord_txnStatus (t : Tally) (r : Record) : (tallyRecord t r).txnStatus = statusStep t.txnStatus r := by
  simp only [tallyRecord, apply_ite Tally.txnStatus, ite_self, statusStep, verdict]
  -- both sides are nested `if`s over the same four tests: each of the 16 outcomes by computation
  by_cases hx : (r.xid != 0) = true <;> by_cases hr : (r.rmid == 1) = true <;>
    by_cases hc : containsSub r.operation "COMMIT" = true <;> by_cases ha : containsSub r.operation "ABORT" = true <;>
    simp [hx, hr, hc, ha]

/-- the tally `t` is the tally `t0` advanced over the records `rs` (field by field) -/
structure Advanced (t0 t : Tally) (rs : List Record) : Prop where
  ops : t.ops = (rs.map (·.operation)).foldl bump t0.ops
  tables : t.tables = (rs.flatMap fun r => tableKeys r.blocks).foldl bump t0.tables
  count : t.recordCount = t0.recordCount + rs.length
  txnOps : t.txnOps = (xidKeys rs).foldl bump t0.txnOps
  txnStatus : t.txnStatus = rs.foldl statusStep t0.txnStatus

theorem advanced_foldl (rs : List Record) (t : Tally) : Advanced t (rs.foldl tallyRecord t) rs := by
  induction rs generalizing t with
  | nil => exact ⟨rfl, rfl, rfl, rfl, rfl⟩
  | cons r rs ih =>
    obtain ⟨h1, h2, h3, h4, h5⟩ := ih (tallyRecord t r)
    rw [List.foldl_cons]
    refine ⟨?_, ?_, ?_, ?_, ?_⟩
    · rw [h1, tallyRecord_ops]; rfl
    · rw [h2, tallyRecord_tables, List.flatMap_cons, List.foldl_append]
    · rw [h3, tallyRecord_count, List.length_cons]; omega
    · rw [h4, tallyRecord_txnOps]
      unfold xidKeys
      simp only [List.map_cons, List.filter_cons]
      by_cases h0 : (r.xid != 0) = true
      · simp [h0]
      · simp [h0]
    · rw [h5, tallyRecord_txnStatus]; rfl

theorem advanced_trans {t0 t1 t2 : Tally} {a b : List Record} (h1 : Advanced t0 t1 a) (h2 : Advanced t1 t2 b) :
    Advanced t0 t2 (a ++ b) := by
  obtain ⟨a1, a2, a3, a4, a5⟩ := h1
  obtain ⟨b1, b2, b3, b4, b5⟩ := h2
  refine ⟨?_, ?_, ?_, ?_, ?_⟩
  · rw [b1, a1, List.map_append, List.foldl_append]
  · rw [b2, a2, List.flatMap_append, List.foldl_append]
  · rw [b3, a3, List.length_append]; omega
  · rw [b4, a4]; unfold xidKeys; rw [List.map_append, List.filter_append, List.foldl_append]
  · rw [b5, a5, List.foldl_append]

/-- number of files of the list that ParseWALFile accepts -/
def acceptedCount (dir : Dir) (names : List String) : Nat := (names.filter fun n => (recsOpt dir n).isSome).length

theorem noteFile_fields (t : Tally) (data : Bytes) :
    (noteFile t data).ops = t.ops ∧ (noteFile t data).tables = t.tables ∧ (noteFile t data).recordCount = t.recordCount ∧
    (noteFile t data).txnOps = t.txnOps ∧ (noteFile t data).txnStatus = t.txnStatus ∧
    (noteFile t data).segmentCount = t.segmentCount + 1 := by
  simp only [noteFile, apply_ite Tally.ops, apply_ite Tally.tables, apply_ite Tally.recordCount, apply_ite Tally.txnOps,
    apply_ite Tally.txnStatus, apply_ite Tally.segmentCount, ite_self, and_self]

theorem advanced_note {t0 t : Tally} {rs : List Record} (data : Bytes) (h : Advanced (noteFile t0 data) t rs) :
    Advanced t0 t rs := by
  obtain ⟨n1, n2, n3, n4, n5, _⟩ := noteFile_fields t0 data
  obtain ⟨h1, h2, h3, h4, h5⟩ := h
  exact ⟨by rw [h1, n1], by rw [h2, n2], by rw [h3, n3], by rw [h4, n4], by rw [h5, n5]⟩

theorem foldl_tallyRecord_seg (rs : List Record) (t : Tally) : (rs.foldl tallyRecord t).segmentCount = t.segmentCount := by
  induction rs generalizing t with
  | nil => rfl
  | cons r rs ih => rw [List.foldl_cons, ih, tallyRecord_seg]

theorem tallyFiles_eq (dir : Dir) (names : List String) (t0 : Tally) :
    ∃ t, tallyFiles dir t0 names = .ok t ∧ Advanced t0 t (names.flatMap (recsOf dir)) ∧
      t.segmentCount = t0.segmentCount + acceptedCount dir names := by
  induction names generalizing t0 with
  | nil => exact ⟨t0, rfl, ⟨rfl, rfl, rfl, rfl, rfl⟩, rfl⟩
  | cons n ns ih =>
    unfold tallyFiles tallyFile
    rw [parseWALFile_dir]
    simp only [ok_bind]
    cases hr : recsOpt dir n with
    | none =>
      simp only [pure_eq_ok, ok_bind]
      obtain ⟨t, ht, ha, hs⟩ := ih t0
      refine ⟨t, ht, ?_, ?_⟩
      · simpa [List.flatMap_cons, recsOf, hr] using ha
      · simpa [acceptedCount, List.filter_cons, hr] using hs
    | some rs =>
      simp only [pure_eq_ok, ok_bind]
      obtain ⟨t, ht, ha, hs⟩ := ih (rs.foldl tallyRecord (noteFile t0 (readFile dir n)))
      refine ⟨t, ht, ?_, ?_⟩
      · have hadv := advanced_note _ (advanced_foldl rs (noteFile t0 (readFile dir n)))
        have := advanced_trans hadv ha
        simpa [List.flatMap_cons, recsOf, hr] using this
      · rw [hs, foldl_tallyRecord_seg, (noteFile_fields t0 _).2.2.2.2.2]
        simp [acceptedCount, hr]; omega

/-- the last lines of ScanWALDirectory: the report from a finished tally -/
def summaryOf (t : Tally) : Summary :=
  { segmentCount := t.segmentCount, recordCount := t.recordCount, firstLSN := formatLSN t.firstLSN,
    lastLSN := formatLSN t.lastLSN, pgVersion := t.pgVersion, tli := t.tli, ops := t.ops,
    transactions := (sortBy (fun a b => decide (a.1 ≤ b.1)) t.txnOps).map fun e => (⟨e.1, statusOf t.txnStatus e.1, e.2⟩ : TxInfo),
    tables := t.tables }

theorem scanWALDirectory_eq (dir : Dir) : ∃ t, scanWALDirectory dir = .ok (summaryOf t) ∧
    Advanced {} t (allRecords dir) ∧ t.segmentCount = acceptedCount dir (walFiles dir) := by
  obtain ⟨t, ht, ha, hs⟩ := tallyFiles_eq dir (walFiles dir) {}
  exact ⟨t, by unfold scanWALDirectory; rw [ht]; rfl, ha, hs.trans (Nat.zero_add _)⟩

def lookupS : List (Nat × String) → Nat → Option String
  | [], _ => none
  | e :: m, k => if e.1 == k then some e.2 else lookupS m k

theorem lookupS_eq (m : List (Nat × String)) (k : Nat) : lookupS m k = m.lookup k := by
  induction m with
  | nil => rfl
  | cons e m ih =>
    rw [lookupS, List.lookup_cons, Bool.beq_comm (a := k), ih]
    cases e.1 == k <;> rfl

theorem statusOf_eq (m : List (Nat × String)) (x : Nat) : statusOf m x = (lookupS m x).getD "IN_PROGRESS" := by
  rw [statusOf, lookupS_eq, AssocMap.lookup_eq_find?]
  cases m.find? (·.1 == x) <;> rfl

theorem lookupS_not_mem (m : List (Nat × String)) (k : Nat) (h : ¬ k ∈ keys m) : lookupS m k = none :=
  lookupS_eq m k ▸ AssocMap.lookup_none_of_keys m k fun _ he hk => h (hk ▸ List.mem_map_of_mem he)

theorem put_lookup (m : List (Nat × String)) (k : Nat) (v : String) (x : Nat) :
    lookupS (put m k v) x = if x = k then some v else lookupS m x := by
  rw [lookupS_eq, lookupS_eq, put_eq, AssocMap.lookup_upsert, AssocMap.lookup_upsert_const]

/-- the verdict of the last record of transaction `x` that has one -/
def lastVerdict (rs : List Record) (x : Nat) : Option String :=
  rs.reverse.findSome? fun r => if r.xid = x then verdict r else none

theorem statusStep_lookup (m : List (Nat × String)) (r : Record) (x : Nat) :
    lookupS (statusStep m r) x = ((if r.xid = x then verdict r else none) <|> lookupS m x) := by
  unfold statusStep
  cases hv : verdict r with
  | none => simp
  | some v =>
    simp only [put_lookup]
    by_cases h : x = r.xid
    · subst h; simp
    · have : ¬ r.xid = x := fun e => h e.symm
      simp [h, this]

theorem foldl_status_lookup (rs : List Record) (m : List (Nat × String)) (x : Nat) :
    lookupS (rs.foldl statusStep m) x = (lastVerdict rs x <|> lookupS m x) := by
  induction rs generalizing m with
  | nil => simp [lastVerdict]
  | cons r rs ih =>
    rw [List.foldl_cons, ih, statusStep_lookup]
    unfold lastVerdict
    rw [List.reverse_cons, List.findSome?_append]
    simp only [List.findSome?_cons, List.findSome?_nil]
    cases (List.findSome? (fun r => if r.xid = x then verdict r else none) rs.reverse) with
    | some v => simp
    | none =>
      cases (if r.xid = x then verdict r else none) <;> simp

/-! Model/Wal.lean models `sort.Slice` (on distinct xids) and `sort.Strings` by the insertion sort `sortBy`: on distinct keys, and on
strings, every correct sort returns the same list. -/

theorem sortBy_eq (le : α → α → Bool) (l : List α) : sortBy le l = Sorting.insertionSort (fun a b => le a b = true) l := by
  induction l with
  | nil => rfl
  | cons x xs ih =>
    rw [sortBy, ih, Sorting.insertionSort_cons,
      Sorting.eq_orderedInsert (f := insertSorted le) _ (fun _ => rfl) (fun _ _ _ => rfl)]

theorem sortBy_perm (le : α → α → Bool) (l : List α) : (sortBy le l).Perm l :=
  sortBy_eq le l ▸ Sorting.insertionSort_perm _ l

theorem sortBy_sorted {κ} [LE κ] [DecidableLE κ] [Std.IsLinearOrder κ] (key : α → κ) (l : List α) :
    (sortBy (fun a b => decide (key a ≤ key b)) l).Pairwise fun a b => key a ≤ key b := by
  rw [sortBy_eq, Sorting.insertionSort_decide (r := Sorting.byKey key)]
  exact Sorting.byKey_sorted key l

theorem sortBy_strict (key : α → Nat) (l : List α) (h : (l.map key).Nodup) :
    ((sortBy (fun a b => decide (key a ≤ key b)) l).map key).Pairwise (· < ·) := by
  rw [sortBy_eq, Sorting.insertionSort_decide (r := Sorting.byKey key), List.pairwise_map]
  exact Sorting.byKey_sorted_strict h

/-- wal.go:isWALSegmentName is PostgreSQL's IsXLogFileName as the Spec writes it: the two definitions are the same text -/
theorem isWALSegmentName_eq : isWALSegmentName = Spec.Wal.isSegmentName := rfl

theorem strSorted (l : List String) : (sortBy strLe l).Pairwise fun a b => a ≤ b :=
  sortBy_sorted id l

/-- fixes/entry/04: the selection loop `e.Type().IsRegular() && isWALSegmentName(name)` over the `os.ReadDir` entries -/
theorem walFilesOf_eq (es : Entries) : walFilesOf es = walFiles (regularFiles es) := by
  unfold walFilesOf walFiles regularFiles
  congr 1
  rw [List.map_map, List.filter_map, List.filter_filter]
  apply congrArg
  apply List.filter_congr
  intro e _
  simp [Bool.and_comm]

theorem mem_walFilesOf (es : Entries) (n : String) :
    n ∈ walFilesOf es ↔ ∃ e ∈ es, e.name = n ∧ e.kind = .regular ∧ isWALSegmentName n = true := by
  unfold walFilesOf
  rw [(sortBy_perm strLe _).mem_iff, List.mem_map]
  constructor
  · rintro ⟨e, he, rfl⟩
    rw [List.mem_filter, Bool.and_eq_true] at he
    refine ⟨e, he.1, rfl, ?_, he.2.2⟩
    have := he.2.1
    simpa [DirEntry.isRegular] using this
  · rintro ⟨e, he, rfl, hk, hn⟩
    refine ⟨e, ?_, rfl⟩
    rw [List.mem_filter, Bool.and_eq_true]
    exact ⟨he, by simp [DirEntry.isRegular, hk], hn⟩

end PgVerif.Proofs.Wal
