/-
  The two Spec encoders of a WAL segment, `encSegment` (arithmetic) and `encSegmentOp` (page-by-page copy), are the same
  function: induction over `Laid` with the xlp_rem_len walk (`Walk`) as invariant.  Nothing here mentions the model of the Go code.
  Own namespace; `Fills.stream`, `Fills.track`, `Laid.enc` are declared under `_root_.PgVerif.Proofs.Wal` for the dot notation.
-/
import PgVerif.Proofs.WalLayout
namespace PgVerif.Proofs.WalEnc
open PgVerif
open PgVerif.Spec.Wal

open PgVerif.Proofs.Wal (pad8_length encRecord_length totLen_ge recsLen streamOf streamOf_cons streamOf_length hdr_length
  align8_ge align8_mod Fills fillPage_fills hdrSize_bounds filledPage carry_exceeds align8_sub Laid layout_laid contPage)

theorem pad8_take (c : Bytes) (n : Nat) (h : n ≤ c.length) : (pad8 c).take n = c.take n := by
  rw [pad8, List.take_append_of_le_length h]

theorem pad8_drop (c : Bytes) (n : Nat) (hn : n % 8 = 0) (h : n ≤ c.length) : (pad8 c).drop n = pad8 (c.drop n) := by
  rw [pad8, pad8, List.drop_append_of_le_length h, List.length_drop, align8_sub _ _ hn h]
  congr 2
  have := align8_ge c.length
  omega

/-- bytes still to come at stream position `b` of whatever was begun before `b`; `e` = end of the last thing skipped, `o` = where
the next record starts -/
def remAt : Nat → Nat → List WalRecord → Nat → Nat
  | e, _, [], b => e - b
  | e, o, r :: rs, b => if o < b then remAt (o + r.totLen) (o + align8 r.totLen) rs b else e - b

def itemsFrom (o : Nat) (rs : List WalRecord) : List (Nat × Nat) := (offsetsFrom o rs).zip (rs.map (·.totLen))

theorem itemsFrom_cons (o : Nat) (r : WalRecord) (rs : List WalRecord) :
    itemsFrom o (r :: rs) = (o, r.totLen) :: itemsFrom (o + align8 r.totLen) rs := by
  simp [itemsFrom, offsetsFrom]

theorem find_none_of_le (rs : List WalRecord) (o b : Nat) (h : b ≤ o) :
    (itemsFrom o rs).find? (fun it => it.1 < b && b < it.1 + it.2) = none := by
  induction rs generalizing o with
  | nil => rfl
  | cons r rs ih =>
    rw [itemsFrom_cons, List.find?_cons_of_neg (by simp; omega)]
    exact ih _ (by omega)

/-- The left side is the body of `WalSegment.remLen` with the end of `pre`, the first offset and `s.items` left as variables `e`,
`o`, `itemsFrom o rs`; `remLen_eq` puts them back. -/
theorem rem_search_eq (rs : List WalRecord) (e o b : Nat) (heo : e ≤ o) :
    (if b < e then e - b
     else match (itemsFrom o rs).find? (fun it => it.1 < b && b < it.1 + it.2) with
       | some it => it.1 + it.2 - b
       | none => 0) = remAt e o rs b := by
  induction rs generalizing e o with
  | nil =>
    simp only [itemsFrom, offsetsFrom, List.zip_nil_left, List.find?_nil, remAt]
    split <;> omega
  | cons r rs ih =>
    have hA := align8_ge r.totLen
    rw [itemsFrom_cons]
    simp only [remAt]
    by_cases hob : o < b
    · rw [if_pos hob, if_neg (by omega)]
      rw [← ih (o + r.totLen) (o + align8 r.totLen) (by omega)]
      by_cases hb : b < o + r.totLen
      · rw [List.find?_cons_of_pos (by simp; omega), if_pos hb]
      · rw [List.find?_cons_of_neg (by simp; omega), if_neg hb]
    · rw [if_neg hob]
      rw [List.find?_cons_of_neg (by simp; omega), find_none_of_le rs _ b (by omega)]
      by_cases hbe : b < e
      · rw [if_pos hbe]
      · rw [if_neg hbe]
        show 0 = e - b
        omega

theorem remLen_eq (s : WalSegment) (b : Nat) :
    s.remLen b = remAt s.pre.length (align8 s.pre.length) s.records b :=
  rem_search_eq s.records s.pre.length (align8 s.pre.length) b (align8_ge _)

theorem cap_eq (k : Nat) : (if k = 0 then cap0 else capN) = 8192 - hdrSize k := by
  unfold hdrSize cap0 capN; split <;> rfl

theorem pageStart_succ (k : Nat) : pageStart (k + 1) = pageStart k + (8192 - hdrSize k) := by
  unfold pageStart hdrSize cap0 capN
  cases k with
  | zero => simp
  | succ j => simp only [Nat.add_one_ne_zero, if_false, Nat.add_sub_cancel]; rw [Nat.succ_mul]; omega

/-- XLogBytePosToRecPtr: the usable byte `q` of page `k` is byte `hdrSize k + q` of that page -/
theorem locate_pageStart (k q : Nat) (hq : q < 8192 - hdrSize k) : locate (pageStart k + q) = (k, hdrSize k + q) := by
  unfold locate pageStart hdrSize cap0 capN at *
  cases k with
  | zero => simp only [if_true] at hq ⊢; rw [if_pos (by omega)]; simp
  | succ j =>
    simp only [Nat.add_one_ne_zero, if_false, Nat.add_sub_cancel] at hq ⊢
    rw [if_neg (by omega)]
    have h1 : (8192 - 40 + j * (8192 - 24) + q - (8192 - 40)) = (8192 - 24) * j + q := by omega
    rw [h1, Nat.mul_add_div (by decide), Nat.mul_add_mod, Nat.div_eq_of_lt hq, Nat.mod_eq_of_lt hq]

/-- pages needed from page `k` on for `L` more usable bytes.  At `k = 0` it unfolds to the Spec's `pagesFor`, as `pad8 pre ++ streamOf
records` and `offsetsFrom (align8 pre.length) records` unfold to `WalSegment.stream` and `.offsets`: `layout_agrees` relies on that. -/
def pagesFrom (k L : Nat) : Nat :=
  if L ≤ 8192 - hdrSize k then 1 else 1 + (L - (8192 - hdrSize k) + capN - 1) / capN

theorem pagesFrom_step (k L : Nat) (h : 8192 - hdrSize k < L) :
    pagesFrom k L = 1 + pagesFrom (k + 1) (L - (8192 - hdrSize k)) := by
  unfold pagesFrom
  rw [if_neg (by omega)]
  have h1 : hdrSize (k + 1) = 24 := by unfold hdrSize; simp
  rw [h1]
  unfold capN
  split <;> omega

theorem pad8_nil : pad8 [] = [] := rfl

/-- a filled page is the next `8192 - p` bytes of the stream (zero-filled when the stream ends first); the rest of the stream is
the padded carry and the records left -/
theorem _root_.PgVerif.Proofs.Wal.Fills.stream {addr p : Nat} {rs : List WalRecord} {f : PageFill} (h : Fills addr p rs f) :
    (streamOf rs).take (8192 - p) ++ zeros (8192 - p - ((streamOf rs).take (8192 - p)).length) =
        streamOf f.whole ++ f.trailer.bytes ∧
    (streamOf rs).drop (8192 - p) = pad8 f.carry ++ streamOf f.rest := by
  induction h with
  | nil p => simp [streamOf, Trailer.bytes, pad8_nil]
  | @fits p r rs f h1 _ ih =>
    have hpl : (pad8 (encRecord r)).length = align8 r.totLen := by rw [pad8_length, encRecord_length]
    simp only [streamOf_cons]
    rw [show 8192 - p = (pad8 (encRecord r)).length + (8192 - (p + align8 r.totLen)) by omega,
      List.take_length_add_append, List.drop_length_add_append, List.length_append, Nat.add_sub_add_left,
      List.append_assoc, List.append_assoc, ih.1, ih.2]
    exact ⟨rfl, rfl⟩
  | full r rs => simp [streamOf, Trailer.bytes, pad8_nil, zeros]
  | @cut p r rs hp hp8 hn =>
    have hlen := encRecord_length r
    have hpl : (pad8 (encRecord r)).length = align8 r.totLen := by rw [pad8_length, hlen]
    have hA := align8_ge r.totLen
    rw [streamOf_cons]
    simp only [Trailer.bytes, streamOf, List.flatMap_nil, List.nil_append]
    have hk : 8192 - p ≤ (encRecord r).length := by omega
    constructor
    · rw [List.take_append_of_le_length (by omega), pad8_take _ _ hk, List.length_take, hlen,
        Nat.min_eq_left (by omega), Nat.sub_self]
      exact List.append_nil _
    · rw [List.drop_append_of_le_length (by omega), pad8_drop _ _ (by omega) hk]

theorem locate_page (k p o : Nat) (hkp : hdrSize k ≤ p) (hp : p < 8192)
    (ho : o = pageStart k + (p - hdrSize k)) : locate o = (k, p) := by
  rw [ho, locate_pageStart k (p - hdrSize k) (by omega)]
  congr 1
  omega

theorem lsnAt_page (s : WalSegment) (k p o : Nat) (hkp : hdrSize k ≤ p) (hp : p < 8192)
    (ho : o = pageStart k + (p - hdrSize k)) : s.lsnAt o = s.startAddr + 8192 * k + p := by
  rw [WalSegment.lsnAt, locate_page k p o hkp hp ho]

theorem lsn_cut_or_straddle (c : Prop) [Decidable c] (l : Nat) (r : WalRecord) :
    (if c then Placed.cut l r else Placed.straddle l r).lsn = l := by
  split <;> rfl

/-- the way a record was placed is the way the stream arithmetic classifies its offset -/
def classOK : Placed → Nat → Bool
  | .whole _ r, o => recordOnOnePage o r.totLen
  | .cut _ r, o => headerOnOnePage o && !recordOnOnePage o r.totLen
  | .straddle _ _, o => !headerOnOnePage o

/-- placed records against stream offsets, one to one: same position, same class -/
def Agree (s : WalSegment) : List Placed → List Nat → Prop
  | [], [] => True
  | p :: ps, o :: os => p.lsn = s.lsnAt o ∧ classOK p o = true ∧ Agree s ps os
  | _, _ => False

theorem Agree_append (s : WalSegment) (a b : List Placed) (x y : List Nat) (h1 : Agree s a x) (h2 : Agree s b y) :
    Agree s (a ++ b) (x ++ y) := by
  induction a generalizing x with
  | nil =>
    cases x with
    | nil => exact h2
    | cons o os => exact absurd h1 (by simp [Agree])
  | cons p ps ih =>
    cases x with
    | nil => exact absurd h1 (by simp [Agree])
    | cons o os => exact ⟨h1.1, h1.2.1, ih os h1.2.2⟩

theorem Agree_lsn (s : WalSegment) (ps : List Placed) (os : List Nat) (h : Agree s ps os) :
    ps.map Placed.lsn = os.map s.lsnAt := by
  induction ps generalizing os with
  | nil =>
    cases os with
    | nil => rfl
    | cons o os => exact absurd h (by simp [Agree])
  | cons p ps ih =>
    cases os with
    | nil => exact absurd h (by simp [Agree])
    | cons o os => simp only [List.map_cons, h.1, ih os h.2.2]

theorem Agree_classes (s : WalSegment) (ps : List Placed) (os : List Nat) (h : Agree s ps os) :
    (ps.zip os).all (fun po => classOK po.1 po.2) = true := by
  induction ps generalizing os with
  | nil => rfl
  | cons p ps ih =>
    cases os with
    | nil => rfl
    | cons o os => simp only [List.zip_cons_cons, List.all_cons, h.2.1, ih os h.2.2, Bool.and_self]

theorem remAt_ge (e o : Nat) (rs : List WalRecord) (b : Nat) (h : b ≤ o) : remAt e o rs b = e - b := by
  cases rs with
  | nil => rfl
  | cons r rs => rw [remAt, if_neg (by omega)]

/-- `remAt` looks at `e` only where it lies ahead of `b` -/
theorem remAt_congr (e e' o : Nat) (rs : List WalRecord) (b : Nat) (h : e - b = e' - b) : remAt e o rs b = remAt e' o rs b := by
  cases rs with
  | nil => exact h
  | cons r rs =>
    rw [remAt, remAt]
    split
    · rfl
    · exact h

/-- filling page `k` from position `p` (stream offset `o`; `e` = end of what precedes): behind the page the walk stands at the end
of the carry, whatever `e` was (`remAt_congr`), and the records placed stand where the stream arithmetic puts them -/
theorem _root_.PgVerif.Proofs.Wal.Fills.track {addr p : Nat} {rs : List WalRecord} {f : PageFill} (h : Fills addr p rs f)
    (s : WalSegment) (k e o : Nat) (hkp : hdrSize k ≤ p) (ho : o = pageStart k + (p - hdrSize k)) (heo : e ≤ o)
    (haddr : addr = s.startAddr + 8192 * k) :
    ((f.carry ≠ [] ∨ f.rest ≠ []) → ∀ b, o + (8192 - p) ≤ b →
      remAt e o rs b = remAt (o + (8192 - p) + f.carry.length) (o + (8192 - p) + align8 f.carry.length) f.rest b) ∧
    ∃ os1, offsetsFrom o rs = os1 ++ offsetsFrom (o + (8192 - p) + align8 f.carry.length) f.rest ∧ Agree s f.placed os1 := by
  subst haddr
  induction h generalizing e o with
  | nil p => exact ⟨fun h => h.elim (absurd rfl) (absurd rfl), [], rfl, trivial⟩
  | @fits p r rs f h1 _ ih =>
    have h24 := totLen_ge r
    have hAge := align8_ge r.totLen
    obtain ⟨q1, os1, q3, q4⟩ := ih (o + r.totLen) (o + align8 r.totLen) (by omega) (by omega) (by omega)
    rw [show o + align8 r.totLen + (8192 - (p + align8 r.totLen)) = o + (8192 - p) by omega] at q1 q3
    refine ⟨fun hne b hb => ?_, o :: os1, ?_, (lsnAt_page s k p o hkp (by omega) ho).symm, ?_, q4⟩
    · rw [remAt, if_pos (by omega)]
      exact q1 hne b hb
    · rw [offsetsFrom, q3]; rfl
    · simp only [classOK, recordOnOnePage, locate_page k p o hkp (by omega) ho, decide_eq_true_eq]
      omega
  | full r rs =>
    simp only [Nat.sub_self, Nat.add_zero, List.length_nil, show align8 0 = 0 from rfl]
    exact ⟨fun _ b hb => remAt_congr _ _ _ _ _ (by omega), [], rfl, trivial⟩
  | @cut p r rs hp hp8 hn =>
    have hAge := align8_ge r.totLen
    have hloc : (locate o).2 = p := by rw [locate_page k p o hkp hp ho]
    rw [List.length_drop, encRecord_length, show o + (8192 - p) + (r.totLen - (8192 - p)) = o + r.totLen by omega,
      align8_sub _ _ (by omega) (by omega), show o + (8192 - p) + (align8 r.totLen - (8192 - p)) = o + align8 r.totLen by omega]
    refine ⟨fun _ b hb => by rw [remAt, if_pos (by omega)], [o], by rw [offsetsFrom]; rfl, ?_, ?_, trivial⟩
    · rw [lsn_cut_or_straddle, lsnAt_page s k p o hkp hp ho]
    · by_cases h3 : 8192 - p ≥ 24
      · rw [if_pos h3]
        simp only [classOK, headerOnOnePage, recordOnOnePage, hloc, Bool.and_eq_true, decide_eq_true_eq,
          Bool.not_eq_true', decide_eq_false_iff_not]
        omega
      · rw [if_neg h3]
        simp only [classOK, headerOnOnePage, hloc, Bool.not_eq_true', decide_eq_false_iff_not]
        omega

theorem encPagesFrom_succ (s : WalSegment) (m k : Nat) (rest : Bytes) :
    encPagesFrom s (m + 1) k rest =
      encPageHeader s k ++ rest.take (8192 - hdrSize k) ++ zeros (8192 - hdrSize k - (rest.take (8192 - hdrSize k)).length) ++
        encPagesFrom s m (k + 1) (rest.drop (8192 - hdrSize k)) := by
  rw [encPagesFrom]
  simp only [cap_eq]

/-! The arithmetic of a page that is filled and not the last, on variables (`A` the padded carry, `R` the records to come, `x`
what is left behind the page): in the context of `Laid.enc` the same two steps are slow for `omega`. -/

theorem more_than_page {A R cap x : Nat} (hx : x + (cap - A) = R) (hA : A ≤ cap) (hpos : 0 < x) : cap < A + R := by
  omega

theorem left_after_page {A R cap x : Nat} (hx : x + (cap - A) = R) (hA : A ≤ cap) : A + R - cap = x := by
  omega

theorem left_pos (c : Bytes) (rs : List WalRecord) (h : c ≠ [] ∨ rs ≠ []) : 0 < align8 c.length + recsLen rs := by
  rcases h with h | h
  · have := List.length_pos_iff.mpr h
    have := align8_ge c.length
    omega
  · cases rs with
    | nil => exact absurd rfl h
    | cons r rs =>
      have := totLen_ge r
      have := align8_ge r.totLen
      simp only [recsLen, List.map_cons, List.sum_cons]
      omega

/-- the walk that computes xlp_rem_len (`remAt`) at the start of page `k` stands at the end of the carry, with the records
`rs` to come behind the padded carry -/
def Walk (s : WalSegment) (k : Nat) (carry : Bytes) (rs : List WalRecord) : Prop :=
  ∀ b, pageStart k ≤ b → s.remLen b = remAt (pageStart k + carry.length) (pageStart k + align8 carry.length) rs b

variable {s : WalSegment} {k : Nat} {carry : Bytes} {rs : List WalRecord} {f : PageFill}

theorem Walk.header (w : Walk s k carry rs) : encPageHeader s k = pageHeader s k carry.length := by
  unfold encPageHeader
  rw [w _ (Nat.le_refl _), remAt_ge _ _ _ _ (Nat.le_add_right _ _), Nat.add_sub_cancel_left]

theorem Walk.cont (w : Walk s k carry rs) (hcap : align8 carry.length > 8192 - hdrSize k) :
    Walk s (k + 1) (carry.drop (8192 - hdrSize k)) rs := by
  have hk := hdrSize_bounds k
  have hL := carry_exceeds k carry hcap
  intro b hb
  rw [pageStart_succ] at hb ⊢
  rw [w b (by omega), List.length_drop, align8_sub _ _ (by omega) (by omega),
    show pageStart k + (8192 - hdrSize k) + (carry.length - (8192 - hdrSize k)) = pageStart k + carry.length by omega,
    show pageStart k + (8192 - hdrSize k) + (align8 carry.length - (8192 - hdrSize k)) = pageStart k + align8 carry.length by
      omega]

theorem Walk.fill (w : Walk s k carry rs) (hcap : ¬ align8 carry.length > 8192 - hdrSize k)
    (hf : Fills (s.startAddr + 8192 * k) (hdrSize k + align8 carry.length) rs f) :
    ((f.carry ≠ [] ∨ f.rest ≠ []) → Walk s (k + 1) f.carry f.rest) ∧
    ∃ os1, offsetsFrom (pageStart k + align8 carry.length) rs =
      os1 ++ offsetsFrom (pageStart (k + 1) + align8 f.carry.length) f.rest ∧ Agree s f.placed os1 := by
  have hk := hdrSize_bounds k
  have hA := align8_ge carry.length
  obtain ⟨q1, q3⟩ := hf.track s k (pageStart k + carry.length) (pageStart k + align8 carry.length) (by omega) (by omega)
    (by omega) rfl
  rw [show pageStart k + align8 carry.length + (8192 - (hdrSize k + align8 carry.length)) = pageStart (k + 1) by
    rw [pageStart_succ]; omega] at q1 q3
  exact ⟨fun hne b hb => (w b (by rw [pageStart_succ] at hb; omega)).trans (q1 hne b hb), q3⟩

theorem contPage_stream (rs : List WalRecord) (hcap : align8 carry.length > 8192 - hdrSize k) :
    pageHeader s k carry.length ++ (pad8 carry ++ streamOf rs).take (8192 - hdrSize k) ++
        zeros (8192 - hdrSize k - ((pad8 carry ++ streamOf rs).take (8192 - hdrSize k)).length) = contPage s k carry ∧
    (pad8 carry ++ streamOf rs).drop (8192 - hdrSize k) = pad8 (carry.drop (8192 - hdrSize k)) ++ streamOf rs := by
  have hk := hdrSize_bounds k
  have hpl := pad8_length carry
  have hL := carry_exceeds k carry hcap
  constructor
  · rw [List.take_append_of_le_length (by omega), pad8_take _ _ (by omega), List.length_take,
      show 8192 - hdrSize k - min (8192 - hdrSize k) carry.length = 0 by omega]
    exact List.append_nil _
  · rw [List.drop_append_of_le_length (by omega), pad8_drop _ _ (by omega) (by omega)]

theorem filledPage_stream (hcap : ¬ align8 carry.length > 8192 - hdrSize k)
    (hf : Fills (s.startAddr + 8192 * k) (hdrSize k + align8 carry.length) rs f) :
    pageHeader s k carry.length ++ (pad8 carry ++ streamOf rs).take (8192 - hdrSize k) ++
        zeros (8192 - hdrSize k - ((pad8 carry ++ streamOf rs).take (8192 - hdrSize k)).length) = filledPage s k carry f ∧
    (pad8 carry ++ streamOf rs).drop (8192 - hdrSize k) = pad8 f.carry ++ streamOf f.rest := by
  have := hdrSize_bounds k
  have hpl := pad8_length carry
  obtain ⟨T, D⟩ := hf.stream
  rw [show 8192 - (hdrSize k + align8 carry.length) = 8192 - hdrSize k - align8 carry.length by omega] at T D
  have htake : (pad8 carry ++ streamOf rs).take (8192 - hdrSize k) =
      pad8 carry ++ (streamOf rs).take (8192 - hdrSize k - align8 carry.length) := by
    rw [List.take_append, hpl, List.take_of_length_le (by omega)]
  constructor
  · rw [htake, filledPage, ← T, List.length_append, hpl]
    simp only [List.append_assoc]
    congr 4
    omega
  · rw [List.drop_append, hpl, List.drop_of_length_le (by omega), List.nil_append, D]

/-- The two layouts agree from any page on: cutting the remaining stream into pages gives the bytes of the page-by-page copy,
and the copy puts every record at the position the stream arithmetic gives. -/
theorem _root_.PgVerif.Proofs.Wal.Laid.enc {bytes : Bytes} {placed : List Placed}
    (h : Laid s k carry rs bytes placed) (w : Walk s k carry rs) :
    encPagesFrom s (pagesFrom k (align8 carry.length + recsLen rs)) k (pad8 carry ++ streamOf rs) = bytes ∧
    Agree s placed (offsetsFrom (pageStart k + align8 carry.length) rs) := by
  induction h with
  | @cont k carry rs bytes placed hcap _ ih =>
    have hk := hdrSize_bounds k
    have hL := carry_exceeds k carry hcap
    obtain ⟨hpage, hdrop⟩ := contPage_stream rs hcap
    have hdl : align8 (carry.drop (8192 - hdrSize k)).length = align8 carry.length - (8192 - hdrSize k) := by
      rw [List.length_drop, align8_sub _ _ (by omega) (by omega)]
    obtain ⟨i1, i2⟩ := ih (w.cont hcap)
    rw [show pageStart (k + 1) + align8 (carry.drop (8192 - hdrSize k)).length = pageStart k + align8 carry.length by
      rw [pageStart_succ, hdl]; omega] at i2
    rw [pagesFrom_step k _ (by omega), Nat.add_comm 1, encPagesFrom_succ, w.header, hpage, hdrop,
      Nat.sub_add_comm (Nat.le_of_lt hcap), ← hdl, i1]
    exact ⟨rfl, i2⟩
  | @last k carry rs f hcap hf hc hr =>
    obtain ⟨hpage, _⟩ := filledPage_stream hcap hf
    obtain ⟨_, os1, q3, q4⟩ := w.fill hcap hf
    have hshort : align8 carry.length + recsLen rs ≤ 8192 - hdrSize k := by
      have := hf.conserve.2.2 hc hr
      omega
    rw [pagesFrom, if_pos hshort, encPagesFrom_succ, w.header, hpage]
    constructor
    · simp only [encPagesFrom, List.append_nil]
    · rw [hr] at q3
      rw [q3]
      simpa [offsetsFrom] using q4
  | @more k carry rs f bytes placed hcap hf hne _ ih =>
    obtain ⟨hpage, hdrop⟩ := filledPage_stream hcap hf
    obtain ⟨w', os1, q3, q4⟩ := w.fill hcap hf
    -- the page takes `8192 - hdrSize k` bytes of the stream and leaves the padded carry and the records to come
    have hfu := hf.conserve.2.1 hne
    rw [Nat.sub_add_eq] at hfu
    obtain ⟨i1, i2⟩ := ih (w' hne)
    rw [pagesFrom_step k _ (more_than_page hfu (Nat.le_of_not_gt hcap) (left_pos _ _ hne)), Nat.add_comm 1, encPagesFrom_succ,
      w.header, hpage, hdrop, left_after_page hfu (Nat.le_of_not_gt hcap), i1]
    exact ⟨rfl, by rw [q3]; exact Agree_append s _ _ _ _ q4 i2⟩

theorem layout_agrees (s : WalSegment) :
    encPagesFrom s s.usedPages 0 s.stream = s.layout.bytes ∧
    Agree s s.layout.placed s.offsets := by
  have h0 : pageStart 0 = 0 := rfl
  have := (layout_laid s).enc fun b _ => by rw [h0, Nat.zero_add, Nat.zero_add]; exact remLen_eq s b
  rwa [h0, Nat.zero_add] at this


theorem encSegment_eq (s : WalSegment) : encSegment s = encSegmentOp s := by
  unfold encSegment encSegmentOp
  rw [(layout_agrees s).1]

theorem encPagesFrom_length (s : WalSegment) (m k : Nat) (rest : Bytes) : (encPagesFrom s m k rest).length = 8192 * m := by
  induction m generalizing k rest with
  | zero => rfl
  | succ m ih =>
    have hk := hdrSize_bounds k
    rw [encPagesFrom_succ]
    simp only [List.length_append, ih, encPageHeader, hdr_length, List.length_take, zeros_length]
    omega

theorem layout_length (s : WalSegment) : s.layout.bytes.length = 8192 * s.usedPages := by
  rw [← (layout_agrees s).1, encPagesFrom_length]

theorem views_zip (ps : List Placed) (rs : List WalRecord) (os : List Nat) (f : Nat → Nat)
    (h1 : ps.map Placed.record = rs) (h2 : ps.map Placed.lsn = os.map f) :
    ps.map Placed.view = (rs.zip os).map fun ro => recView (f ro.2) ro.1 := by
  induction ps generalizing rs os with
  | nil => subst h1; rfl
  | cons p ps ih =>
    cases rs with
    | nil => simp at h1
    | cons r rs =>
      cases os with
      | nil => simp at h2
      | cons o os =>
        simp only [List.map_cons, List.cons.injEq] at h1 h2
        simp only [List.map_cons, List.zip_cons_cons, ih rs os h1.2 h2.2, Placed.view, h1.1, h2.1]

theorem layout_view (s : WalSegment) : s.layout.placed.map Placed.view = s.view := by
  unfold WalSegment.view
  exact views_zip _ _ _ _ (PgVerif.Proofs.Wal.layout_complete s) (Agree_lsn s _ _ (layout_agrees s).2)

end PgVerif.Proofs.WalEnc
