/-
  The operational layout (Spec/WalLayout.lean) as two relations listing what a step does, `Fills` (records into a page) and
  `Laid` (page after page): what is said of a layout is an induction over them, and only `layoutPages_laid` sees the fuel.
-/
import PgVerif.Proofs.WalPageEnc
import PgVerif.Proofs.WalPages
namespace PgVerif.Proofs.Wal
open PgVerif PgVerif.Model.Wal
open PgVerif.Spec.Wal (encRecHeader encBody encRecord pad8 Trailer pageHdrBytes Placed fillPage PageFill layoutPages
  pageHeader pageInfo longExt hdrSize)

/-- what the tool reports for a placed record, however it was placed -/
def placedM (magic : Nat) (p : Placed) : Record := recM magic p.lsn p.record (viewsM none p.record.blocks)

/-- What `fillPage` does from in-page position `p`, record by record: nothing is left to place; the next record fits; the page
is full; the next record is cut by the page end. -/
inductive Fills (addr : Nat) : Nat → List Spec.Wal.WalRecord → PageFill → Prop
  | nil (p : Nat) : Fills addr p [] ⟨[], .zeros (zeros (8192 - p)), [], [], []⟩
  | fits {p r rs f} (h : p + Spec.Wal.align8 r.totLen ≤ 8192) (hf : Fills addr (p + Spec.Wal.align8 r.totLen) rs f) :
      Fills addr p (r :: rs) { f with whole := r :: f.whole, placed := .whole (addr + p) r :: f.placed }
  | full (r rs) : Fills addr 8192 (r :: rs) ⟨[], .zeros [], [], [], r :: rs⟩
  | cut {p} (r rs) (hp : p < 8192) (hp8 : p % 8 = 0) (hn : 8192 - p < r.totLen) :
      Fills addr p (r :: rs)
        ⟨[], .cut r (8192 - p), [if 8192 - p ≥ 24 then .cut (addr + p) r else .straddle (addr + p) r],
         (encRecord r).drop (8192 - p), rs⟩

theorem fillPage_fills (addr : Nat) (rs : List Spec.Wal.WalRecord) (p : Nat) (hp : p ≤ 8192) (hp8 : p % 8 = 0) :
    Fills addr p rs (fillPage addr p rs) := by
  induction rs generalizing p with
  | nil => rw [fillPage]; exact .nil p
  | cons r rs ih =>
    have := totLen_ge r
    have := align8_ge r.totLen
    have := align8_mod r.totLen
    rw [fillPage]
    by_cases h1 : p + Spec.Wal.align8 r.totLen ≤ 8192
    · rw [if_pos h1]; exact .fits h1 (ih _ h1 (by omega))
    · rw [if_neg h1]
      by_cases h2 : p ≥ 8192
      · rw [if_pos h2, show p = 8192 by omega]; exact .full r rs
      · rw [if_neg h2]; exact .cut r rs (by omega) hp8 (by simp only [Spec.Wal.align8] at h1; omega)

/-- the carry of a filled page is what the trailer leaves of its record -/
def CarryOK (carry : Bytes) : Trailer → Prop
  | .cut r n => carry = (encRecord r).drop n
  | .zeros _ => carry = []

theorem Fills.len {addr p : Nat} {rs : List Spec.Wal.WalRecord} {f : PageFill} (h : Fills addr p rs f) :
    (streamOf f.whole ++ f.trailer.bytes).length = 8192 - p := by
  induction h with
  | nil p => simp [streamOf, Trailer.bytes]
  | @fits p r rs f h1 _ ih =>
    rw [streamOf_cons, List.append_assoc, List.length_append, pad8_length, encRecord_length, ih]
    omega
  | full r rs => simp [streamOf, Trailer.bytes]
  | @cut p r rs hp _ hn => simp [streamOf, Trailer.bytes, encRecord_length]; omega

/-- what a page filled with well-formed records guarantees: the hypotheses of `parseWALPage_enc` and of the next page -/
structure FillOK (magic addr p : Nat) (f : PageFill) : Prop where
  tr : f.trailer.WF (decide (magic < 0xD110))
  whole : ∀ r ∈ f.whole, r.WF (decide (magic < 0xD110))
  rest : ∀ r ∈ f.rest, r.WF (decide (magic < 0xD110))
  /-- the carry is part of one record (XLogRecordMaxSize): it fits the 32-bit xlp_rem_len of the next header -/
  carry : f.carry.length ≤ 1069547520
  cont : CarryOK f.carry f.trailer
  /-- below 2^64, where the tool's uint64 LSN arithmetic does not wrap -/
  recs : addr + 8192 ≤ 2 ^ 64 → loopRecs magic addr p f.whole f.trailer = f.placed.map (placedM magic)

theorem Fills.ok {addr p : Nat} {rs : List Spec.Wal.WalRecord} {f : PageFill} (h : Fills addr p rs f) (magic : Nat)
    (hrs : ∀ r ∈ rs, r.WF (decide (magic < 0xD110))) : FillOK magic addr p f := by
  induction h with
  | nil p =>
    exact { tr := by simp [Trailer.WF, zeros, List.take_replicate], whole := by simp, rest := by simp, carry := by simp,
            cont := rfl, recs := fun _ => rfl }
  | @fits p r rs f h1 _ ih =>
    have hr := hrs r (by simp)
    have f := ih fun r' h' => hrs r' (by simp [h'])
    refine { f with whole := ?_, recs := ?_ }
    · intro r' h'; rcases List.mem_cons.mp h' with rfl | h'
      · exact hr
      · exact f.whole r' h'
    · intro haddr
      have := align8_ge r.totLen
      have := totLen_ge r
      simp only [loopRecs, List.map_cons, placedM, Placed.lsn, Placed.record, f.recs haddr]
      rw [Nat.mod_eq_of_lt (by omega)]
  | full r rs =>
    exact { tr := by simp [Trailer.WF], whole := by simp, rest := hrs,
            carry := by simp, cont := rfl, recs := fun _ => rfl }
  | @cut p r rs hp _ hn =>
    have hr := hrs r (by simp)
    have h24 := totLen_ge r
    have hlen := encRecord_length r
    have htot := WF_totLen hr
    refine { tr := ⟨hr, by omega, hn⟩, whole := by simp,
             rest := fun r' h' => hrs r' (by simp [h']), carry := by simp [hlen]; omega, cont := rfl, recs := ?_ }
    intro haddr
    simp only [loopRecs, List.map_cons, List.map_nil, placedM]
    rw [Nat.mod_eq_of_lt (by omega)]
    by_cases h3 : 8192 - p ≥ 24
    · rw [if_pos h3]; rfl
    · rw [if_neg h3]; rfl

theorem contOK_of_fill (magic addr p : Nat) (f : PageFill) (hf : FillOK magic addr p f) (fol : Bytes)
    (h : f.carry ≠ [] → continuationData fol f.carry.length = .ok (some f.carry)) : ContOK fol f.trailer := by
  have hc := hf.cont
  have ht := hf.tr
  cases htr : f.trailer with
  | zeros bs => trivial
  | cut r n =>
    rw [htr] at hc ht
    obtain ⟨_, _, hn⟩ := ht
    have hcl : f.carry.length = r.totLen - n := by
      rw [show f.carry = (encRecord r).drop n from hc, List.length_drop, encRecord_length]
    have hne : f.carry ≠ [] := by
      intro h0; rw [h0] at hcl; simp at hcl; omega
    have := h hne
    rw [hcl] at this
    show continuationData fol (r.totLen - n) = .ok (some ((encRecord r).drop n))
    rw [this, show f.carry = (encRecord r).drop n from hc]

theorem info_bits : ∀ a b c : Bool,
    (((if a then 1 else 0) + (if b then 2 else 0) + (if c then 4 else 0) : Nat) &&& 0x0001 != 0) = a ∧
    (((if a then 1 else 0) + (if b then 2 else 0) + (if c then 4 else 0) : Nat) &&& 0x0002 != 0) = b ∧
    ((if a then 1 else 0) + (if b then 2 else 0) + (if c then 4 else 0) : Nat) < 8 := by decide

theorem pageInfo_bits (s : Spec.Wal.WalSegment) (k rem : Nat) :
    (pageInfo s k rem &&& 0x0001 != 0) = decide (rem > 0) ∧ (pageInfo s k rem &&& 0x0002 != 0) = decide (k = 0) ∧
    pageInfo s k rem < 8 := by
  have := info_bits (decide (rem > 0)) (decide (k = 0)) s.removable
  simpa [pageInfo] using this

theorem longExt_length (s : Spec.Wal.WalSegment) (k : Nat) : (longExt s k).length = if k = 0 then 16 else 0 := by
  unfold longExt; split <;> simp

theorem longExt_ext (s : Spec.Wal.WalSegment) (k rem : Nat) :
    (longExt s k).length = if pageInfo s k rem &&& 0x0002 != 0 then 16 else 0 := by
  rw [(pageInfo_bits s k rem).2.1, longExt_length]
  by_cases h0 : k = 0 <;> simp [h0]

theorem hdrSize_ext (s : Spec.Wal.WalSegment) (k : Nat) : hdrSize k = 24 + (longExt s k).length := by
  rw [longExt_length, hdrSize]
  split <;> rfl

theorem hdr_length (s : Spec.Wal.WalSegment) (k rem : Nat) : (pageHeader s k rem).length = hdrSize k := by
  unfold pageHeader hdrSize
  rw [pageHdrBytes_length, longExt_length]; split <;> rfl

theorem hdrSize_bounds (k : Nat) : 24 ≤ hdrSize k ∧ hdrSize k ≤ 40 ∧ hdrSize k % 8 = 0 := by
  unfold hdrSize; split <;> omega

/-- the page written around a fill -/
def filledPage (s : Spec.Wal.WalSegment) (k : Nat) (carry : Bytes) (f : PageFill) : Bytes :=
  pageHeader s k carry.length ++ pad8 carry ++ (streamOf f.whole ++ f.trailer.bytes)

/-- the page written when the padded carry exceeds its capacity -/
def contPage (s : Spec.Wal.WalSegment) (k : Nat) (carry : Bytes) : Bytes :=
  pageHeader s k carry.length ++ carry.take (8192 - hdrSize k)

/-- what the theorems need to know about the segment's constants -/
structure SegOK (s : Spec.Wal.WalSegment) : Prop where
  magic : s.magic < 2 ^ 16
  valid : isValidMagic s.magic = true
  tli : s.tli < 2 ^ 32

theorem pageRecs_fill (s : Spec.Wal.WalSegment) (hs : SegOK s) (k : Nat) (carry : Bytes) (hc : carry.length < 2 ^ 32)
    (haddr : s.startAddr + 8192 * k + 8192 ≤ 2 ^ 64)
    (f : PageFill) (hf : FillOK s.magic (s.startAddr + 8192 * k) (hdrSize k + Spec.Wal.align8 carry.length) f) (fol : Bytes)
    (hfol : f.carry ≠ [] → continuationData fol f.carry.length = .ok (some f.carry)) :
    pageRecs (filledPage s k carry f) fol = f.placed.map (placedM s.magic) := by
  obtain ⟨b1, _, b3⟩ := pageInfo_bits s k carry.length
  unfold pageRecs filledPage pageHeader
  rw [parseWALPage_enc s.magic (pageInfo s k carry.length) s.tli (s.startAddr + 8192 * k) carry.length (longExt s k)
    (pad8 carry) f.whole f.trailer fol hs.magic (by omega) hs.tli (by omega) hc hs.valid
    (longExt_ext s k carry.length)
    (by rw [b1, pad8_length]
        by_cases h0 : carry.length > 0
        · simp [h0]
        · have : carry.length = 0 := by omega
          simp [this, Spec.Wal.align8])
    hf.whole hf.tr (contOK_of_fill _ _ _ f hf fol hfol)]
  simp only []
  rw [← hf.recs (by omega), pad8_length, hdrSize_ext s k]

theorem pageRecs_allcont (s : Spec.Wal.WalSegment) (hs : SegOK s) (k : Nat) (carry : Bytes) (hc : carry.length < 2 ^ 32)
    (hcap : Spec.Wal.align8 carry.length > 8192 - hdrSize k) (haddr : s.startAddr + 8192 * k + 8192 ≤ 2 ^ 64)
    (fol : Bytes) :
    pageRecs (contPage s k carry) fol = [] := by
  obtain ⟨b1, b2, b3⟩ := pageInfo_bits s k carry.length
  have hpos : carry.length > 0 := by
    by_cases h0 : carry.length = 0
    · rw [h0] at hcap; simp [Spec.Wal.align8] at hcap
    · omega
  unfold pageRecs contPage pageHeader
  rw [parseWALPage_allcont s.magic (pageInfo s k carry.length) s.tli (s.startAddr + 8192 * k) carry.length (longExt s k)
    _ fol hs.magic (by omega) hs.tli (by omega) hc hs.valid (by rw [b1]; simp [hpos])
    (longExt_ext s k carry.length)
    (by rw [List.length_take]; omega)]

theorem contChunk_page (s : Spec.Wal.WalSegment) (hs : SegOK s) (k need : Nat) (body : Bytes)
    (hneed : 0 < need) (h32 : need < 2 ^ 32) (haddr : s.startAddr + 8192 * k < 2 ^ 64) :
    contChunk (pageHeader s k need ++ body) need = some (body.take need) := by
  obtain ⟨b1, _, b3⟩ := pageInfo_bits s k need
  obtain ⟨h1, h2, _, h4⟩ := walHdr_enc s.magic (pageInfo s k need) s.tli (s.startAddr + 8192 * k) need (longExt s k) body
    hs.magic (by omega) hs.tli haddr h32
  have hbit : (pageInfo s k need &&& 0x0001 == 0) = false := by
    have : (pageInfo s k need &&& 0x0001 != 0) = true := by rw [b1]; simpa using hneed
    simpa [bne] using this
  have hhs : headerSize (pageInfo s k need) = (pageHeader s k need).length := by
    rw [hdr_length, hdrSize_ext s k, headerSize_ext _ _ (longExt_ext s k need)]
  unfold pageHeader at *
  rw [contChunk, if_neg (by rw [h1, hs.valid, h2, hbit, h4]; simp), h2, hhs, List.drop_left' rfl]

theorem filledPage_length (s : Spec.Wal.WalSegment) (k : Nat) (carry : Bytes) {f : PageFill} {addr : Nat}
    {rs : List Spec.Wal.WalRecord} (hf : Fills addr (hdrSize k + Spec.Wal.align8 carry.length) rs f)
    (hcap : ¬ Spec.Wal.align8 carry.length > 8192 - hdrSize k) : (filledPage s k carry f).length = 8192 := by
  have := hdrSize_bounds k
  rw [filledPage, List.length_append, List.length_append, hdr_length, pad8_length, hf.len]
  omega

theorem carry_exceeds (k : Nat) (carry : Bytes) (hcap : Spec.Wal.align8 carry.length > 8192 - hdrSize k) :
    8192 - hdrSize k < carry.length := by
  have := hdrSize_bounds k
  simp only [Spec.Wal.align8] at hcap
  omega

theorem contPage_length (s : Spec.Wal.WalSegment) (k : Nat) (carry : Bytes)
    (hcap : Spec.Wal.align8 carry.length > 8192 - hdrSize k) : (contPage s k carry).length = 8192 := by
  have := hdrSize_bounds k
  have := carry_exceeds k carry hcap
  rw [contPage, List.length_append, hdr_length, List.length_take]
  omega

theorem align8_sub (n c : Nat) (hc : c % 8 = 0) (h : c ≤ n) : Spec.Wal.align8 (n - c) = Spec.Wal.align8 n - c := by
  simp only [Spec.Wal.align8]; omega

/-- what a filled page hands on: the records it did not place; the stream still to lay out, shorter by the bytes the page took;
and nothing but a stream that fits the page when it is the last -/
theorem Fills.conserve {addr p : Nat} {rs : List Spec.Wal.WalRecord} {f : PageFill} (h : Fills addr p rs f) :
    f.placed.map Placed.record ++ f.rest = rs ∧
    ((f.carry ≠ [] ∨ f.rest ≠ []) → Spec.Wal.align8 f.carry.length + recsLen f.rest + (8192 - p) = recsLen rs) ∧
    (f.carry = [] → f.rest = [] → recsLen rs ≤ 8192 - p) := by
  induction h with
  | nil p => exact ⟨rfl, fun h => h.elim (absurd rfl) (absurd rfl), fun _ _ => Nat.zero_le _⟩
  | @fits p r rs f h1 _ ih =>
    refine ⟨by simp only [List.map_cons, Placed.record, List.cons_append, ih.1], fun h => ?_, fun hc hr => ?_⟩
    · have := ih.2.1 h
      show Spec.Wal.align8 f.carry.length + recsLen f.rest + (8192 - p) = Spec.Wal.align8 r.totLen + recsLen rs
      omega
    · have := ih.2.2 hc hr
      show Spec.Wal.align8 r.totLen + recsLen rs ≤ 8192 - p
      omega
  | full r rs =>
    exact ⟨rfl, fun _ => by simp only [List.length_nil, show Spec.Wal.align8 0 = 0 from rfl]; omega, fun _ hr => nomatch hr⟩
  | @cut p r rs hp hp8 hn =>
    have hcl : ((encRecord r).drop (8192 - p)).length = r.totLen - (8192 - p) := by rw [List.length_drop, encRecord_length]
    refine ⟨by split <;> rfl, fun _ => ?_, fun hc _ => ?_⟩
    · simp only [hcl, show recsLen (r :: rs) = Spec.Wal.align8 r.totLen + recsLen rs from rfl, Spec.Wal.align8]
      omega
    · rw [show (encRecord r).drop (8192 - p) = [] from hc, List.length_nil] at hcl
      omega

/-- What `layoutPages` does from page `k` on, without its fuel: page `k` is all continuation data, or it is filled from behind the
padded carry (`Fills`) and is the last page or not. -/
inductive Laid (s : Spec.Wal.WalSegment) : Nat → Bytes → List Spec.Wal.WalRecord → Bytes → List Placed → Prop
  | cont {k carry rs bytes placed} (hcap : Spec.Wal.align8 carry.length > 8192 - hdrSize k)
      (h : Laid s (k + 1) (carry.drop (8192 - hdrSize k)) rs bytes placed) :
      Laid s k carry rs (contPage s k carry ++ bytes) placed
  | last {k carry rs f} (hcap : ¬ Spec.Wal.align8 carry.length > 8192 - hdrSize k)
      (hf : Fills (s.startAddr + 8192 * k) (hdrSize k + Spec.Wal.align8 carry.length) rs f)
      (hc : f.carry = []) (hr : f.rest = []) : Laid s k carry rs (filledPage s k carry f) f.placed
  | more {k carry rs f bytes placed} (hcap : ¬ Spec.Wal.align8 carry.length > 8192 - hdrSize k)
      (hf : Fills (s.startAddr + 8192 * k) (hdrSize k + Spec.Wal.align8 carry.length) rs f)
      (hne : f.carry ≠ [] ∨ f.rest ≠ []) (h : Laid s (k + 1) f.carry f.rest bytes placed) :
      Laid s k carry rs (filledPage s k carry f ++ bytes) (f.placed ++ placed)

/-- `layoutPages` with enough fuel: more than an eighth of the stream, since every page takes at least 8 bytes of it -/
theorem layoutPages_laid (s : Spec.Wal.WalSegment) (n k : Nat) (carry : Bytes) (rs : List Spec.Wal.WalRecord)
    (hfuel : Spec.Wal.align8 carry.length + recsLen rs < 8 * n) :
    Laid s k carry rs (layoutPages s n k carry rs).bytes (layoutPages s n k carry rs).placed := by
  induction n generalizing k carry rs with
  | zero => omega
  | succ n ih =>
    have hk := hdrSize_bounds k
    have hA8 := align8_mod carry.length
    rw [layoutPages]
    by_cases hcap : Spec.Wal.align8 carry.length > 8192 - hdrSize k
    · have hL := carry_exceeds k carry hcap
      rw [if_pos hcap]
      exact .cont hcap (ih _ _ _ (by rw [List.length_drop, align8_sub _ _ (by omega) (by omega)]; omega))
    · have hf := fillPage_fills (s.startAddr + 8192 * k) rs (hdrSize k + Spec.Wal.align8 carry.length) (by omega) (by omega)
      simp only [if_neg hcap]
      generalize fillPage (s.startAddr + 8192 * k) (hdrSize k + Spec.Wal.align8 carry.length) rs = f at hf ⊢
      by_cases hfin : f.carry = [] ∧ f.rest = []
      · rw [if_pos (by simpa using hfin)]
        exact .last hcap hf hfin.1 hfin.2
      · have hne := Decidable.not_and_iff_not_or_not.mp hfin
        have hx := hf.conserve.2.1 hne
        rw [if_neg (by simpa using hfin)]
        exact .more hcap hf hne (ih _ _ _ (by omega))

theorem layout_laid (s : Spec.Wal.WalSegment) : Laid s 0 s.pre s.records s.layout.bytes s.layout.placed := by
  have : s.streamLen = Spec.Wal.align8 s.pre.length + recsLen s.records := rfl
  exact layoutPages_laid s _ 0 s.pre s.records (by omega)

variable {s : Spec.Wal.WalSegment} {k : Nat} {carry bytes : Bytes} {rs : List Spec.Wal.WalRecord} {placed : List Placed}

theorem Laid.complete (h : Laid s k carry rs bytes placed) : placed.map Placed.record = rs := by
  induction h with
  | cont _ _ ih => exact ih
  | last _ hf _ hr =>
    have c := hf.conserve.1
    rwa [hr, List.append_nil] at c
  | more _ hf _ _ ih => rw [List.map_append, ih]; exact hf.conserve.1

theorem Laid.length (h : Laid s k carry rs bytes placed) : 8192 ≤ bytes.length := by
  cases h with
  | cont hcap _ => rw [List.length_append, contPage_length s k carry hcap]; omega
  | last hcap hf _ _ => exact Nat.le_of_eq (filledPage_length s k carry hf hcap).symm
  | more hcap hf _ _ => rw [List.length_append, filledPage_length s k carry hf hcap]; omega

theorem contPure_filled (s : Spec.Wal.WalSegment) (hs : SegOK s) (k : Nat) (carry : Bytes) (f : PageFill) (more : Bytes)
    (hc : carry.length < 2 ^ 32) (hplen : (filledPage s k carry f).length = 8192) (haddr : s.startAddr + 8192 * k < 2 ^ 64) :
    contPure (filledPage s k carry f ++ more) carry.length = some carry := by
  by_cases hpos : carry.length = 0
  · rw [hpos, List.length_eq_zero_iff.mp hpos]; exact contPure_zero _
  · have hbody : filledPage s k carry f = pageHeader s k carry.length ++
        (pad8 carry ++ (streamOf f.whole ++ f.trailer.bytes)) := List.append_assoc _ _ _
    rw [hbody] at hplen ⊢
    rw [contPure_page _ _ hpos (by rw [List.length_append, hplen]; omega), List.take_left' hplen, List.drop_left' hplen,
      contChunk_page s hs k carry.length _ (by omega) hc haddr, Option.bind_some, pad8, List.append_assoc,
      List.take_left' rfl, Nat.sub_self, contPure_zero]
    exact congrArg some (List.append_nil _)

theorem Laid.contPure (h : Laid s k carry rs bytes placed) (hs : SegOK s) (hc : carry.length < 2 ^ 32)
    (hfit : s.startAddr + 8192 * k + bytes.length ≤ 2 ^ 64) (tail : Bytes) :
    contPure (bytes ++ tail) carry.length = some carry := by
  induction h with
  | @cont k carry _ bytes _ hcap _ ih =>
    have hk := hdrSize_bounds k
    have hL := carry_exceeds k carry hcap
    have hplen := contPage_length s k carry hcap
    rw [List.length_append, hplen] at hfit
    -- the page gives the first `8192 - hdrSize k` bytes of the carry, the pages after it the others
    rw [List.append_assoc, contPure_page _ _ (by omega) (by rw [List.length_append, hplen]; omega),
      List.take_left' hplen, List.drop_left' hplen, contPage, contChunk_page s hs k carry.length _ (by omega) hc (by omega),
      Option.bind_some, List.take_of_length_le (by rw [List.length_take]; omega), List.length_take,
      show carry.length - min (8192 - hdrSize k) carry.length = (carry.drop (8192 - hdrSize k)).length by
        rw [List.length_drop]; omega,
      ih (by rw [List.length_drop]; omega) (by omega)]
    exact congrArg some (List.take_append_drop _ _)
  | @last k carry rs f hcap hf _ _ =>
    have hplen := filledPage_length s k carry hf hcap
    rw [hplen] at hfit
    exact contPure_filled s hs k carry _ tail hc hplen (by omega)
  | @more k carry rs f bytes _ hcap hf _ _ _ =>
    have hplen := filledPage_length s k carry hf hcap
    rw [List.length_append, hplen] at hfit
    rw [List.append_assoc]
    exact contPure_filled s hs k carry _ _ hc hplen (by omega)

theorem Laid.contData (h : Laid s k carry rs bytes placed) (hs : SegOK s) (hc : carry.length < 2 ^ 32) (hne : carry ≠ [])
    (hfit : s.startAddr + 8192 * k + bytes.length ≤ 2 ^ 64) (tail : Bytes) :
    continuationData (bytes ++ tail) carry.length = .ok (some carry) := by
  rw [continuationData_eq, contData_of_ne (fun h0 => hne (List.length_eq_zero_iff.mp h0)), h.contPure hs hc hfit tail]

theorem Laid.parse (h : Laid s k carry rs bytes placed) (hs : SegOK s) (hc : carry.length < 2 ^ 32)
    (hrs : ∀ r ∈ rs, r.WF (decide (s.magic < 0xD110))) (hfit : s.startAddr + 8192 * k + bytes.length ≤ 2 ^ 64)
    (tail : Bytes) : fileRecs (bytes ++ tail) = placed.map (placedM s.magic) ++ fileRecs tail := by
  induction h with
  | @cont k carry rs bytes placed hcap _ ih =>
    have hL := carry_exceeds k carry hcap
    have hplen := contPage_length s k carry hcap
    rw [List.length_append, hplen] at hfit
    rw [List.append_assoc, fileRecs_cons _ _ hplen, pageRecs_allcont s hs k carry hc hcap (by omega), List.nil_append]
    exact ih (by rw [List.length_drop]; omega) hrs (by omega)
  | @last k carry rs f hcap hf hc' _ =>
    have hplen := filledPage_length s k carry hf hcap
    have hf := hf.ok s.magic hrs
    rw [hplen] at hfit
    rw [fileRecs_cons _ _ hplen, pageRecs_fill s hs k carry hc hfit _ hf tail (fun hne => absurd hc' hne)]
  | @more k carry rs f bytes placed hcap hf _ h ih =>
    have hplen := filledPage_length s k carry hf hcap
    have hf := hf.ok s.magic hrs
    rw [List.length_append, hplen] at hfit
    -- the next page: its carry fits xlp_rem_len, and it lies below 2^64
    have hcl : f.carry.length < 2 ^ 32 := by have := hf.carry; omega
    have hfit' : s.startAddr + 8192 * (k + 1) + bytes.length ≤ 2 ^ 64 := by omega
    rw [List.append_assoc, fileRecs_cons _ _ hplen,
      pageRecs_fill s hs k carry hc (by omega) _ hf _ (fun hne' => h.contData hs hcl hne' hfit' tail),
      List.map_append, List.append_assoc, ih hcl hf.rest hfit']


theorem placedM_view (magic : Nat) (p : Placed) : viewOfRecord (placedM magic p) = p.view := by
  simp only [placedM, Placed.view, viewOfRecord, recM, Spec.Wal.recView]
  rw [viewsM_views]; rfl

theorem map_map_view (magic : Nat) (ps : List Placed) : (ps.map (placedM magic)).map viewOfRecord = ps.map Placed.view := by
  rw [List.map_map]
  apply List.map_congr_left
  intro p _
  exact placedM_view magic p

/-- the ninth component of `WalSegment.WF`: the file ends below 2^64 -/
theorem segWF_fits {s : Spec.Wal.WalSegment} (hs : s.WF) :
    s.startAddr + 8192 * (s.usedPages + s.tailPages) < 2 ^ 64 := hs.2.2.2.2.2.2.2.2.1

theorem segment_records (s : Spec.Wal.WalSegment) (hs : s.WF) (hmem : s.magic ∈ Spec.Wal.pageMagics)
    (hfit : s.startAddr + s.layout.bytes.length ≤ 2 ^ 64) :
    parseWALFile (Spec.Wal.encSegmentOp s) = .ok (some (s.layout.placed.map (placedM s.magic))) := by
  have hv := (isValidMagic_iff s.magic).mpr hmem
  obtain ⟨hm, _, ht, _, _, _, _, _, _, hpre, hrs⟩ := hs
  rw [pre15_eq s.magic hmem] at hrs
  have hlen := (layout_laid s).length
  unfold Spec.Wal.encSegmentOp
  rw [parseWALFile_eq, if_neg (by rw [List.length_append]; omega),
    (layout_laid s).parse ⟨hm, hv, ht⟩ hpre hrs (by omega) (zeros (8192 * s.tailPages)),
    fileRecs_zeros, List.append_nil]

theorem layout_complete (s : Spec.Wal.WalSegment) : s.layout.placed.map Placed.record = s.records :=
  (layout_laid s).complete


end PgVerif.Proofs.Wal
