/-
  The generated graphs of rmgrName / operationNameFor (Generated/Wal.lean: the code executed on pages of PostgreSQL 13, 14 and 16;
  the generator checks that 12 and 15 give the graphs of 13 and 16) against the Spec's hand-written PostgreSQL tables.  No
  totality proof looks at the content of the generated tables.
-/
import PgVerif.Model.Wal
import PgVerif.Spec.Wal
namespace PgVerif.Proofs.Wal
open PgVerif PgVerif.Model.Wal
open PgVerif.Spec.Wal (pgOpName pgRmgrName opMask pageMagicTable)

/-- the run of the vocabulary that holds `info` -/
def runOf (runs : List (Nat × Nat × String)) (info : Nat) : Option (Nat × Nat × String) :=
  runs.find? (fun e => e.1 ≤ info && info ≤ e.2.1)

theorem opNameIn_eq (runs : List (Nat × Nat × String)) (info : Nat) :
    opNameIn runs info = match runOf runs info with
      | some e => e.2.2
      | none => defaultOpName info := rfl

/-- (version, rmid, opcode): the opcodes PostgreSQL `version` does not have yet (no record of that version carries them)
for which the tool nevertheless prints the name a later version gives them: Transaction INVALIDATION (since 14),
Btree INSERT_POST and DEDUP (since 13), Gist ASSIGN_LSN (since 13) -/
def namedAhead : List (Nat × Nat × Nat) :=
  [(12, 1, 0x60), (13, 1, 0x60), (12, 11, 0x50), (12, 11, 0x60), (12, 14, 0x70)]

/-- one cell of the comparison: where PostgreSQL names the operation the vocabulary has that name; where it does not, the
vocabulary has none (the placeholder is printed) or, for the opcodes of `namedAhead` only, the name PostgreSQL 16 gives -/
def cellOK (cls ver rm info : Nat) : Bool :=
  match pgOpName ver rm info, runOf (opRunsOf cls rm) info with
  | some n, some e => e.2.2 == n
  | some _, none => false
  | none, none => true
  | none, some e => namedAhead.contains (ver, rm, info &&& opMask rm) && pgOpName 16 rm info == some e.2.2

/-- every run covers whole nibbles -/
def nibbleRuns (runs : List (Nat × Nat × String)) : Bool := runs.all fun e => e.1 % 16 == 0 && e.2.1 % 16 == 15

/-- neither side looks at the low nibble of the info byte (PostgreSQL masks it away, `opMask`; the runs cover whole nibbles), so
one cell per high nibble decides all 256 info bytes: `cellOK_nibble` -/
def vocabOKOn (cls ver rm : Nat) : Bool :=
  nibbleRuns (opRunsOf cls rm) && (List.range 16).all fun q => cellOK cls ver rm (q * 16)

/-- for the 22 resource managers PostgreSQL defines -/
def vocabOK (cls ver : Nat) : Bool := (List.range 22).all (vocabOKOn cls ver)

/-- the vocabulary the tool uses on a page of each PostgreSQL version, against that version -/
theorem vocabOK_versions : (pageMagicTable.all fun vm => vocabOK (opClass vm.2) vm.1) = true := by decide +kernel

theorem opMask_nibble : ∀ info < 256, ∀ m ∈ [0x00, 0x70, 0xF0], info &&& m = info / 16 * 16 &&& m := by decide +kernel

theorem opMask_mem (rm : Nat) : opMask rm ∈ [0x00, 0x70, 0xF0] := by
  unfold opMask
  split
  · simp
  · split <;> simp

theorem runOf_nibble (runs : List (Nat × Nat × String)) (h : nibbleRuns runs = true) (info : Nat) :
    runOf runs info = runOf runs (info / 16 * 16) := by
  induction runs with
  | nil => rfl
  | cons e es ih =>
    simp only [nibbleRuns, List.all_cons, Bool.and_eq_true, beq_iff_eq] at h
    have h1 : decide (e.1 ≤ info) = decide (e.1 ≤ info / 16 * 16) := decide_eq_decide.mpr (by omega)
    have h2 : decide (info ≤ e.2.1) = decide (info / 16 * 16 ≤ e.2.1) := decide_eq_decide.mpr (by omega)
    simp only [runOf, List.find?_cons, h1, h2] at ih ⊢
    rw [ih h.2]

theorem cellOK_nibble (cls ver rm info : Nat) (hi : info < 256) (h : nibbleRuns (opRunsOf cls rm) = true) :
    cellOK cls ver rm info = cellOK cls ver rm (info / 16 * 16) := by
  unfold cellOK pgOpName
  simp only []
  rw [opMask_nibble info hi _ (opMask_mem rm), runOf_nibble _ h info]

/-- beyond the last literal pattern (`rm = n + 22`) the tables are empty -/
theorem pgOps_none (rm : Nat) (h : 22 ≤ rm) : Spec.Wal.pgOps rm = [] := by
  obtain ⟨n, rfl⟩ := Nat.exists_eq_add_of_le' h
  rfl

theorem opRunsOf_none (cls rm : Nat) (h : 22 ≤ rm) : opRunsOf cls rm = [] := by
  obtain ⟨n, rfl⟩ := Nat.exists_eq_add_of_le' h
  unfold opRunsOf
  split <;> rfl

/-- ids PostgreSQL does not define: it names nothing, the tool prints the placeholder -/
theorem cellOK_beyond (cls ver rm info : Nat) (h : 22 ≤ rm) : cellOK cls ver rm info = true := by
  unfold cellOK pgOpName runOf
  rw [pgOps_none rm h, opRunsOf_none cls rm h]
  rfl

theorem cellOK_of_vocabOK (cls ver : Nat) (he : vocabOK cls ver = true) (rm info : Nat) (hi : info < 256) :
    cellOK cls ver rm info = true := by
  by_cases hrm : rm < 22
  · have h1 := List.all_eq_true.mp he rm (List.mem_range.mpr hrm)
    unfold vocabOKOn at h1
    rw [Bool.and_eq_true, List.all_eq_true] at h1
    rw [cellOK_nibble cls ver rm info hi h1.1]
    exact h1.2 (info / 16) (List.mem_range.mpr (by omega))
  · exact cellOK_beyond cls ver rm info (by omega)

theorem cellOK_spec (cls ver rm info : Nat) (h : cellOK cls ver rm info = true) :
    (∀ n, pgOpName ver rm info = some n → opNameIn (opRunsOf cls rm) info = n) ∧
    (pgOpName ver rm info = none → opNameIn (opRunsOf cls rm) info = defaultOpName info ∨
      ((ver, rm, info &&& opMask rm) ∈ namedAhead ∧ pgOpName 16 rm info = some (opNameIn (opRunsOf cls rm) info))) := by
  unfold cellOK at h
  rw [opNameIn_eq]
  cases hs : pgOpName ver rm info <;> cases hr : runOf (opRunsOf cls rm) info <;> rw [hs, hr] at h
  · exact ⟨fun n hn => (nomatch hn), fun _ => Or.inl rfl⟩
  · exact ⟨fun n hn => (nomatch hn), fun _ => Or.inr (by simpa using h)⟩
  · cases h
  · refine ⟨fun n hn => ?_, fun hn => nomatch hn⟩
    cases hn
    simpa using h

theorem vocabOK_of_magic (ver magic : Nat) (h : (ver, magic) ∈ pageMagicTable) : vocabOK (opClass magic) ver = true :=
  List.all_eq_true.mp vocabOK_versions (ver, magic) h

/-- Btree (id 11) is finding C17-btree-rmname -/
theorem pgRmgrName_rmgrName : ∀ rm < 22, rm ≠ 11 → pgRmgrName rm = some (rmgrName rm) := by decide +kernel

theorem pgRmgrName_none (rm : Nat) (h : 22 ≤ rm) : pgRmgrName rm = none := by
  obtain ⟨n, rfl⟩ := Nat.exists_eq_add_of_le' h
  rfl

end PgVerif.Proofs.Wal
