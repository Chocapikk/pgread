/-
  The WAL parsers on the output of the Spec encoders: every parser reports what the encoder was given.
-/
import PgVerif.Proofs.Wal
import PgVerif.Spec.WalLayout
namespace PgVerif.Proofs.Wal
open PgVerif PgVerif.Model.Wal

/-! `WalRecord.WF` is an eleven-fold conjunction; the two components the proofs need, by name -/

theorem WF_totLen {r : Spec.Wal.WalRecord} {v : Bool} (hr : r.WF v) : r.totLen ≤ 1069547520 := hr.2.2.2.2.2.2.2.2.2.2

theorem WF_blocks {r : Spec.Wal.WalRecord} {v : Bool} (hr : r.WF v) : ∀ b ∈ r.blocks, b.WF v := hr.2.2.2.2.2.1

theorem bimg_rule : ∀ x < 256, ((x &&& 0x01 != 0) && (x &&& 0x02 != 0)) = Spec.Wal.compressHdr14 x ∧
    ((x &&& 0x01 != 0) && (x &&& 0x1C != 0)) = Spec.Wal.compressHdr15 x := by decide +kernel

open PgVerif.Spec.Wal (optBytes encImageHdr encRel encBlockHdr encBlockData)

def relM (r : Spec.Wal.RelFileNode) : RelFileNode := ⟨r.spc, r.db, r.rel⟩

def optImageLen : Option Spec.Wal.Image → Nat
  | some i => i.data.length
  | none => 0

theorem encImageHdr_length (i : Spec.Wal.Image) : (encImageHdr i).length = 5 + if i.holeLength.isSome then 2 else 0 := by
  cases h : i.holeLength <;> simp [encImageHdr, optBytes, h]

/-! `imagePart_enc` and `relPart_enc` take the position as `k` with `hk : k = pre.length`: in `blockStep_enc` the goal has
`pre.length + 4` while the prefix after re-association is `pre ++ leFields […]`; the equation is proved at the call. -/

theorem imagePart_enc (img : Option Spec.Wal.Image) (p15 : Bool) (himg : ∀ i ∈ img, i.WF p15) (pre rest : Bytes)
    (ff dt : Nat) (hff : (ff &&& 0x10 != 0) = img.isSome) (k : Nat) (hk : k = pre.length) :
    imagePart (pre ++ (optBytes encImageHdr img ++ rest)) p15 ff k dt =
      .ok (some (k + (optBytes encImageHdr img).length, dt + optImageLen img)) := by
  subst hk
  unfold imagePart
  cases img with
  | none => simp [hff, optBytes, optImageLen]
  | some i =>
    obtain ⟨hdl, hho, hb, hc, _⟩ := himg i rfl
    have hlen := encImageHdr_length i
    have hf := fieldsAt_mid [(2, i.data.length), (2, i.holeOffset), (1, i.bimgInfo)] pre
      (optBytes (le 2) i.holeLength ++ rest)
      (by simp only [List.forall_mem_cons, List.not_mem_nil, false_imp_iff, implies_true, and_true]; omega)
    rw [show leFields [(2, i.data.length), (2, i.holeOffset), (1, i.bimgInfo)] ++ (optBytes (le 2) i.holeLength ++ rest) =
      encImageHdr i ++ rest by simp [leFields, encImageHdr, le, Nat.mod_eq_of_lt hb]] at hf
    simp only [FieldsAt, Nat.add_assoc, Nat.reduceAdd] at hf
    rw [hff]
    simp only [Option.isSome_some, if_true]
    split
    · rename_i hcut
      simp only [optBytes, List.length_append] at hcut
      omega
    · simp only [optBytes, optImageLen]
      unfold afterImage
      simp only [hf, idx_of_uN hf.2.2.1, ok_bind, pure_eq_ok, u8_toNat _ hb, hlen]
      -- hole_length follows exactly when the version's bimg_info rule says so
      obtain ⟨h14, h15⟩ := bimg_rule i.bimgInfo hb
      congr 3
      cases p15
      · simp only [Bool.false_eq_true, if_false, h15, show Spec.Wal.compressHdr15 i.bimgInfo = i.holeLength.isSome from hc]
        cases i.holeLength <;> simp
      · simp only [if_true, h14, show Spec.Wal.compressHdr14 i.bimgInfo = i.holeLength.isSome from hc]
        cases i.holeLength <;> simp

def relOf (rel : Option Spec.Wal.RelFileNode) (last : Option RelFileNode) : Option RelFileNode :=
  match rel with
  | some r => some (relM r)
  | none => last

theorem relPart_enc (rel : Option Spec.Wal.RelFileNode) (hrel : ∀ r ∈ rel, r.WF) (pre rest : Bytes)
    (ff : Nat) (last : Option RelFileNode) (hff : (ff &&& 0x80 == 0) = rel.isSome) (k : Nat) (hk : k = pre.length) :
    relPart (pre ++ (optBytes encRel rel ++ rest)) ff k last =
      .ok (some (relOf rel last, k + (optBytes encRel rel).length)) := by
  subst hk
  unfold relPart
  cases rel with
  | none => simp [hff, optBytes, relOf]
  | some r =>
    obtain ⟨h1, h2, h3⟩ := hrel r rfl
    rw [hff]
    simp only [Option.isSome_some, if_true]
    split
    · rename_i hc
      simp only [optBytes, encRel, List.length_append, le_length] at hc
      omega
    · have hf := fieldsAt_enc [(4, r.spc), (4, r.db), (4, r.rel)] pre (encRel r) rest (by simp [leFields, encRel])
        (by simp only [List.forall_mem_cons, List.not_mem_nil, false_imp_iff, implies_true, and_true]; omega)
      simp only [FieldsAt, Nat.add_assoc, Nat.reduceAdd] at hf
      simp only [optBytes, relOf, hf, ok_bind, pure_eq_ok]
      simp only [encRel, List.length_append, le_length, relM]

def mkFF (fork : Nat) (i d w s : Bool) : Nat :=
  fork + (if i then 0x10 else 0) + (if d then 0x20 else 0) + (if w then 0x40 else 0) + (if s then 0x80 else 0)

theorem ff_bits : ∀ fork < 16, ∀ i d w s : Bool,
    mkFF fork i d w s < 256 ∧ (mkFF fork i d w s &&& 0x10 != 0) = i ∧ (mkFF fork i d w s &&& 0x80 == 0) = !s ∧
    mkFF fork i d w s &&& 0x0F = fork := by decide +kernel

theorem forkFlags_eq (b : Spec.Wal.BlockRef) :
    b.forkFlags = mkFF b.fork b.image.isSome b.data.isSome b.willInit b.rel.isNone := rfl

def blockM (b : Spec.Wal.BlockRef) (last : Option RelFileNode) : BlockRef :=
  ⟨b.id, b.fork, b.forkFlags, relOf b.rel last, b.blkno⟩

theorem encBlockHdr_length (b : Spec.Wal.BlockRef) :
    (encBlockHdr b).length = 4 + (optBytes encImageHdr b.image).length + (optBytes encRel b.rel).length + 4 := by
  simp [encBlockHdr]; omega

theorem blockStep_enc (b : Spec.Wal.BlockRef) (p15 : Bool) (hb : b.WF p15) (pre rest : Bytes) (dt : Nat)
    (last : Option RelFileNode) :
    blockStep (pre ++ (encBlockHdr b ++ rest)) p15 pre.length dt last =
      .ok (some ⟨blockM b last, pre.length + (encBlockHdr b).length,
                 dt + (b.data.getD []).length + optImageLen b.image, relOf b.rel last⟩) := by
  obtain ⟨hid, hfork, himg, hdata, hrel, hblk⟩ := hb
  obtain ⟨hff, hffi, hffs, hfff⟩ := ff_bits b.fork hfork b.image.isSome b.data.isSome b.willInit b.rel.isNone
  rw [← forkFlags_eq] at hff hffi hffs hfff
  have hdl : (b.data.getD []).length < 256 ^ 2 := by
    cases hd : b.data with
    | none => simp
    | some d => have := (hdata d (by simp [hd])).2; simpa using (by omega : d.length < 256 ^ 2)
  have hl := encBlockHdr_length b
  rw [show encBlockHdr b ++ rest = leFields [(1, b.id), (1, b.forkFlags), (2, (b.data.getD []).length)] ++
      (optBytes encImageHdr b.image ++ (optBytes encRel b.rel ++ (le 4 b.blkno ++ rest))) by
    simp [encBlockHdr, leFields, le, Nat.mod_eq_of_lt hff, Nat.mod_eq_of_lt (show b.id < 256 by omega)]]
  have hf := fieldsAt_mid [(1, b.id), (1, b.forkFlags), (2, (b.data.getD []).length)] pre
    (optBytes encImageHdr b.image ++ (optBytes encRel b.rel ++ (le 4 b.blkno ++ rest)))
    (by simp only [List.forall_mem_cons, List.not_mem_nil, false_imp_iff, implies_true, and_true]; omega)
  simp only [FieldsAt, Nat.add_assoc, Nat.reduceAdd] at hf
  have hF : (leFields [(1, b.id), (1, b.forkFlags), (2, (b.data.getD []).length)]).length = 4 := rfl
  unfold blockStep
  simp only [hf, idx_of_uN hf.1, idx_of_uN hf.2.1, ok_bind, u8_toNat b.id (by omega), u8_toNat _ hff]
  rw [if_neg (by omega), ← List.append_assoc,
    imagePart_enc b.image p15 himg _ _ b.forkFlags _ hffi _ (by rw [List.length_append, hF])]
  simp only [ok_bind]
  rw [← List.append_assoc,
    relPart_enc b.rel hrel _ _ b.forkFlags last (by rw [hffs]; cases b.rel <;> rfl) _
      (by simp only [List.length_append, hF])]
  simp only [ok_bind]
  rw [if_neg (by simp only [List.length_append, hF, le_length]; omega), ← List.append_assoc,
    uN_mid 4 b.blkno _ rest _ (by simp only [List.length_append, hF]) (by omega)]
  simp only [ok_bind, pure_eq_ok, hfff, blockM, hl]
  congr 3
  omega

/-- what the walk reports; `last` = the relation in force before these references -/
def viewsM : Option RelFileNode → List Spec.Wal.BlockRef → List BlockRef
  | _, [] => []
  | last, b :: bs => blockM b last :: viewsM (relOf b.rel last) bs

def blockBytes (b : Spec.Wal.BlockRef) : Nat := (b.data.getD []).length + optImageLen b.image

/-- the bytes after the last block header make the walk stop: nothing but the announced data is left, or
they start with an id above 32 -/
def Stops (rest : Bytes) (dt : Nat) : Prop :=
  rest.length ≤ dt ∨ ∃ b t, rest = b :: t ∧ b.toNat > 32

theorem blockLoop_stop (pre rest : Bytes) (p15 : Bool) (fuel dt : Nat) (last : Option RelFileNode)
    (hs : Stops rest dt) : blockLoop (pre ++ rest) p15 fuel pre.length dt last = .ok [] := by
  cases fuel with
  | zero => rfl
  | succ fuel =>
    unfold blockLoop
    split
    · rename_i hc
      rcases hs with hs | ⟨b, t, rfl, hb⟩
      · simp only [List.length_append] at hc; omega
      · unfold blockStep
        rw [idx_mid _ _ _ _ rfl]
        simp only [ok_bind]
        rw [if_pos hb]
        rfl
    · rfl

theorem blockLoop_enc (bs : List Spec.Wal.BlockRef) (p15 : Bool) (hbs : ∀ b ∈ bs, b.WF p15) (pre rest : Bytes)
    (fuel dt : Nat) (last : Option RelFileNode) (hfuel : bs.length ≤ fuel)
    (hroom : dt + (bs.map blockBytes).sum ≤ rest.length) (hs : Stops rest (dt + (bs.map blockBytes).sum)) :
    blockLoop (pre ++ (bs.flatMap encBlockHdr ++ rest)) p15 fuel pre.length dt last = .ok (viewsM last bs) := by
  induction bs generalizing pre fuel dt last with
  | nil =>
    simp only [List.flatMap_nil, List.nil_append, viewsM]
    simp only [List.map_nil, List.sum_nil, Nat.add_zero] at hs
    exact blockLoop_stop pre rest p15 fuel dt last hs
  | cons b bs ih =>
    cases fuel with
    | zero => simp at hfuel
    | succ fuel =>
      simp only [List.map_cons, List.sum_cons] at hroom hs
      have hl := encBlockHdr_length b
      have hbb : blockBytes b = (b.data.getD []).length + optImageLen b.image := rfl
      unfold blockLoop
      rw [if_pos (by simp only [List.flatMap_cons, List.length_append]; omega)]
      simp only [List.flatMap_cons, List.append_assoc]
      rw [blockStep_enc b p15 (hbs b (by simp)) pre _ dt last]
      simp only [ok_bind]
      have := ih (fun b' hb' => hbs b' (by simp [hb'])) (pre ++ encBlockHdr b) fuel
        (dt + (b.data.getD []).length + optImageLen b.image) (relOf b.rel last) (by simpa using hfuel)
        (by omega)
        (by rw [Nat.add_assoc dt, ← hbb, Nat.add_assoc]; exact hs)
      rw [List.length_append, List.append_assoc] at this
      rw [this]
      rfl

theorem blockData_length (bs : List Spec.Wal.BlockRef) :
    (bs.flatMap encBlockData).length = (bs.map blockBytes).sum := by
  induction bs with
  | nil => rfl
  | cons b bs ih =>
    simp only [List.flatMap_cons, List.length_append, List.map_cons, List.sum_cons, ih, blockBytes, encBlockData]
    cases b.image <;> simp [optBytes, optImageLen] <;> omega

theorem blockHdrs_length (bs : List Spec.Wal.BlockRef) : bs.length ≤ (bs.flatMap encBlockHdr).length := by
  induction bs with
  | nil => simp
  | cons b bs ih =>
    have := encBlockHdr_length b
    simp only [List.flatMap_cons, List.length_append, List.length_cons]; omega

def bodyRest (r : Spec.Wal.WalRecord) : Bytes :=
  optBytes (fun o => 253 :: le 2 o) r.origin ++ (optBytes (fun x => 252 :: le 4 x) r.topXid ++
    (Spec.Wal.encMainHdr r.mainData ++ (r.blocks.flatMap encBlockData ++ r.mainData)))

/-- `[] ++` in front: the form `pre ++ (headers ++ rest)` of `blockLoop_enc`, at `pre = []` -/
theorem encBody_eq (r : Spec.Wal.WalRecord) :
    Spec.Wal.encBody r = [] ++ (r.blocks.flatMap encBlockHdr ++ bodyRest r) := by
  simp [Spec.Wal.encBody, Spec.Wal.encHeaders, bodyRest, List.append_assoc]

theorem bodyRest_stops (r : Spec.Wal.WalRecord) : Stops (bodyRest r) ((r.blocks.map blockBytes).sum) := by
  unfold bodyRest
  cases ho : r.origin with
  | some o => right; exact ⟨253, _, rfl, by decide⟩
  | none =>
    cases ht : r.topXid with
    | some x => right; exact ⟨252, _, rfl, by decide⟩
    | none =>
      cases hm : r.mainData with
      | nil =>
        left
        simp only [optBytes, Spec.Wal.encMainHdr, List.isEmpty_nil, if_true, List.nil_append, List.append_nil,
          blockData_length]
        exact Nat.le_refl _
      | cons m ms =>
        right
        simp only [optBytes, Spec.Wal.encMainHdr, List.nil_append, List.isEmpty_cons, Bool.false_eq_true, if_false]
        by_cases hl : (m :: ms).length ≤ 255
        · rw [if_pos hl]; exact ⟨255, _, rfl, by decide⟩
        · rw [if_neg hl]; exact ⟨254, _, rfl, by decide⟩

theorem bodyRest_room (r : Spec.Wal.WalRecord) : (r.blocks.map blockBytes).sum ≤ (bodyRest r).length := by
  simp only [bodyRest, List.length_append, blockData_length]; omega

theorem parseBlockRefsFor_enc (r : Spec.Wal.WalRecord) (magic : Nat) (hb : ∀ b ∈ r.blocks, b.WF (decide (magic < 0xD110))) :
    parseBlockRefsFor (Spec.Wal.encBody r) magic = .ok (viewsM none r.blocks) := by
  unfold parseBlockRefsFor
  have h := blockLoop_enc r.blocks (decide (magic < 0xD110)) hb [] (bodyRest r) (Spec.Wal.encBody r).length 0 none
    (by rw [encBody_eq]; have := blockHdrs_length r.blocks; simp only [List.nil_append, List.length_append]; omega)
    (by have := bodyRest_room r; omega) (by rw [Nat.zero_add]; exact bodyRest_stops r)
  rw [← encBody_eq] at h
  exact h

def relS (r : RelFileNode) : Spec.Wal.RelFileNode := ⟨r.spc, r.db, r.rel⟩

def viewOfM (b : BlockRef) : Spec.Wal.BlockView := ⟨b.id, b.forkNum, b.flags, b.rel.map relS, b.blockNum⟩

theorem viewsM_views (last : Option RelFileNode) (bs : List Spec.Wal.BlockRef) :
    (viewsM last bs).map viewOfM = Spec.Wal.blockViews (last.map relS) bs := by
  induction bs generalizing last with
  | nil => rfl
  | cons b bs ih =>
    simp only [viewsM, List.map_cons, Spec.Wal.blockViews, ih]
    cases hr : b.rel <;> simp [viewOfM, blockM, relOf, hr, relS, relM]

open PgVerif.Spec.Wal (encRecHeader encBody encRecord pad8)

/-- what must be reported for record `r` found at `lsn`, with the given block references -/
def recM (magic lsn : Nat) (r : Spec.Wal.WalRecord) (blocks : List BlockRef) : Record :=
  { totalLen := r.totLen, xid := r.xid, prev := r.prev, info := r.info, rmid := r.rmid, crc := r.crc, lsn,
    rmName := rmgrName r.rmid, operation := operationNameFor r.rmid r.info magic, blocks }

/-- without the two names, which are stated separately -/
def viewOfRecord (r : Record) : Spec.Wal.RecView :=
  ⟨r.lsn, r.totalLen, r.xid, r.prev, r.info, r.rmid, r.crc, r.blocks.map viewOfM⟩

theorem encRecHeader_length (r : Spec.Wal.WalRecord) : (encRecHeader r).length = 24 := by
  simp [encRecHeader]

theorem totLen_ge (r : Spec.Wal.WalRecord) : 24 ≤ r.totLen := by unfold Spec.Wal.WalRecord.totLen; omega

theorem parseXLogRecord_hdr (r : Spec.Wal.WalRecord) {v : Bool} (hr : r.WF v) (tail : Bytes) (lsn magic : Nat) :
    parseXLogRecord (encRecHeader r ++ tail) lsn magic =
      (do let blocks ← (if r.totLen > 24 && r.totLen ≤ (encRecHeader r ++ tail).length then do
                          let body ← slice (encRecHeader r ++ tail) 24 r.totLen
                          parseBlockRefsFor body magic
                        else pure [] : M (List BlockRef))
          pure (some (recM magic lsn r blocks), r.totLen)) := by
  obtain ⟨hxid, hprev, hinfo, hrmid, hcrc, _, _, _, _, _, htot⟩ := hr
  have h24 := totLen_ge r
  have hlen := encRecHeader_length r
  have hf := fieldsAt_enc [(4, r.totLen), (4, r.xid), (8, r.prev), (1, r.info), (1, r.rmid), (2, 0), (4, r.crc)] []
    (encRecHeader r) tail (by simp [leFields, encRecHeader, le, Nat.mod_eq_of_lt hinfo, Nat.mod_eq_of_lt hrmid])
    (by simp only [List.forall_mem_cons, List.not_mem_nil, false_imp_iff, implies_true, and_true]; omega)
  simp only [FieldsAt, List.nil_append, List.length_nil, Nat.zero_add, Nat.reduceAdd] at hf
  unfold parseXLogRecord
  rw [if_neg (by simp only [List.length_append]; omega)]
  simp only [hf, idx_of_uN hf.2.2.2.1, idx_of_uN hf.2.2.2.2.1, ok_bind, u8_toNat _ hinfo, u8_toNat _ hrmid]
  rw [if_neg (by unfold xlogRecordMaxSize; simp only [Bool.or_eq_true, decide_eq_true_eq]; omega)]
  rfl

theorem blocks_nil_of_totLen (r : Spec.Wal.WalRecord) (h : r.totLen = 24) : r.blocks = [] := by
  cases hb : r.blocks with
  | nil => rfl
  | cons b bs =>
    have := encBlockHdr_length b
    have hpos : (encBlockHdr b).length ≤ (encBody r).length := by
      simp only [encBody, Spec.Wal.encHeaders, hb, List.flatMap_cons, List.length_append]; omega
    unfold Spec.Wal.WalRecord.totLen at h
    omega

theorem parseXLogRecord_whole (r : Spec.Wal.WalRecord) {v : Bool} (hr : r.WF v) (rest : Bytes) (lsn magic : Nat)
    (hv : v = decide (magic < 0xD110)) :
    parseXLogRecord (encRecord r ++ rest) lsn magic = .ok (some (recM magic lsn r (viewsM none r.blocks)), r.totLen) := by
  subst hv
  have hlen := encRecHeader_length r
  have htl : r.totLen = 24 + (encBody r).length := rfl
  rw [show encRecord r ++ rest = encRecHeader r ++ (encBody r ++ rest) by simp [encRecord]]
  rw [parseXLogRecord_hdr r hr]
  by_cases h : r.totLen > 24
  · rw [if_pos (by simp only [Bool.and_eq_true, decide_eq_true_eq, List.length_append]; omega), htl,
      (at_mid _ (encBody r) rest hlen).slice, ok_bind, parseBlockRefsFor_enc r magic (WF_blocks hr)]
    rfl
  · rw [if_neg (by simp only [Bool.and_eq_true, decide_eq_true_eq]; omega)]
    rw [blocks_nil_of_totLen r (by have := totLen_ge r; omega)]
    rfl

/-- what parseWALPage falls back to when the following pages do not carry the rest of the record (the end of a segment file,
finding C17-cross-segment-record): no block references, still consumed with its total length -/
theorem parseXLogRecord_cut (r : Spec.Wal.WalRecord) {v : Bool} (hr : r.WF v) (n : Nat) (h24 : 24 ≤ n) (hn : n < r.totLen)
    (lsn magic : Nat) :
    parseXLogRecord ((encRecord r).take n) lsn magic = .ok (some (recM magic lsn r []), r.totLen) := by
  have hlen := encRecHeader_length r
  rw [show (encRecord r).take n = encRecHeader r ++ (encBody r).take (n - 24) by
        rw [encRecord, List.take_append, hlen, List.take_of_length_le (by omega)]]
  rw [parseXLogRecord_hdr r hr]
  rw [if_neg (by
    simp only [Bool.and_eq_true, decide_eq_true_eq, List.length_append, List.length_take, hlen]; omega)]
  rfl

/-- four zero bytes would read back as 0 -/
theorem le4_not_zero (v : Nat) (h0 : 0 < v) (h : v < 2 ^ 32) (t : Bytes) : isZeroPadding (le 4 v ++ t) = false := by
  unfold isZeroPadding
  rw [show (le 4 v ++ t).take 8 = le 4 v ++ t.take 4 by
    rw [List.take_append, le_length, List.take_of_length_le (by simp)], List.all_append]
  cases hz : (le 4 v).all (· == 0) with
  | false => rfl
  | true =>
    have hv := rd_le 4 v [] (by omega)
    have hall : le 4 v = zeros (le 4 v).length :=
      List.eq_replicate_iff.mpr ⟨rfl, fun b hb => by simpa using List.all_eq_true.mp hz b hb⟩
    rw [List.append_nil, hall, rd_zeros] at hv
    omega

/-- both `align8` are the alignment of Lib/Bits.lean at 8: the model's is `goAlign n 8`, the Spec's `roundUp n 8`, by unfolding -/
theorem align8_eq (n : Nat) : align8 n = Spec.Wal.align8 n := goAlign_pow n 3

theorem align8_ge (n : Nat) : n ≤ Spec.Wal.align8 n := roundUp_ge n 8 (by decide)
theorem align8_mod (n : Nat) : Spec.Wal.align8 n % 8 = 0 := roundUp_mod n 8

theorem pad8_length (b : Bytes) : (pad8 b).length = Spec.Wal.align8 b.length := by
  simp only [pad8, List.length_append, zeros_length, Spec.Wal.align8]; omega

theorem encRecord_length (r : Spec.Wal.WalRecord) : (encRecord r).length = r.totLen := by
  simp [encRecord, encRecHeader, Spec.Wal.WalRecord.totLen]; omega

/-- the body of a page, and the stream of usable bytes of a segment: MAXALIGN-padded records back to back -/
def streamOf (rs : List Spec.Wal.WalRecord) : Bytes := rs.flatMap fun r => pad8 (encRecord r)

def recsLen (rs : List Spec.Wal.WalRecord) : Nat := (rs.map fun r => Spec.Wal.align8 r.totLen).sum

theorem streamOf_cons (r : Spec.Wal.WalRecord) (rs : List Spec.Wal.WalRecord) :
    streamOf (r :: rs) = pad8 (encRecord r) ++ streamOf rs := rfl

theorem streamOf_length (rs : List Spec.Wal.WalRecord) : (streamOf rs).length = recsLen rs := by
  induction rs with
  | nil => rfl
  | cons r rs ih =>
    rw [streamOf_cons, List.length_append, pad8_length, encRecord_length, ih]
    rfl

theorem length_le_recsLen (rs : List Spec.Wal.WalRecord) : rs.length ≤ recsLen rs := by
  induction rs with
  | nil => exact Nat.le_refl _
  | cons r rs ih =>
    have := totLen_ge r
    have := align8_ge r.totLen
    simp only [recsLen, List.map_cons, List.sum_cons, List.length_cons] at ih ⊢
    omega

open PgVerif.Spec.Wal (Trailer pageHdrBytes)

/-- what the record loop must report from in-page position `pos` on: the whole records, then the one cut by the page end -/
def loopRecs (magic pa : Nat) : Nat → List Spec.Wal.WalRecord → Trailer → List Record
  | pos, [], .cut r _ => [recM magic ((pa + pos) % 2 ^ 64) r (viewsM none r.blocks)]
  | _, [], .zeros _ => []
  | pos, r :: rs, tr =>
    recM magic ((pa + pos) % 2 ^ 64) r (viewsM none r.blocks) :: loopRecs magic pa (pos + Spec.Wal.align8 r.totLen) rs tr

/-- the pages that follow carry the rest of the record cut by the page end -/
def ContOK (fol : Bytes) : Trailer → Prop
  | .cut r n => continuationData fol (r.totLen - n) = .ok (some ((encRecord r).drop n))
  | .zeros _ => True

theorem encRecord_le4 (r : Spec.Wal.WalRecord) :
    encRecord r = le 4 r.totLen ++ (le 4 r.xid ++ (le 8 r.prev ++ UInt8.ofNat r.info :: UInt8.ofNat r.rmid :: 0 :: 0 :: (le 4 r.crc ++ encBody r))) := by
  simp [encRecord, encRecHeader, List.append_assoc]

theorem recordLoop_end (data fol : Bytes) (pa magic fuel pos : Nat) (h : data.length < pos + 8) :
    recordLoop data fol pa magic fuel pos = .ok [] := by
  cases fuel with
  | zero => rfl
  | succ fuel => unfold recordLoop; rw [if_neg (by omega)]; rfl

theorem recordBytes_whole (r : Spec.Wal.WalRecord) (htot : r.totLen ≤ 1069547520) (rest fol : Bytes) :
    recordBytes (encRecord r ++ rest) fol = .ok (encRecord r ++ rest) := by
  have hlen := encRecord_length r
  unfold recordBytes
  rw [show uN 4 (encRecord r ++ rest) 0 = .ok r.totLen by
    rw [encRecord_le4]; simp only [List.append_assoc]; exact (at_zero _ _).uN (by omega)]
  simp only [ok_bind]
  rw [if_neg (by simp only [Bool.and_eq_true, decide_eq_true_eq, List.length_append, hlen]; omega)]
  rfl

theorem recordBytes_cut (r : Spec.Wal.WalRecord) (htot : r.totLen ≤ 1069547520) (n : Nat) (h4 : 4 ≤ n) (hn : n < r.totLen)
    (fol : Bytes)
    (hc : continuationData fol (r.totLen - n) = .ok (some ((encRecord r).drop n))) :
    recordBytes ((encRecord r).take n) fol = .ok (encRecord r) := by
  have hlen := encRecord_length r
  unfold recordBytes
  rw [show uN 4 ((encRecord r).take n) 0 = .ok r.totLen by
    rw [encRecord_le4, List.take_append, le_length, List.take_of_length_le (by simp; omega)]
    exact (at_zero _ _).uN (by omega)]
  simp only [ok_bind]
  have hfol := (continuationData_length fol _ _ hc).2
  rw [if_pos (by simp only [Bool.and_eq_true, decide_eq_true_eq, List.length_take, hlen]; omega)]
  rw [List.length_take, hlen, show min n r.totLen = n by omega, hc]
  simp only [ok_bind, pure_eq_ok, List.take_append_drop]

theorem encRecord_not_padding (r : Spec.Wal.WalRecord) (htot : r.totLen ≤ 1069547520) (n : Nat) (h4 : 4 ≤ n) (t : Bytes) :
    isZeroPadding ((encRecord r).take n ++ t) = false := by
  have h24 := totLen_ge r
  rw [encRecord_le4, List.take_append, le_length, List.take_of_length_le (by simp; omega), List.append_assoc]
  exact le4_not_zero _ (by omega) (by omega) _

theorem recordLoop_step (r : Spec.Wal.WalRecord) {v : Bool} (hr : r.WF v) (pre chunk fol rest' : Bytes) (pa magic fuel : Nat)
    (hv : v = decide (magic < 0xD110)) (h8 : 8 ≤ chunk.length) (hz : isZeroPadding chunk = false)
    (hb : recordBytes chunk fol = .ok (encRecord r ++ rest')) :
    recordLoop (pre ++ chunk) fol pa magic (fuel + 1) pre.length = (do
      let rest ← recordLoop (pre ++ chunk) fol pa magic fuel (align8 (pre.length + r.totLen))
      pure (recM magic ((pa + pre.length) % 2 ^ 64) r (viewsM none r.blocks) :: rest)) := by
  have h24 := totLen_ge r
  rw [recordLoop, if_pos (by rw [List.length_append]; omega), sliceFrom_ok _ _ (by simp)]
  simp only [ok_bind, List.drop_left', hz, Bool.false_eq_true, if_false, hb, parseXLogRecord_whole r hr rest' _ magic hv]
  rw [if_neg (by simp only [beq_iff_eq]; omega)]

theorem recordLoop_trailer (pre fol : Bytes) (tr : Trailer) {v : Bool} (htr : tr.WF v) (hc : ContOK fol tr) (pa magic fuel : Nat)
    (hf : 1 ≤ fuel) (hv : v = decide (magic < 0xD110)) :
    recordLoop (pre ++ tr.bytes) fol pa magic fuel pre.length = .ok (loopRecs magic pa pre.length [] tr) := by
  cases fuel with
  | zero => omega
  | succ fuel =>
    cases tr with
    | zeros bs =>
      unfold recordLoop
      split
      · rw [sliceFrom_ok _ _ (by simp)]
        simp only [ok_bind, List.drop_left', Trailer.bytes]
        have hz : isZeroPadding bs = true := htr
        rw [if_pos hz]; rfl
      · rfl
    | cut r n =>
      obtain ⟨hr, h8, hn⟩ := htr
      have hlen := encRecord_length r
      have hz := encRecord_not_padding r (WF_totLen hr) n (by omega) []
      rw [List.append_nil] at hz
      rw [Trailer.bytes, recordLoop_step r hr pre _ fol [] pa magic fuel hv (by rw [List.length_take, hlen]; omega) hz
          (by rw [List.append_nil]; exact recordBytes_cut r (WF_totLen hr) n (by omega) hn fol hc),
        recordLoop_end _ _ _ _ _ _ (by
          rw [align8_eq]; simp only [List.length_append, List.length_take, Spec.Wal.align8]; omega)]
      rfl

/-- The record-loop invariant: position = 8-aligned end of the previous record, reported = `loopRecs`.  The trailer's record may
be cut anywhere after its first 8 bytes, also inside its 24-byte header. -/
theorem recordLoop_enc (rs : List Spec.Wal.WalRecord) {v : Bool} (hrs : ∀ r ∈ rs, r.WF v) (tr : Trailer) (htr : tr.WF v)
    (fol : Bytes) (hc : ContOK fol tr)
    (pre : Bytes) (hpre : pre.length % 8 = 0) (pa magic fuel : Nat) (hf : rs.length + 1 ≤ fuel)
    (hv : v = decide (magic < 0xD110)) :
    recordLoop (pre ++ (streamOf rs ++ tr.bytes)) fol pa magic fuel pre.length =
      .ok (loopRecs magic pa pre.length rs tr) := by
  induction rs generalizing pre fuel with
  | nil => simpa [streamOf] using recordLoop_trailer pre fol tr htr hc pa magic fuel (by simpa using hf) hv
  | cons r rs ih =>
    cases fuel with
    | zero => omega
    | succ fuel =>
      have hr := hrs r (by simp)
      have hlen := encRecord_length r
      have hpl := pad8_length (encRecord r)
      have h24 := totLen_ge r
      rw [hlen] at hpl
      have hsplit : pad8 (encRecord r) ++ (streamOf rs ++ tr.bytes) =
          (encRecord r).take r.totLen ++ (zeros (Spec.Wal.align8 r.totLen - r.totLen) ++
            (streamOf rs ++ tr.bytes)) := by
        rw [← hlen, List.take_length, pad8, List.append_assoc]
      have hnext : align8 (pre.length + r.totLen) = (pre ++ pad8 (encRecord r)).length := by
        rw [align8_eq, List.length_append, hpl]; simp only [Spec.Wal.align8]; omega
      rw [streamOf_cons, List.append_assoc,
        recordLoop_step r hr pre _ fol _ pa magic fuel hv (by simp only [List.length_append, hpl, Spec.Wal.align8]; omega)
          (by rw [hsplit]; exact encRecord_not_padding r (WF_totLen hr) _ (by omega) _)
          (by rw [hsplit, ← hlen, List.take_length]; exact recordBytes_whole r (WF_totLen hr) _ fol),
        hnext, ← List.append_assoc, ih (fun r' h' => hrs r' (by simp [h'])) (pre ++ pad8 (encRecord r))
          (by rw [List.length_append, hpl]; simp only [Spec.Wal.align8]; omega) fuel (by simpa using hf)]
      simp only [ok_bind, pure_eq_ok, loopRecs, List.length_append, hpl]

theorem pageHdrBytes_length (magic info tli addr rem : Nat) (ext : Bytes) :
    (pageHdrBytes magic info tli addr rem ext).length = 24 + ext.length := by
  simp [pageHdrBytes]; omega

theorem walHdr_enc (magic info tli addr rem : Nat) (ext tail : Bytes)
    (hm : magic < 2 ^ 16) (hi : info < 2 ^ 16) (ht : tli < 2 ^ 32) (ha : addr < 2 ^ 64) (hr : rem < 2 ^ 32) :
    (walHdr (pageHdrBytes magic info tli addr rem ext ++ tail)).magic = magic ∧
    (walHdr (pageHdrBytes magic info tli addr rem ext ++ tail)).info = info ∧
    (walHdr (pageHdrBytes magic info tli addr rem ext ++ tail)).pageAddr = addr ∧
    (walHdr (pageHdrBytes magic info tli addr rem ext ++ tail)).remLen = rem := by
  have hf := fieldsAt_enc [(2, magic), (2, info), (4, tli), (8, addr), (4, rem)] [] _ (zeros 4 ++ ext ++ tail) rfl
    (by simp only [List.forall_mem_cons, List.not_mem_nil, false_imp_iff, implies_true, and_true]; omega)
  rw [show leFields [(2, magic), (2, info), (4, tli), (8, addr), (4, rem)] ++ (zeros 4 ++ ext ++ tail) =
    pageHdrBytes magic info tli addr rem ext ++ tail by simp [leFields, pageHdrBytes]] at hf
  simp only [FieldsAt, uN_eq_ok, List.nil_append, List.length_nil, Nat.zero_add, Nat.reduceAdd] at hf
  unfold walHdr
  split <;> exact ⟨hf.1.2, hf.2.1.2, hf.2.2.2.1.2, hf.2.2.2.2.1.2⟩

/-- the header size is a multiple of 8, so MAXALIGNing header + rem_len aligns rem_len alone -/
theorem startPos_eq (h : PageHeader) :
    startPos h = headerSize h.info + (if h.info &&& 0x0001 != 0 && h.remLen > 0 then Spec.Wal.align8 h.remLen else 0) := by
  unfold startPos
  split
  · -- (24 or 40) + rem_len rounded up to 8 = the header + rem_len rounded up
    simp only [align8_eq, Spec.Wal.align8]
    rcases headerSize_cases h.info with e | e <;> rw [e] <;> omega
  · rfl

theorem headerSize_ext (info : Nat) (ext : Bytes) (hext : ext.length = if info &&& 0x0002 != 0 then 16 else 0) :
    headerSize info = 24 + ext.length := by
  unfold headerSize; rw [hext]; split <;> rfl

theorem startPos_enc (magic info tli addr rem : Nat) (ext tail : Bytes)
    (hm : magic < 2 ^ 16) (hi : info < 2 ^ 16) (ht : tli < 2 ^ 32) (ha : addr < 2 ^ 64) (hr : rem < 2 ^ 32)
    (hext : ext.length = if info &&& 0x0002 != 0 then 16 else 0) :
    startPos (walHdr (pageHdrBytes magic info tli addr rem ext ++ tail)) =
      24 + ext.length + (if info &&& 0x0001 != 0 && rem > 0 then Spec.Wal.align8 rem else 0) := by
  obtain ⟨_, h2, _, h4⟩ := walHdr_enc magic info tli addr rem ext tail hm hi ht ha hr
  rw [startPos_eq, h2, h4, headerSize_ext info ext hext]

theorem parseWALPage_enc (magic info tli addr rem : Nat) (ext cont : Bytes)
    (rs : List Spec.Wal.WalRecord) (tr : Trailer) (fol : Bytes)
    (hm : magic < 2 ^ 16) (hi : info < 2 ^ 16) (ht : tli < 2 ^ 32) (ha : addr < 2 ^ 64) (hr : rem < 2 ^ 32)
    (hvalid : isValidMagic magic = true)
    (hext : ext.length = if info &&& 0x0002 != 0 then 16 else 0)
    (hcont : cont.length = if info &&& 0x0001 != 0 && rem > 0 then Spec.Wal.align8 rem else 0)
    (hrs : ∀ r ∈ rs, r.WF (decide (magic < 0xD110))) (htr : tr.WF (decide (magic < 0xD110))) (hc : ContOK fol tr) :
    parseWALPage (pageHdrBytes magic info tli addr rem ext ++ cont ++ (streamOf rs ++ tr.bytes)) fol =
      .ok (some (loopRecs magic addr (24 + ext.length + cont.length) rs tr)) := by
  have hl := pageHdrBytes_length magic info tli addr rem ext
  obtain ⟨h1, _, h3, _⟩ := walHdr_enc magic info tli addr rem ext (cont ++ (streamOf rs ++ tr.bytes)) hm hi ht ha hr
  have h8 : (pageHdrBytes magic info tli addr rem ext ++ cont).length % 8 = 0 := by
    have he : ext.length % 8 = 0 := by rw [hext]; split <;> rfl
    have hc8 : cont.length % 8 = 0 := by rw [hcont]; split; exact align8_mod rem; rfl
    rw [List.length_append, hl]; omega
  have hfl := streamOf_length rs ▸ length_le_recsLen rs
  rw [List.append_assoc, parseWALPage_eq, h1, h3, startPos_enc _ _ _ _ _ _ _ hm hi ht ha hr hext, ← hcont,
    if_neg (by rw [hvalid]; simp [hl]; omega), ← List.append_assoc,
    show 24 + ext.length + cont.length = (pageHdrBytes magic info tli addr rem ext ++ cont).length by rw [List.length_append, hl],
    recordLoop_enc rs hrs tr htr fol hc _ h8 addr magic _ (by simp only [List.length_append, hl]; omega) rfl]
  rfl

/-- a page whose continuation data (rem_len) reaches to within 8 bytes of its end holds no record start -/
theorem parseWALPage_allcont (magic info tli addr rem : Nat) (ext tail fol : Bytes)
    (hm : magic < 2 ^ 16) (hi : info < 2 ^ 16) (ht : tli < 2 ^ 32) (ha : addr < 2 ^ 64) (hr : rem < 2 ^ 32)
    (hvalid : isValidMagic magic = true) (hflag : (info &&& 0x0001 != 0) = true)
    (hext : ext.length = if info &&& 0x0002 != 0 then 16 else 0)
    (hfull : tail.length < Spec.Wal.align8 rem + 8) :
    parseWALPage (pageHdrBytes magic info tli addr rem ext ++ tail) fol = .ok (some []) := by
  have hl := pageHdrBytes_length magic info tli addr rem ext
  obtain ⟨h1, _, _, _⟩ := walHdr_enc magic info tli addr rem ext tail hm hi ht ha hr
  rw [parseWALPage_eq, h1, startPos_enc _ _ _ _ _ _ _ hm hi ht ha hr hext, if_neg (by rw [hvalid]; simp [hl]; omega),
    recordLoop_end _ _ _ _ _ _ (by
      rw [hflag, List.length_append, hl]
      split
      · omega
      · rename_i h0
        have : rem = 0 := by simpa using h0
        rw [this, show Spec.Wal.align8 0 = 0 from rfl] at hfull
        omega)]
  rfl

end PgVerif.Proofs.Wal
