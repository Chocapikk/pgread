/-
  ParseWALFile as a pure page loop.  `pagesPure` keeps the fuel and the offset of the Go loop; nothing outside this file looks
  below the equations `fileRecs_short`, `fileRecs_cons`, `prefixRecs_succ`.
-/
import PgVerif.Proofs.Wal
namespace PgVerif.Proofs.Wal
open PgVerif PgVerif.Model.Wal

/-- what parseWALPage contributes to ParseWALFile's result (an error return is a skipped page); `fol` = the pages that follow -/
def pageRecs (pg fol : Bytes) : List Record :=
  match parseWALPage pg fol with
  | .ok (some rs) => rs
  | _ => []

def pagesPure (data : Bytes) : Nat → Nat → List Record
  | 0, _ => []
  | fuel+1, off =>
    if off + 8192 ≤ data.length then
      pageRecs ((data.take (off + 8192)).drop off) (data.drop (off + 8192)) ++ pagesPure data fuel (off + 8192)
    else []

theorem pagesLoop_eq (data : Bytes) (fuel off : Nat) : pagesLoop data fuel off = .ok (pagesPure data fuel off) := by
  induction fuel generalizing off with
  | zero => rfl
  | succ fuel ih =>
    unfold pagesLoop pagesPure
    split
    · rename_i hc
      rw [slice_ok data off (off + 8192) hc (by omega), sliceFrom_ok data (off + 8192) hc]
      simp only [ok_bind]
      obtain ⟨r, hr⟩ := parseWALPage_total ((data.take (off + 8192)).drop off) (data.drop (off + 8192))
      simp only [hr, ih, ok_bind, pure_eq_ok, pageRecs]
      cases r <;> rfl
    · rfl

/-- all records of a file: the page loop with the fuel ParseWALFile gives it -/
def fileRecs (data : Bytes) : List Record := pagesPure data (data.length / 8192 + 1) 0

theorem parseWALFile_eq (data : Bytes) :
    parseWALFile data = .ok (if data.length < 40 then none else some (fileRecs data)) := by
  unfold parseWALFile
  split
  · rfl
  · simp only [pagesLoop_eq, ok_bind, pure_eq_ok, fileRecs]

theorem parseWALFile_total (data : Bytes) : ∃ r, parseWALFile data = .ok r := ⟨_, parseWALFile_eq data⟩

theorem pagesPure_append_right (a b : Bytes) (o fuel : Nat) :
    pagesPure (a ++ b) fuel (a.length + o) = pagesPure b fuel o := by
  induction fuel generalizing o with
  | zero => rfl
  | succ fuel ih =>
    simp only [pagesPure, List.length_append]
    by_cases h : o + 8192 ≤ b.length
    · rw [if_pos (by omega), if_pos h]
      have hd : ((a ++ b).take (a.length + o + 8192)).drop (a.length + o) = (b.take (o + 8192)).drop o := by
        rw [show a.length + o + 8192 = a.length + (o + 8192) by omega, List.take_length_add_append,
          List.drop_length_add_append]
      have hf : (a ++ b).drop (a.length + o + 8192) = b.drop (o + 8192) := by
        rw [show a.length + o + 8192 = a.length + (o + 8192) by omega, List.drop_length_add_append]
      rw [hd, hf, show a.length + o + 8192 = a.length + (o + 8192) by omega, ih]
    · rw [if_neg (by omega), if_neg h]

/-- the records reported for the (whole) pages of `a` when the bytes `b` follow -/
def prefixRecs (a b : Bytes) : List Record := pagesPure (a ++ b) (a.length / 8192) 0

theorem pagesPure_cons (pg rest : Bytes) (h : pg.length = 8192) (fuel : Nat) :
    pagesPure (pg ++ rest) (fuel + 1) 0 = pageRecs pg rest ++ pagesPure rest fuel 0 := by
  have hs := pagesPure_append_right pg rest 0 fuel
  rw [h] at hs
  rw [pagesPure, if_pos (by rw [List.length_append]; omega), Nat.zero_add, List.drop_zero, hs, ← h,
    List.take_left' rfl, List.drop_left' rfl]

theorem fileRecs_cons (pg rest : Bytes) (h : pg.length = 8192) :
    fileRecs (pg ++ rest) = pageRecs pg rest ++ fileRecs rest := by
  unfold fileRecs
  rw [List.length_append, h, Nat.add_comm 8192, Nat.add_div_right _ (by decide : 0 < 8192), pagesPure_cons pg rest h]

theorem prefixRecs_succ (a b : Bytes) (n : Nat) (ha : a.length = (n + 1) * 8192) :
    (a.take 8192).length = 8192 ∧ (a.drop 8192).length = n * 8192 ∧
    prefixRecs a b = pageRecs (a.take 8192) (a.drop 8192 ++ b) ++ prefixRecs (a.drop 8192) b := by
  have hpg : (a.take 8192).length = 8192 := by rw [List.length_take]; omega
  have hrest : (a.drop 8192).length = n * 8192 := by rw [List.length_drop]; omega
  refine ⟨hpg, hrest, ?_⟩
  unfold prefixRecs
  rw [hrest, Nat.mul_div_cancel _ (by decide : 0 < 8192), ha, Nat.mul_div_cancel _ (by decide : 0 < 8192)]
  conv => lhs; rw [← List.take_append_drop 8192 a, List.append_assoc]
  exact pagesPure_cons _ _ hpg n

theorem fileRecs_append (a b : Bytes) (n : Nat) (ha : a.length = n * 8192) :
    fileRecs (a ++ b) = prefixRecs a b ++ fileRecs b := by
  induction n generalizing a with
  | zero =>
    rw [List.length_eq_zero_iff.mp (by omega : a.length = 0)]
    rfl
  | succ n ih =>
    obtain ⟨hpg, hrest, hp⟩ := prefixRecs_succ a b n ha
    conv => lhs; rw [← List.take_append_drop 8192 a, List.append_assoc]
    rw [fileRecs_cons _ _ hpg, ih _ hrest, hp, List.append_assoc]

theorem fileRecs_short (t : Bytes) (h : t.length < 8192) : fileRecs t = [] := by
  unfold fileRecs
  simp only [pagesPure]
  rw [if_neg (by omega)]

theorem walHdr_magic (d : Bytes) : (walHdr d).magic = rdAt 2 0 d := by
  unfold walHdr
  split <;> rfl

theorem walHdr_zeros (m : Nat) : isValidMagic (walHdr (zeros m)).magic = false := by
  rw [walHdr_magic, rdAt, drop_zeros]
  exact congrArg isValidMagic (rd_zeros 2 _)

theorem contChunk_bad_magic (pg : Bytes) (need : Nat) (h : isValidMagic (walHdr pg).magic = false) :
    contChunk pg need = none := by
  rw [contChunk, h]
  rfl

/-- magic 0, which no PostgreSQL version writes -/
theorem pageRecs_zeros (m : Nat) (fol : Bytes) : pageRecs (zeros m) fol = [] := by
  unfold pageRecs
  rw [parseWALPage_eq, if_pos (.inr (walHdr_zeros m))]

theorem fileRecs_zeros (m : Nat) : fileRecs (zeros m) = [] := by
  induction m using Nat.strongRecOn with
  | _ m ih =>
    by_cases h : m < 8192
    · exact fileRecs_short _ (by rw [zeros_length]; exact h)
    · rw [show zeros m = zeros 8192 ++ zeros (m - 8192) by
          unfold zeros; rw [List.replicate_append_replicate, Nat.add_sub_of_le (Nat.le_of_not_lt h)],
        fileRecs_cons _ _ (zeros_length _), pageRecs_zeros, ih _ (by omega)]
      rfl

end PgVerif.Proofs.Wal
