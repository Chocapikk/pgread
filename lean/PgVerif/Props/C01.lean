/-
  C01 — end-to-end dump reproduces the cluster's logical content (pgdump.go + catalog.go; the tree after
  fixes/rows/01..09 and fixes/cluster/01..09, among them 08 (pg_attribute through the real layouts) and 09 (rows of tables
  without columns)).

  The Spec does not copy pgread's heuristics.  Six recorded OPEN findings (fixes/cluster/known_findings.json) are carved out as
  explicit hypotheses: `Spec.TemplatesByName` (C01-TPL: template database = name prefix instead of datistemplate),
  `Spec.A02Free` (A02: out-of-line values are dumped as nil; values compressed in line are read, fixes/rows/09, and not
  excluded), `Spec.Cluster.Plain` (C01-SEG: rows in segment files `<filenode>.N` are not read; C01-TBLSPC: relations outside
  the default tablespace — of the cluster, pg_database.dattablespace included — are dumped without rows),
  `Spec.Cluster.IdentityMapped` (C01-MAPPED: pgread opens global/1262, base/<db>/1259 and 1249 by name and never reads
  pg_filenode.map: after VACUUM FULL / CLUSTER of a mapped catalog the dump is empty, without an error) and
  `Spec.Cluster.NoFastDefaults` (C01-MISSINGVAL: a column added with a non-NULL fast default reads as nil in the rows written
  before the ALTER TABLE).  The table filter is covered where Go's Unicode case folding is the Spec's ASCII folding
  (`GoCase.FilterStable`, part of `DbDumpable`, computed with Go's complete Unicode tables, Model/GoCaseTables.lean: false for
  `Āb` / `āb` and every other pair Go folds together).  The scalar decoder hypothesis `CatDec` is discharged for the composed
  model of DecodeType (`C01_catDec_real`, `C01_dump_real`).

  The model is parametric in the row reader `rr` (heap.go:ReadRows, area `rows`, whose refinement theorem is
  C03_file): the theorems up to `C01_dump_partial` are about the catalog / filter / join / dump logic on top of ANY row
  reader; from "The full dump theorem" on the reader is `Model.readRows dec`.
-/
import PgVerif.Proofs.ClusterTree
import PgVerif.Proofs.ClusterHyp
import PgVerif.Proofs.ClusterDroppedTie
import PgVerif.Proofs.ClusterCatReal
import PgVerif.Props.C10.Rows
namespace PgVerif.Props.C01
open PgVerif PgVerif.Model PgVerif.Proofs PgVerif.Proofs.Cluster List
open PgVerif.Spec (TableDump DatabaseDump DumpResult Options)

/-- **The reported row count always equals the number of rows returned** by DumpDatabaseFromFiles, the custom-file-reader
entry point — for every row reader, all catalog bytes (well-formed or garbage), every file reader, every iteration order and
all options. -/
theorem C01_rowcount_files (rr : RowReader) (π : MapOrder TableInfo) (cd ad : Bytes) (reader : Option FileReader)
    (o : Options) (ts : List TableDump) (h : dumpDatabaseFromFiles rr π cd ad reader o = .ok ts) :
    ∀ t ∈ ts, t.rowCount = t.rows.length := by
  intro t ht
  obtain ⟨fn, info, attrs, hdt⟩ := tables_from_dumpTable rr π cd ad reader o ts h t ht
  exact (dumpTable_shape rr fn info attrs reader o t hdt).2.2.2.2.2.1

/-- … and by DumpDataDir, for every file tree: each database of its result is DumpDatabaseFromFiles on some files. -/
theorem C01_rowcount (rr : RowReader) (π : MapOrder TableInfo) (fs : Bytes → Option Bytes) (o : Options)
    (r : DumpResult) (h : dumpDataDir rr π fs o = .ok (some r)) :
    ∀ d ∈ r, ∀ t ∈ d.tables, t.rowCount = t.rows.length := fun d hd =>
  let ⟨cd, ad, reader, hf⟩ := dbs_from_files rr π fs o r h d hd
  C01_rowcount_files rr π cd ad reader o d.tables hf

/-- **Schema-only mode returns no rows**: with ListOnly every table has `Rows = nil` and `RowCount = 0`. -/
theorem C01_listonly_norows (rr : RowReader) (π : MapOrder TableInfo) (fs : Bytes → Option Bytes) (o : Options)
    (hl : o.listOnly = true) (r : DumpResult) (h : dumpDataDir rr π fs o = .ok (some r)) :
    ∀ d ∈ r, ∀ t ∈ d.tables, t.rows = [] ∧ t.rowCount = 0 := by
  intro d hd t ht
  obtain ⟨cd, ad, reader, hf⟩ := dbs_from_files rr π fs o r h d hd
  obtain ⟨fn, info, attrs, hdt⟩ := tables_from_dumpTable rr π cd ad reader o d.tables hf t ht
  have hs := dumpTable_shape rr fn info attrs reader o t hdt
  have hr := hs.2.2.2.2.2.2 hl
  exact ⟨hr, by rw [hs.2.2.2.2.2.1, hr]; rfl⟩

/-- **Schema-only mode returns the same tables and columns**: whenever the full dump of a database's files
returns, the ListOnly dump returns the same tables in the same order with the same oid, name, filenode, kind
and columns, and no rows. -/
theorem C01_listonly (rr : RowReader) (π : MapOrder TableInfo) (cd ad : Bytes) (reader : Option FileReader)
    (o : Options) (ts : List TableDump) (h : dumpDatabaseFromFiles rr π cd ad reader o = .ok ts) :
    dumpDatabaseFromFiles rr π cd ad reader { o with listOnly := true } = .ok (ts.map stripRows) := by
  rw [dumpDatabaseFromFiles_loop] at h ⊢
  obtain ⟨tables, h1, h⟩ := bind_eq_ok h
  obtain ⟨attrs, h2, h⟩ := bind_eq_ok h
  rw [h1, ok_bind]
  show (parsePGAttribute rr ad o.pgVersion >>= _) = _
  rw [h2, ok_bind]
  refine collectM_result_map _ _ stripRows _ _ h fun info _ y hy => ?_
  obtain ⟨t, hd, hy⟩ := bind_eq_ok hy
  cases hy
  exact (congrArg (· >>= fun t => pure (some t)) (dumpTable_listOnly rr _ info _ reader o t hd) :)

/-- **Every ordinary user table that passes the filters, exactly once** (the pg_class half of `C01_dump`).
For every database content `d`, if the row reader hands ParsePGClass the live pg_class rows of `d` (as far as oid,
relname, relfilenode and relkind go — what C03_file gives for the encoded catalog) and `d` is well-formed (live
rows with storage have pairwise distinct filenodes, relkind is a byte), then the tables DumpDatabaseFromFiles
returns are, with their oid, name, filenode and kind, exactly the tables of the specification's expected dump
`Spec.expectedDb`: relkind `r`, relfilenode ≠ 0, not `pg_`-prefixed when skipping system tables, containing the
lower-cased filter — each once, dead row versions ignored, in the same (filenode) order; for every iteration order
of Go's table map, every pg_attribute content, every file reader and all options whose table filter is empty or ASCII
on ASCII relation names (`GoCase.FilterStable`: beyond ASCII Go lower-cases by Unicode tables and the Spec is silent).

`_partial`: the full `C01_dump` (below) also equates each table's columns (join of pg_attribute by relation oid,
attnum > 0 in attnum order, layout choice) and rows (`Spec.expectedTable`) with the model's; this theorem is the part
that holds for an arbitrary row reader. -/
theorem C01_dump_partial (rr : RowReader) (π : MapOrder TableInfo) (hπ : ∀ l, π l ~ l) (val : Spec.Val) (o : Options)
    (db : Spec.DbRow) (d : Spec.DbContent) (cd ad : Bytes) (reader : Option FileReader) (rows : List Row)
    (hr : rr cd schemaPGClass true = .ok rows) (hrows : rows.map infoOfRow = d.cls.live.map infoOfRel)
    (hnd : ((d.cls.live.filter (·.filenode != 0)).map (·.filenode)).Nodup) (hkind : ∀ r ∈ d.cls.live, r.kind < 256)
    (hasc : GoCase.FilterStable o d.cls.live)
    (ts : List TableDump) (h : dumpDatabaseFromFiles rr π cd ad reader o = .ok ts) :
    ts.map tableKey = (Spec.expectedDb val o db d).tables.map tableKey := by
  rw [dump_tables_of_live rr π hπ cd ad reader o rows d.cls.live hr hrows hnd hkind hasc ts h, expectedDb_keys]

/-- the decidable side conditions of `C01_dump_partial` hold for a small pg_class (a table, an index, a view).  The
reader hypothesis `hrows` (an equation between association lists keyed by string literals, which the kernel does
not evaluate) is re-checked at run time on every generated cluster instead: family `cluster_dump` tags each case
`hyp:class=ok` when `Model.readRows` applied to the encoded pg_class satisfies it, and `hyp:class=FAIL` otherwise
(counts are in the evidence histogram). -/
example :
    let live : List Spec.ClassRow := [{ oid := 16384, name := [116], kind := 114, filenode := 16390 },
                                      { oid := 16387, name := [105], kind := 105, filenode := 16387 },
                                      { oid := 16388, name := [118], kind := 118, filenode := 0 }]
    ((live.filter (·.filenode != 0)).map (·.filenode)).Nodup ∧ ∀ r ∈ live, r.kind < 256 := by
  refine ⟨by decide, by decide⟩

/-! ## The full dump theorem

From here on the row reader is the real one, `Model.readRows dec` (heap.go:ReadRows, area `rows`), and the files are
the ones a `Spec.Cluster` is encoded into (`Spec.fsOf`: PostgreSQL's real catalog layouts 12–13 / 14–15 / 16, heaps of
live and dead row versions over any number of pages).  The scalar decoder `dec` (DecodeType, area `scalars`) stays a
parameter: the catalog logic needs it only on the seven catalog column types (`CatDec dec`, which the decoder the
families run satisfies: `catDec_local`); the rendering of user values is `varlenaVal dec`, i.e. C04's business.

The classes of findings A03 and A04 (fixes/cluster/08: ParsePGAttribute reads the three real layouts, attalign included, and
chooses the layout by looking at every row) and A01z (fixes/cluster/09: readTableRows) are inside the theorems, not carved out.
What is explicit are conditions every real cluster meets but `Spec.Cluster.WF` does not state: attnums 1..n without
gaps (`RelReadable.dense`), a dumped table's file name is not that of a catalog or of a non-heap relation
(`DbDumpable.files`), a version hint — if one is given — that names the cluster's layout, and attstorage ∈ {p, e, m, x}
when there is none (`SchemaOK`: what the automatic choice of the layout looks at, besides attalign). -/

open PgVerif.Spec (Cluster DbContent Layout HeapOf AttrRow ClassRow DbRow)

/-- **ReadRows on pg_class gives ParsePGClass the live rows.**  For every pg_class heap in PostgreSQL's layout (33
attributes, of which the tool's schema knows the first 17; any number of pages; live and dead row versions) whose
rows have NUL-free names of at most 63 bytes, 32-bit oids and filenodes, and which fit their pages: the real row reader
returns one row per live version, in heap order, from which the tool reads the relation's oid, name, filenode and
relkind.  This is the reader hypothesis `hr`/`hrows` of `C01_dump_partial`. -/
theorem C01_class_reader (dec : Dec) (hd : CatDec dec) (cls : HeapOf ClassRow)
    (hv : ∀ s ∈ cls.versions, Spec.nameOK s.val.name ∧ s.val.oid < 2 ^ 32 ∧ s.val.filenode < 2 ^ 32 ∧ s.infomask < 65536)
    (hfit : Spec.pagesFit (cls.map fun pg => pg.map fun s => Spec.formRow Spec.pgClassCols (Spec.classVals s.val) s.infomask)) :
    ∃ rows, readRows dec (Spec.encHeapOf Spec.pgClassCols Spec.classVals cls) schemaPGClass true = .ok rows ∧
      rows.map infoOfRow = cls.live.map infoOfRel :=
  readRows_class dec hd cls hv hfit

/-- **Which tables, once, in filenode order — with the real reader** (`C01_dump_partial` without its reader
hypotheses): for every well-formed database content, every pg_attribute bytes, every file reader, iteration order
and options. -/
theorem C01_tables (dec : Dec) (hd : CatDec dec) (π : MapOrder TableInfo) (hπ : ∀ l, π l ~ l) (val : Spec.Val) (o : Options)
    (l : Layout) (db : DbRow) (d : DbContent) (hwf : d.WF l) (hasc : GoCase.FilterStable o d.cls.live) (ad : Bytes)
    (reader : Option FileReader) (ts : List TableDump)
    (h : dumpDatabaseFromFiles (readRows dec) π (Spec.encHeapOf Spec.pgClassCols Spec.classVals d.cls) ad reader o = .ok ts) :
    ts.map tableKey = (Spec.expectedDb val o db d).tables.map tableKey := by
  obtain ⟨hcls, _, hkind, _⟩ := dbWF_parts l d hwf
  obtain ⟨rows, hr, hrows⟩ := readRows_class dec hd d.cls hcls hwf.fitCls
  exact C01_dump_partial (readRows dec) π hπ val o db d _ ad reader rows hr hrows hwf.fnNodup hkind hasc ts h

/-- **ParsePGAttribute, every layout, hinted and chosen automatically.**  For every pg_attribute heap encoded in one of
PostgreSQL's three real layouts (row versions live and dead, any number of pages, in ANY order; names NUL-free ≤ 63
bytes, 32-bit oids, 16-bit attnum / attlen, attalign one of c/s/i/d) in which no live (attrelid, attnum) pair repeats, and
every version hint `ver` with `SchemaOK` (the hint names the layout — 16+, 14–15, 12–13 —; or there is no hint and every
live row's attstorage is one of p/e/m/x): ParsePGAttribute returns, and for every relation oid `k` the entry of the
returned map is exactly the live rows of `k` with attnum > 0, in attnum order, dead versions and system attributes
ignored, each with its catalog name, type oid, attnum, attlen and attalign character (`attrInfoOf`).  Nothing is
assumed about which rows come first (the former finding A04) and `Align` is the real attalign (the former A03). -/
theorem C01_attributes (dec : Dec) (hd : CatDec dec) (l : Layout) (att : HeapOf AttrRow) (ver : Nat) (hw : AttHeapWF l att)
    (hs : SchemaOK l att ver) (hnd : (att.live.map fun a => (a.relid, a.num)).Nodup) :
    ∃ m, parsePGAttribute (readRows dec) (Spec.encHeapOf (Spec.pgAttributeCols l) (Spec.attrVals l) att) (ver : Int) = .ok m ∧
      ∀ k, 0 < k → (mapGet m k).getD [] = (Spec.userAttrs att k).map attrInfoOf :=
  parsePGAttribute_enc dec hd l att ver hw hs hnd

/-- **The automatic choice finds the layout** (readAttrRows without a version hint, the only mode the CLI has): on a
pg_attribute heap of any of the three layouts with legal attstorage characters it returns the live rows read under the
file's own layout — whatever the rows are, however few, in whatever order (a PostgreSQL 16 file need not begin with
attnum 1..5: the former finding A04). -/
theorem C01_layout_choice (dec : Dec) (hd : CatDec dec) (l : Layout) (att : HeapOf AttrRow) (hw : AttHeapWF l att)
    (hst : ∀ a ∈ att.live, StorageOK a) :
    readAttrRows (readRows dec) (Spec.encHeapOf (Spec.pgAttributeCols l) (Spec.attrVals l) att) 0 = .ok (att.live.map (attrRowOf dec l)) :=
  readAttrRows_enc dec hd l att 0 hw (Or.inr (Or.inr (Or.inr ⟨by decide, hst⟩)))

/-- the automatic choice is dropped.go's `readAttrRowsWithDropped` as area `dropped` models it (the same function over the
same three layout tables), so that area's theorems about the choice speak about ParsePGAttribute's rows too -/
theorem C01_layout_choice_shared (rr : RowReader) (data : Bytes) :
    readAttrRows rr data 0 = readAttrRowsWithDropped rr data :=
  catReadAttrRowsAuto_eq_dropped rr data

/-- **DecodeTuple is handed the true alignment** (the former finding A03): the `Column` dumpTable builds from what
ParsePGAttribute read carries the attribute's attalign, for every type — known to `typeAlign` or not, a dropped column
(atttypid 0) included. -/
theorem C01_attalign (a : AttrRow) (h : a.align = 1 ∨ a.align = 2 ∨ a.align = 4 ∨ a.align = 8) :
    colAlign (toolColumn a) = a.align :=
  toolColumn_align a h

/-- **The tool's type names are PostgreSQL's** for every type oid the specification names. -/
theorem C01_typenames : ∀ p ∈ Spec.typeNames, Model.typeName (p.1 : Int) = strBytes p.2 := typeNames_agree

/-- **Columns of every dumped table = the catalog join.**  For every well-formed database content in every layout and
every options / version hint with `SchemaOK` (a hint, if given, names the layout), whatever the heap files and
the file reader are: the tables DumpDatabaseFromFiles returns are the specification's tables and each carries exactly
the specification's columns — the live pg_attribute rows of the relation's oid with attnum > 0, in attnum order, with
catalog name, type oid and (for the type oids the specification names; the others' text is blanked by `normCol`)
PostgreSQL's type name. -/
theorem C01_columns (dec : Dec) (hd : CatDec dec) (π : MapOrder TableInfo) (hπ : ∀ l, π l ~ l) (l : Layout)
    (d : DbContent) (o : Options) (db : DbRow) (val : Spec.Val) (reader : Option FileReader) (hwf : d.WF l)
    (hs : SchemaOK l d.att o.pgVersion) (hasc : GoCase.FilterStable o d.cls.live) (ts : List TableDump)
    (h : dumpDatabaseFromFiles (readRows dec) π (Spec.encHeapOf Spec.pgClassCols Spec.classVals d.cls)
          (Spec.encHeapOf (Spec.pgAttributeCols l) (Spec.attrVals l) d.att) reader o = .ok ts) :
    ts.map tableCols = (Spec.expectedDb val o db d).tables.map fun t => (tableKey t, t.columns) := by
  rw [dumpDatabase_tables dec hd π hπ l d o reader hwf hs hasc] at h
  rw [expectedDb_tables, map_map]
  refine collectM_map_spec _ tableCols _ _ ts h ?_
  intro r hr t ht'
  obtain ⟨hk114, _⟩ := selectedRel_kind o r (mem_filter.mp ((Sorting.mem_insertionSort _).mp hr)).2
  obtain ⟨s1, s2, s3, s4, s5, _, _⟩ := dumpTable_shape _ _ _ _ reader o t ht'
  simp only [Function.comp, tableCols, tableKey, s1, s2, s3, s4, s5, expectedTable_eq, infoOfRel, hk114]
  rw [modelCols_norm]
  rfl

/-- **Which databases are dumped.**  For every well-formed cluster (pg_database in the 12–14 or the 15–16 layout,
live and dead rows, any number of pages) in which the databases whose name starts with `template` are exactly the
`datistemplate` ones (`TemplatesByName`: open finding C01-TPL is about the others) and whose catalogs lie under `base/`
(`Plain`) in the files named after their oids (`IdentityMapped`; `NoFastDefaults` is asked only because the theorem goes through
`TreeOf`, which fixes the content of the pg_attribute file too): the databases DumpDataDir lists on the cluster's file tree are, with oid and name and in pg_database heap
order, exactly the live non-template databases that equal the database filter if one is set and that have a directory —
whatever the table-level content, for every iteration order and all options.  `val` is arbitrary (the keys do not depend on it):
pass any, e.g. `varlenaVal dec`. -/
theorem C01_databases (dec : Dec) (hd : CatDec dec) (π : MapOrder TableInfo) (c : Cluster) (hwf : c.WF)
    (htpl : Spec.TemplatesByName c) (hplain : c.Plain) (hid : c.IdentityMapped) (hnm : c.NoFastDefaults) (o : Options)
    (val : Spec.Val) (r : DumpResult) (h : dumpDataDir (readRows dec) π (Spec.fsOf c) o = .ok (some r)) :
    r.map dbKey = (Spec.expectedDump val c o).map dbKey :=
  dumpDataDir_databases dec hd π c o val (Spec.fsOf c) hwf (treeOf_fsOf c hwf.contentNodup hplain hid hnm) htpl r h

/-- **Rows of one table = the live rows of its heap file, decoded.**  For a live ordinary table of a well-formed
database whose attnums have no gaps (`RelReadable`), dumpTable called with the catalog's columns and a reader serving
the encoded heap returns the specification's table: rows = the row versions of the heap whose own hint bits say live,
in page then line-pointer order, each decoded to what was stored (`Spec.storedRow`: NULLs, short and long varlena
headers, C strings, attributes beyond the stored count; every column read at its catalog alignment — the former A03 —; the
empty row `{}` for each live row of a table without columns — the former A01z), `RowCount` = their number; none when
schema-only.  Hypothesis `hinl` is the carve-out of the OPEN finding A02: no row of the heap holds
an out-of-line (TOASTed) value — for those `Spec.storedRow` demands the original value and pgread reports nil (witness in
known_findings.json).  Values compressed IN LINE are covered (`Spec.inlineDatum` holds for them: ReadVarlena returns the
original bytes, fixes/rows/09, `C03_compressed_inline`).  Hypothesis `hmiss` is the carve-out of the OPEN finding C01-MISSINGVAL: the
database records no fast default (`atthasmissing` / `attmissingval`) — where it does, PostgreSQL returns the default for the
attributes a row written before the ALTER TABLE does not store (`Spec.fillMissing`) and pgread reports nil. -/
theorem C01_rows (dec : Dec) (l : Layout) (d : DbContent) (o : Options) (r : ClassRow) (rd : FileReader)
    (hr : r ∈ d.cls.live) (hkind : r.kind = 114) (hfn : r.filenode ≠ 0) (hwf : d.WF l)
    (hreader : o.listOnly = false →
      rd r.filenode = (d.heaps.lookup r.filenode).map (Spec.encRowPages (Spec.colsOfFilenode d r.filenode)))
    (hok : ∀ pages, d.heaps.lookup r.filenode = some pages → o.listOnly = false → pages ≠ [] → RelReadable d r)
    (hinl : ∀ pages, d.heaps.lookup r.filenode = some pages → o.listOnly = false →
      ∀ pg ∈ pages, ∀ row ∈ pg, row.vals.all Spec.inlineDatum = true)
    (hmiss : d.missing = [])
    (t : TableDump)
    (h : dumpTable (readRows dec) r.filenode (infoOfRel r) ((Spec.userAttrs d.att r.oid).map attrInfoOf) (some rd) o = .ok t) :
    normTable t = Spec.expectedTable (varlenaVal dec) d o r :=
  dumpTable_spec dec l d o r rd hr hkind hfn hwf hreader hok hinl hmiss t h

/-- **C01: the dump of a cluster is the cluster's logical content** — outside the classes of the six recorded open
findings (C01-TPL, A02, C01-SEG, C01-TBLSPC, C01-MAPPED, C01-MISSINGVAL).  For every well-formed cluster `c` (`Spec.Cluster.WF`: PostgreSQL 12–16, any databases, relations of every kind,
catalog and user heaps of live and dead row versions over any number of pages), all options `o` (database filter, table
filter, schema-only, skip-system, version hint), every iteration order of Go's maps and every scalar decoder that handles
the catalog column types (`CatDec`; the composed model of DecodeType does: `C01_dump_real`), provided
  * `htpl` (carve-out of finding C01-TPL): the databases whose name starts with `template` are exactly those with
    `datistemplate` set;
  * `hplain` (carve-outs of C01-SEG and C01-TBLSPC): no heap is split into segment files, no relation lies outside
    its database's default tablespace, and every database's default tablespace is pg_default;
  * `hid` (carve-out of finding C01-MAPPED): pg_database and every database's pg_class and pg_attribute live under the
    file named after their oid (the relation maps `global/pg_filenode.map`, `base/<db>/pg_filenode.map`, which `Spec.fsOf`
    writes, say so) — after VACUUM FULL / CLUSTER of such a catalog they do not, and pgread, which never reads the maps,
    finds no databases / no tables / no columns;
  * `hnm` (carve-out of finding C01-MISSINGVAL): no database records a fast default (`atthasmissing` / `attmissingval`);
  * for every database that is dumped: `A02Free` (carve-out of finding A02: no row of a table dumped with its rows holds an
    out-of-line value; inline-compressed values are allowed) and `DbDumpable` (no finding: a version hint, if given, names the layout, and
    attstorage characters are legal; the dumped tables' attnums are dense; their files are theirs alone; the table filter,
    if any, and the relation names are strings on which Go's `ToLower` is ASCII lower-casing — `GoCase.FilterStable`):
whenever DumpDataDir on the cluster's file tree returns, its result is — database by database in pg_database order,
table by table in filenode order, column by column, row by row — `Spec.expectedDump`: every non-template database
(`datistemplate` false) passing the filter that has a directory; in it every ordinary table (relkind `r` with a
relfilenode of its own) passing the system-table and name filters, each exactly once; its columns from the join of
pg_attribute by relation oid (attnum > 0, attnum order); its rows exactly the live row versions of its heap file with
the values that were stored (rendered by `varlenaVal dec`); `RowCount` = number of rows; no rows when schema-only.
(`normDb` blanks the type-name text of type oids the specification has no name for; for the others `C01_typenames`
applies.) -/
theorem C01_dump (dec : Dec) (hd : CatDec dec) (π : MapOrder TableInfo) (hπ : ∀ l, π l ~ l) (c : Cluster) (hwf : c.WF) (o : Options)
    (htpl : Spec.TemplatesByName c) (hplain : c.Plain) (hid : c.IdentityMapped) (hnm : c.NoFastDefaults)
    (hdump : ∀ db ∈ c.dbs.live, Spec.selectedDb o db = true → ∀ d, c.content.lookup db.oid = some d →
      DbDumpable c.layout d o ∧ Spec.A02Free d o)
    (r : DumpResult) (h : dumpDataDir (readRows dec) π (Spec.fsOf c) o = .ok (some r)) :
    r.map normDb = Spec.expectedDump (varlenaVal dec) c o :=
  dumpDataDir_spec dec hd π hπ c o (Spec.fsOf c) hwf (treeOf_fsOf c hwf.contentNodup hplain hid hnm) htpl hdump hnm r h

/-- … and DumpDataDir does return on such a tree (never the read error, never a fault) for every scalar decoder that
returns on every input — so `C01_dump` is not vacuous. -/
theorem C01_dump_returns (dec : Dec) (hd : CatDec dec) (htot : C10.Rows.TotalDec dec) (π : MapOrder TableInfo) (hπ : ∀ l, π l ~ l)
    (c : Cluster) (hwf : c.WF) (o : Options) (htpl : Spec.TemplatesByName c) (hplain : c.Plain) (hid : c.IdentityMapped) (hnm : c.NoFastDefaults)
    (hdump : ∀ db ∈ c.dbs.live, Spec.selectedDb o db = true → ∀ d, c.content.lookup db.oid = some d →
      DbDumpable c.layout d o ∧ Spec.A02Free d o) :
    ∃ r, dumpDataDir (readRows dec) π (Spec.fsOf c) o = .ok (some r) ∧ r.map normDb = Spec.expectedDump (varlenaVal dec) c o := by
  obtain ⟨r, hr⟩ := C10.Cluster.C10_total_dumpDataDir (readRows dec) (fun data cols vis => C10.Rows.C10_total_readRows dec htot data cols vis)
    π (Spec.fsOf c) o
  cases r with
  | none => cases (treeOf_fsOf c hwf.contentNodup hplain hid hnm).global.symm.trans (dumpDataDir_ok hr)
  | some r => exact ⟨r, hr, C01_dump dec hd π hπ c hwf o htpl hplain hid hnm hdump r hr⟩

/-- **The form checked at run time.**  Family `cluster_dump` evaluates `Model.ClusterHyp.dumpHypB` (the executable form
of the hypotheses `TemplatesByName`, `Plain`, `IdentityMapped`, `NoFastDefaults`, `A02Free` and `DbDumpable`) on every generated cluster and option
combination and tags the case `hyp:dump=ok` when it holds together with the Boolean mirror of `Cluster.WF`; on those cases
the theorem says the model's dump is the specification's.  The cases with `hyp:dump=no` carry the tag of the open finding
they fall under (`kf:C01-TPL`, `kf:A02`, `kf:C01-SEG`, `kf:C01-TBLSPC`, `kf:C01-MAPPED`, `kf:C01-MISSINGVAL`) or a label saying
why the Spec is silent (`hint=wrong`, `case=unicode` / `spec-silent-name`). -/
theorem C01_dump_checked (dec : Dec) (hd : CatDec dec) (π : MapOrder TableInfo) (hπ : ∀ l, π l ~ l) (c : Cluster) (hwf : c.WF)
    (o : Options) (hb : Model.ClusterHyp.dumpHypB c o = true)
    (r : DumpResult) (h : dumpDataDir (readRows dec) π (Spec.fsOf c) o = .ok (some r)) :
    r.map normDb = Spec.expectedDump (varlenaVal dec) c o :=
  C01_dump dec hd π hπ c hwf o (dumpHypB_sound c o hb).1 (dumpHypB_sound c o hb).2.1 (dumpHypB_sound c o hb).2.2.1
    (dumpHypB_sound c o hb).2.2.2.1 (dumpHypB_sound c o hb).2.2.2.2 r h

/-- the decoder the C01 families execute satisfies the decoder hypothesis -/
theorem C01_catDec_local : CatDec LocalDec.dec := catDec_local

/-- **The composed model of the real DecodeType satisfies the decoder hypothesis**: the closed
model `decodeTypeC` (scalar switch + ranges + arrays with elements decoded by DecodeType + numeric + JSONB, Proofs/EntryClosed.lean; `rowsDec` of Props/C10/Entry.lean wraps it)
decodes the seven catalog column types as the catalog logic needs, for every choice of the three library renderers it
leaves abstract. -/
theorem C01_catDec_real (X : PgVerif.Proofs.Entry.Render) : CatDec (C10.Entry.rowsDec X) := catDec_rowsDec X

/-- **C01 with the model of the real value decoder.**  `C01_dump` and `C01_dump_returns` instantiated with
`rowsDec X` = the composed model of types.go:DecodeType: on every cluster and options as in `C01_dump`, DumpDataDir —
catalog parsers, row reader AND value decoder all the models of the real code — returns, and returns the expected dump,
each value rendered by the model of DecodeType applied to the bytes that were stored (what those renderings mean is
C04–C07's business). -/
theorem C01_dump_real (X : PgVerif.Proofs.Entry.Render) (π : MapOrder TableInfo) (hπ : ∀ l, π l ~ l) (c : Cluster) (hwf : c.WF)
    (o : Options) (htpl : Spec.TemplatesByName c) (hplain : c.Plain) (hid : c.IdentityMapped) (hnm : c.NoFastDefaults)
    (hdump : ∀ db ∈ c.dbs.live, Spec.selectedDb o db = true → ∀ d, c.content.lookup db.oid = some d →
      DbDumpable c.layout d o ∧ Spec.A02Free d o) :
    ∃ r, dumpDataDir (readRows (C10.Entry.rowsDec X)) π (Spec.fsOf c) o = .ok (some r) ∧
      r.map normDb = Spec.expectedDump (varlenaVal (C10.Entry.rowsDec X)) c o :=
  C01_dump_returns _ (catDec_rowsDec X) (C10.Entry.rowsDec_total X) π hπ c hwf o htpl hplain hid hnm hdump

/-! ### non-vacuity: a concrete cluster satisfies every hypothesis of `C01_dump` -/

def exAttr (relid : Nat) (num : Int) (name : Bytes) (typid : Nat) (len : Int) (align : Nat) : Spec.Stored AttrRow :=
  ⟨{ relid, name, typid, len, num, align }, 0x0900⟩

def exHeap : List (List Spec.RowV) :=
  [[{ vals := [some (.fixed (le 4 7)), some (.short [97])], natts := 2, infomask := 0x0900 },
    { vals := [some (.fixed (le 4 8)), none], natts := 2, infomask := 0x0500 }]]

def exDb : DbContent :=
  { cls := [[⟨{ oid := 16384, name := [116], kind := 114, filenode := 16390 }, 0x0900⟩]],
    att := [[exAttr 16384 1 [105, 100] 23 4 4, exAttr 16384 2 [110] 25 (-1) 4]],
    heaps := [(16390, exHeap)], raws := [] }

/-- a PostgreSQL 14 cluster: `template1` (no directory) and database `pg` with one table `t (id int4, n text)` holding
one live row (7, 'a') and one dead row (8, NULL) -/
def exCluster : Cluster :=
  { pgVersion := 14,
    dbs := [[⟨{ oid := 1, name := [116, 101, 109, 112, 108, 97, 116, 101, 49], isTemplate := true }, 0x0B00⟩,
             ⟨{ oid := 5, name := [112, 103] }, 0x0900⟩]],
    content := [(5, exDb)] }

theorem exCluster_WF : exCluster.WF := @of_decide_eq_true _ (clusterWF_decidable _) (by decide +kernel)

theorem exDb_WF : exDb.WF .v14 := exCluster_WF.content 5 exDb rfl

/-- **What the specification asks for an inline-compressed value** (the half of finding A02 repaired by fixes/rows/09): three
facts that hold by the definitions of the Spec alone.  Such a value does not violate `A02Free` (`Spec.inlineDatum` holds for
it: only out-of-line values are excluded), and what the dump must show for it (`Spec.storedVal`, "each value equal to what was
stored") is the rendering of the ORIGINAL bytes its pglz / LZ4 stream stands for, the same as C03's view (`Spec.expectedVal`).
That the model returns this is `C03_layout` / `C03_compressed_inline`, which `C01_rows` uses through `storedCols_inline`. -/
theorem C01_compressed_inline (val : Spec.Val) (tbl : List (Spec.Datum × Bytes)) (c : Spec.Col) (z : Spec.Comp) :
    Spec.inlineDatum (some (.compressed z)) = true ∧
    Spec.storedVal val tbl c (.compressed z) = val z.original c.typid ∧
    Spec.expectedVal val c (.compressed z) = val z.original c.typid := ⟨rfl, rfl, rfl⟩

/-- the example database is dumpable without a version hint (automatic choice) and with the true one, for every ASCII
table filter, and no value in it is out of line -/
theorem exDb_dumpable (o : Options) (hv : o.pgVersion = 0 ∨ o.pgVersion = 14) (hf : Spec.asciiB o.tableFilter = true) :
    DbDumpable .v14 exDb o ∧ Spec.A02Free exDb o := by
  -- the only live pg_class row is table `t`, and its heap is `exHeap`
  have hrel : ∀ r ∈ exDb.cls.live, r = { oid := 16384, name := [116], kind := 114, filenode := 16390 } := by
    have hlive : exDb.cls.live = [{ oid := 16384, name := [116], kind := 114, filenode := 16390 }] := by decide
    intro r hr
    rw [hlive] at hr
    simpa using hr
  refine ⟨⟨?_, GoCase.filterStable_ascii _ _ hf (by decide), ?_, ?_⟩, ?_⟩
  · rcases hv with hv | hv <;> rw [hv]
    · exact Or.inr (Or.inr (Or.inr ⟨by decide, by decide⟩))
    · exact Or.inr (Or.inl ⟨by decide, by decide, rfl⟩)
  · intro r hr _
    rw [hrel r hr]
    exact ⟨by decide, by decide, rfl⟩
  · intro r hr _ pages _ _ _
    rw [hrel r hr]
    have hu : Spec.userAttrs exDb.att 16384 = [(exAttr 16384 1 [105, 100] 23 4 4).val, (exAttr 16384 2 [110] 25 (-1) 4).val] := by decide
    refine ⟨?_⟩
    show DenseFrom 0 (Spec.userAttrs exDb.att 16384)
    rw [hu]
    exact ⟨rfl, rfl, trivial⟩
  · intro _ r hr _ pages hp pg hpg row hrow
    rw [hrel r hr] at hp
    have hp' : pages = exHeap := by
      have : exDb.heaps.lookup 16390 = some exHeap := rfl
      rw [this] at hp; injection hp with hp; exact hp.symm
    subst hp'
    revert row
    revert pg
    decide

example : Spec.TemplatesByName exCluster ∧ exCluster.Plain ∧ exCluster.IdentityMapped ∧ exCluster.NoFastDefaults := by
  refine ⟨by decide +kernel, by decide, by decide, by decide⟩

example (o : Options) (hv : o.pgVersion = 0 ∨ o.pgVersion = 14) (hf : Spec.asciiB o.tableFilter = true) :
    ∀ db ∈ exCluster.dbs.live, Spec.selectedDb o db = true → ∀ d, exCluster.content.lookup db.oid = some d →
      DbDumpable exCluster.layout d o ∧ Spec.A02Free d o := by
  intro db _ _ d hd
  have hlk : ∀ k, exCluster.content.lookup k = some d → d = exDb := by
    intro k hk
    have := AssocMap.lookup_mem _ _ _ hk
    simp only [exCluster, List.mem_singleton, Prod.mk.injEq] at this
    exact this.2
  rw [hlk _ hd]
  exact exDb_dumpable o hv hf

/-- the run-time check accepts the example cluster (no hint; true hint with a table filter `T`) -/
example : Model.ClusterHyp.dumpHypB exCluster {} = true ∧ Model.ClusterHyp.dumpHypB exCluster { pgVersion := 14, tableFilter := [84] } = true := by
  decide +kernel

/-- … and the theorem's right-hand side on it is not trivial: database 5 with table `t`, two columns, one live row
(the dead row and `template1` are not reported) -/
example : ((Spec.expectedDump (fun b _ => pure (.int b.length)) exCluster {}).map fun d =>
      (d.oid, d.tables.map fun t => (t.name, t.columns.length, t.rowCount))) = [(5, [([116], 2, 1)])] := by
  decide +kernel

/-! ### the witnesses of the three repaired findings lie inside the theorem

The clusters of the fixed cases 1, 2, 3 of family `cluster_dump` (minus the template database and the bootstrap rows of
pg_attribute, which play no role): on the code before fixes/cluster/08 and 09 their rows were lost (a table without columns, a
PostgreSQL 16 pg_attribute not starting with attnum 1..5, a dropped `name` column before an int4); each is well-formed, passes
the run-time check, and the theorem says its dump is the expected one. -/

def exMiniDb (att : List (Spec.Stored AttrRow)) (heap : List (List Spec.RowV)) : DbContent :=
  { cls := [[⟨{ oid := 16384, name := [116], kind := 114, filenode := 16390 }, 0x0900⟩]],
    att := [att], heaps := [(16390, heap)], raws := [] }

def exMini (pgVersion : Nat) (d : DbContent) : Cluster :=
  { pgVersion, dbs := [[⟨{ oid := 5, name := [112, 103] }, 0x0900⟩]], content := [(5, d)] }

/-- former A01z: `CREATE TABLE t (); INSERT INTO t DEFAULT VALUES` -/
def exA01zHeap : List (List Spec.RowV) := [[{ vals := [], natts := 0, infomask := 0x0900 }]]
def exA01zDb : DbContent := exMiniDb [] exA01zHeap
def exA01z : Cluster := exMini 14 exA01zDb

/-- former A04: a PostgreSQL 16 pg_attribute of two rows, attnum 2 before attnum 1, read without a version hint -/
def exA04Heap : List (List Spec.RowV) := [[{ vals := [some (.fixed (le 4 7)), some (.short [97])], natts := 2, infomask := 0x0900 }]]
def exA04Db : DbContent := exMiniDb [exAttr 16384 2 [110] 25 (-1) 4, exAttr 16384 1 [105, 100] 23 4 4] exA04Heap
def exA04 : Cluster := exMini 16 exA04Db

/-- former A03: a dropped `name` column (atttypid 0, attlen 64, attalign 'c') between a bool and an int4 -/
def exA03Heap : List (List Spec.RowV) :=
  [[{ vals := [some (.fixed [1]), some (.fixed ([111, 108, 100] ++ zeros 61)), some (.fixed (le 4 42))], natts := 3, infomask := 0x0900 }]]
def exA03Db : DbContent :=
  exMiniDb [exAttr 16384 1 [102] 16 1 1,
            ⟨{ relid := 16384, name := [46, 112, 103, 46, 100, 46, 50, 46], typid := 0, len := 64, num := 2, align := 1, dropped := true }, 0x0900⟩,
            exAttr 16384 3 [110] 23 4 4] exA03Heap
def exA03 : Cluster := exMini 14 exA03Db

theorem exA01z_WF : exA01z.WF := @of_decide_eq_true _ (clusterWF_decidable _) (by decide +kernel)

theorem exA01zDb_WF : exA01zDb.WF .v14 := exA01z_WF.content 5 exA01zDb rfl

theorem exA04_WF : exA04.WF := @of_decide_eq_true _ (clusterWF_decidable _) (by decide +kernel)

theorem exA04Db_WF : exA04Db.WF .v16 := exA04_WF.content 5 exA04Db rfl

theorem exA03_WF : exA03.WF := @of_decide_eq_true _ (clusterWF_decidable _) (by decide +kernel)

theorem exA03Db_WF : exA03Db.WF .v14 := exA03_WF.content 5 exA03Db rfl

/-- the run-time form of the theorem's hypotheses accepts the three former witnesses (no version hint) -/
example : Model.ClusterHyp.dumpHypB exA01z {} = true ∧ Model.ClusterHyp.dumpHypB exA04 {} = true ∧
    Model.ClusterHyp.dumpHypB exA03 {} = true := by
  decide +kernel

/-- **The three former witnesses are dumped correctly.**  On the file trees of the clusters that witnessed A01z (a table
without columns holding a row), A04 (a PostgreSQL 16 pg_attribute that does not begin with attnum 1..5, no version
hint) and A03 (a dropped `name` column before an int4), whenever DumpDataDir returns, its result is the expected dump —
for every scalar decoder that handles the catalog types and every iteration order. -/
theorem C01_former_witnesses (dec : Dec) (hd : CatDec dec) (π : MapOrder TableInfo) (hπ : ∀ l, π l ~ l) (c : Cluster)
    (hc : c = exA01z ∨ c = exA04 ∨ c = exA03) (r : DumpResult) (h : dumpDataDir (readRows dec) π (Spec.fsOf c) {} = .ok (some r)) :
    r.map normDb = Spec.expectedDump (varlenaVal dec) c {} := by
  have hb : Model.ClusterHyp.dumpHypB exA01z {} = true ∧ Model.ClusterHyp.dumpHypB exA04 {} = true ∧
      Model.ClusterHyp.dumpHypB exA03 {} = true := by
    decide +kernel
  rcases hc with rfl | rfl | rfl
  · exact C01_dump_checked dec hd π hπ _ exA01z_WF {} hb.1 r h
  · exact C01_dump_checked dec hd π hπ _ exA04_WF {} hb.2.1 r h
  · exact C01_dump_checked dec hd π hπ _ exA03_WF {} hb.2.2 r h

/-- … and what is expected holds the rows the code before the fixes lost: one empty row for the table without columns; two
columns and one row for the PostgreSQL 16 table; three columns and one row of three values for the third -/
example : ((Spec.expectedDump (fun b _ => pure (.int b.length)) exA01z {}).map fun d =>
      d.tables.map fun t => (t.columns.length, t.rowCount, t.rows.map (·.length))) = [[(0, 1, [0])]] ∧
    ((Spec.expectedDump (fun b _ => pure (.int b.length)) exA04 {}).map fun d =>
      d.tables.map fun t => (t.columns.map (·.name), t.rowCount)) = [[([[105, 100], [110]], 1)]] ∧
    ((Spec.expectedDump (fun b _ => pure (.int b.length)) exA03 {}).map fun d =>
      d.tables.map fun t => (t.columns.length, t.rowCount, t.rows.map (·.length))) = [[(3, 1, [3])]] := by
  decide +kernel

#print axioms C01_rowcount
#print axioms C01_dump_partial
#print axioms C01_rowcount_files
#print axioms C01_listonly_norows
#print axioms C01_listonly
#print axioms C01_class_reader
#print axioms C01_tables
#print axioms C01_attributes
#print axioms C01_layout_choice
#print axioms C01_layout_choice_shared
#print axioms C01_attalign
#print axioms C01_typenames
#print axioms C01_columns
#print axioms C01_databases
#print axioms C01_rows
#print axioms C01_dump
#print axioms C01_dump_returns
#print axioms C01_dump_checked
#print axioms C01_catDec_real
#print axioms C01_dump_real
#print axioms exCluster_WF
#print axioms C01_former_witnesses

end PgVerif.Props.C01
