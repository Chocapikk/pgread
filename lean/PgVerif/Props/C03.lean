/-
  C03 — row decoding follows PostgreSQL's attribute layout rules.
  The property theorems, the example rows, and their non-vacuity checks; the lemmas are in Proofs/Varlena.lean, Rows.lean,
  RowsTuple.lean, RowsFile.lean (and Proofs/HeapEnc.lean for the tuple header).  The scalar decoder `dec` (DecodeType) is a
  parameter: the theorems are about WHICH BYTES each column is decoded from.
-/
import PgVerif.Proofs.RowsFile
import PgVerif.Proofs.RowsTuple
namespace PgVerif.Props.C03
open PgVerif PgVerif.Model PgVerif.Spec PgVerif.Proofs PgVerif.Proofs.Rows

/-- **Row layout.**  For every schema (any number of columns; attlen > 0, −1 or −2; alignment 1, 2, 4 or 8;
given to the tool with an explicit alignment char or through its fallback table, with explicit or implicit
attribute numbers), every row formed by PostgreSQL's rules (every NULL pattern, every mix of short / 4-byte /
inline-compressed / external varlena forms and C strings, zero padding only where the rules put it) of which
the first `natts` attributes are stored, and every scalar decoder `dec`: the column loop of DecodeTuple
yields, in column order, one (name, value) pair per declared column — nil exactly for NULL attributes and for
the attributes beyond `natts`, and otherwise `dec` (through `varlenaVal`, which only differs on empty
payloads) applied to exactly the payload bytes of that attribute (nil placeholder for an external pointer,
the ORIGINAL bytes — what the pglz / LZ4 stream stands for — for an inline-compressed value, fix 09), whatever
precedes it. -/
theorem C03_layout (dec : Dec) (cols : List Col) (mcols : List Column) (r : RowV) (hdr : TupleHeader)
    (hm : ColsMatch 0 mcols cols) (hwf : r.WF cols) :
    decodeCols dec (rowTuple hdr cols r) mcols 0 0 = expectedCols (varlenaVal dec) cols r.vals r.natts := by
  exact decodeCols_rowTuple dec cols mcols r hdr hm hwf

/-- **Whole rows.**  DecodeTuple on such a tuple with at least one declared column returns a row (never
"no row": an all-NULL row or one stored with zero attributes is still a row, fix 04), built from the pairs of
`C03_layout`. -/
theorem C03_decodeTuple (dec : Dec) (cols : List Col) (mcols : List Column) (r : RowV) (hdr : TupleHeader)
    (hm : ColsMatch 0 mcols cols) (hwf : r.WF cols) (hne : mcols ≠ []) :
    decodeTuple dec (rowTuple hdr cols r) mcols =
      (expectedCols (varlenaVal dec) cols r.vals r.natts >>= fun ps => pure (some (toRow ps))) :=
  decodeTuple_rowTuple dec cols mcols r hdr hm hwf hne

/-- **Through the tuple parser.**  The same for the row as it sits in a page: `ParseHeapTuple` of the formed
tuple's bytes (23-byte header, null bitmap, padding to MAXALIGN, data) followed by DecodeTuple — for ANY values of
the header fields that play no part in decoding (`h`: xmin, xmax, cid, t_ctid, the HEAP_KEYS_UPDATED / HOT_UPDATED /
ONLY_TUPLE and unused bits of t_infomask2) and any t_infomask (`r.infomask`). -/
theorem C03_scanned (dec : Dec) (cols : List Col) (mcols : List Column) (h : HdrFields) (r : RowV)
    (hh : h.WF) (hm : ColsMatch 0 mcols cols) (hwf : r.WF cols) (hne : mcols ≠ []) :
    (parseHeapTuple (encTuple (formTupleH h cols r)) >>= fun ot =>
        match ot with
        | some t => decodeTuple dec t mcols
        | none => pure none) =
      (expectedCols (varlenaVal dec) cols r.vals r.natts >>= fun ps => pure (some (toRow ps))) := by
  rw [Proofs.parseHeapTuple_enc _ (formTupleH_WF h hh cols r hwf)]
  simp only [ok_bind]
  exact (decodeTuple_formed dec cols mcols h r hm hwf hne).trans (expRow_some dec cols r)

/-- **Whole files (the refinement theorem `readRows_enc` of the design).**  For every well-formed heap file
(any number of pages, all-zero pages, line pointers in any state and order, a trailing partial block) whose
stored tuples are the row versions `rvs` of schema `cols` in scan order — each with ARBITRARY xmin / xmax / cid /
t_ctid / t_infomask2 flag bits (`v.1 : HdrFields`: never-updated tuples, dead versions left by UPDATE / DELETE, HOT
successors) and arbitrary t_infomask —, every schema presentation `mcols` matching `cols` and both settings of the
visibility switch: ReadRows returns, in scan order, exactly the expected row of each stored row version (all of
them, or those whose own hint bits say live); the expected row depends on the attribute values and the stored
attribute count only. -/
theorem C03_file (dec : Dec) (cols : List Col) (mcols : List Column) (bs : List Block) (tail : Bytes) (vis : Bool)
    (rvs : List RowVer) (hb : ∀ b ∈ bs, b.WF) (ht : tail.length < 8192)
    (hm : ColsMatch 0 mcols cols) (hne : mcols ≠ [])
    (hrows : fileTuples bs = rvs.map (formVer cols)) (hwf : ∀ v ∈ rvs, v.2.WF cols) :
    readRows dec (encHeap bs tail) mcols vis =
      collectM (fun v : RowVer => expectedCols (varlenaVal dec) cols v.2.vals v.2.natts >>= fun ps => pure (some (toRow ps)))
        (rvs.filter fun v => !vis || liveBits v.2.infomask) := by
  rw [readRows, readTuples_eq, ok_bind, collect_scan_tuples (fun t => decodeTuple dec t mcols) _ (formVer cols) bs tail vis rvs hb ht
    hrows fun v hv => (decodeTuple_formed dec cols mcols v.1 v.2 hm (hwf v hv) hne).trans (expRow_some dec cols v.2)]
  simp only [formVer, formTupleH_infomask_live]

/-- **Inline-compressed values (fix 09; finding A02, the inline half).**  For every value and every valid pglz token list
(literals and matches of every tag form: lengths 3..273, offsets 1..4095, overlapping copies; at least 4 stream bytes) or
valid LZ4 block `z` standing for it, laid out as PostgreSQL stores a value compressed in line — 4-byte header
`(total << 2) | 2`, va_tcinfo (raw size, method in the top two bits), the stream — and followed by anything:
ReadVarlena returns the ORIGINAL bytes `z.original` and the stored length. -/
theorem C03_compressed_inline (z : Comp) (rest : Bytes) (hz : z.WF) (hlt : z.stored.length + 4 < 2 ^ 30) :
    readVarlena (le 4 ((z.stored.length + 4) * 4 + 2) ++ (z.stored ++ rest)) = .ok (some z.original, z.stored.length + 4) :=
  (readVarlena_eq _).trans (congrArg Except.ok (varlenaOf_comp z rest hz hlt))

/-- **… in a row.**  DecodeTuple on a row whose first column is stored compressed in line (any schema after it, any values
in the following columns — further compressed ones included —, any null pattern, any stored attribute count ≥ 1): the
column gets the decoder applied to the uncompressed value, and the following columns are exactly what `C03_layout` says
they must be — the reader continues behind the STORED length.  (A compressed value at any other position is covered by
`C03_layout` / `C03_decodeTuple` / `C03_file` themselves: `Datum.compressed` is one of the forms of `RowV`.) -/
theorem C03_compressed_row (dec : Dec) (c : Col) (cs : List Col) (mcols : List Column) (z : Comp)
    (vs : List (Option Datum)) (k infomask : Nat) (hdr : TupleHeader)
    (hm : ColsMatch 0 mcols (c :: cs)) (hne : mcols ≠ [])
    (hwf : RowV.WF (c :: cs) { vals := some (.compressed z) :: vs, natts := k + 1, infomask }) :
    decodeTuple dec (rowTuple hdr (c :: cs) { vals := some (.compressed z) :: vs, natts := k + 1, infomask }) mcols =
      (do let x ← varlenaVal dec z.original c.typid
          let rest ← expectedCols (varlenaVal dec) cs vs k
          pure (some (toRow ((c.name, x) :: rest)))) := by
  rw [C03_decodeTuple dec (c :: cs) mcols _ hdr hm hwf hne]
  simp only [expectedCols, expectedVal, Nat.add_sub_cancel, bind_assoc, pure_bind]

/-- **One entry per declared column.**  When the column names are distinct the resulting map has exactly the
pairs of `C03_layout`, one per declared column. -/
theorem C03_entries (ps : List (Bytes × GoVal)) (h : (ps.map (·.1)).Nodup) : toRow ps = ps :=
  toRow_of_nodup ps h

/-- **The fallback alignment table is PostgreSQL's.**  Every type oid for which the tool decides the alignment
by itself when the schema carries none (the generated graph of `typeAlign`'s switch, obtained by executing the
code for every oid below 7000) gets the `typalign` PostgreSQL's catalog gives that type. -/
theorem C03_typeAlign_table : ∀ p ∈ Generated.Rows.typeAlignSwitch, pgTypAlign.lookup p.1 = some p.2 := by decide +kernel

/-- … hence a column of such a type handed over with `Align = 0` is aligned as PostgreSQL aligns it. -/
theorem C03_typeAlign (p : Nat × Nat) (hp : p ∈ Generated.Rows.typeAlignSwitch) (name : Bytes) (len num : Int) :
    colAlign ⟨name, (p.1 : Int), len, num, 0⟩ = p.2 ∧ pgTypAlign.lookup p.1 = some p.2 := by
  refine ⟨?_, C03_typeAlign_table p hp⟩
  have hl : Generated.Rows.typeAlignSwitch.lookup p.1 = some p.2 :=
    AssocMap.lookup_of_mem (TableKit.nodup_of_increasing (by decide +kernel)) hp
  have hneg : ¬ ((p.1 : Int) < 0) := by omega
  simp only [colAlign, alignFromChar, typeAlign, lookupOid, hneg, if_false, Int.toNat_natCast, hl]
  simp

/-- **… and it is complete for PostgreSQL's built-in types** (fixes/rows/08).  Conversely, every built-in type of
PostgreSQL 12–16 the Spec lists — `pgTypAlign` and `pgTypOther`, each handed over with its typlen — is aligned by the
tool's fallback exactly as its `typalign` says: also the types the tool has no entry for and decides by length (arrays of
'i' aligned elements, reg* types, int2vector, oidvector, pg_node_tree, the 'i' aligned multiranges …), and txid_snapshot,
pg_snapshot, xid8, the 'd' aligned multiranges and their arrays, which the length rule alone gets wrong. -/
theorem C03_typeAlign_complete :
    (∀ p ∈ pgTypAlign, typeAlign (p.1 : Int) (pgTypLenOf p.1) = p.2) ∧
    (∀ q ∈ pgTypOther, typeAlign (q.1 : Int) q.2.1 = q.2.2) := by
  constructor <;> decide +kernel

/-! ### non-vacuity: concrete rows satisfy the hypotheses, and the statement computes -/

def exCols : List Col := [⟨[97], 23, 4, 4⟩, ⟨[98], 20, 8, 8⟩, ⟨[99], 25, -1, 4⟩, ⟨[100], 23, 4, 4⟩]
def exMCols : List Column := [⟨[97], 23, 4, 1, 105⟩, ⟨[98], 20, 8, 0, 0⟩, ⟨[99], 25, -1, 3, 0⟩, ⟨[100], 23, 4, 0, 105⟩]
/-- (111, NULL::int8, 'hi' with a 1-byte header, 333): the A05 witness with a short varlena in front of an int4 -/
def exRow : RowV := { vals := [some (.fixed (le 4 111)), none, some (.short [104, 105]), some (.fixed (le 4 333))], natts := 4, infomask := 0x0900 }

example : ColsMatch 0 exMCols exCols := by
  simp only [ColsMatch, ColMatch, exMCols, exCols]; decide
example : exRow.WF exCols := by decide
/-- a dead version as UPDATE leaves it: xmin 700, xmax 701, t_ctid → (0,2), HOT_UPDATED | KEYS_UPDATED -/
def exHdr : HdrFields := { xmin := 700, xmax := 701, cid := 3, ctid := [0, 0, 0, 0, 2, 0], flags2 := 12 }
example : exHdr.WF := by decide
example : (formTupleH exHdr exCols exRow).infomask2 = 0x6004 ∧ (formTupleH exHdr exCols exRow).xmax = 701 := by decide
example : form exCols exRow.vals 0 = [111, 0, 0, 0, 7, 104, 105, 0, 77, 1, 0, 0] := by decide
example : (rowTuple ⟨24, 4, 0x0901, true, true, false, true⟩ exCols exRow).bitmap = some [0x0d] := by decide
/-- the theorem's right-hand side on this row, with the decoder "length of the payload" -/
example : expectedCols (varlenaVal fun b _ => pure (.int b.length)) exCols exRow.vals exRow.natts
    = .ok [([97], .int 4), ([98], .nil), ([99], .int 2), ([100], .int 4)] := by rfl

/-- 12 × 'a' in pglz (the shape of the witness of finding A02, 100 × 'a', in small): control byte 02, 'a', one match
offset 1 length 11 (tag 08 01) overlapping its own output -/
def exComp : Comp := .pglz [.lit 97, .mat 1 11]
def exCompCols : List Col := [⟨[98], 25, -1, 4⟩, ⟨[100], 23, 4, 4⟩]
def exCompRow : RowV := { vals := [some (.compressed exComp), some (.fixed (le 4 333))], natts := 2, infomask := 0x0900 }
example : exComp.WF ∧ exComp.stored.length + 4 < 2 ^ 30 := by decide
example : exComp.stored = [12, 0, 0, 0, 2, 97, 8, 1] ∧ exComp.original = List.replicate 12 97 := by decide
example : exCompRow.WF exCompCols := by decide
example : ColsMatch 0 [⟨[98], 25, -1, 1, 105⟩, ⟨[100], 23, 4, 2, 105⟩] exCompCols := by
  simp only [ColsMatch, ColMatch, exCompCols]; decide
/-- the stored bytes: header 0x32 = (12 << 2) | 2, va_tcinfo 12, the 4 stream bytes, the int4 (already aligned) -/
example : form exCompCols exCompRow.vals 0 = [0x32, 0, 0, 0, 12, 0, 0, 0, 2, 97, 8, 1, 77, 1, 0, 0] := by decide
example : readVarlena [0x32, 0, 0, 0, 12, 0, 0, 0, 2, 97, 8, 1, 77, 1, 0, 0] = .ok (some (List.replicate 12 97), 12) := by rfl
/-- a damaged stream (the match reaches before the start of the output: 11 bytes are missing) is nil, 12 bytes consumed -/
example : readVarlena [0x32, 0, 0, 0, 12, 0, 0, 0, 2, 97, 8, 9, 77, 1, 0, 0] = .ok (none, 12) := by rfl
/-- an LZ4 block: literal 'a', match offset 1 length 9, last literals "bc" -/
example : (Comp.lz4 ⟨[⟨[97], 1, 9⟩], [98, 99]⟩).WF := by decide

end PgVerif.Props.C03
