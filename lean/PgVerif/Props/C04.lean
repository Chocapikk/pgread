/-
  C04 — scalar values decode to the value PostgreSQL stored; type names.
  Property theorems only; the lemmas about the single decoders are in the Proofs/Scalars* modules imported below.

  Shape of every per-type theorem: for every well-formed abstract value `v` of the type (Spec.Scalars:
  `Val`, `WF` = valid stored value in the type's common range), running the model of DecodeType on
  PostgreSQL's stored representation `enc v` under the type's oid returns exactly `view v`, the value a
  correct tool must show.  `ext` (the decoders of other areas and `encoding/json`) is arbitrary, except where a hypothesis
  names one of its components: the JSON library in `C04_json`, the numeric decoder in `C04_numrange`, both in `C04_all_partial`.

  One round-trip theorem per type or type group; two are partial because a recorded finding carves out the rest (explicit
  hypothesis, concrete counter-example theorem): tid (A11: only block numbers whose 16-bit halves are equal — among blocks
  0..65535 that is block 0 only) and pg_lsn (A10: only LSNs whose 32-bit halves are equal).  Floats inside geometric values
  are carried as bit patterns: `%g` is not modelled, the harness parses the text back.
  Text renderings: the Spec's view is written from PostgreSQL's output formats and value definitions (see the header of
  Spec/Scalars.lean for what is its own and what it shares with the model: only the numeral library `PgVerif.Txt`, whose
  functions are characterised independently — `C04_numerals`).
-/
import PgVerif.Proofs.ScalarsRT
import PgVerif.Proofs.ScalarsBits
import PgVerif.Proofs.ScalarsTime
import PgVerif.Proofs.ScalarsRange
import PgVerif.Proofs.ScalarsMoney
import PgVerif.Proofs.ScalarsFrac
import PgVerif.Proofs.TxtNumerals
import PgVerif.Proofs.ScalarsJsonParse
import PgVerif.Proofs.ScalarsPath
import PgVerif.Proofs.ScalarsNumRange
namespace PgVerif.Props.C04
open PgVerif PgVerif.Model.Scalars PgVerif.Spec.Scalars PgVerif.Txt PgVerif.Proofs.ScalarsRT PgVerif.Proofs.Scalars

/-- the round-trip statement for one abstract value -/
def RoundTrip (ext : Ext) (v : Val) : Prop := decodeType ext (enc v) v.typeOid = .ok (view v)

/-- For every supported type oid, TypeName (its graph on 0..5000 is generated from the code by
executing it) returns PostgreSQL's name of that type. -/
theorem C04_typeName : ∀ e ∈ pgTypeNames, typeName e.1 = asc e.2 := fun e he => by
  rw [typeName, names_in_table e (List.mem_append_left _ he)]

/-- Conversely, every entry of TypeName's graph on 0..5000 (the generated table: that it is the graph is by executing the
code, not proved) is a supported type under PostgreSQL's name: on these oids the tool shows no wrong type name. -/
theorem C04_typeName_only : ∀ e ∈ Generated.Scalars.typeNames, ∃ p ∈ pgTypeNames ++ pgArrayTypeNames, p.1 = e.1 ∧ asc p.2 = e.2 := fun e he => by
  obtain ⟨hk, hv⟩ := table_keys e he
  obtain ⟨p, hp, hpe⟩ := List.mem_map.1 hk
  have := names_in_table p hp
  rw [hpe, hv] at this
  exact ⟨p, hp, hpe, (Option.some.inj this).symm⟩

/-- Array types (finding ARRNAME, repaired by fixes/scalars/13): for every one of the 51 array types whose values DecodeType
decodes (the keys of `arrayElemTypes`, which are exactly the oids of `Spec.Scalars.pgArrayTypeNames`), TypeName answers PostgreSQL's
pg_type.typname, `_` followed by the element type's name (`_int4`, `_text`, `_regproc` for 1008, `_int2vector` for 1006). -/
theorem C04_typeName_arrays :
    (∀ e ∈ pgArrayTypeNames, typeName e.1 = asc e.2) ∧
    (∀ e ∈ pgArrayTypeNames, (arrayElemTypes.lookup e.1).isSome = true) ∧
    (∀ p ∈ arrayElemTypes, (pgArrayTypeNames.lookup p.1).isSome = true) := by
  refine ⟨fun e he => ?_, by decide +kernel, by decide +kernel⟩
  rw [typeName, names_in_table e (List.mem_append_right _ he)]

/-- The numeral functions shared by the Spec's views and the model (`PgVerif.Txt`) are what their names say, by
characterisations that do not mention them (Proofs/TxtNumerals.lean: `decVal` / `hexVal` read a digit string most
significant digit first): `decNat n` is the decimal numeral of value `n` without leading zero, and the only one;
`padNat w n` is the only string of exactly `w` decimal digits with value `n` (for n < 10^w); `decInt` is injective;
`hexNat u n` is the hexadecimal numeral of `n` in the given case, without leading zero, the only one; `hexPad w n` the only
`w`-digit one; `hexBytes` is two hexadecimal digits per byte and injective.  A wrong numeral function could therefore not
satisfy the round-trip theorems of this file unnoticed. -/
theorem C04_numerals :
    (∀ n, Proofs.TxtNumerals.decVal (decNat n) = some n) ∧
    (∀ n s, Proofs.TxtNumerals.decVal s = some n → (s = [48] ∨ s.head? ≠ some 48) → s = decNat n) ∧
    (∀ w n s, s.length = w → 0 < w → Proofs.TxtNumerals.decVal s = some n → s = padNat w n) ∧
    (∀ w n, n < 10 ^ w → 0 < w → (padNat w n).length = w ∧ Proofs.TxtNumerals.decVal (padNat w n) = some n) ∧
    (∀ a b : Int, decInt a = decInt b → a = b) ∧
    (∀ u n, Proofs.TxtNumerals.hexVal u (hexNat u n) = some n) ∧
    (∀ u n s, Proofs.TxtNumerals.hexVal u s = some n → (s = [48] ∨ s.head? ≠ some 48) → s = hexNat u n) ∧
    (∀ w n s, s.length = w → 0 < w → Proofs.TxtNumerals.hexVal false s = some n → s = hexPad w n) ∧
    (∀ bs, (hexBytes bs).length = 2 * bs.length) ∧
    (∀ a b, hexBytes a = hexBytes b → a = b) :=
  ⟨Proofs.TxtNumerals.decNat_val, Proofs.TxtNumerals.decNat_unique,
   fun w n s h1 h2 h3 => Proofs.TxtNumerals.padNat_unique w n s h1 h2 h3,
   fun w n h hw => ⟨Proofs.TxtNumerals.padNat_of_lt w n h hw, Proofs.TxtNumerals.padNat_val w n⟩,
   Proofs.TxtNumerals.decInt_injective, Proofs.TxtNumerals.hexNat_val, Proofs.TxtNumerals.hexNat_unique,
   fun w n s h1 h2 h3 => Proofs.TxtNumerals.hexPad_unique w n s h1 h2 h3,
   Proofs.TxtNumerals.hexBytes_length, Proofs.TxtNumerals.hexBytes_injective⟩

/-- bool: both stored bytes decode to the stored truth value. -/
theorem C04_bool (ext : Ext) (b : Bool) : RoundTrip ext (.bool b) := by
  cases b <;> rfl

/-- "char": every byte value is shown as that byte. -/
theorem C04_char (ext : Ext) (c : UInt8) : RoundTrip ext (.char c) := by
  exact decodeType_case ext [c] 18 1 (decChar _) (by decide) (by simp) rfl

/-- int2: every value −32768..32767 decodes to itself. -/
theorem C04_int2 (ext : Ext) (i : Int) (h : (Val.int2 i).WF) : RoundTrip ext (.int2 i) := by
  show decodeType ext (le 2 (ofSigned 16 i)) 21 = .ok (.int i)
  rw [decodeType_ok ext _ 21 2 (decInt2_ok _) (by decide) (by simp) rfl,
    sAt_enc (w := 2) (at_self _) (by decide) h]

/-- int4: every value −2³¹..2³¹−1 decodes to itself. -/
theorem C04_int4 (ext : Ext) (i : Int) (h : (Val.int4 i).WF) : RoundTrip ext (.int4 i) :=
  decodeType_int4_enc ext i h

/-- int8: every value −2⁶³..2⁶³−1 decodes to itself. -/
theorem C04_int8 (ext : Ext) (i : Int) (h : (Val.int8 i).WF) : RoundTrip ext (.int8 i) :=
  decodeType_int8_enc ext i h

/-- oid: every value 0..2³²−1 decodes to itself (unsigned). -/
theorem C04_oid (ext : Ext) (n : Nat) (h : (Val.oid n).WF) : RoundTrip ext (.oid n) :=
  decodeType_u32_enc ext 26 n (Or.inl rfl) (of_decide_eq_true h)

/-- xid: every transaction id 0..2³²−1 decodes to itself, unsigned (A08 repaired: 3000000000 is not −1294967296). -/
theorem C04_xid (ext : Ext) (n : Nat) (h : (Val.xid n).WF) : RoundTrip ext (.xid n) :=
  decodeType_u32_enc ext 28 n (Or.inr (Or.inl rfl)) (of_decide_eq_true h)

/-- cid: every command id 0..2³²−1 decodes to itself, unsigned (A08 repaired). -/
theorem C04_cid (ext : Ext) (n : Nat) (h : (Val.cid n).WF) : RoundTrip ext (.cid n) :=
  decodeType_u32_enc ext 29 n (Or.inr (Or.inr rfl)) (of_decide_eq_true h)

/-- float4: all 2³² bit patterns (NaN payloads, ±0, subnormals, ±Inf included) come out unchanged. -/
theorem C04_float4 (ext : Ext) (b : Nat) (h : (Val.float4 b).WF) : RoundTrip ext (.float4 b) := by
  show decodeType ext (le 4 b) 700 = .ok (.f32 b)
  rw [decodeType_ok ext _ 700 4 (decFloat4_ok _) (by decide) (by simp) rfl,
    At.rd (w := 4) (at_self _) (of_decide_eq_true h)]

/-- float8: all 2⁶⁴ bit patterns come out unchanged. -/
theorem C04_float8 (ext : Ext) (b : Nat) (h : (Val.float8 b).WF) : RoundTrip ext (.float8 b) := by
  show decodeType ext (le 8 b) 701 = .ok (.f64 b)
  rw [decodeType_ok ext _ 701 8 (decFloat8_ok _) (by decide) (by simp) rfl,
    At.rd (w := 8) (at_self _) (of_decide_eq_true h)]

/-- money: every int64 amount of cents — from −9223372036854775808 to 9223372036854775807 — is shown as the exact
decimal `$[-]units.cc` (fix 11: integer arithmetic).  The Spec's view is written from the integer value
(sign, |c| / 100, `.`, two digits of |c| mod 100). -/
theorem C04_money (ext : Ext) (c : Int) (h : (Val.money c).WF) : RoundTrip ext (.money c) := by
  show decodeType ext (le 8 (ofSigned 64 c)) 790 = _
  rw [decodeType_ok ext _ 790 8 (decMoney_ok _) (by decide) (by simp) rfl,
    sAt_enc (w := 8) (at_self _) (by decide) h]
  rfl

/-- the defect repaired by fix 11, on a witness: the former code `fmt.Sprintf("$%.2f", float64(cents)/100)` (its digits, the
part after the `$`, modelled exactly by `Txt.moneyText`: two correctly rounded binary64 operations, then `%.2f`) prints
7036874417766401 cents as `70368744177664.02`; the exact value is `70368744177664.01`.  (Below 10¹⁵ the former code was
right: `Proofs.Money.moneyText_exact`.) -/
theorem C04_money_old_defect :
    moneyText 7036874417766401 = asc "70368744177664.02" ∧
    view (.money 7036874417766401) = .str (asc "$70368744177664.01") := by
  exact ⟨by decide +kernel, rfl⟩

/-- text / varchar / bpchar / xml: every non-empty valid UTF-8 string comes out byte for byte. -/
theorem C04_text (ext : Ext) (ty : TextTy) (s : Bytes) (h : (Val.text ty s).WF) : RoundTrip ext (.text ty s) := by
  have h' : (decide (s.length ≥ 1) && utf8Valid s) = true := h
  simp only [Bool.and_eq_true, decide_eq_true_eq] at h'
  have hs : safeString s = s := by simp [safeString, h'.2]
  show decodeType ext s ty.oid = .ok (.str s)
  rw [decodeType_case ext s ty.oid 1 (pure (.str (safeString s))) (by cases ty <;> decide) h'.1 (by cases ty <;> rfl), hs]
  rfl

/-- bytea: every non-empty byte string is shown as `\x` followed by two hex digits per byte. -/
theorem C04_bytea (ext : Ext) (b : Bytes) (h : (Val.bytea b).WF) : RoundTrip ext (.bytea b) := by
  exact decodeType_case ext b 17 1 _ (by decide) (of_decide_eq_true h) rfl

/-- json: the stored text is handed unchanged to `encoding/json.Unmarshal` and its result is returned.  With the library's
documented behaviour as the library (`Model.ScalarsJsonLib.jsonUnmarshal`: the neutral RFC 8259 parser `Spec.Json.parse`,
numbers to the nearest float64 with out-of-range as an error, objects as maps with the last duplicate winning), for EVERY
well-formed document — any nesting, strings with any bytes incl. quotes, backslashes and control characters (escaped by the
encoder), numbers ±m·10^e with m < 10^20, |e| ≤ 30 in all three notations (plain, decimal point, exponent), unique keys — and
each of the three whitespace styles, the decoded value is the document (numbers as the nearest float64).  The hypothesis
`hext` names the library model; that the real `encoding/json` behaves like it is the stated library contract, checked by
the correspondence run on every generated document (the driver uses this very function as `ext.jsonUnmarshal`). -/
theorem C04_json (ext : Ext) (hext : ext.jsonUnmarshal = Model.ScalarsJsonLib.jsonUnmarshal) (d : JV) (ws : Nat)
    (h : (Val.json d ws).WF) : RoundTrip ext (.json d ws) := by
  have h' : d.wf = true ∧ ws ≤ 2 := by simpa using show (_ && _) = true from h
  show decodeType ext (d.render ws) 114 = .ok d.view
  rw [decodeType_case ext _ 114 1 (pure (decJSON ext _)) (by decide) (render_length d ws) rfl]
  simp [decJSON, hext, Proofs.ScalarsJsonParse.jsonUnmarshal_render d ws h'.1]

/-- non-vacuity of `C04_json`: a scalar-model `Ext` whose JSON library is the library model exists (the other three decoders
do not matter here), and a nested document with an escape, a multi-byte character and the numbers −12.5, 10³⁰ and 2⁵³+1 is
well-formed in every whitespace style -/
example : ∃ ext : Ext, ext.jsonUnmarshal = Model.ScalarsJsonLib.jsonUnmarshal :=
  ⟨{ decodeArray := fun _ _ => pure .nil, decodeNumeric := fun _ => pure .nil, parseJSONB := fun _ => pure .nil,
     jsonUnmarshal := Model.ScalarsJsonLib.jsonUnmarshal }, rfl⟩

example : (Val.json (.obj [(asc "k", .arr [.num true 125 (-1), .num false 1 30, .num false 9007199254740993 0]),
    ([0xC3, 0xA9], .str [34, 10, 0xF0, 0x9F, 0x98, 0x80]), ([], .null)]) 2).WF := by decide

/-- time: every value 00:00:00 .. 24:00:00 (microsecond resolution) is shown as PostgreSQL shows it,
`hh:mm:ss[.ffffff]`: the fields are those of time2tm (successive division and subtraction, `Spec.timeFields`), the
fraction is printed when it is not zero, without trailing zeros (fix 12). -/
theorem C04_time (ext : Ext) (us : Nat) (h : (Val.time us).WF) : RoundTrip ext (.time us) := by
  have hu : us ≤ 86400000000 := of_decide_eq_true h
  show decodeType ext (le 8 us) 1083 = _
  rw [decodeType_ok ext _ 1083 8 (decTime_ok _) (by decide) (by simp) rfl,
    sAt_natCast (at_self _) (by simp; omega), Proofs.ScalarsFrac.timeOfDay_text]
  rfl

/-- timetz: every time of day (microsecond resolution) with every zone offset −15:59:59..+15:59:59 is shown as
`hh:mm:ss[.ffffff]` followed by the full zone `+hh[:mm[:ss]]`, east positive (A13 repaired; fix 12 for the fraction). -/
theorem C04_timetz (ext : Ext) (us : Nat) (z : Int) (h : (Val.timetz us z).WF) : RoundTrip ext (.timetz us z) := by
  have h' : us ≤ 86400000000 ∧ -57600 < z ∧ z < 57600 := by
    simpa [and_assoc] using show (_ && _) = true from h
  have hz : inI 32 z = true := by simp [inI]; omega
  show decodeType ext (le 8 us ++ le 4 (ofSigned 32 z)) 1266 = _
  rw [decodeType_ok ext _ 1266 12 (decTimeTZ_ok _) (by decide) (by simp) rfl,
    sAt_natCast (at_zero _ _) (by simp; omega),
    sAt_enc (w := 4) (at_end _ _ (by simp)) (by decide) hz, Proofs.ScalarsFrac.timeOfDay_text, fmtZone_eq]
  rfl

/-- interval: months, days and microseconds of every sign (all of int32 × int32 × int64) are all shown: the fields of
interval2itm (`Spec.intervalFields`: years, months, days, hours, minutes, seconds, microseconds by truncating division
and subtraction), each non-zero field with its own sign (A14 repaired), the seconds with their fraction at microsecond
resolution (`0.5s`, `-6.25s`; fix 12), `0` for the zero interval.  The notation is injective on the fields. -/
theorem C04_interval (ext : Ext) (months days us : Int) (h : (Val.interval months days us).WF) :
    RoundTrip ext (.interval months days us) :=
  (decodeType_case ext _ 1186 16 _ (by decide) (by show 16 ≤ (le 8 _ ++ le 4 _ ++ le 4 _).length; simp) rfl).trans
    (Proofs.ScalarsFrac.decodeInterval_enc months days us h)

/-- point: both coordinates, for all bit patterns. -/
theorem C04_point (ext : Ext) (p : Pt) (h : (Val.point p).WF) : RoundTrip ext (.point p) := by
  have h' : p.1 < 2 ^ 64 ∧ p.2 < 2 ^ 64 := by simpa using show (_ && _) = true from h
  show decodeType ext (encPt p) 600 = _
  rw [decodeType_ok ext _ 600 16 (decPoint_ok _) (by decide) (by simp [encPt_length]) rfl,
    ptAt_enc (at_self _) h'.1 h'.2]
  rfl

/-- lseg: both end points. -/
theorem C04_lseg (ext : Ext) (a b : Pt) (h : (Val.lseg a b).WF) : RoundTrip ext (.lseg a b) := by
  have h' : a.1 < 2 ^ 64 ∧ a.2 < 2 ^ 64 ∧ b.1 < 2 ^ 64 ∧ b.2 < 2 ^ 64 := by simpa [and_assoc] using show (_ && _) = true from h
  show decodeType ext (encPt a ++ encPt b) 601 = _
  rw [decodeType_ok ext _ 601 32 (decLseg_ok _) (by decide) (by simp [encPt_length]) rfl,
    ptAt_enc (at_zero _ _) h'.1 h'.2.1, ptAt_enc (at_end _ _ (encPt_length a)) h'.2.2.1 h'.2.2.2]
  rfl

/-- box: both corners. -/
theorem C04_box (ext : Ext) (a b : Pt) (h : (Val.box a b).WF) : RoundTrip ext (.box a b) := by
  have h' : a.1 < 2 ^ 64 ∧ a.2 < 2 ^ 64 ∧ b.1 < 2 ^ 64 ∧ b.2 < 2 ^ 64 := by simpa [and_assoc] using show (_ && _) = true from h
  show decodeType ext (encPt a ++ encPt b) 603 = _
  rw [decodeType_ok ext _ 603 32 (decBox_ok _) (by decide) (by simp [encPt_length]) rfl,
    ptAt_enc (at_zero _ _) h'.1 h'.2.1, ptAt_enc (at_end _ _ (encPt_length a)) h'.2.2.1 h'.2.2.2]
  rfl

/-- line: the three coefficients A, B, C. -/
theorem C04_line (ext : Ext) (a b c : Nat) (h : (Val.line a b c).WF) : RoundTrip ext (.line a b c) := by
  have h' : a < 2 ^ 64 ∧ b < 2 ^ 64 ∧ c < 2 ^ 64 := by simpa [and_assoc] using show (_ && _) = true from h
  show decodeType ext (le 8 a ++ le 8 b ++ le 8 c) 628 = _
  rw [decodeType_ok ext _ 628 24 (decLine_ok _) (by decide) (by simp) rfl,
    ((at_zero _ _).append _).rd (pow64 _ h'.1), ((at_end _ _ (by simp)).append _).rd (pow64 _ h'.2.1),
    (at_end _ _ (by simp)).rd (pow64 _ h'.2.2)]
  rfl

/-- circle: centre and radius. -/
theorem C04_circle (ext : Ext) (c : Pt) (r : Nat) (h : (Val.circle c r).WF) : RoundTrip ext (.circle c r) := by
  have h' : c.1 < 2 ^ 64 ∧ c.2 < 2 ^ 64 ∧ r < 2 ^ 64 := by simpa [and_assoc] using show (_ && _) = true from h
  show decodeType ext (encPt c ++ le 8 r) 718 = _
  rw [decodeType_ok ext _ 718 24 (decCircle_ok _) (by decide) (by simp [encPt_length]) rfl,
    ptAt_enc (at_zero _ _) h'.1 h'.2.1, (at_end _ _ (encPt_length c)).rd (pow64 _ h'.2.2)]
  rfl

/-- name: every identifier of up to 63 non-NUL bytes, stored NUL-padded to 64 bytes, comes out exactly. -/
theorem C04_name (ext : Ext) (s : Bytes) (h : (Val.name s).WF) : RoundTrip ext (.name s) := by
  have h' : s.length < 64 ∧ s.contains 0 = false := by simpa using show (_ && _) = true from h
  show decodeType ext (s ++ zeros (64 - s.length)) 19 = .ok (.str s)
  rw [decodeType_case ext _ 19 64 (pure (.str (cstring _ 64))) (by decide) (by simp; omega) rfl]
  simp only [pure_eq_ok, cstring_name s h'.1 h'.2]

/-- tid, partial: `(block,offset)` is right for every offset and every block number whose two 16-bit
halves are equal.  Missing: all other block numbers — the halves come out swapped (A11, asserted by
TestDecodeTid; recorded finding), see `C04_tid_finding`. -/
theorem C04_tid_partial (ext : Ext) (block off : Nat) (h : (Val.tid block off).WF)
    (hk : kfTid (.tid block off) = false) : RoundTrip ext (.tid block off) := by
  have hk' : block / 65536 = block % 65536 := by simpa [kfTid] using hk
  refine (decodeType_tid_enc ext block off h).trans ?_
  -- with equal halves the exchange cannot be seen
  rw [show block / 65536 + 65536 * (block % 65536) = block by omega]
  rfl

/-- the tid defect on a concrete stored value: block 65536, offset 5 (bytes 01 00 00 00 05 00) is
shown as `(1,5)`, not `(65536,5)`. -/
theorem C04_tid_finding (ext : Ext) : (Val.tid 65536 5).WF ∧ ¬ RoundTrip ext (.tid 65536 5) :=
  ⟨by decide, fun h => absurd (GoVal.str.inj (Except.ok.inj ((decodeType_tid_enc ext 65536 5 (by decide)).symm.trans h))) (by decide)⟩

/-- pg_lsn, partial: `%X/%X` is right for every LSN whose high and low 32-bit halves are equal.
Missing: all other LSNs — printed low/high (A10, asserted by TestDecodePgLsn; recorded finding). -/
theorem C04_pglsn_partial (ext : Ext) (v : Nat) (h : (Val.pglsn v).WF) (hk : kfPgLsn (.pglsn v) = false) :
    RoundTrip ext (.pglsn v) := by
  have hk' : v / 2 ^ 32 = v % 2 ^ 32 := by simpa [kfPgLsn] using hk
  refine (decodeType_pglsn_enc ext v h).trans ?_
  show _ = Except.ok (GoVal.str (hexNat true (v / 2 ^ 32) ++ [47] ++ hexNat true (v % 2 ^ 32)))
  -- the code prints the halves low / high; with equal halves (`hk'`) the swap cannot be seen
  rw [hk']

/-- the pg_lsn defect on a concrete stored value: FF/1 (bytes 01 00 00 00 ff 00 00 00) is shown as `1/FF`. -/
theorem C04_pglsn_finding (ext : Ext) : (Val.pglsn (255 * 2 ^ 32 + 1)).WF ∧ ¬ RoundTrip ext (.pglsn (255 * 2 ^ 32 + 1)) :=
  ⟨by decide, fun h => absurd (GoVal.str.inj (Except.ok.inj ((decodeType_pglsn_enc ext _ (by decide)).symm.trans h))) (by decide)⟩

/-- uuid: all 16 bytes in stored order, as 8-4-4-4-12 lower-case hex (A09 repaired). -/
theorem C04_uuid (ext : Ext) (b : Bytes) (h : (Val.uuid b).WF) : RoundTrip ext (.uuid b) := by
  have hl : b.length = 16 := beq_iff_eq.1 h
  refine (decodeType_ok ext b 2950 16 (decUUID_ok b) (by decide) (by omega) rfl).trans ?_
  rw [List.take_of_length_le (l := b.drop 10) (by simp; omega)]
  rfl

/-- macaddr: six bytes as `xx:xx:xx:xx:xx:xx`. -/
theorem C04_macaddr (ext : Ext) (b : Bytes) (h : (Val.macaddr b).WF) : RoundTrip ext (.macaddr b) := by
  have hl : b.length = 6 := beq_iff_eq.1 h
  refine (decodeType_ok ext b 829 6 (decMac_ok b 6) (by decide) (by omega) rfl).trans ?_
  rw [List.take_of_length_le (by omega)]
  rfl

/-- macaddr8: eight bytes as `xx:xx:xx:xx:xx:xx:xx:xx`. -/
theorem C04_macaddr8 (ext : Ext) (b : Bytes) (h : (Val.macaddr8 b).WF) : RoundTrip ext (.macaddr8 b) := by
  have hl : b.length = 8 := beq_iff_eq.1 h
  refine (decodeType_ok ext b 774 8 (decMac_ok b 8) (by decide) (by omega) rfl).trans ?_
  rw [List.take_of_length_le (by omega)]
  rfl

/-- bit / varbit: every bit string of every length below 2³¹ is shown bit for bit, most significant
bit of each byte first, without the padding bits of the last byte. -/
theorem C04_bit (ext : Ext) (vb : Bool) (bits : List Bool) (h : (Val.bit vb bits).WF) : RoundTrip ext (.bit vb bits) := by
  show decodeType ext (le 4 bits.length ++ packBits bits) (if vb then 1562 else 1560) = _
  rw [decodeType_case ext _ _ 1 (decodeBitString (le 4 bits.length ++ packBits bits)) (by cases vb <;> decide)
    (by simp; omega) (by cases vb <;> rfl)]
  exact decodeBitString_enc vb bits (of_decide_eq_true h)

/-- inet / cidr: IPv4 and IPv6 addresses with every prefix length (0..32, 0..128): dotted decimal or
eight hexadecimal groups, followed by `/bits` unless the prefix is the full width. -/
theorem C04_inet (ext : Ext) (cidr v6 : Bool) (addr : Bytes) (bits : Nat) (h : (Val.inet cidr v6 addr bits).WF) :
    RoundTrip ext (.inet cidr v6 addr bits) := by
  show decodeType ext (enc (.inet cidr v6 addr bits)) (if cidr then 650 else 869) = _
  rw [decodeType_case ext _ _ 1 (decodeInet (enc (.inet cidr v6 addr bits))) (by cases cidr <;> decide)
    (by show 1 ≤ ([_, _] ++ addr).length; simp) (by cases cidr <;> rfl)]
  exact decodeInet_enc cidr v6 addr bits h

/-- date: every calendar day of years 0001..9999 is shown as that day (`YYYY-MM-DD`), and the two
reserved values as `infinity` / `-infinity` (A12 repaired).  Rests on `civil_pgDate`: the calendar
the tool prints with inverts PostgreSQL's day count on every valid date. -/
theorem C04_date (ext : Ext) (d : DateV) (h : (Val.date d).WF) : RoundTrip ext (.date d) :=
  decodeType_date_enc ext d h

/-- timestamp / timestamptz: every instant of years 0001..9999 (microsecond resolution) is shown as its calendar date
and time of day, `YYYY-MM-DD hh:mm:ss[.ffffff]` with the fraction printed when it is not zero, without trailing zeros
(fix 12), and the two reserved values as `infinity` / `-infinity` (A12 repaired: no 64-bit nanosecond overflow beyond
1708..2262). -/
theorem C04_timestamp (ext : Ext) (tz : Bool) (t : TsV) (h : (Val.timestamp tz t).WF) : RoundTrip ext (.timestamp tz t) :=
  decodeType_timestamp_enc ext (if tz then 1184 else 1114) (by cases tz <;> simp) t h

/-- int4range, int8range, daterange, tsrange, tstzrange: for all 32 combinations of the flag bits
(EMPTY, LB_INC, UB_INC, LB_INF, UB_INF) and all well-formed bounds, the decoded text is PostgreSQL's
range_out form: `empty`, or bracket by the inclusive flags, each present bound as its element type
shows it, nothing for an infinite bound.  Includes the 8-byte-element ranges whose upper bound was
looked for at the wrong offset (A15 repaired). -/
theorem C04_range (ext : Ext) (ty : RangeTy) (hty : ty ≠ .num) (flags : Nat) (lo hi : Bound)
    (h : (Val.range ty flags lo hi).WF) : RoundTrip ext (.range ty flags lo hi) := by
  obtain ⟨hf, hlo, hhi⟩ := wf_range ty flags lo hi h
  exact (decodeType_range_enc ext ty flags lo hi).trans (decodeRange_rt ext ty hty flags lo hi hf hlo hhi)

/-- non-vacuity: the witness of A15, `[-5000000000,5000000000)::int8range`, is a well-formed value -/
example : (Val.range .int8 2 (.int (-5000000000)) (.int 5000000000)).WF := by decide

/-- numrange (A16 repaired, fixes/scalars/15): for all 32 flag bytes and all well-formed numeric bounds — NaN, ±Infinity, any
sign, weight, display scale and digit string, in either numeric header form that can hold the value, stored as
range_serialize stores them: behind a 1-byte varlena header when payload + 1 ≤ 127 bytes, else behind a 4-byte header that is
int-aligned relative to the range's own 4-byte header, with zero bytes as padding — the decoded text is range_out's form
with each present bound shown as the float64 nearest to its value (what the tool returns for every numeric, property C05),
printed with `%v` = `%g` (carried as the bit pattern, Types/FStr.lean).  `hext` names the numeric decoder: the model of area
numjson (`Model.decodeNumeric`) with strconv.ParseFloat = `pf`; `hpf` is ParseFloat's documented contract (C05).  The array,
jsonb and JSON decoders of `ext` are arbitrary. -/
theorem C04_numrange (ext : Ext) (pf : Model.ParseFloat) (hpf : Spec.ParseFloatOK pf)
    (hext : ext.decodeNumeric = numExt pf) (flags : Nat) (lo hi : Bound) (h : (Val.range .num flags lo hi).WF) :
    RoundTrip ext (.range .num flags lo hi) := by
  obtain ⟨hf, hlo, hhi⟩ := wf_range .num flags lo hi h
  exact (decodeType_range_enc ext .num flags lo hi).trans (decodeRange_num_rt ext pf hpf hext flags lo hi hf hlo hhi)

/-- non-vacuity of `C04_numrange`: an `Ext` with the numeric decoder of area numjson exists; the witness of fixes/scalars/15, `[1,9999)`,
and a range whose upper bound (63 digits, 128 payload bytes) needs a 4-byte header behind 3 padding bytes are well-formed -/
example : ∃ ext : Ext, ext.decodeNumeric = numExt Spec.parseFloatRef :=
  ⟨{ decodeArray := fun _ _ => pure .nil, decodeNumeric := numExt Spec.parseFloatRef, parseJSONB := fun _ => pure .nil,
     jsonUnmarshal := fun _ => none }, rfl⟩

example : (Val.range .num 2 (.num (.fin false 0 0 [1]) .short) (.num (.fin false 0 0 [9999]) .short)).WF ∧
    (Val.range .num 2 (.num (.fin false 0 0 [1]) .short) (.num (.fin true 62 0 (List.replicate 63 9999)) .short)).WF ∧
    (Val.range .num 6 (.num .ninf .long) (.num .nan .short)).WF := by decide +kernel

/-- the defect repaired by fixes/scalars/15 on the witness recorded with it: the stored `[1,9999)` (bytes 42 0f 00 00, 0b 00 80 01 00,
0b 00 80 0f 27, 02) decodes to `[1,9999)` with both bounds as floats; the former code printed `[?,?)` -/
theorem C04_numrange_witness :
    decodeType { decodeArray := fun _ _ => pure .nil, decodeNumeric := numExt Spec.parseFloatRef, parseJSONB := fun _ => pure .nil,
                 jsonUnmarshal := fun _ => none }
      [0x42, 0x0f, 0, 0, 0x0b, 0, 0x80, 1, 0, 0x0b, 0, 0x80, 0x0f, 0x27, 2] 3906
    = .ok (.arr [.str [91], .f64 0x3FF0000000000000, .str [44], .f64 0x40C3878000000000, .str [41]]) := by
  rfl

/-- path (A17 repaired, fixes/scalars/14): every stored path — int32 npts, int32 closed, int32 dummy, then the points — with
1 ≤ npts < 2²⁷ points of any float64 bit patterns decodes to its points in order, in `(…)` when closed and `[…]` when open
(floats carried as bit patterns).  No carve-out. -/
theorem C04_path (ext : Ext) (closed : Bool) (pts : List Pt) (h : (Val.path closed pts).WF) :
    RoundTrip ext (.path closed pts) := by
  obtain ⟨_, _, hc⟩ := wf_path closed pts h
  have hl := layoutOf_len (layoutOf_path closed pts h)
  refine (decodeType_case ext _ 602 1 _ (by decide) (by omega) rfl).trans
    ((decodePathOrPolygon_stored (layoutOf_path closed pts h)).trans ?_)
  show pathOut (le 4 pts.length ++ le 4 (if closed then 1 else 0) ++ le 4 0 ++ pts.flatMap encPt) 602 12 pts.length closed = _
  rw [pathOut, pathPoints_enc 12 pts _ 0 (by simp) hc, ok_bind]
  cases closed <;> rfl

/-- polygon (A17 repaired): every stored polygon — int32 npts, the 32-byte bounding box, then the points — with
1 ≤ npts < 2²⁷ points decodes to its points in order, in `(…)`.  No carve-out. -/
theorem C04_polygon (ext : Ext) (bbox : Bytes) (pts : List Pt) (h : (Val.polygon bbox pts).WF) :
    RoundTrip ext (.polygon bbox pts) := by
  obtain ⟨hb, _, _, hc⟩ := wf_polygon bbox pts h
  have hl := layoutOf_len (layoutOf_polygon bbox pts h)
  refine (decodeType_case ext _ 604 1 _ (by decide) (by omega) rfl).trans
    ((decodePathOrPolygon_stored (layoutOf_polygon bbox pts h)).trans ?_)
  show pathOut (le 4 pts.length ++ bbox ++ pts.flatMap encPt) 604 36 pts.length false = _
  rw [pathOut, pathPoints_enc 36 pts _ 0 (by simp [hb]) hc]
  rfl

/-- the two layouts decodePathOrPolygon knows can never both fit one value: the stored layout is accepted only when the
length is exactly header + 16·npts with header 12 (path) or 36 (polygon), i.e. ≡ 12 or 4 (mod 16); a send/recv value has
length 5 + 16·m.  So (1) a value accepted as stored is not a send/recv value, (2) a send/recv value is never read as stored
(TestDecodePath / TestDecodePolygon keep their meaning), and (3) on every stored path / polygon the stored reading is taken:
the fallback never fires on a stored value. -/
theorem C04_path_layouts :
    (∀ (data : Bytes) (oid n : Nat) (c : Bool), storedLayout data oid = .ok (some (n, c)) →
      data.length = storedFirst oid + 16 * n ∧ ¬ ∃ m : Nat, data.length = 5 + 16 * m) ∧
    (∀ (data : Bytes) (oid m : Nat), data.length = 5 + 16 * m → storedLayout data oid = .ok none) ∧
    (∀ (closed : Bool) (pts : List Pt), (Val.path closed pts).WF →
      storedLayout (enc (.path closed pts)) 602 = .ok (some (pts.length, closed))) ∧
    (∀ (bbox : Bytes) (pts : List Pt), (Val.polygon bbox pts).WF →
      storedLayout (enc (.polygon bbox pts)) 604 = .ok (some (pts.length, false))) :=
  ⟨fun data oid n c h => ⟨storedLayout_len data oid n c h, layouts_exclusive data oid n c h⟩,
   fun data oid m h => wire_not_stored data oid m h,
   fun closed pts h => (storedLayout_eq _ _).trans (congrArg _ (layoutOf_path closed pts h)),
   fun bbox pts h => (storedLayout_eq _ _).trans (congrArg _ (layoutOf_polygon bbox pts h))⟩

/-- the defect repaired by fixes/scalars/14 on the witness recorded with it: the stored open path `[(1,2)]` (01000000 00000000 00000000
and the point) decodes to `[(1,2)]` (the former code printed `()`); and the 53-byte send/recv vector shape of TestDecodePath
(flag byte 1, count 3) is still read in the send/recv layout -/
theorem C04_path_witness (ext : Ext) :
    (Val.path false [(0x3FF0000000000000, 0x4000000000000000)]).WF ∧
    decodeType ext (enc (.path false [(0x3FF0000000000000, 0x4000000000000000)])) 602 =
      .ok (.arr [.str [91, 40], .f64 0x3FF0000000000000, .str [44], .f64 0x4000000000000000, .str [41, 93]]) ∧
    storedLayout ([1] ++ le 4 3 ++ zeros 48) 602 = .ok none := by
  exact ⟨by decide, rfl, wire_not_stored _ 602 3 (by simp [le_length, zeros_length])⟩

/-- non-vacuity of the per-type hypotheses: boundary values of many types are well-formed, and the partial
theorems for tid / pg_lsn have values inside their hypotheses -/
example : (Val.int2 (-32768)).WF ∧ (Val.int8 9223372036854775807).WF ∧ (Val.xid 3000000000).WF ∧
    (Val.money (-999999999999999)).WF ∧ (Val.date (.fin 9999 12 31)).WF ∧ (Val.date (.fin 1 1 1)).WF ∧
    (Val.date (.fin 2000 2 29)).WF ∧ (Val.date .negInf).WF ∧ (Val.bit true [true, false, true, true, false]).WF ∧
    (Val.text .text [0xC3, 0xA9]).WF ∧ (Val.name (asc "pg_class")).WF ∧ (Val.time 86400000000).WF ∧
    (Val.uuid (zeros 16)).WF ∧ (Val.inet false false [10, 0, 0, 0] 24).WF ∧
    ((Val.tid 65537 7).WF ∧ kfTid (.tid 65537 7) = false) ∧
    ((Val.pglsn (7 * 2 ^ 32 + 7)).WF ∧ kfPgLsn (.pglsn (7 * 2 ^ 32 + 7)) = false) ∧
    (Val.path true [(0, 0), (0x3FF0000000000000, 0x3FF0000000000000)]).WF ∧ (Val.polygon (zeros 32) [(0, 0)]).WF ∧
    (Val.range .tstz 6 (.ts (.fin 1999 12 31 23 59 59 500000)) (.ts .posInf)).WF := by decide

/-- C04 for every abstract value: every well-formed stored value of every supported scalar type decodes
to the value a correct tool must show, except inside the two recorded classes that remain (pg_lsn and tid with unequal
halves: A10, A11, asserted by the repository's tests).  `hext` names the JSON library (`C04_json`), `hnum` / `hpf` the numeric
decoder and the ParseFloat contract (`C04_numrange`); the array and jsonb decoders of `ext` are arbitrary.  Partial exactly
by the two carve-outs `hk`. -/
theorem C04_all_partial (ext : Ext) (hext : ext.jsonUnmarshal = Model.ScalarsJsonLib.jsonUnmarshal)
    (pf : Model.ParseFloat) (hpf : Spec.ParseFloatOK pf) (hnum : ext.decodeNumeric = numExt pf) (v : Val) (h : v.WF)
    (hk : kfPgLsn v = false ∧ kfTid v = false) : RoundTrip ext v := by
  cases v with
  | bool b => exact C04_bool ext b
  | char c => exact C04_char ext c
  | name s => exact C04_name ext s h
  | int2 i => exact C04_int2 ext i h
  | int4 i => exact C04_int4 ext i h
  | int8 i => exact C04_int8 ext i h
  | oid n => exact C04_oid ext n h
  | xid n => exact C04_xid ext n h
  | cid n => exact C04_cid ext n h
  | tid b o => exact C04_tid_partial ext b o h hk.2
  | float4 b => exact C04_float4 ext b h
  | float8 b => exact C04_float8 ext b h
  | money c => exact C04_money ext c h
  | text ty s => exact C04_text ext ty s h
  | json d ws => exact C04_json ext hext d ws h
  | bytea b => exact C04_bytea ext b h
  | bit vb bits => exact C04_bit ext vb bits h
  | date d => exact C04_date ext d h
  | time us => exact C04_time ext us h
  | timetz us z => exact C04_timetz ext us z h
  | timestamp tz t => exact C04_timestamp ext tz t h
  | interval m d us => exact C04_interval ext m d us h
  | uuid b => exact C04_uuid ext b h
  | pglsn v => exact C04_pglsn_partial ext v h hk.1
  | macaddr b => exact C04_macaddr ext b h
  | macaddr8 b => exact C04_macaddr8 ext b h
  | inet c v6 a bits => exact C04_inet ext c v6 a bits h
  | point p => exact C04_point ext p h
  | lseg a b => exact C04_lseg ext a b h
  | box a b => exact C04_box ext a b h
  | line a b c => exact C04_line ext a b c h
  | circle c r => exact C04_circle ext c r h
  | path c pts => exact C04_path ext c pts h
  | polygon bb pts => exact C04_polygon ext bb pts h
  | range ty flags lo hi =>
    by_cases hty : ty = .num
    · subst hty; exact C04_numrange ext pf hpf hnum flags lo hi h
    · exact C04_range ext ty hty flags lo hi h

/-- non-vacuity of `C04_all_partial`: one `Ext` satisfies both library hypotheses -/
example : ∃ ext : Ext, ext.jsonUnmarshal = Model.ScalarsJsonLib.jsonUnmarshal ∧ ext.decodeNumeric = numExt Spec.parseFloatRef :=
  ⟨{ decodeArray := fun _ _ => pure .nil, decodeNumeric := numExt Spec.parseFloatRef, parseJSONB := fun _ => pure .nil,
     jsonUnmarshal := Model.ScalarsJsonLib.jsonUnmarshal }, rfl, rfl⟩

/-- non-vacuity of the hypotheses: a timestamp beyond year 2262, a negative interval, a `+05:30` zone and an
IPv6 /64 are well-formed values outside every recorded class -/
example : (Val.timestamp false (.fin 2300 1 1 0 0 0 0)).WF ∧ (Val.interval (-14) (-3) (-14706000000)).WF ∧
    (Val.timetz 52200000000 (-19800)).WF ∧ (Val.inet true true (zeros 15 ++ [1]) 64).WF ∧
    kfPgLsn (.timestamp false (.fin 2300 1 1 0 0 0 0)) = false := by decide

end PgVerif.Props.C04
