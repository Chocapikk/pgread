/-
  C05 — numeric values decode to the right number; NaN/infinity preserved.
  Property theorems only; helper lemmas are in Proofs/Numeric.lean, Proofs/NumericValue.lean and Proofs/JsonbGo.lean.

  What the code does and what is proved about it:
   1. `DecodeNumeric` classifies the header word, reads sign, weight and the base-10000 digits, and builds the decimal
      TEXT `[-]dddd…e<4·(weight−k+1)>` (the model builds it byte for byte: `Model.numericText`).
      `C05_exact` / `C05_text`: read by the Spec's own reader of such texts (`Spec.readDecimal`, written without reference
      to the code), that text denotes EXACTLY the stored numeric's value ±Σ dᵢ·10000^(k−1−i)·10^(4·(w−k+1)); and
      `C05_positional` / `C05_rational`: that decimal is PostgreSQL's positional value Σ dᵢ·10000^(w−i) (over the
      naturals, scaled by a power of ten, and over ℚ).
   2. The text is handed to `strconv.ParseFloat`, whose result is returned.  ParseFloat is a PARAMETER `pf` of the model;
      its documented contract (`Spec.ParseFloatOK`: the result is the double nearest to the denoted decimal, ties to even,
      ±Inf beyond the finite range) is the one assumption.  `C05_value`: under that contract the Go value returned is
      bit for bit the float64 nearest to the numeric's exact value — for EVERY digit count, hence in particular
      "exactly the nearest double for values of up to 12 significant digits" — and NaN / +Infinity / −Infinity come out as
      NaN / +Inf / −Inf.  The contract is checked against the real strconv on every generated case: the driver instantiates
      `pf` with the executable reference `Spec.parseFloatRef` (`Txt.f64OfRat`, the project's correctly rounding soft-float)
      and the harness compares `math.Float64bits` of pgread's result with it exactly (no tolerance, ±0 distinguished).
  Number kinds: for a value stored without digits `DecodeNumeric` returns Go `int(0)`, otherwise `float64`; the property
  speaks of "the decoded number", so the theorems read an `int` result as the float64 of the same value
  (`Spec.numAsF64`); model and implementation are compared WITH kinds (families numeric_raw / jsonb_raw).
  Finite values beyond the double range (|value| ≥ ~1.8·10³⁰⁸; needs weight ≥ 77: long form only, and outside the weights
  of the property's quantifier in properties.jsonl, though inside those of `C05_value`) come out as ±Inf, as IEEE-754
  rounding and ParseFloat prescribe: `C05_overflow_is_inf`.
-/
import PgVerif.Proofs.Numeric
import PgVerif.Proofs.NumericValue
import PgVerif.Proofs.JsonbGo
namespace PgVerif.Props.C05
open PgVerif PgVerif.Model PgVerif.Proofs

/-- **Exact level.**  For every well-formed numeric — NaN, +Infinity, −Infinity, or a finite value with any sign, any
weight in int16, any display scale and any number of base-10000 digits (leading/trailing zero groups included) — and
for each header form that can hold it (short: −64 ≤ weight ≤ 63 and dscale ≤ 63; long: always), decoding PostgreSQL's
payload yields that value exactly: the three special values as such; for a finite value the decimal text handed to
ParseFloat, read by `Spec.readDecimal`, denotes sign · Σ dᵢ·10000^(k−1−i) · 10^(4·(weight−k+1)); a value without
digits is 0. -/
theorem C05_exact (n : Spec.Numeric) (h : n.WF) (form : Spec.HeaderForm) (hf : form.admits n) :
    (decodeNumeric (Spec.encNumeric form n)).map NumRes.toView = .ok (some n.view) :=
  decodeNumeric_enc n h form hf

/-- **The text itself.**  For digits below 10000 (at least one), any sign and weight, the text `computeNumeric` builds
— `-` if negative, four characters per digit, `e`, the decimal exponent 4·(weight−k+1) — denotes exactly
(sign, Σ dᵢ·10000^(k−1−i), 4·(weight−k+1)) in the Spec's reading of decimal texts. -/
theorem C05_text (digits : List Nat) (w : Int) (neg : Bool) (hd : ∀ d ∈ digits, d < 10000) (hne : digits ≠ []) :
    computeNumeric digits w neg = .num (numericText digits w neg) ∧
    Spec.readDecimal (numericText digits w neg) = some (neg, Spec.mantOf digits 0, 4 * (w - digits.length + 1)) :=
  ⟨computeNumeric_text digits w neg hd hne, NumericValue.readDecimal_numericText digits w neg hd hne⟩

/-- **The decimal is PostgreSQL's value.**  PostgreSQL defines the value of the digit string d₀…d_{k−1} with weight w as
Σ dᵢ·10000^(w−i).  Scaled by any power 10^S that makes all exponents non-negative (so that both sides are natural
numbers), that sum equals mant·10^exp10 for the Spec's decimal mant = Σ dᵢ·10000^(k−1−i), exp10 = 4·(w−k+1). -/
theorem C05_positional (S : Nat) (digits : List Nat) (w : Int) (h : 0 ≤ 4 * (w - digits.length + 1) + S) :
    Spec.posValue S w digits = Spec.mantOf digits 0 * 10 ^ (4 * (w - digits.length + 1) + S).toNat :=
  NumericValue.posValue_eq S digits w h

/-- **The decimal is the rational value.**  For every finite numeric (any sign, weight, digits; no hypothesis) the Spec's
decimal `view` — the quantity `C05_exact` shows the decoder's text to denote — is, as a rational number, PostgreSQL's value
sign · Σ dᵢ·10000^(weight−i) (ℚ from Lean's core library). -/
theorem C05_rational (neg : Bool) (w : Int) (ds : Nat) (digits : List Nat) :
    (Spec.Numeric.fin neg w ds digits).view.toRat = (Spec.Numeric.fin neg w ds digits).toRat := by
  show (if digits.isEmpty then Spec.NumView.exact false 0 0
        else Spec.NumView.exact neg (Spec.mantOf digits 0) (4 * (w - digits.length + 1))).toRat
      = some ((if neg then -1 else 1) * Spec.ratPositional w digits)
  rw [NumericValue.ratPositional_eq]
  cases hd : digits.isEmpty with
  | true =>
    have : digits = [] := by simpa using hd
    subst this
    simp [Spec.NumView.toRat, Spec.mantOf]
  | false => simp only [Bool.false_eq_true, if_false, Spec.NumView.toRat]

/-- what a `DecodeNumeric` result is as a number, when its exact reading is `v`: under the ParseFloat contract the Go
value (an `int` read as the float64 of the same value) is the float64 nearest to `v` -/
theorem C05_toGo_of_exact (pf : ParseFloat) (hpf : Spec.ParseFloatOK pf) (r : NumRes) (v : Spec.NumView)
    (h : r.toView = some v) : Spec.numAsF64 (r.toGo pf) = v.toGo :=
  JsonbGo.num_toGo pf hpf r v h

/-- **C05, value level.**  Let `pf` be a text-to-float64 conversion with ParseFloat's contract (correct rounding of the
denoted decimal).  For every well-formed numeric and each header form that can hold it, `DecodeNumeric` on PostgreSQL's
payload returns — as a number — the float64 NEAREST to the stored value (bit for bit, any digit count), `math.NaN()`
for NaN and ±Inf for ±Infinity. -/
theorem C05_value (pf : ParseFloat) (hpf : Spec.ParseFloatOK pf) (n : Spec.Numeric) (h : n.WF) (form : Spec.HeaderForm)
    (hf : form.admits n) :
    (decodeNumeric (Spec.encNumeric form n)).map (fun r => Spec.numAsF64 (r.toGo pf)) = .ok n.view.toGo := by
  obtain ⟨r, hd, hv⟩ := map_eq_ok (C05_exact n h form hf)
  rw [hd]
  exact congrArg Except.ok (C05_toGo_of_exact pf hpf r _ hv)

/-- The same value is obtained when the numeric sits inside a JSONB document, i.e. behind its own 4-byte varlena header
(how PostgreSQL stores every numeric in jsonb), through `decodeJNumeric`. -/
theorem C05_jsonb (pf : ParseFloat) (hpf : Spec.ParseFloatOK pf) (n : Spec.Numeric) (h : n.WF) (form : Spec.HeaderForm)
    (hf : form.admits n) (hlen : (Spec.encNumeric form n).length + 4 < 2 ^ 30) :
    (decodeJNumeric (Spec.varlena4 (Spec.encNumeric form n))).map (fun r => Spec.numAsF64 (r.toGo pf)) = .ok n.view.toGo := by
  rw [decodeJNumeric_varlena4 _ (encNumeric_pos form n) hlen]
  exact C05_value pf hpf n h form hf

/-- … and behind a 1-byte ("short") varlena header, which the reader also accepts, provided the payload has at least
3 bytes.  (A bare 2-byte header word — the value 0 without digits — behind a 1-byte varlena header is only 3 bytes long
and `decodeJNumeric` requires 4; PostgreSQL never writes this form inside jsonb.) -/
theorem C05_jsonb_short_varlena (pf : ParseFloat) (hpf : Spec.ParseFloatOK pf) (n : Spec.Numeric) (h : n.WF)
    (form : Spec.HeaderForm) (hf : form.admits n)
    (h3 : 3 ≤ (Spec.encNumeric form n).length) (hlen : (Spec.encNumeric form n).length + 1 ≤ 127) :
    (decodeJNumeric (Spec.varlena1 (Spec.encNumeric form n))).map (fun r => Spec.numAsF64 (r.toGo pf)) = .ok n.view.toGo := by
  rw [decodeJNumeric_varlena1 _ h3 hlen]
  exact C05_value pf hpf n h form hf

/-- … and when it is stored in a column: `DecodeType(data, 1700)` is `DecodeNumeric(data)` behind the empty-input test
(a numeric payload is never empty). -/
theorem C05_column (pf : ParseFloat) (hpf : Spec.ParseFloatOK pf) (n : Spec.Numeric) (h : n.WF) (form : Spec.HeaderForm)
    (hf : form.admits n) :
    (decodeTypeNumeric (Spec.encNumeric form n)).map (fun r => Spec.numAsF64 (r.toGo pf)) = .ok n.view.toGo := by
  unfold decodeTypeNumeric
  have hpos := encNumeric_pos form n
  have : ((Spec.encNumeric form n).length == 0) = false := by rw [beq_eq_false_iff_ne]; omega
  rw [this]
  exact C05_value pf hpf n h form hf

/-- the ParseFloat contract is satisfiable: the executable reference conversion has it (it is the driver's instance of
`pf`, compared bit for bit with the real strconv.ParseFloat on every generated case) -/
theorem C05_contract_satisfiable : Spec.ParseFloatOK Spec.parseFloatRef := Spec.parseFloatRef_ok

/-- All 65 536 header words (no enumeration: quotient/remainder reasoning on the masks): whatever
follows the header word, `DecodeNumeric` takes the branch PostgreSQL's own macros select for that
word — special (and then NaN / +Infinity / −Infinity exactly as numeric_out prints it), short (with
the sign bit 0x2000 and the 7-bit two's complement weight), or long (with the sign 0x4000). -/
theorem C05_header (h : Nat) (hh : h < 65536) (body : Bytes) :
    match Spec.classifyHeader h with
    | .special v => decodeNumeric (le 2 h ++ body) = .ok (.special (specialOf h)) ∧
                    (NumRes.special (specialOf h)).toView = some v
    | .short neg w _ => decodeNumeric (le 2 h ++ body) = decodeNumericShort (le 2 h ++ body) h ∧
                        shortHeaderFields h = ⟨neg, w⟩
    | .long neg _ => decodeNumeric (le 2 h ++ body) = decodeNumericLong (le 2 h ++ body) ∧
                     ((h &&& 0xC000) == 0x4000) = neg := by
  obtain ⟨_, _, m3, m4⟩ := header_masks h
  rw [decodeNumeric_dispatch h body hh]
  unfold Spec.classifyHeader
  by_cases c3 : (h / 0x4000 % 4 == 3) = true
  · simp only [c3, if_true, true_and]
    unfold specialOf
    split
    · rfl
    · split <;> rfl
  · simp only [c3, Bool.false_eq_true, if_false]
    have c3' : ¬ h / 0x4000 % 4 = 3 := by simpa using c3
    by_cases c2 : (h / 0x4000 % 4 == 2) = true
    · have c2' : h / 0x4000 % 4 = 2 := by simpa using c2
      have e : (h / 0x8000 % 2 == 1) = true := by simp; omega
      simp only [c2, e, if_true, true_and]
      exact m4
    · have c2' : ¬ h / 0x4000 % 4 = 2 := by simpa using c2
      have e : (h / 0x8000 % 2 == 1) = false := by simp; omega
      simp only [c2, e, Bool.false_eq_true, if_false, true_and]
      exact m3

/-- non-vacuity of `C05_value`: 0.5 (short form, weight −1 — the class of fix 01), −12.34 in
the long form, and NaN satisfy the hypotheses -/
example : (Spec.Numeric.fin false (-1) 1 [5000]).WF ∧ Spec.HeaderForm.short.admits (.fin false (-1) 1 [5000]) ∧
    (Spec.Numeric.fin true 0 2 [12, 3400]).WF ∧ Spec.HeaderForm.long.admits (.fin true 0 2 [12, 3400]) ∧
    Spec.Numeric.nan.WF := by decide

/-- … and the decoder's answer on the first is the text `5000e-4`, which denotes 5000·10⁻⁴ = 0.5, whose nearest double
is 0x3FE0000000000000 -/
example : decodeNumeric (Spec.encNumeric .short (.fin false (-1) 1 [5000])) = .ok (.num (Txt.asc "5000e-4")) ∧
    Spec.readDecimal (Txt.asc "5000e-4") = some (false, 5000, -4) ∧
    Spec.parseFloatRef (Txt.asc "5000e-4") = 0x3FE0000000000000 := by
  exact ⟨rfl, by decide +kernel, by decide +kernel⟩

/-- the float64 JSON caveat made concrete: 9007199254740993 = 2⁵³ + 1 (digits 9007 1992 5474 0993, weight 3) is returned
as 9007199254740992: it IS the nearest double -/
example : (Spec.Numeric.fin false 3 0 [9007, 1992, 5474, 993]).view.bits = 0x4340000000000000 := by decide +kernel

/-- Finite values beyond the double range come out as +Inf (IEEE-754 overflow; ParseFloat's range error is discarded by
the code): the long-form numeric 10⁴⁰⁰ (weight 100, digit 1), to which `C05_value` applies.  Indistinguishable from numeric
'Infinity' in the result; outside the weights of the property's quantifier (a double overflows from weight 77 on). -/
theorem C05_overflow_is_inf :
    (Spec.Numeric.fin false 100 0 [1]).WF ∧ (Spec.Numeric.fin false 100 0 [1]).view.bits = 0x7FF0000000000000 := by
  exact ⟨by decide, by decide +kernel⟩

end PgVerif.Props.C05
