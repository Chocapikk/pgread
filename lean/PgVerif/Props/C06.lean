/-
  C06 — JSONB documents decode to an equal JSON document.
  Property theorems only; helper lemmas: offsets in Proofs/JsonbOffsets.lean; round trip in Proofs/JsonbRound.lean, JsonbObj.lean,
  JsonbDoc.lean (`roundtrip_scalar`, `roundtrip_array`, `roundtrip_object`) and JsonbKeys.lean (`covered_of_wf`); Go values in Proofs/JsonbGo.lean.

  Numbers.  `ParseJSONB` returns Go values, and a JSON number in Go is a `float64`: the code builds the exact decimal
  text of the stored numeric and returns `strconv.ParseFloat` of it (C05).  Two levels are therefore stated:
   * `C06_roundtrip` — exact: the document with every number read as the decimal its text denotes (`JV.toView`);
     this is "same nesting, keys, values, order" with numbers compared by their exact value, a quantity the code holds
     only as text;
   * `C06_roundtrip_go` — what the caller gets: under ParseFloat's contract (`Spec.ParseFloatOK`) the returned Go value
     is the document with every number replaced by the float64 NEAREST to it.  Numbers are thus compared AS DOUBLES:
     two stored numbers that round to the same double (9007199254740993 and 9007199254740992) decode to the same value —
     inherent to float64 JSON numbers, not a loss the property excludes ("to double precision", C05).
  Outside these statements: Go's `int` is taken as unbounded (true on 64-bit platforms: offsets stay below 2^28·len/4; on
  a 32-bit `int` the running end offset of hostile entry arrays could wrap); the recursion ParseJSONB → decodeJEntry →
  ParseJSONB has no depth limit in the code — the model is total at any depth, the Go stack is not (the measured figures
  stand at `C10_total_parseJSONB`, Props/C10/Numjson.lean; family jsonb_alias runs 4 000 and 8 000 levels).
-/
import PgVerif.Proofs.JsonbDoc
import PgVerif.Proofs.JsonbKeys
import PgVerif.Proofs.JsonbGo
namespace PgVerif.Props.C06
open PgVerif PgVerif.Model PgVerif.Proofs

/-- The arithmetic core, for every container size and ANY placement of HAS_OFF flags (PostgreSQL's
stride of 32 over the combined key+value entry array is one instance): for children of lengths `lens`
and arbitrary types, encoded as JEntries that carry the child's length — or, where flagged, the end
offset of the child —, the single forward pass of `ParseJSONB` accepts the entry array and
returns exactly the prefix sums `lens[0], lens[0]+lens[1], …` as end offsets; hence the loops of
parseJSONBArray / parseJSONBObject hand to `decodeJEntry`, for every index, the child's start (the
sum of the lengths before it) and its length.  No bound on the number of entries; the only size
hypothesis is PostgreSQL's own (the data area is below 2^28 bytes, so that every value fits the 28-bit
field). -/
theorem C06_offsets (lens tys : List Nat) (flags : Nat → Bool)
    (hsmall : pre lens lens.length < 0x10000000) (hty : ∀ i, tys.getD i 0 < 8) :
    endsFrom 0 (encE lens tys flags) = some (presFrom lens 0 lens.length) ∧
    (∀ idx, idx < lens.length → (presFrom lens 0 lens.length).getD idx 0 = pre lens (idx + 1)) ∧
    (∀ idx, idx < lens.length →
      spanAt (presFrom lens 0 lens.length) idx = (pre lens idx, (lens.getD idx 0 : Int))) :=
  ⟨endsFrom_encE lens tys flags hsmall hty,
   fun idx h => by rw [getD_presFrom lens 0 _ idx h, Nat.zero_add],
   fun idx h => spanAt_presFrom lens idx h⟩

/-- non-vacuity: 40 children of length 3 with HAS_OFF on every 32nd entry — the forward pass gives the end
offsets 3, 6, …, 120; entry 33 starts at 99 -/
example : (endsFrom 0 (encE (List.replicate 40 3) [] (fun i => i % 32 == 0))).map (fun ends => (ends.getD 39 0, spanAt ends 33)) =
    some (120, (99, 3)) := by
  decide +kernel

/-- The same for `entryOffLen` / `endOffset` (backward scan to the nearest HAS_OFF entry, then forward
sum), which stand in the source beside the forward pass (the repository's tests call them): they return the same
start and length for every index. -/
theorem C06_offsets_entryOffLen (lens tys : List Nat) (flags : Nat → Bool) (idx base : Nat) (hidx : idx < lens.length)
    (hsmall : pre lens lens.length < 0x10000000) (hty : ∀ i, tys.getD i 0 < 8) :
    entryOffLen (encE lens tys flags) idx base = .ok (base + pre lens idx, (lens.getD idx 0 : Int)) := by
  rw [entryOffLen_ok _ _ _ (by rw [encE_length]; exact hidx)]
  rw [entryOffLenPure_encE lens tys flags hsmall hty idx base hidx]

/-- non-vacuity: 40 children of length 3 with HAS_OFF on every 32nd entry — entry 33 starts at 99 -/
example : entryOffLen (encE (List.replicate 40 3) [] (fun i => i % 32 == 0)) 33 0 = .ok (99, 3) := by
  rfl

/-- What a caller of `DecodeType(data, OidJSONB)` sees: a decoded document, or (fallback) a raw string. -/
def docOf : DecodeRes → Option Spec.JView
  | .val v => some v.toView
  | .raw _ => none

/-- Round trip under the hypothesis the proof uses: object keys need only be pairwise distinct (`covered`), not sorted.  By the
root of the document: an array, an object, or a scalar inside the one-element array flagged SCALAR. -/
theorem C06_roundtrip_distinct_keys (j : Spec.Json) (hs : covered j = true)
    (hsize : (Spec.encJsonb j).length < 0x10000000) :
    (parseJSONB (Spec.encJsonb j)).map JV.toView = .ok j.view := by
  cases j with
  | arr xs => exact roundtrip_array xs hs hsize
  | obj kvs => exact roundtrip_object kvs hs hsize
  | null => exact roundtrip_scalar _ rfl hs hsize
  | bool b => exact roundtrip_scalar _ rfl hs hsize
  | num n l => exact roundtrip_scalar _ rfl hs hsize
  | str s => exact roundtrip_scalar _ rfl hs hsize

/-- Round trip.  For EVERY well-formed JSON document — any nesting of objects and arrays, object keys
in PostgreSQL's strict (length, bytes) order, strings and keys of any length below 2^28, every
well-formed numeric, booleans, null; empty objects and arrays at any depth; a container root or a
scalar root; containers with any number of elements / pairs (no cap: finding J10K, fix 10) — whose encoding is below 2^28 bytes (PostgreSQL's own limit for the
offsets), `ParseJSONB` applied to PostgreSQL's binary encoding returns exactly the document: same
nesting, same keys, same values (numbers by the exact value of the decimal text handed to ParseFloat, see C05 and
`C06_roundtrip_go` for the float64 actually returned), same order.  The 32-entry
offset stride is crossed any number of times in the key half, the value half and in arrays; any amount
of alignment padding. -/
theorem C06_roundtrip (j : Spec.Json) (h : j.wf = true)
    (hsize : (Spec.encJsonb j).length < 0x10000000) :
    (parseJSONB (Spec.encJsonb j)).map JV.toView = .ok j.view :=
  C06_roundtrip_distinct_keys j (covered_of_wf j h) hsize

/-- Round trip at the level of the Go value returned.  Let `pf` be a text-to-float64 conversion with ParseFloat's contract.
For every well-formed document with an encoding below 2^28 bytes, `ParseJSONB` returns the document — same nesting, keys,
strings, booleans, nulls, order — with every number being the float64 nearest to the stored numeric's exact value
(bit for bit; NaN / ±Infinity as such).  Go `int(0)` (a numeric stored without digits) is read as the float64 0
(`Spec.numAsF64`).  Numbers are compared as doubles: see the file header. -/
theorem C06_roundtrip_go (pf : ParseFloat) (hpf : Spec.ParseFloatOK pf) (j : Spec.Json) (h : j.wf = true)
    (hsize : (Spec.encJsonb j).length < 0x10000000) :
    (parseJSONB (Spec.encJsonb j)).map (fun v => Spec.numAsF64 (v.toGo pf)) = .ok j.view.toGo := by
  obtain ⟨v, hp, hr⟩ := map_eq_ok (C06_roundtrip j h hsize)
  rw [hp, ← hr]
  exact congrArg Except.ok (JsonbGo.jv_toGo pf hpf v (by rw [hr]; exact JsonbGo.view_decodable j))

/-- the float64 caveat on a concrete document: `[9007199254740993]` comes back as `[9007199254740992.0]`, which IS the
nearest double of the stored number -/
example : (Spec.Json.arr [.num (.fin false 3 0 [9007, 1992, 5474, 993]) false]).view.toGo = .arr [.f64 0x4340000000000000] := by
  have h : (Spec.Numeric.fin false 3 0 [9007, 1992, 5474, 993]).view.bits = 0x4340000000000000 := by decide +kernel
  show GoVal.arr [GoVal.f64 (Spec.Numeric.fin false 3 0 [9007, 1992, 5474, 993]).view.bits] = _
  rw [h]

/-- Through `DecodeType(data, OidJSONB)`: the same document, and never the raw-string fallback — in
particular not for `{}`, `[]` (fix 05) and the document `null` (fix 06).  (The distinction document / fallback is the model's: in Go both a JSON string document and the fallback are a
`string`; for a string root the two could only be told apart by content — the fallback is the raw encoding, which begins
with the container header bytes.) -/
theorem C06_decodeType (j : Spec.Json) (h : j.wf = true)
    (hsize : (Spec.encJsonb j).length < 0x10000000) :
    (decodeTypeJSONB (Spec.encJsonb j)).map docOf = .ok (some j.view) := by
  obtain ⟨v, hp, hr⟩ := map_eq_ok (C06_roundtrip j h hsize)
  rw [decodeTypeJSONB_eq _ v hp]
  cases v with
  | nil =>
    -- the only document whose view is null is `null`
    cases j with
    | null => rfl
    | _ => cases hr
  | _ =>
    -- ParseJSONB answers the empty input with nil
    rw [if_neg (fun h0 => by rw [List.eq_nil_of_length_eq_zero h0] at hp; cases hp), ← hr]
    rfl

/-- a concrete document: `{"a": ["hi", -0.5, [null, true, []], {}], "bb": {}}` -/
def sampleDoc : Spec.Json :=
  .obj [([0x61], .arr [.str [0x68, 0x69], .num (.fin true (-1) 1 [5000]) false,
      .arr [.null, .bool true, .arr []], .obj []]), ([0x62, 0x62], .obj [])]

/-- non-vacuity: it satisfies the hypotheses of `C06_roundtrip` -/
example : sampleDoc.wf = true ∧ (Spec.encJsonb sampleDoc).length < 0x10000000 := by
  have h : (Spec.encJsonb sampleDoc).length = 84 := by decide +kernel
  exact ⟨by decide +kernel, by omega⟩

end PgVerif.Props.C06
