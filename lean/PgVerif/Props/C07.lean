/-
  C07 — array values decode to their elements and NULL positions.

  Spec side (Spec/Arrays.lean): an array is (element type from the Spec's own pg_type table, 0..6 dimensions, lower
  bounds, one optional datum per element in row-major order); `encArray` is PostgreSQL's on-disk layout (dataoffset
  counted from the varlena start, null bitmap LSB first with bit set = present, data at MAXALIGN, every stored element
  aligned to the element type's typalign relative to the varlena start, fixed elements of typlen bytes, varlena
  elements with 1-byte or 4-byte headers, ndim = 0 for the empty array).
  Model side (Model/Arrays.lean): types.go's array code (with the repairs of /verif/fixes/arrays), parametric in the
  element decoder `dec` = `DecodeType` on the element's bytes.

  Two things the statements below do NOT say, because the code's result cannot carry them:
   * the result is the FLAT list of the elements in storage order; `decodeArray` never reads the dimension sizes beyond
     their product, nor the lower bounds: `{{1,2},{3,4}}` and `{1,2,3,4}` decode to the same list, and "every lower
     bound" of the property's quantifier is covered only in the sense that no lower bound disturbs the element list;
   * "NULL exactly at the NULL positions" is relative to the element decoder: the theorems place `dec payload` at every
     non-NULL position, but the REAL `DecodeType` answers nil — the same Go value as for a NULL — for an element whose bytes
     it cannot decode (a numeric with a non-digit word, a value shorter than its fixed width); for the valid stored values
     of C04/C05/C06 it never does (their round-trip theorems return non-nil values), and the composed function
     (array + real element decoders) is compared with the real code, values and all, by family `sc_closed`.
-/
import PgVerif.Proofs.ArraysEnc
import PgVerif.Model.Scalars
namespace PgVerif.Props.C07
open PgVerif PgVerif.Model.Arrays PgVerif.Proofs.Arrays
open PgVerif.Spec.Arrays (PgArray Datum encArray view viewElems elemView elemValue emptyValue pgArrayTypes)

/-- For EVERY element decoder `dec` and every well-formed array — any array type of the table, 0..6 dimensions, any
lower bounds, any number of elements up to PostgreSQL's MaxArraySize, any NULL pattern (none … all; also a stored
bitmap without any NULL), fixed elements of any width/alignment, varlena elements with short or long headers of any length — decoding the stored value yields the
elements in storage (row-major) order: nil exactly at the NULL positions, and at every other position the scalar
decoding (`dec`) of exactly that element's bytes with the element type's oid (`Spec.Arrays.elemView`: a
variable-length element whose payload is empty is the empty string for text, varchar, bpchar and `\\x` for bytea —
a value, not NULL — and `dec` of the empty byte string for any other type; the code has the same rule also for xml, which
is the element type of no array type of the table).  If `dec` faults (panics) on some
element, the array decoding faults, and on the first such element in storage order.  The empty array (ndim = 0) yields
the empty list. -/
theorem C07_elems (dec : Dec) (a : PgArray) (h : a.WF) :
    decodeType dec (encArray a) a.et.arrayOid = view dec a := by
  have hlen := encArray_length a h.2.2.1
  unfold decodeType
  rw [if_neg (by omega), (spec_layout a.et h.1).1]
  exact decodeArray_enc dec a h

/-- The same for an element decoder that never faults, in closed form: the result is the list of the elements with
`nil` for NULL and otherwise `f payload elemOid` — except that a variable-length element with an empty payload of a
text-like type is the empty string (`\\x` for bytea), a value distinct from NULL (`Spec.Arrays.elemValue`). -/
theorem C07_elems_pure (f : Bytes → Nat → GoVal) (a : PgArray) (h : a.WF) :
    decodeType (fun b o => .ok (f b o)) (encArray a) a.et.arrayOid
      = .ok (.arr (a.elems.map fun e => match e with | none => .nil | some d => elemValue f a.et.decodeAs d)) := by
  rw [C07_elems _ a h]
  unfold view
  have he : ∀ d : Datum, elemView (fun b o => .ok (f b o)) a.et.decodeAs d = .ok (elemValue f a.et.decodeAs d) := by
    intro d
    cases d with
    | fixed bs => rfl
    | short p | long p =>
      simp only [elemView, elemValue]
      split
      · cases emptyValue a.et.decodeAs <;> rfl
      · rfl
  have hv : ∀ es : List (Option Datum), viewElems (fun b o => .ok (f b o)) a.et.decodeAs es
      = .ok (es.map fun e => match e with | none => GoVal.nil | some d => elemValue f a.et.decodeAs d) := by
    intro es
    induction es with
    | nil => rfl
    | cons e es ih => cases e <;> simp [viewElems, ih, he]
  rw [hv]; rfl

/-- The empty array is reported as an empty list (a value), not as nil (which is how a NULL is reported). -/
theorem C07_empty (dec : Dec) (a : PgArray) (h : a.WF) (hd : a.dims = []) :
    decodeType dec (encArray a) a.et.arrayOid = .ok (.arr []) := by
  rw [C07_elems dec a h, view, elems_of_dims_nil h hd]; rfl

/-- The array tables of the code are PostgreSQL's pg_type.  `arrayElemTypes` — the table of both Lean models of DecodeType —
is read from the map literal in the current Go source on every run (`Generated.Arrays.arrayElemTypes` for `Model.Arrays`,
`Generated.Scalars.arrayElemTypes` for `Model.Scalars`: one per area's harness; the last conjunct proves them equal, so a
stale or diverging copy breaks this theorem); the code's behaviour is observed by executing it (`Generated.Arrays`: which
oids DecodeType treats as arrays; with which width — or as varlenas — and alignment it reads their elements; which scalar
decoders give the same answers as the element decoder it applies).  For every array type of the Spec's table the code reads
elements of width typlen (varlenas for typlen = −1) aligned to typalign and decodes them as the element type; the code
treats no other oid up to 5000 as an array; the source table has exactly the observed array oids as keys, its element oid
is among the observed element decoders, and it is the Spec's `decodeAs` (pg_type's element type; `regproc` is stored as
an oid); the element layout the model derives from it is the observed one. -/
theorem C07_tables :
    (∀ t ∈ pgArrayTypes,
      t.arrayOid ∈ Generated.Arrays.arrayOids ∧
      Generated.Arrays.layout.lookup t.arrayOid = some ((if t.typlen > 0 then t.typlen.toNat else 0), t.typalign) ∧
      t.decodeAs ∈ (Generated.Arrays.elemCands.lookup t.arrayOid).getD [] ∧
      arrayElemTypes.lookup t.arrayOid = some t.decodeAs) ∧
    (∀ o ∈ Generated.Arrays.arrayOids, o ∈ pgArrayTypes.map (·.arrayOid)) ∧
    (∀ o ∈ Generated.Arrays.arrayOids, (arrayElemTypes.lookup o).isSome = true) ∧
    (∀ p ∈ arrayElemTypes, p.1 ∈ Generated.Arrays.arrayOids) ∧
    (∀ r ∈ Generated.Arrays.elemCands, (match arrayElemTypes.lookup r.1 with | some e => decide (e ∈ r.2) | none => false) = true) ∧
    (∀ r ∈ Generated.Arrays.layout, (arrayElemTypes.lookup r.1).map elemLayout = some (r.2.1, decide (0 < r.2.1), r.2.2)) ∧
    Model.Scalars.arrayElemTypes = arrayElemTypes := by
  exact ⟨spec_gen, by decide +kernel, fun o ho => AssocMap.lookup_isSome_of_mem_keys _ o (keys_eq_arrayOids ▸ ho),
    fun _ hp => keys_eq_arrayOids ▸ List.mem_map_of_mem hp, by decide +kernel, gen_layout, by decide⟩

/-- non-vacuity: `{1,NULL,3}::int4[]` (one dimension, lower bound 1, a NULL in the middle),
`{1,2}::int4[]` stored with an all-present null bitmap, a two-dimensional
`macaddr[]` (6-byte elements with 4-byte alignment, lower bounds 0 and −5), a `text[]` mixing a short-header, a NULL
and a long-header element, and the empty `timetz[]` are all well-formed -/
example :
    let int4 := pgArrayTypes.getD 6 default
    let mac := pgArrayTypes.getD 23 default
    let text := pgArrayTypes.getD 8 default
    let timetz := pgArrayTypes.getD 31 default
    int4.arrayOid = 1007 ∧ mac.arrayOid = 1040 ∧ text.arrayOid = 1009 ∧ timetz.arrayOid = 1270 ∧
    (⟨int4, [3], [1], [some (.fixed [1, 0, 0, 0]), none, some (.fixed [3, 0, 0, 0])], false⟩ : PgArray).WF ∧
    (⟨int4, [2], [1], [some (.fixed [1, 0, 0, 0]), some (.fixed [2, 0, 0, 0])], true⟩ : PgArray).WF ∧
    (⟨mac, [2, 1], [0, -5], [some (.fixed [1, 2, 3, 4, 5, 6]), some (.fixed [7, 8, 9, 10, 11, 12])], false⟩ : PgArray).WF ∧
    (⟨text, [3], [1], [some (.short [97]), none, some (.long [98, 98])], false⟩ : PgArray).WF ∧
    (⟨timetz, [], [], [], false⟩ : PgArray).WF := by
  decide +kernel

/-- … and the encoder lays `{1,NULL,3}` out as PostgreSQL does: dataoffset 32 counted from the varlena start, bitmap
byte 0b101, seven bytes of padding, the two stored elements -/
example :
    encArray ⟨pgArrayTypes.getD 6 default, [3], [1], [some (.fixed [1, 0, 0, 0]), none, some (.fixed [3, 0, 0, 0])], false⟩
      = [1, 0, 0, 0, 32, 0, 0, 0, 23, 0, 0, 0, 3, 0, 0, 0, 1, 0, 0, 0, 5, 0, 0, 0, 0, 0, 0, 0, 1, 0, 0, 0, 3, 0, 0, 0] := by
  decide +kernel

end PgVerif.Props.C07
