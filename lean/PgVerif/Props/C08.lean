/-
  C08 — TOASTed and compressed values are reassembled to the original bytes; TOAST pointer fields;
  per-table TOAST statistics.  Property theorems only; helper lemmas are in Proofs/ToastPtr.lean, Proofs/Pglz.lean,
  Proofs/Lz4.lean, Proofs/ToastRel.lean, Proofs/ToastHoles.lean, Proofs/ToastReasm.lean, Proofs/ToastStats.lean.

  Spec side: Spec/Pglz.lean (token lists, `expand` = what a stream stands for, `renderPglz` = pg_lzcompress.c's byte
  layout), Spec/Lz4.lean (sequences, `expand`, `render` = LZ4 block format), Spec/Toast.lean (18-byte external pointer,
  toasted value = original / stored form / chunking / pointer, rows of the TOAST relation, layouts = rows placed on heap
  pages in any order together with other values' rows and rows of aborted insertions).
  Model side: Model/Toast.lean, Model/Pglz.lean, Model/Lz4.lean = pgdump/toast.go with fixes/toast/01..06, 20..22 applied.

  LIVENESS OF A CHUNK (what "dead chunk versions" means in every theorem below).  A row of the TOAST relation is LIVE iff
  PostgreSQL's TOAST snapshot sees it: `Spec.Toast.toastVisible infomask xmin` = HeapTupleSatisfiesToast
  (heapam_visibility.c, 12–16) = HEAP_XMIN_COMMITTED set, or else HEAP_XMIN_INVALID not set and t_xmin ≠ 0.  The rule reads
  the tuple header only: no commit log, no t_xmax, no XMAX hint bit.  `Layout.liveRows`, `Layout.Stores` and the statistics
  are defined through it.  So
    * a chunk nobody has hinted yet (0x0802: the state of every chunk until the first VACUUM or pruning of the TOAST
      relation) is live (`C08_unhinted_witness`);
    * the chunks of a DELETED value (xmax committed, 0x0502) are live as long as they are on the page: PostgreSQL decides
      whether a value is alive by the visibility of the main tuple that points to it, never by its chunks, and the tool
      reads the value behind the pointer of a deleted main row (ReadDeletedRows) the same way;
    * a DEAD CHUNK VERSION in the property's sense is a row left by an aborted insertion (HEAP_XMIN_INVALID without
      HEAP_XMIN_COMMITTED: 0x0202, 0x0A02, …) or a cancelled speculative insertion (t_xmin 0): these are the only rows
      that can carry the (chunk_id, chunk_seq) of a visible chunk — value ids are not reused while rows with them exist —
      and they are not read, whatever they contain.
-/
import PgVerif.Proofs.ToastReasm
import PgVerif.Proofs.ToastStats
import PgVerif.Proofs.ToastHoles
namespace PgVerif.Props.C08
open PgVerif PgVerif.Model PgVerif.Model.Toast PgVerif.Spec PgVerif.Spec.Toast PgVerif.Proofs.Toast

/-- what the parsed pointer exposes (the fields the property names) -/
def viewOfPtr (p : Ptr) : PtrView := ⟨p.rawSize, p.extSize, p.valueID, p.toastRelID, p.isCompressed, p.method⟩

/-- Pointer: for all 2^128 combinations of the four stored fields (raw size, external size + method bits,
value id, TOAST relation id) — and whatever bytes follow the 18-byte pointer — ParseTOASTPointer returns
exactly the fields PostgreSQL recorded, the compression method from the top two bits of va_extinfo, and
"compressed" iff the external size is smaller than the raw size minus the 4-byte header. -/
theorem C08_pointer (p : ExtPtr) (h : p.WF) (trailing : Bytes) :
    (parseTOASTPointer (encExtPtr p ++ trailing)).map (fun r => r.map viewOfPtr) = .ok (some (ptrView p)) := by
  rw [parseTOASTPointer_enc p h trailing]; rfl

/-- non-vacuity: a compressed LZ4 pointer with distinctive fields is well-formed and reported compressed -/
example : (⟨10004, 2500, 1, 0x11223344, 16385⟩ : ExtPtr).WF ∧
    (ptrView ⟨10004, 2500, 1, 0x11223344, 16385⟩).isCompressed = true := by decide

/-- pglz: for EVERY valid token stream — any mix of literals and matches, every tag form (2-byte tags for lengths
3..17, 3-byte tags for 18..273, offsets 1..4095), overlapping copies (offset < length) included, any number of control
groups, the last one partial — decompressPGLZ applied to the rendered stream and the exact raw size returns exactly the
bytes the tokens stand for.  (Streams shorter than 4 bytes are rejected by the Go function; no compressed external
value has one: `Proofs.Pglz.pglz_stream_ge4`.) -/
theorem C08_pglz (ts : List Pglz.Tok) (h : Pglz.PglzWF ts) (h4 : 4 ≤ (Pglz.renderPglz ts).length) :
    Model.Pglz.decompressPGLZ (Pglz.renderPglz ts) (Pglz.expand ts).length = .ok (some (Pglz.expand ts)) :=
  PgVerif.Proofs.Pglz.decompressPGLZ_render ts h h4

/-- non-vacuity: literals, a short overlapping match, an extended-length match at offset 1, a match reaching back 300 bytes -/
example : Pglz.PglzWF [.lit 0x61, .lit 0x62, .lit 0x63, .mat 3 30, .mat 1 273, .lit 0x7A, .mat 2 18, .mat 300 17] ∧
    4 ≤ (Pglz.renderPglz [.lit 0x61, .lit 0x62, .lit 0x63, .mat 3 30, .mat 1 273, .lit 0x7A, .mat 2 18, .mat 300 17]).length := by
  decide

/-- LZ4: for EVERY valid block — any number of sequences, literal runs and match lengths of any size (with any number of
0xFF extension bytes), offsets 1..65535 within the output produced so far, overlapping matches included, followed by
a last literal-only sequence (possibly empty) — decompressLZ4 applied to the rendered block and the exact raw size
returns exactly the bytes the block stands for. -/
theorem C08_lz4 (b : Lz4.Block) (h : Lz4.Lz4WF b) :
    Model.Lz4.decompressLZ4 (Lz4.render b) (Lz4.expand b).length = .ok (some (Lz4.expand b)) :=
  PgVerif.Proofs.Lz4.decompressLZ4_render b h

/-- non-vacuity: a match overlapping itself, a 300-byte run, a 20-literal sequence, 5 last literals -/
example : Lz4.Lz4WF ⟨[⟨[0x61, 0x62, 0x63], 3, 30⟩, ⟨[], 1, 300⟩, ⟨List.replicate 20 7, 20, 19⟩], [1, 2, 3, 4, 5]⟩ := by
  decide

/-- the chunks ReadTOASTTable returns for a layout: one per LIVE row (live = seen by PostgreSQL's TOAST snapshot,
`Spec.Toast.toastVisible`: see the head of this file), in physical order, with the row's id, sequence number and bytes -/
theorem C08_chunks (lay : Layout) (h : lay.WF) :
    readTOASTTable (encToastRel lay) = .ok (lay.liveRows.map toChunk) := by
  rw [← encToastRelH_nil]
  exact readTOASTTable_holes lay [] (layoutHWF_nil lay h)

/-- Reassembly: for every well-formed layout of a TOAST relation — rows on any number of pages in ANY physical order,
mixed with other values' rows (live or deleted) and with dead chunk versions (rows of aborted or cancelled insertions,
whatever their contents and their xmax bits) — and every value `v` (1 byte .. 1 GiB, stored plain, pglz- or
LZ4-compressed, cut into chunks of any sizes) that the relation `Stores`: the rows PostgreSQL's TOAST snapshot sees with
`v`'s id are exactly `v`'s chunks (each once, any order; in any hint state: unhinted, hinted committed, frozen, with any
xmax): reading the relation, parsing the 18-byte pointer PostgreSQL left in the main tuple, and reassembling returns
exactly the original bytes of `v`.  Holds for every behaviour of the zlib fallback (it is never reached). -/
theorem C08_reassemble (zlib : Bytes → Nat → Option Bytes) (lay : Layout) (hl : lay.WF) (v : ToastValue) (hv : v.WF)
    (hs : lay.Stores v) :
    (do let chunks ← readTOASTTable (encToastRel lay)
        match ← parseTOASTPointer (encExtPtr (ptrOf v)) with
        | none => pure none
        | some p => reassembleTOAST zlib chunks p.valueID (some p)) = .ok (some v.content.original) := by
  rw [C08_chunks lay hl, parse_ptrOf v hv]
  simp only [ok_bind]
  exact reassemble_rows zlib _ v hv hs

/-! #### pages as deletes + VACUUM leave them

`encToastRelH lay holes` puts non-NORMAL line pointers (`Spec.Toast.Hole`: LP_UNUSED — all-zero —, LP_DEAD without or with
storage, LP_REDIRECT) before, between and behind the NORMAL pointers of every page's rows; `LayoutHWF` = every page is a
well-formed PostgreSQL page (`Spec.Page.WF`) and every row is well-formed.  The holes carry no tuple: the chunks, the
reassembled value and the statistics are those of the dense relation. -/

/-- `C08_chunks` on pages with holes anywhere in the pointer arrays -/
theorem C08_chunks_holes (lay : Layout) (holes : List Holes) (h : LayoutHWF lay holes) :
    readTOASTTable (encToastRelH lay holes) = .ok (lay.liveRows.map toChunk) :=
  readTOASTTable_holes lay holes h

/-- `C08_reassemble` on pages with holes: whatever unused, dead (with or without storage) and redirect pointers lie before,
between and behind the pointers of the chunks, the value the relation `Stores` is returned byte for byte -/
theorem C08_reassemble_holes (zlib : Bytes → Nat → Option Bytes) (lay : Layout) (holes : List Holes)
    (hl : LayoutHWF lay holes) (v : ToastValue) (hv : v.WF) (hs : lay.Stores v) :
    (do let chunks ← readTOASTTable (encToastRelH lay holes)
        match ← parseTOASTPointer (encExtPtr (ptrOf v)) with
        | none => pure none
        | some p => reassembleTOAST zlib chunks p.valueID (some p)) = .ok (some v.content.original) := by
  rw [C08_chunks_holes lay holes hl, parse_ptrOf v hv]
  simp only [ok_bind]
  exact reassemble_rows zlib _ v hv hs

/-- `C08_stats_any_order` on pages with holes -/
theorem C08_stats_holes (π : GroupOrder) (hπ : ∀ l, (π l).Perm l) (relid : Nat) (lay : Layout) (holes : List Holes)
    (h : LayoutHWF lay holes) :
    (lay.liveRows = [] → getTOASTVerboseInfoWith π relid (encToastRelH lay holes) = .ok none) ∧
    (lay.liveRows ≠ [] → ∃ i, getTOASTVerboseInfoWith π relid (encToastRelH lay holes) = .ok (some i) ∧
      StatsOK relid lay.liveRows i) :=
  verboseInfo_of_chunks π hπ relid _ _ (C08_chunks_holes lay holes h)

/-- a two-chunk value on a page whose pointer array reads UNUSED, NORMAL (chunk 1), UNUSED, DEAD with storage (a stale
version of chunk 0), NORMAL (chunk 0), REDIRECT, DEAD, and a second page holding nothing but an unused pointer -/
def holesValue : ToastValue := { id := 7, relid := 16385, content := .plain [1, 2, 3], cuts := [2, 1] }
def holesLayout : Layout := [[{ row := { id := 7, seq := 1, data := [3] } }, { row := { id := 7, seq := 0, data := [1, 2] } }], []]
def holesHoles : List Holes :=
  [[[Hole.unused], [Hole.unused, Hole.deadStored { row := { id := 7, seq := 0, data := [9, 9] } }], [Hole.redirect 2, Hole.dead]],
   [[Hole.unused]]]

/-- non-vacuity of the hypotheses of `C08_reassemble_holes` -/
example : LayoutHWF holesLayout holesHoles ∧ holesValue.WF ∧ holesLayout.Stores holesValue ∧
    ((toastPageH (holesLayout.getD 0 []) (holesHoles.getD 0 [])).lps.map fun l => decide (l.slot?.isSome)) =
      [false, true, false, false, true, false, false] := by
  refine ⟨?_, by decide +kernel⟩
  -- the free space of a page is some 8000 zero bytes: its length by `zeros_length`, not by counting them
  simp only [LayoutHWF, Page.WF, Page.upper, toastPageH, zeros_length]
  decide +kernel

/-- a one-chunk value, toasted by a transaction that committed -/
def unhintedValue : ToastValue := { id := 7, relid := 16385, content := .plain [1, 2, 3], cuts := [3] }
/-- its chunk in the state every freshly inserted tuple has (0x0802: XMAX_INVALID; no XMIN hint yet) — what a TOAST
relation looks like until its first VACUUM -/
def unhintedFresh : Layout := [[{ row := { id := 7, seq := 0, data := [1, 2, 3] }, infomask := 0x0802 }]]
/-- the same value stored next to leftovers with its id: an aborted insertion (0x0A02), a cancelled speculative insertion
(t_xmin 0), and before them the chunk of another, DELETED value (0x0502, xmax committed) -/
def unhintedMixed : Layout :=
  [[{ row := { id := 6, seq := 0, data := [6, 6] }, infomask := 0x0502, xmax := 900 },
    { row := { id := 7, seq := 0, data := [9, 9] }, infomask := 0x0A02, xmin := 650 },
    { row := { id := 7, seq := 0, data := [8] }, infomask := 0x0802, xmin := 0 },
    { row := { id := 7, seq := 0, data := [1, 2, 3] }, infomask := 0x0802 }]]

/-- **The defect repaired by fixes/toast/21 (finding `C08-unhinted-chunks`), on the model.**  The relation holding the
unhinted chunk is well-formed and stores the value; the repaired reader returns the original bytes (also next to an
aborted version, a cancelled insertion and a deleted value's chunk, which shows up as a chunk of its own id); the reader
the tool used before — the heap scan with `visibleOnly` = C09's hint-bit rule, `ReadTuples(data, true)` — finds NO tuple
in the same file, so ReassembleTOAST had no chunk and returned nil. -/
theorem C08_unhinted_witness :
    unhintedValue.WF ∧ unhintedFresh.WF ∧ unhintedFresh.Stores unhintedValue ∧
    (do let chunks ← readTOASTTable (encToastRel unhintedFresh)
        match ← parseTOASTPointer (encExtPtr (ptrOf unhintedValue)) with
        | none => pure none
        | some p => reassembleTOAST (fun _ _ => none) chunks p.valueID (some p)) = .ok (some [1, 2, 3]) ∧
    (readTuples (encToastRel unhintedFresh) true).map List.length = .ok 0 ∧
    unhintedMixed.WF ∧ unhintedMixed.Stores unhintedValue ∧
    readTOASTTable (encToastRel unhintedMixed) = .ok [⟨6, 0, [6, 6]⟩, ⟨7, 0, [1, 2, 3]⟩] := by
  have hv : unhintedValue.WF := by decide +kernel
  have h1 : unhintedFresh.WF := by decide +kernel
  have h2 : unhintedMixed.WF := by decide +kernel
  have hs : unhintedFresh.Stores unhintedValue := by decide +kernel
  refine ⟨hv, h1, hs, C08_reassemble _ _ h1 _ hv hs, ?_, h2, by decide +kernel, ?_⟩
  · unfold encToastRel
    rw [PgVerif.Proofs.readTuples_eq,
      PgVerif.Proofs.Rows.scan_entries _ [] true (fun b hb => (toastBlocks_wf _ h1 b hb).1) (by simp)]
    exact congrArg Except.ok (by decide +kernel : List.length (List.map PgVerif.Proofs.Rows.entryOf _) = 0)
  · rw [C08_chunks _ h2]
    exact congrArg Except.ok (by decide +kernel : unhintedMixed.liveRows.map toChunk = _)

/-- **Relations do not mix**: chunk ids are unique only within one TOAST relation.  With a reader that holds any
number of other relations *before and after* the pointer's own — none of the earlier ones under the pointer's relation
id, but with any chunks at all, in particular chunks carrying the same value id — `ReadValue` returns the original
bytes of the value stored in the relation the pointer names. -/
theorem C08_readValue_isolated (zlib : Bytes → Nat → Option Bytes) (readFile : Nat → Option Bytes) (lay : Layout) (hl : lay.WF)
    (v : ToastValue) (hv : v.WF) (hs : lay.Stores v) (pre post : List (Nat × List Chunk)) (hasDir : Bool)
    (hpre : ∀ t ∈ pre, t.1 ≠ v.relid) :
    (do let chunks ← readTOASTTable (encToastRel lay)
        let r ← readValue zlib readFile ⟨pre ++ (v.relid, chunks) :: post, hasDir⟩ (encExtPtr (ptrOf v))
        pure r.1) = .ok (some v.content.original) := by
  rw [C08_chunks lay hl]
  simp only [ok_bind]
  rw [readValue_rows zlib readFile _ v hv hs pre post hasDir hpre]
  rfl

/-- Reassembly through TOASTReader.ReadValue with the relation loaded under the pointer's relation id, in front of any others:
`C08_readValue_isolated` with nothing in front. -/
theorem C08_readValue (zlib : Bytes → Nat → Option Bytes) (readFile : Nat → Option Bytes) (lay : Layout) (hl : lay.WF)
    (v : ToastValue) (hv : v.WF) (hs : lay.Stores v) (others : List (Nat × List Chunk)) (hasDir : Bool) :
    (do let chunks ← readTOASTTable (encToastRel lay)
        let r ← readValue zlib readFile ⟨(v.relid, chunks) :: others, hasDir⟩ (encExtPtr (ptrOf v))
        pure r.1) = .ok (some v.content.original) :=
  C08_readValue_isolated zlib readFile lay hl v hv hs [] others hasDir (fun _ h => nomatch h)

/-- Reassembly from ANY well-formed heap file (the general form of `C08_reassemble`): blocks = formatted pages with
pointers in any state, tuples anywhere on the page with junk between them, all-zero blocks, a trailing partial block;
the only assumptions are that every stored t_xmin fits its 4 bytes (`xminOK`), that the data areas of the LIVE tuples
(`liveDatas`: the tuples PostgreSQL's TOAST snapshot sees, `Spec.Toast.toastVisible`) are rows of a TOAST relation (dead
tuples may hold anything) and that the live rows with `chunk_id = v.id` are exactly `v`'s chunks in some order. -/
theorem C08_reassemble_heap (zlib : Bytes → Nat → Option Bytes) (bs : List Block) (tail : Bytes) (hb : ∀ b ∈ bs, b.WF)
    (hx : ∀ b ∈ bs, xminOK b) (ht : tail.length < 8192) (rows : List Row) (hr : ∀ r ∈ rows, r.WF) (hd : liveDatas bs = rows.map rowData)
    (v : ToastValue) (hv : v.WF) (hs : (rows.filter fun r => r.id == v.id).Perm (chunkRows v)) :
    (do let chunks ← readTOASTTable (encHeap bs tail)
        match ← parseTOASTPointer (encExtPtr (ptrOf v)) with
        | none => pure none
        | some p => reassembleTOAST zlib chunks p.valueID (some p)) = .ok (some v.content.original) := by
  rw [readTOASTTable_rows bs tail hb hx ht rows hr hd, parse_ptrOf v hv]
  simp only [ok_bind]
  exact reassemble_rows zlib _ v hv hs

/-- the block hypotheses of `C08_reassemble_heap` are satisfiable by the real thing: the pages of every well-formed layout are
well-formed blocks whose tuples carry 32-bit xmins (so it applies to the relation of `C08_chunks` / `C08_reassemble`) -/
example (lay : Layout) (h : lay.WF) : ∀ b ∈ lay.map (fun pg => Block.page (toastPage pg)), b.WF ∧ xminOK b :=
  toastBlocks_wf lay h

/-- non-vacuity: a two-chunk plain value and a pglz-compressed value in one relation, stored out of order on two pages
with a dead version of a chunk (an aborted insertion) in between: the layout is well-formed and stores both values -/
example :
    let v1 : ToastValue := { id := 7, relid := 16385, content := .plain [1, 2, 3, 4, 5], cuts := [3, 2] }
    let ts : List Pglz.Tok := [.lit 0x61, .mat 1 273, .mat 1 20]
    let v2 : ToastValue := { id := 8, relid := 16385, content := .pglz ts, cuts := [4, 1, 7] }
    let dead : Entry := { row := { id := 7, seq := 0, data := [9, 9] }, infomask := 0x0A02 }
    let lay : Layout := [[{ row := { id := 7, seq := 1, data := [4, 5] } }, dead, { row := { id := 8, seq := 2, data := (v2.content.stored.drop 5) } }],
                         [{ row := { id := 8, seq := 0, data := v2.content.stored.take 4 } }, { row := { id := 7, seq := 0, data := [1, 2, 3] } },
                          { row := { id := 8, seq := 1, data := (v2.content.stored.drop 4).take 1 } }]]
    v1.WF ∧ v2.WF ∧ lay.WF ∧ lay.Stores v1 ∧ lay.Stores v2 := by
  -- the tokens stand for 1 + 273 + 20 bytes: counted (`expandFrom_length`), not expanded
  have hlen : (Pglz.expand [.lit 0x61, .mat 1 273, .mat 1 20]).length = 294 := Proofs.Pglz.expandFrom_length _ []
  simp only [ToastValue.WF, Content.WF, Layout.Stores, chunkRows, Content.stored, Content.original, hlen]
  decide +kernel

/-- Statistics: for every well-formed layout and every order in which Go's `range` yields the entries of the value map
(`π`: any rearrangement), GetTOASTVerboseInfo reports nil when the relation has no live chunk, and otherwise a report that
satisfies `StatsOK` for the LIVE rows (live = seen by PostgreSQL's TOAST snapshot, see the head of this file: rows of
aborted / cancelled insertions are not counted, the chunks of deleted values still on the pages are): total chunk count, total bytes, the average as the quotient of these two, exactly one entry per
distinct chunk id with that value's chunk count (non-zero) and byte total, the entries in ascending chunk id order
(fixes/toast/05; `StatsOK.values_unique`: this fixes the list completely), the number of such entries as `unique_values`,
their maximum chunk count, and a distribution map (a Go map: rendered by key) holding under every occurring chunk count the
number of values with that count.  `CompressionStats` and the per-value `is_compressed` / `raw_size` / `ext_size` are not
covered: the Go code never fills them (they cannot be derived from the TOAST relation alone; always 0 / false in the JSON).
The harness compares against the rendering `Spec.Toast.stats` of the same tallies, `Values` in the order returned. -/
theorem C08_stats_any_order (π : GroupOrder) (hπ : ∀ l, (π l).Perm l) (relid : Nat) (lay : Layout) (h : lay.WF) :
    (lay.liveRows = [] → getTOASTVerboseInfoWith π relid (encToastRel lay) = .ok none) ∧
    (lay.liveRows ≠ [] → ∃ i, getTOASTVerboseInfoWith π relid (encToastRel lay) = .ok (some i) ∧ StatsOK relid lay.liveRows i) :=
  verboseInfo_of_chunks π hπ relid _ _ (C08_chunks lay h)

/-- the same for the order-free name `getTOASTVerboseInfo` (= any order, by `C11Maps.C11_toastInfo_order_independent`) -/
theorem C08_stats (relid : Nat) (lay : Layout) (h : lay.WF) :
    (lay.liveRows = [] → getTOASTVerboseInfo relid (encToastRel lay) = .ok none) ∧
    (lay.liveRows ≠ [] → ∃ i, getTOASTVerboseInfo relid (encToastRel lay) = .ok (some i) ∧ StatsOK relid lay.liveRows i) :=
  C08_stats_any_order id (fun l => List.Perm.refl l) relid lay h

/-- `StatsOK` determines `Values`: any two reports satisfying it for the same rows list the same entries in the same order.
(That the rendering `Spec.Toast.stats` the harness compares against satisfies `StatsOK` is not proved.) -/
theorem C08_stats_values_unique (relid : Nat) (rows : List Row) (i j : VerboseInfo)
    (hi : StatsOK relid rows i) (hj : StatsOK relid rows j) : i.values = j.values :=
  StatsOK.values_unique hi hj

/-- the hypothesis `hπ` of the statistics theorems is satisfiable by an order that really differs from the stored one -/
example : (List.reverse : GroupOrder) [(1, []), (2, [])] = [(2, []), (1, [])] ∧ ∀ l, ((List.reverse : GroupOrder) l).Perm l :=
  ⟨rfl, fun l => List.reverse_perm l⟩

/-- non-vacuity: three live rows of two values and a dead one (aborted insertion); value 7 has 2 chunks / 5 bytes, value 8
one unhinted chunk / 1 byte -/
example :
    let lay : Layout := [[{ row := { id := 7, seq := 1, data := [4, 5] } }, { row := { id := 7, seq := 0, data := [9, 9] }, infomask := 0x0A02 },
                          { row := { id := 8, seq := 0, data := [6] }, infomask := 0x0802 }], [{ row := { id := 7, seq := 0, data := [1, 2, 3] } }]]
    lay.WF ∧ lay.liveRows.length = 3 ∧
      (stats lay.liveRows).values = [⟨7, 2, 5⟩, ⟨8, 1, 1⟩] ∧ (stats lay.liveRows).distribution = [(1, 1), (2, 1)] := by
  decide +kernel

end PgVerif.Props.C08
