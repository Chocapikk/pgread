/-
  C08 statistics — toast.go:AnalyzeTOAST, the code AS IT IS.

  What it computes: for the database named `dbName`, one entry per VISIBLE tuple of base/<oid>/1259 whose data is at
  least 60 bytes long, whose bytes 48..51 (little endian) are a non-zero number `n`, for which base/<oid>/<n> is
  readable and holds at least one TOAST chunk: `(n, number of chunks, number of distinct chunk ids, total payload
  bytes)` — the tallies of `ReadTOASTTable` on that file, equal field by field to what `GetTOASTVerboseInfo` reports
  for it (so `Props.C08.C08_stats` applies to every relation it reaches).

  OBSERVATION (none of the properties C01..C20 names AnalyzeTOAST, and the code is not patched; its totality is
  `C10_total_analyzeTOAST` of Props/C10/Extra.lean):
  tuple-data offset 48 is not `reltoastrelid`.  In pg_class of PostgreSQL 12–16 the tuple data starts with `oid`
  (bytes 0..3) and `relname` (a 64-byte NUL-padded name, bytes 4..67); `reltoastrelid` is at offset 108.  Bytes 48..51
  are characters 44..47 of the relation NAME: for every relation whose name is shorter than 45 bytes they are zero and
  the relation is skipped, whatever its reltoastrelid; a relation with a long name is paired with the relation whose id
  its name happens to spell.  `C08_analyzeTOAST_reads_relname` states this for the model; family `extra` (op
  `analyze`) shows the same on the real code (tag `obs=…`).
-/
import PgVerif.Proofs.ExtraToast
import PgVerif.Props.C08
namespace PgVerif.Props.C08Extra
open PgVerif PgVerif.Model PgVerif.Model.Extra PgVerif.Model.Toast PgVerif.Proofs.Extra

/-- **What AnalyzeTOAST returns.**  Let global/1262 be readable with `dbName` among its databases (oid ≠ 0), pg_class
readable with visible tuples `es`.  Then the result is, in tuple order, `analyzeEntryResult` of every tuple: nothing for
a tuple shorter than 60 bytes, for a zero at offset 48, for an unreadable file or a file without chunks; otherwise the
tallies of ReadTOASTTable on `base/<oid>/<number at offset 48>`. -/
theorem C08_analyzeTOAST (rr : RowReader) (fs : Bytes → Option Bytes) (dbName dbData classData : Bytes)
    (dbs : List DatabaseInfo) (es : List TupleEntry) (chunksOf : Bytes → List Chunk)
    (h1 : fs pathGlobal1262 = some dbData) (h2 : parsePGDatabase rr dbData = .ok dbs) (h3 : findDbOID dbs dbName ≠ 0)
    (h4 : fs (basePath (findDbOID dbs dbName) 1259) = some classData) (h5 : readTuples classData true = .ok es)
    (hc : ∀ d, readTOASTTable d = .ok (chunksOf d)) :
    analyzeTOAST rr fs dbName = .ok (some (es.filterMap fun e => analyzeEntryResult fs (findDbOID dbs dbName) e chunksOf)) := by
  unfold analyzeTOAST
  rw [h1]
  simp only [h2, ok_bind]
  rw [if_neg h3, h4]
  simp only [h5, ok_bind]
  rw [Proofs.collectM_eq_filterMap (analyzeEntry fs (findDbOID dbs dbName)) (fun e => analyzeEntryResult fs (findDbOID dbs dbName) e chunksOf) es
    (fun e _ => analyzeEntry_eq fs _ e chunksOf hc)]
  rfl

/-- the hypotheses of `C08_analyzeTOAST` are satisfiable: a row reader that finds one pg_database row (oid 5, name "d"),
a tree in which every path holds an empty file -/
example : ∃ (rr : RowReader) (fs : Bytes → Option Bytes) (dbs : List DatabaseInfo),
    fs pathGlobal1262 = some [] ∧ parsePGDatabase rr [] = .ok dbs ∧ findDbOID dbs [100] ≠ 0 ∧
    fs (basePath (findDbOID dbs [100]) 1259) = some [] ∧ readTuples [] true = .ok [] := by
  refine ⟨fun _ _ _ => pure [[(strBytes "oid", .int 5), (strBytes "datname", .str [100])]], fun _ => some [], [⟨5, [100]⟩],
    rfl, ?_, by decide, rfl, rfl⟩
  simp [parsePGDatabase, getOID, getString, List.lookup, PgVerif.strBytes_beq]

/-- the error cases: global/1262 unreadable; the name is not in pg_database; pg_class unreadable -/
theorem C08_analyzeTOAST_errors (rr : RowReader) (fs : Bytes → Option Bytes) (dbName : Bytes) :
    (fs pathGlobal1262 = none → analyzeTOAST rr fs dbName = .ok none) ∧
    (∀ dbData dbs, fs pathGlobal1262 = some dbData → parsePGDatabase rr dbData = .ok dbs → findDbOID dbs dbName = 0 →
        analyzeTOAST rr fs dbName = .ok none) ∧
    (∀ dbData dbs, fs pathGlobal1262 = some dbData → parsePGDatabase rr dbData = .ok dbs → findDbOID dbs dbName ≠ 0 →
        fs (basePath (findDbOID dbs dbName) 1259) = none → analyzeTOAST rr fs dbName = .ok none) := by
  refine ⟨?_, ?_, ?_⟩
  · intro h; unfold analyzeTOAST; rw [h]; rfl
  · intro dbData dbs h1 h2 h3
    unfold analyzeTOAST; rw [h1]; simp only [h2, ok_bind]; rw [if_pos h3]; rfl
  · intro dbData dbs h1 h2 h3 h4
    unfold analyzeTOAST; rw [h1]; simp only [h2, ok_bind]; rw [if_neg h3, h4]; rfl

/-- **Every entry is the tally of a TOAST relation file.**  Each reported entry names a relation `n` for which
base/<oid>/<n> exists and ReadTOASTTable finds chunks there, and its three numbers are that file's chunk count, number
of distinct chunk ids and total payload size. -/
theorem C08_analyzeTOAST_entries (fs : Bytes → Option Bytes) (dbOID : Nat) (e : TupleEntry) (chunksOf : Bytes → List Chunk)
    (i : TOASTInfo) (h : analyzeEntryResult fs dbOID e chunksOf = some i) :
    ∃ d, fs (basePath dbOID i.toastRelID) = some d ∧ chunksOf d ≠ [] ∧ i = toastTally i.toastRelID (chunksOf d) ∧
      i.toastRelID = rd 4 (e.tuple.data.drop 48) ∧ 60 ≤ e.tuple.data.length := by
  unfold analyzeEntryResult at h
  by_cases h60 : e.tuple.data.length < 60
  · rw [if_pos h60] at h; cases h
  · rw [if_neg h60] at h
    simp only at h
    by_cases h0 : rd 4 (List.drop 48 e.tuple.data) = 0
    · rw [if_pos h0] at h; cases h
    · rw [if_neg h0] at h
      cases hf : fs (basePath dbOID (rd 4 (List.drop 48 e.tuple.data))) with
      | none => rw [hf] at h; cases h
      | some d =>
        rw [hf] at h
        simp only at h
        by_cases hl : (chunksOf d).length = 0
        · rw [if_pos hl] at h; cases h
        · rw [if_neg hl] at h
          injection h with h
          subst h
          refine ⟨d, hf, ?_, rfl, rfl, by omega⟩
          intro hnil; rw [hnil] at hl; exact hl rfl

/-- **The tallies are GetTOASTVerboseInfo's.**  On the same chunk list AnalyzeTOAST's relation id, chunk count,
distinct-value count and total size equal the fields of the same names of GetTOASTVerboseInfo's report; hence on a
well-formed TOAST relation they are the statistics of its live rows (`Props.C08.C08_stats`). -/
theorem C08_analyzeTOAST_tallies (relid : Nat) (chunks : List Chunk) :
    (toastTally relid chunks).toastRelID = (buildInfo relid chunks).toastRelID ∧
    (toastTally relid chunks).totalChunks = (buildInfo relid chunks).totalChunks ∧
    (toastTally relid chunks).uniqueValues = (buildInfo relid chunks).uniqueValues ∧
    (toastTally relid chunks).totalSize = (buildInfo relid chunks).totalSize := by
  refine ⟨rfl, rfl, ?_, rfl⟩
  -- `uniqueValues`: the ids AnalyzeTOAST collects are the keys of GetTOASTVerboseInfo's value map
  simp only [toastTally, buildInfo, buildInfoWith]
  rw [← List.length_map (·.1) (as := chunks.foldl groupInsert []), foldl_groupInsert_keys chunks []]
  rfl

/-- … spelled out on a well-formed TOAST relation with live rows `rows`: AnalyzeTOAST's tally of the encoded relation
counts the live rows, sums their payload sizes, and its `uniqueValues` is the number of distinct chunk ids among them
(`ids` lists each id that occurs, once).  Dead / aborted chunk versions are not counted. -/
theorem C08_analyzeTOAST_stats (relid : Nat) (lay : Spec.Toast.Layout) (h : lay.WF) (hne : lay.liveRows ≠ []) :
    ∃ chunks, readTOASTTable (Spec.Toast.encToastRel lay) = .ok chunks ∧
      (toastTally relid chunks).totalChunks = lay.liveRows.length ∧
      (toastTally relid chunks).totalSize = (lay.liveRows.map (·.data.length)).sum ∧
      ∃ ids : List Nat, ids.Pairwise (· ≠ ·) ∧ (∀ k, k ∈ ids ↔ ∃ r ∈ lay.liveRows, r.id = k) ∧
        (toastTally relid chunks).uniqueValues = ids.length := by
  -- the chunks are those of the live rows (`C08_chunks`), the report on them satisfies `StatsOK` (`verboseInfo_rows`), and the
  -- tallies are four of its fields (`C08_analyzeTOAST_tallies`); the ids are those of the report's `values`
  have hs := Proofs.Toast.verboseInfo_rows relid lay.liveRows hne
  have ht := C08_analyzeTOAST_tallies relid (lay.liveRows.map Proofs.Toast.toChunk)
  exact ⟨_, Props.C08.C08_chunks lay h, ht.2.1.trans hs.totalChunks, ht.2.2.2.trans hs.totalSize, _, hs.valuesDistinct,
    hs.mem_ids, by rw [ht.2.2.1, hs.unique, List.length_map]⟩

/-- **The observation: offset 48 is inside relname.**  A pg_class tuple's data begins `oid (4 bytes) ++ relname (64
bytes, NUL padded) ++ …`.  For every such tuple whose name has at most 44 bytes, the number AnalyzeTOAST reads is 0 and
the tuple is skipped — whatever follows the name, `reltoastrelid` (offset 108) included, and whatever files exist. -/
theorem C08_analyzeTOAST_reads_relname (fs : Bytes → Option Bytes) (dbOID : Nat) (chunksOf : Bytes → List Chunk)
    (hdr : TupleHeader) (bm : Option Bytes) (off : Nat) (oid name rest : Bytes)
    (ho : oid.length = 4) (hn : name.length ≤ 44) :
    analyzeEntryResult fs dbOID ⟨⟨hdr, bm, oid ++ (name ++ zeros (64 - name.length)) ++ rest⟩, off⟩ chunksOf = none := by
  -- 48 lies in the zero padding of the name: `drop 48` leaves at least 20 of its zeros in front
  have hz : rd 4 (List.drop 48 (oid ++ (name ++ zeros (64 - name.length)) ++ rest)) = 0 := by
    rw [List.append_assoc, List.append_assoc, ← List.append_assoc oid name, List.drop_append,
      List.drop_of_length_le (by rw [List.length_append, ho]; omega), List.nil_append, List.drop_append, drop_zeros,
      rd_append_left _ _ _ (by rw [zeros_length, List.length_append, ho]; omega), rd_zeros]
  unfold analyzeEntryResult
  split
  · rfl
  · exact if_pos hz

/-- a concrete pg_class-shaped tuple: oid 16384, name "t", reltoastrelid 16385 at offset 108 — skipped, although every
path holds a file -/
example : analyzeEntryResult (fun _ => some [1]) 5
    ⟨⟨⟨24, 33, 2304, true, true, false, false⟩, none,
      [0, 64, 0, 0] ++ ([116] ++ zeros (64 - [116].length)) ++ (zeros 40 ++ [1, 64, 0, 0] ++ zeros 20)⟩, 0⟩ (fun _ => [⟨1, 0, [1]⟩]) = none :=
  C08_analyzeTOAST_reads_relname _ 5 _ _ none 0 [0, 64, 0, 0] [116] _ rfl (by decide)

/-- a pg_class-shaped tuple whose relation is NAMED so that characters 44..47 of the name spell 7 -/
def longNameTuple : TupleEntry :=
  ⟨⟨⟨24, 33, 2304, true, true, false, false⟩, none, [0, 64, 0, 0] ++ (List.replicate 44 97 ++ [7] ++ zeros 19) ++ zeros 60⟩, 0⟩

/-- … and the converse: that relation is paired with relation 7 (three chunks of two values, four payload bytes) -/
example : analyzeEntryResult (fun _ => some [1]) 5 longNameTuple
    (fun _ => [⟨1, 0, [1, 2]⟩, ⟨1, 1, [3]⟩, ⟨2, 0, [4]⟩]) = some ⟨7, 3, 2, 4⟩ := by
  decide +kernel

end PgVerif.Props.C08Extra
