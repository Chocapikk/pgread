/-
  C09 — live and deleted rows are classified by their own hint bits only.
  Property theorems only; helper lemmas are in Proofs/Heap.lean, Proofs/HeapScan.lean.
-/
import PgVerif.Proofs.HeapScan
namespace PgVerif.Props.C09
open PgVerif PgVerif.Model PgVerif.Proofs

/-- For every byte string: a tuple produced by the tuple parser is classified as live iff bit 8
(xmin committed) is set and not (bit 10 set and bit 11 clear); as deleted iff bit 10 set and bit 11
clear — for every one of the 65 536 infomasks. -/
theorem C09_bits (d : Bytes) (t : HeapTuple) (h : parseHeapTuple d = .ok (some t)) :
    t.isVisible = Spec.liveBits t.header.infomask ∧ t.isDeleted = Spec.deletedBits t.header.infomask :=
  (parseHeapTuple_consistent d t h).bits

/-- The same for every entry of a whole-file scan, whatever the file contains. -/
theorem C09_scan_bits (data : Bytes) (vis : Bool) (es : List TupleEntry) (h : readTuples data vis = .ok es) :
    ∀ e ∈ es, e.tuple.isVisible = Spec.liveBits e.tuple.header.infomask ∧
              e.tuple.isDeleted = Spec.deletedBits e.tuple.header.infomask :=
  fun e he => (scan_consistent (vis := vis) (d := data) (by rw [readTuples_eq] at h; cases h; exact he)).bits

/-- Locality: the visible-only view of any file is the all-tuples view filtered by each tuple's own
predicate — nothing else (position, neighbours, page) enters the decision, and the live view is a
sub-list of the all-tuples view. -/
theorem C09_local (data : Bytes) :
    readTuples data true = (readTuples data false).map (fun es => es.filter fun e => e.tuple.isVisible) :=
  by rw [readTuples_eq, readTuples_eq, scan_filter]; rfl

/-- Live and deleted are disjoint classes for every infomask. -/
theorem C09_disjoint (m : Nat) : ¬ (Spec.liveBits m = true ∧ Spec.deletedBits m = true) := by
  simp only [Spec.liveBits, Spec.deletedBits]
  cases m.testBit 8 <;> cases m.testBit 10 <;> cases m.testBit 11 <;> simp

/-- non-vacuity: a concrete tuple image parses, and is classified deleted -/
example : ∃ t, parseHeapTuple (zeros 18 ++ le 2 1 ++ le 2 0x0500 ++ [24, 0, 7]) = .ok (some t) ∧
    t.isDeleted = true ∧ t.isVisible = false := by
  refine ⟨_, rfl, ?_, ?_⟩ <;> decide

end PgVerif.Props.C09
