/-
  C09 (area block) — ReadTuplesInRange applies the visibility switch the same way round as every other
  reader (after fix 02 of /verif/fixes/block: `ReadTuples(data, !includeDeleted)`).
  Property theorems only.
-/
import PgVerif.Proofs.HeapScan
import PgVerif.Proofs.BlockRead
namespace PgVerif.Props.C09Block
open PgVerif PgVerif.Model PgVerif.Proofs

/-- For every file, range and switch: when ReadBlockRange delivers `data`, ReadTuplesInRange with
`includeDeleted = true` is the all-tuples scan of exactly those bytes, and with `includeDeleted = false`
it is the visible-only scan of them — the switch is the negation of ReadTuples' `visibleOnly`; when
ReadBlockRange rejects the request, so does ReadTuplesInRange, with the same error. -/
theorem C09_switch (file : Option Bytes) (r : Option BlockRange) (inc : Bool) :
    readTuplesInRange file r inc =
      match readBlockRange file r with
      | .error f => .error f
      | .ok (.error e) => .ok (.error e)
      | .ok (.ok data) => (readTuples data (!inc)).map .ok := by
  unfold readTuplesInRange
  cases readBlockRange file r with
  | error f => rfl
  | ok res =>
    cases res with
    | error e => rfl
    | ok data =>
      simp only [ok_bind]
      cases readTuples data (!inc) <;> rfl

/-- The two settings of the switch are related as in every other reader: the `includeDeleted = false`
result is the `includeDeleted = true` result filtered by each tuple's own visibility predicate (so
the live view is a sub-list of the all-tuples view, and a tuple's classification depends on nothing
but its own header bits — C09_bits). -/
theorem C09_switch_views (file : Option Bytes) (r : Option BlockRange) (data : Bytes)
    (h : readBlockRange file r = .ok (.ok data)) :
    readTuplesInRange file r true = (readTuples data false).map .ok ∧
    readTuplesInRange file r false =
      (readTuples data false).map (fun es => .ok (es.filter fun e => e.tuple.isVisible)) := by
  rw [C09_switch, C09_switch, h]
  refine ⟨rfl, ?_⟩
  show (readTuples data true).map Except.ok = _
  rw [readTuples_eq, readTuples_eq, scan_filter]; rfl

/-- non-vacuity of the hypothesis of C09_switch_views: for every file of at least one block (and below
2^62 bytes) the whole-file request delivers all its whole blocks -/
example (f : Bytes) (h1 : 8192 ≤ f.length) (h2 : f.length < 2 ^ 62) :
    readBlockRange (some f) none = .ok (.ok (f.take (f.length / 8192 * 8192))) := by
  have := PgVerif.Proofs.Block.readBlockRange_bytes f h2 none
  rw [show PgVerif.Proofs.Block.toRange none = none from rfl, PgVerif.Proofs.Block.resolve_none _ (by omega)] at this
  rw [this]
  show Except.ok (Except.ok ((f.drop (0 * 8192)).take ((f.length / 8192 - 1 - 0 + 1) * 8192))) = _
  rw [Nat.zero_mul, List.drop_zero, show f.length / 8192 - 1 - 0 + 1 = f.length / 8192 by omega]

end PgVerif.Props.C09Block
