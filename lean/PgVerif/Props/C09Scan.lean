/-
  C09 (directory scan part) — ScanAllDeletedRows (pgread's repair rows/07): the dump of a data directory whose rows are,
  table by table, the deleted rows of the table's heap file.
  Property theorems only; helper lemmas are in Proofs/RowsDeleted.lean, Proofs/RowsFile.lean, Proofs/RowsViews.lean,
  Props/C09Rows.lean and (for the chain) Proofs/DeletedScan.lean.

  What is proved: (1) the per-table row source of the scan, on a stored heap file, from the Spec side
  (`C09_scan_table_file`, `C09_scan_table_nocols`); (2) the dump chain ScanAllDeletedRows runs is DumpDataDir's chain
  with only the row source exchanged (`C09_scan_chain`: with the live row source the generalised chain IS the model of
  DumpDataDir, by `rfl`), so which databases / tables / columns are reported and which file and schema each table's rows
  come from is the logic C01 is about.
  What is NOT proved: the composition of (1) with C01's catalog theorems into
  "ScanAllDeletedRows (fsOf c) = Spec.expectedDeletedDump c" for a whole `Spec.Cluster`; C01's proofs are stated for the
  live row source only.  That statement is tied by family `scandeleted` (SPEC = `Spec.expectedDeletedDump`).
-/
import PgVerif.Proofs.DeletedScan
import PgVerif.Props.C09Rows
namespace PgVerif.Props.C09Scan
open PgVerif PgVerif.Model PgVerif.Spec PgVerif.Proofs PgVerif.Proofs.Rows PgVerif.Proofs.DeletedScan

/-- **The rows ScanAllDeletedRows reports for one table.**  For every well-formed heap file whose stored tuples are the
row versions `vers` (arbitrary header fields and t_infomask) of a schema `cols` with at least one column: the row source
of the scan returns exactly the rows of the versions whose own hint bits say "deleter committed" (HEAP_XMAX_COMMITTED
set, HEAP_XMAX_INVALID clear), in scan order, each decoded as C03 says — no live, aborted or in-progress version. -/
theorem C09_scan_table_file (dec : Dec) (cols : List Col) (mcols : List Column) (bs : List Block) (tail : Bytes)
    (vers : List RowVer) (hb : ∀ b ∈ bs, b.WF) (ht : tail.length < 8192)
    (hm : ColsMatch 0 mcols cols) (hne : mcols ≠ [])
    (hvers : fileTuples bs = vers.map (formVer cols)) (hwf : ∀ v ∈ vers, v.2.WF cols) :
    readDeletedTableRows dec (encHeap bs tail) mcols =
      collectM (fun v : RowVer => expRow dec cols v.2 >>= fun row => pure (some row))
        (vers.filter fun v => deletedBits v.2.infomask) := by
  obtain ⟨offs, hoffs⟩ := fileEntries_of_tuples bs vers (formVer cols) hvers
  unfold readDeletedTableRows
  rw [Props.C09Rows.C09_deleted_file dec cols mcols bs tail (vers.zip offs) hb ht hm hne hoffs.2
    (fun x hx => hwf x.1 (List.of_mem_zip hx).1)]
  exact deleted_rows_of_zip dec cols vers offs hoffs.1

/-- **A table without columns.**  Every deleted version is reported as the empty row. -/
theorem C09_scan_table_nocols (dec : Dec) (bs : List Block) (tail : Bytes) (hb : ∀ b ∈ bs, b.WF) (ht : tail.length < 8192) :
    readDeletedTableRows dec (encHeap bs tail) [] =
      .ok (((fileTuples bs).filter fun t => deletedBits t.infomask).map fun _ => []) := by
  rw [readDeletedTableRows, readDeletedRows_eq, scan_entries bs tail false hb ht]
  simp only [Bool.not_false, Bool.true_or, filter_true]
  rw [← fileEntries_fst bs]
  exact deleted_nocols dec (fileEntries bs)

/-- **The chain is DumpDataDir's.**  With the live row source the generalised dump chain is the model of DumpDataDir /
DumpDatabaseFromFiles, and ScanAllDeletedRows is that same chain with the row source `readDeletedTableRows` (all three by
`rfl`: the statement is that the models were written alike, as the Go functions are). -/
theorem C09_scan_chain (rr : RowReader) (dec : Dec) (π : MapOrder TableInfo) (fs : Bytes → Option Bytes) (o : Options)
    (classData attrData : Bytes) (reader : Option FileReader) :
    dumpDataDirRows rr (readTableRows rr) π fs o = dumpDataDir rr π fs o ∧
    dumpDatabaseFromFilesRows rr (readTableRows rr) π classData attrData reader o = dumpDatabaseFromFiles rr π classData attrData reader o ∧
    scanAllDeletedRows rr dec π fs o = dumpDataDirRows rr (readDeletedTableRows dec) π fs o :=
  ⟨dumpDataDirRows_live rr π fs o, dumpDatabaseFromFilesRows_live rr π classData attrData reader o, rfl⟩

end PgVerif.Props.C09Scan
