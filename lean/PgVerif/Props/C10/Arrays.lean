/-
  C10 (area arrays) — the array decoder never faults, for every byte string and every type oid.

  The model (Model/Arrays.lean) is types.go:DecodeType's array branch, decodeArray and parseArrayElements with the
  guards of fixes arrays/07 (header, bitmap) and 08 (elements); fix 09 caps the capacity of `make` and leaves the control flow alone.  Its slice/index
  primitives check against the length of the slice they are given, so "no fault" means: no Go panic AND no read beyond the value.  The `int32` multiplication of the
  dimensions wraps in the model exactly as in Go (`wrap32`); the theorems hold for whatever it wraps to.
  The element decoder (`DecodeType` on the element's bytes, area `scalars`) is a parameter: the array code is total
  for every element decoder that is itself total.

  Witnesses of the faults those guards exclude: the deterministic prefix of family `arraymut` (e.g. a 4-byte element
  header claiming length 0 → `raw[off+4:off]`).
-/
import PgVerif.Proofs.Arrays
namespace PgVerif.Props.C10.Arrays
open PgVerif PgVerif.Model.Arrays PgVerif.Proofs.Arrays

/-- parseArrayElements returns for every value, every claimed element count (up to 2^31 and beyond), every start
offset, every element width/alignment, with or without a null bitmap — provided the bitmap it is handed covers the
claimed count, which is what decodeArray's guard establishes. -/
theorem C10_total_parseArrayElements (dec : Dec) (hdec : DecTotal dec) (raw : Bytes) (elemOid elemLen elemAlign : Nat)
    (fixed : Bool) (nulls : Option Bytes) (count off : Nat) (h : ∀ bm, nulls = some bm → (count + 7) / 8 ≤ bm.length) :
    ∃ r, parseElems dec raw elemOid elemLen elemAlign fixed nulls count 0 off = .ok r :=
  parseElems_total dec hdec raw elemOid elemLen elemAlign fixed nulls count 0 off (by simpa using h)

/-- decodeArray returns (nil or a list) for every byte string and every element oid: hostile dimension counts,
dimensions whose product wraps around, data offsets before/inside/after the value, bitmaps longer than the value,
element headers with impossible lengths. -/
theorem C10_total_decodeArray (dec : Dec) (hdec : DecTotal dec) (raw : Bytes) (elemOid : Nat) :
    ∃ r, decodeArray dec raw elemOid = .ok r :=
  decodeArray_total dec hdec raw elemOid

/-- DecodeType returns for every byte string and every type oid (array oids go through decodeArray, every other oid
straight to the element decoder). -/
theorem C10_total_decodeType (dec : Dec) (hdec : DecTotal dec) (data : Bytes) (oid : Nat) :
    ∃ r, decodeType dec data oid = .ok r := by
  unfold decodeType
  split
  · exact ⟨.nil, rfl⟩
  · split
    · exact decodeArray_total dec hdec data _
    · exact hdec data oid

/-- The allocation side, on the model: whatever the header claims (up to 2³¹−1 elements, wrapped products …), the
list decodeArray returns has at most 8·len(raw) entries — one per bit of a null bitmap that lies inside the value,
and without a bitmap at most one per byte after the header.  (Go pre-sizes the slice to min(count, len(raw)) and
appends: fix arrays/09; `count` entries reserved up front are 32 GiB for a 20-byte value.) -/
theorem C10_size_decodeArray (dec : Dec) (raw : Bytes) (elemOid : Nat) (es : List GoVal)
    (h : decodeArray dec raw elemOid = .ok (.arr es)) : es.length ≤ 8 * raw.length := by
  rcases decodeArray_shape dec raw elemOid _ h with h0 | h0 | ⟨nulls, count, off, hbm, hp⟩
  · cases h0; exact Nat.zero_le _
  · cases h0
  · obtain ⟨es', hp, he⟩ := bind_eq_ok hp.symm
    cases he
    have hlen := parseElems_length _ _ _ _ _ _ _ _ _ _ _ hp
    cases nulls with
    | none => have := hlen.2 rfl (elemLayout_fixed_pos elemOid); omega
    | some bm => have := hbm bm rfl; omega

/-- non-vacuity of the hypothesis: a total element decoder exists (the opaque one used by the `arrays` family) -/
example : DecTotal (fun bs _ => .ok (.str bs)) := fun bs _ => ⟨.str bs, rfl⟩

/-- the int32 wrap-around is really modelled: dimensions 65536 × 65537 multiply to 65536, not to 2^32 + 65536 -/
example : wrap32 (65536 * 65537) = 65536 := by decide

end PgVerif.Props.C10.Arrays
