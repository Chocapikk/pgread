/-
  C10 (area block) — the block-range, segment and checksum entry points never fault, for every input.
  "No fault" = no Go panic (index / slice bounds / makeslice / divide by zero), no read beyond the slice
  handed to the function, and the loops' fuel is never exhausted.
  The models are those of the repaired code (/verif/fixes/block 01–11); before fixes 05/06
  ReadMultiSegmentFile and GlobalBlockToSegment did fault (`C10_witness_multiLoop` at the end: the loop body of
  ReadMultiSegmentFile without the guards of fix 05).
-/
import PgVerif.Proofs.BlockRead
import PgVerif.Proofs.BlockGrammar
import PgVerif.Proofs.SegmentMulti
import PgVerif.Proofs.ChecksumScan
import PgVerif.Proofs.HeapScan
namespace PgVerif.Props.C10.Block
open PgVerif PgVerif.Model PgVerif.Proofs PgVerif.Proofs.Block PgVerif.Proofs.SegmentMulti PgVerif.Proofs.ChecksumAcct

/-- ParseBlockRange returns (a range, nil or an error) for every byte string. -/
theorem C10_total_parseBlockRange (s : Bytes) : ∃ r, parseBlockRange s = .ok r := by
  by_cases hs : s = []
  · exact ⟨_, hs ▸ BlockGrammar.parseBlockRange_empty⟩
  · obtain ⟨e, he⟩ := BlockGrammar.parseBlockRange_grammar s hs
    exact ⟨_, he⟩

/-- ParseBlockInfo returns for every byte string and block number. -/
theorem C10_total_parseBlockInfo (data : Bytes) (bn : Nat) : ∃ r, parseBlockInfo data bn = .ok r :=
  parseBlockInfo_total data bn

/-- VerifyPageChecksum returns for every byte string, block number and checksum function. -/
theorem C10_total_verifyPageChecksum (ck : Bytes → Nat → Nat) (page : Bytes) (bn : Nat) :
    ∃ r, verifyPageChecksum ck page bn = .ok r :=
  ⟨_, verifyPageChecksum_eq ck page bn⟩

/-- computePageChecksum works on a copy that always has 8192 bytes = 2048 whole 4-byte words, whatever the length of the
input: so its constant-index writes (bytes 8 and 9) and its reads `pageCopy[i:i+4]` for `i = 0, 4, … 8188` are in range.
(A length fact about the copy, not a totality statement: the checksum function itself is the parameter `ck` of
`verifyPageChecksum`.) -/
theorem C10_computePageChecksum_copy_length (page : Bytes) :
    (pageCopy page).length = 8192 ∧ (words32 (pageCopy page)).length = 2048 := by
  refine ⟨pageCopy_length page, ?_⟩
  rw [words32_length, pageCopy_length]

/-- VerifyFileChecksums returns for every byte string, segment number and checksum function. -/
theorem C10_total_verifyFileChecksums (ck : Bytes → Nat → Nat) (data : Bytes) (seg : Nat) :
    ∃ r, verifyFileChecksums ck data seg = .ok r :=
  ⟨_, verifyFileChecksums_eq ck data seg⟩

/-- VerifyDataDirChecksums returns for every directory content. -/
theorem C10_total_verifyDataDirChecksums (ck : Bytes → Nat → Nat) (fs : DataDirFS) :
    ∃ r, verifyDataDirChecksums ck fs = .ok r := by
  cases h : fs.base with
  | none => exact ⟨_, verifyDataDirChecksums_noBase ck fs h⟩
  | some entries =>
    obtain ⟨l, hl, _⟩ := verifyDataDirChecksums_perm ck fs entries h
    exact ⟨_, hl⟩

/-- ReadBlockRange returns for every file (shorter than 2^62 bytes, or missing) and every pair of Go ints. -/
theorem C10_total_readBlockRange (file : Option Bytes) (hlen : ∀ f, file = some f → f.length < 2 ^ 62)
    (r : Option BlockRange) : ∃ res, readBlockRange file r = .ok res := by
  cases file with
  | none => exact ⟨_, rfl⟩
  | some f =>
    cases r with
    | none => exact ⟨_, readBlockRange_bytes f (hlen f rfl) none⟩
    | some br => exact ⟨_, readBlockRange_bytes f (hlen f rfl) (some (br.start, br.stop))⟩

/-- DumpBlockRange returns for every file content and every request: the block loop stays inside what ReadBlockRange
delivered. -/
theorem C10_total_dumpBlockRange (file : Option Bytes) (hlen : ∀ f, file = some f → f.length < 2 ^ 62)
    (r : Option BlockRange) : ∃ res, dumpBlockRange file r = .ok res := by
  unfold dumpBlockRange
  refine tot_bind (C10_total_readBlockRange file hlen r) fun res _ => ?_
  cases res with
  | error e => exact ⟨_, rfl⟩
  | ok data => exact tot_bind ⟨_, dumpBlocks_eq data (rangeStart r)⟩ fun _ _ => ⟨_, rfl⟩

/-- GetBlockRangeStats returns whenever DumpBlockRange does: the tally cannot fault. -/
theorem C10_total_getBlockRangeStats (file : Option Bytes) (hlen : ∀ f, file = some f → f.length < 2 ^ 62)
    (r : Option BlockRange) : ∃ res, getBlockRangeStats file r = .ok res := by
  unfold getBlockRangeStats
  refine tot_bind (C10_total_dumpBlockRange file hlen r) fun res _ => ?_
  cases res <;> exact ⟨_, rfl⟩

/-- DumpBinaryRange: the same loop with `hex.Dump` (any function) on every block. -/
theorem C10_total_dumpBinaryRange {α} (hexDump : Bytes → α) (file : Option Bytes)
    (hlen : ∀ f, file = some f → f.length < 2 ^ 62) (r : Option BlockRange) :
    ∃ res, dumpBinaryRange hexDump file r = .ok res := by
  unfold dumpBinaryRange
  refine tot_bind (C10_total_readBlockRange file hlen r) fun res _ => ?_
  cases res with
  | error e => exact ⟨_, rfl⟩
  | ok data => exact tot_bind ⟨_, dumpBinaryBlocks_eq hexDump data (rangeStart r)⟩ fun _ _ => ⟨_, rfl⟩

/-- DumpBinaryBlock returns for every file content and every Go int. -/
theorem C10_total_dumpBinaryBlock {α} (hexDump : Bytes → α) (file : Option Bytes)
    (hlen : ∀ f, file = some f → f.length < 2 ^ 62) (n : Int) :
    ∃ res, dumpBinaryBlock hexDump file n = .ok res := by
  unfold dumpBinaryBlock
  refine tot_ite (fun _ => ⟨_, rfl⟩) fun _ => tot_bind (C10_total_readBlockRange file hlen (some ⟨n, n⟩)) fun res _ => ?_
  cases res <;> exact ⟨_, rfl⟩

/-- ReadTuplesInRange returns for every file content, request and switch: ReadTuples never faults on what ReadBlockRange
delivered. -/
theorem C10_total_readTuplesInRange (file : Option Bytes) (hlen : ∀ f, file = some f → f.length < 2 ^ 62)
    (r : Option BlockRange) (inc : Bool) : ∃ res, readTuplesInRange file r inc = .ok res := by
  unfold readTuplesInRange
  refine tot_bind (C10_total_readBlockRange file hlen r) fun res _ => ?_
  cases res with
  | error e => exact ⟨_, rfl⟩
  | ok data =>
    exact tot_bind (readTuples_total data (!inc)) fun _ _ => ⟨_, rfl⟩

/-- ReadMultiSegmentFile (after fix 05) returns for EVERY set of segment files, every pair of Go ints and every
option value: no division by zero, no index out of range, the loop terminates within its fuel. -/
theorem C10_total_readMultiSegmentFile (fs : SegFS) (a b : Int) (opts : Option SegmentOptions) :
    ∃ r, readMultiSegmentFile fs a b opts = .ok r := by
  rw [readMultiSegmentFile_unfold]
  refine tot_ite (fun _ => ⟨_, rfl⟩) fun _ => tot_ite (fun _ => ⟨_, rfl⟩) fun hb => tot_ite (fun _ => ⟨_, rfl⟩) fun ha => ?_
  exact tot_bind (multiLoop_total fs (listSegments fs) _ b opts (Int.not_le.mp hb) _ a (by omega) (Nat.le_succ _))
    fun _ _ => ⟨_, rfl⟩

/-- GlobalBlockToSegment (after fix 06) returns for every pair of Go ints. -/
theorem C10_total_globalBlockToSegment (g sz : Int) : ∃ r, globalBlockToSegment g sz = .ok r :=
  ⟨_, globalBlockToSegment_eq g sz⟩

/-- Block isolation for checksum verification: damage confined to one block does not change what is
reported for the others (arbitrary bytes, any checksum function). -/
theorem C10_isolate_checksum (ck : Bytes → Nat → Nat) (data data' : Bytes) (seg j : Nat)
    (hlen : data.length = data'.length) (hsame : ∀ i, i ≠ j → chunk data i = chunk data' i) :
    (fileResult ck data seg).errors.filter (fun e => e.blockNumber != blockNum seg j) =
      (fileResult ck data' seg).errors.filter (fun e => e.blockNumber != blockNum seg j) :=
  errors_isolated ck data data' seg j hlen hsame

/-- Why fixes 05/06 were needed — the loop body of the UNREPAIRED ReadMultiSegmentFile faults: with a segment
size below one block `blocksPerSegment` is 0 and the division panics; with a start ≤ −blocksPerSegment the
segment index is negative and `segments[segIdx]` panics.  (Witnesses replayed on the unpatched code:
`ReadMultiSegmentFile(p, 0, 1, &SegmentOptions{SegmentSize: 100})` → integer divide by zero;
`ReadMultiSegmentFile(p, -3, 1, &SegmentOptions{SegmentSize: 16384})` → index out of range [-1];
`GlobalBlockToSegment(5, 100)` → integer divide by zero.) -/
theorem C10_witness_multiLoop :
    multiLoop [some []] (listSegments [some []]) 0 1 none 3 0 = .error .divZero ∧
    multiLoop [some []] (listSegments [some []]) 2 1 none 3 (-3) = .error .index := by
  constructor <;> rfl

end PgVerif.Props.C10.Block
