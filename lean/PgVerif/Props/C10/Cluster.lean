/-
  C10 (area cluster) — the catalog parsers, both dump paths and the remote client never fault on ANY bytes,
  relative to a total row reader: every function of catalog.go / pgdump.go / remote.go is list processing on
  top of `ReadRows` (and, for a table without columns, `ReadTuples`, which never faults: area `heap`), so the only way
  it can panic is through `ReadRows` (area `rows`: `C10.Rows.C10_total_readRows` shows ReadRows total for every total
  scalar decoder; `C01_dump_returns` plugs it in).  No well-formedness of any file is assumed.
-/
import PgVerif.Model.RemoteCold
import PgVerif.Proofs.HeapFile
import PgVerif.Proofs.DeletedScan
namespace PgVerif.Props.C10.Cluster
open PgVerif PgVerif.Model PgVerif.Proofs

/-- a row reader that returns on every input -/
def TotalReader (rr : RowReader) : Prop := ∀ data cols vis, ∃ r, rr data cols vis = .ok r

-- ReadRows itself is such a reader for every total scalar decoder: `PgVerif.Props.C10.Rows.C10_total_readRows` (area `rows`).

/-- ParsePGDatabase returns for every byte string. -/
theorem C10_total_parsePGDatabase (rr : RowReader) (h : TotalReader rr) (data : Bytes) :
    ∃ r, parsePGDatabase rr data = .ok r :=
  tot_bind (h data schemaPGDatabase true) fun _ _ => ⟨_, rfl⟩

/-- ParsePGClass returns for every byte string. -/
theorem C10_total_parsePGClass (rr : RowReader) (h : TotalReader rr) (data : Bytes) :
    ∃ r, parsePGClass rr data = .ok r :=
  tot_bind (h data schemaPGClass true) fun _ _ => ⟨_, rfl⟩

/-- readAttrRowsWithDropped (the automatic choice between the three pg_attribute layouts) returns for every byte string. -/
theorem C10_total_catReadAttrRowsAuto (rr : RowReader) (h : TotalReader rr) (data : Bytes) :
    ∃ r, catReadAttrRowsAuto rr data = .ok r :=
  tot_bind (h _ _ _) fun _ _ => tot_bind (h _ _ _) fun _ _ => tot_bind (h _ _ _) fun _ _ => ⟨_, rfl⟩

/-- readAttrRows returns for every byte string and every version hint. -/
theorem C10_total_readAttrRows (rr : RowReader) (h : TotalReader rr) (data : Bytes) (v : Int) :
    ∃ r, readAttrRows rr data v = .ok r := by
  unfold readAttrRows
  exact tot_ite (fun _ => h _ _ _) fun _ => tot_ite (fun _ => h _ _ _) fun _ => tot_ite (fun _ => h _ _ _) fun _ =>
    C10_total_catReadAttrRowsAuto rr h data

/-- ParsePGAttribute returns for every byte string and every version hint. -/
theorem C10_total_parsePGAttribute (rr : RowReader) (h : TotalReader rr) (data : Bytes) (v : Int) :
    ∃ r, parsePGAttribute rr data v = .ok r :=
  tot_bind (C10_total_readAttrRows rr h data v) fun _ _ => ⟨_, rfl⟩

/-- readTableRows returns for every byte string and every column list (none included). -/
theorem C10_total_readTableRows (rr : RowReader) (h : TotalReader rr) (data : Bytes) (cols : List Column) :
    ∃ r, readTableRows rr data cols = .ok r := by
  unfold readTableRows
  exact tot_ite (fun _ => h data cols true) fun _ =>
    tot_bind (readTuples_total data true) fun _ _ => ⟨_, rfl⟩

/-- dumpTable returns whatever the catalog says about the table and whatever the file reader hands back
(garbage, nothing, an error). -/
theorem C10_total_dumpTable (rr : RowReader) (h : TotalReader rr) (fn : Nat) (info : TableInfo) (attrs : List AttrInfo)
    (reader : Option FileReader) (o : Spec.Options) : ∃ r, dumpTable rr fn info attrs reader o = .ok r :=
  DeletedScan.dumpTableRows_total _ (C10_total_readTableRows rr h) fn info attrs reader o

/-- DumpDatabaseFromFiles returns for arbitrary catalog bytes, any file reader (including nil and one that
returns garbage or errors) and all options. -/
theorem C10_total_dumpDatabaseFromFiles (rr : RowReader) (h : TotalReader rr) (π : MapOrder TableInfo)
    (classData attrData : Bytes) (reader : Option FileReader) (o : Spec.Options) :
    ∃ r, dumpDatabaseFromFiles rr π classData attrData reader o = .ok r :=
  DeletedScan.dumpDatabaseFromFilesRows_total rr _ (C10_total_readTableRows rr h) (C10_total_parsePGClass rr h)
    (C10_total_parsePGAttribute rr h) π classData attrData reader o

/-- DumpDataDir returns (a result or the read error of global/1262) for every file tree whatsoever. -/
theorem C10_total_dumpDataDir (rr : RowReader) (h : TotalReader rr) (π : MapOrder TableInfo)
    (fs : Bytes → Option Bytes) (o : Spec.Options) : ∃ r, dumpDataDir rr π fs o = .ok r :=
  DeletedScan.dumpDataDirRows_total rr _ (C10_total_readTableRows rr h) (C10_total_parsePGDatabase rr h)
    (C10_total_parsePGClass rr h) (C10_total_parsePGAttribute rr h) π fs o

/-- RemoteClient.Databases (cache-free meaning) returns for every remote reader. -/
theorem C10_total_databasesCold (rr : RowReader) (h : TotalReader rr) (fs : RemoteReader) :
    ∃ r, databasesCold rr fs = .ok r := by
  unfold databasesCold
  cases fs pathGlobal1262 with
  | none => exact ⟨_, rfl⟩
  | some d => exact C10_total_parsePGDatabase rr h d

/-- RemoteClient.loadCatalog (cache-free meaning) returns for every remote reader and database oid. -/
theorem C10_total_catalogCold (rr : RowReader) (h : TotalReader rr) (fs : RemoteReader) (db : Nat) :
    ∃ r, catalogCold rr fs db = .ok r := by
  unfold catalogCold
  cases fs (basePath db 1259) with
  | none => exact ⟨_, rfl⟩
  | some cd =>
    refine tot_bind (C10_total_parsePGClass rr h cd) fun t _ => ?_
    cases fs (basePath db 1249) with
    | none => exact ⟨_, rfl⟩
    | some ad => exact tot_bind (C10_total_parsePGAttribute rr h ad (rcVersionInt fs)) fun _ _ => ⟨_, rfl⟩

/-- RemoteClient.Query returns for every table descriptor, column list, projection and limit. -/
theorem C10_total_queryWith (rr : RowReader) (h : TotalReader rr) (fs : RemoteReader) (db : Nat) (t : Option TableInfo)
    (attrs : List AttrInfo) (o : Option QueryOptions) : ∃ r, queryWith rr fs db t attrs o = .ok r := by
  unfold queryWith
  cases t with
  | none => exact ⟨_, rfl⟩
  | some t =>
    refine tot_ite (fun _ => ⟨_, rfl⟩) fun _ => ?_
    cases fs (basePath db t.filenode) with
    | none => exact ⟨_, rfl⟩
    | some data => exact tot_bind (C10_total_readTableRows rr h data _) fun _ _ => ⟨_, rfl⟩

/-- RemoteClient.DumpTable returns for every table descriptor. -/
theorem C10_total_dumpTableWith (rr : RowReader) (h : TotalReader rr) (fs : RemoteReader) (db : Nat) (t : TableInfo)
    (attrs : List AttrInfo) : ∃ r, dumpTableWith rr fs db t attrs = .ok r :=
  tot_bind (C10_total_queryWith rr h fs db (some t) attrs none) fun _ _ => ⟨_, rfl⟩

/-- A concrete total reader exists (so none of the above is vacuous): the reader that finds no rows. -/
example : TotalReader (fun _ _ _ => pure []) := fun _ _ _ => ⟨[], rfl⟩

end PgVerif.Props.C10.Cluster
