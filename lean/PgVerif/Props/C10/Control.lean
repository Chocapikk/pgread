/-
  C10 for area `control`: totality of the parsers of control.go, sequence.go and relmap.go (repaired tree):
  on every byte string the model returns a value or the error result — no Go panic (index / slice / divide
  fault) is reachable.  Helper lemmas in Proofs/Sequence.lean, Proofs/Control.lean, Proofs/Relmap.lean.
-/
import PgVerif.Proofs.Sequence
import PgVerif.Proofs.Control
import PgVerif.Proofs.Relmap
namespace PgVerif.Props.C10.Control
open PgVerif PgVerif.Proofs

/-- ParseControlFile returns (a record or the error) on every byte string. -/
theorem C10_total_parseControlFile (bs : Bytes) : ∃ r, Model.parseControlFile bs = .ok r := by
  by_cases h : bs.length < 296
  · exact ⟨none, by unfold Model.parseControlFile; rw [if_pos h]; rfl⟩
  · obtain ⟨s, hs⟩ := parseControlFile_ok bs (by omega)
    exact ⟨_, hs⟩

/-- ReadControlFile returns on every file system. -/
theorem C10_total_readControlFile (fs : String → Option Bytes) (dir : String) :
    ∃ r, Model.readControlFile fs dir = .ok r := by
  unfold Model.readControlFile
  split
  · exact ⟨none, rfl⟩
  · exact C10_total_parseControlFile _

/-- ParseSequenceFile returns on every byte string (after repair 07; before it a 23-byte tuple with an
out-of-range t_hoff panicked, see `witness_seq_panic`). -/
theorem C10_total_parseSequenceFile (bs : Bytes) : ∃ r, Model.parseSequenceFile bs = .ok r :=
  parseSequenceFile_total bs

/-- IsSequenceFile returns on every byte string. -/
theorem C10_total_isSequenceFile (bs : Bytes) : ∃ r, Model.isSequenceFile bs = .ok r :=
  ⟨_, isSequenceFile_eq bs⟩

/-- ParseRelMapFile returns on every byte string (with fixes/control/21: the constant reads `data[520:524]` /
`data[504:508]` are guarded by relMapIsV16's length test / the 512-byte test). -/
theorem C10_total_parseRelMapFile (bs : Bytes) : ∃ r, Model.parseRelMapFile bs = .ok r :=
  parseRelMapFile_total bs

/-- relMapIsV16 (fixes/control/21) returns on every byte string and every count — its slices `data[0:520]`,
`data[520:524]`, `data[0:504]`, `data[504:508]` are reached only with at least 524 bytes — and answers "16" only then,
which is what makes the caller's `data[520:524]` safe. -/
theorem C10_total_relMapIsV16 (bs : Bytes) (n : Int) :
    ∃ b, Model.relMapIsV16 bs n = .ok b ∧ (b = true → 524 ≤ bs.length) :=
  ⟨_, relMapIsV16_eq bs n, isV16Of_len bs n⟩

/-- The code as written was not total: a page with the sequence magic whose only tuple is 23 bytes long with
t_hoff = 0 makes `tupleData[24:]` panic (replayed on the real code by family seq_any_orig). -/
theorem witness_seq_panic : Model.Orig.parseSequenceFile seqPanicWitness = .error .slice := by
  rw [(seqPanicWitness_reads.parse (by decide) (by decide) (by decide)).2]
  rfl

end PgVerif.Props.C10.Control
