/-
  C10 — ScanAllDeletedRows never faults on ANY file tree, relative to a total row
  reader for the catalogs (`ReadRows`: `C10.Rows.C10_total_readRows`) and a total scalar decoder: the chain is list
  processing on top of ReadRows (catalogs) and ReadDeletedRows (tables).  No well-formedness of any file is assumed.
-/
import PgVerif.Proofs.DeletedScan
import PgVerif.Props.C10.Cluster
import PgVerif.Props.C10.Rows
namespace PgVerif.Props.C10.DeletedScan
open PgVerif PgVerif.Model PgVerif.Proofs PgVerif.Proofs.DeletedScan

/-- readDeletedTableRows returns for every byte string and every column list (none included). -/
theorem C10_total_readDeletedTableRows (dec : Dec) (hdec : C10.Rows.TotalDec dec) (data : Bytes) (cols : List Column) :
    ∃ r, readDeletedTableRows dec data cols = .ok r :=
  tot_map _ (C10.Rows.C10_total_readDeletedRows dec hdec data cols)

/-- ScanAllDeletedRows returns (a result or the read error of global/1262) for every file tree whatsoever, all
options and every iteration order of Go's maps. -/
theorem C10_total_scanAllDeletedRows (rr : RowReader) (h : C10.Cluster.TotalReader rr) (dec : Dec) (hdec : C10.Rows.TotalDec dec)
    (π : MapOrder TableInfo) (fs : Bytes → Option Bytes) (o : Spec.Options) :
    ∃ r, scanAllDeletedRows rr dec π fs o = .ok r :=
  dumpDataDirRows_total rr (readDeletedTableRows dec) (C10_total_readDeletedTableRows dec hdec)
    (C10.Cluster.C10_total_parsePGDatabase rr h) (C10.Cluster.C10_total_parsePGClass rr h)
    (C10.Cluster.C10_total_parsePGAttribute rr h) π fs o

/-- … in particular with ReadRows itself as the catalog reader. -/
theorem C10_total_scanAllDeletedRows_readRows (dec : Dec) (hdec : C10.Rows.TotalDec dec)
    (π : MapOrder TableInfo) (fs : Bytes → Option Bytes) (o : Spec.Options) :
    ∃ r, scanAllDeletedRows (readRows dec) dec π fs o = .ok r :=
  C10_total_scanAllDeletedRows (readRows dec) (fun data cols vis => C10.Rows.C10_total_readRows dec hdec data cols vis) dec hdec π fs o

end PgVerif.Props.C10.DeletedScan
