/-
  C10 (area dropped) — every function of pgdump/dropped.go returns on ANY bytes and ANY file tree, relative to a
  total row reader: dropped.go is list processing on top of `ReadRows` and the catalog parsers, so the only way it
  can panic is through `ReadRows` (area `rows`: `C10.Rows.C10_total_readRows` shows ReadRows total for every total
  scalar decoder; `C10_total_dropped_readRows` below plugs it in).  No well-formedness of any file is assumed: pg_database,
  pg_class, pg_attribute and the heap file are arbitrary byte strings, the file system an arbitrary partial function.
-/
import PgVerif.Model.Dropped
import PgVerif.Props.C10.Cluster
import PgVerif.Props.C10.Rows
import PgVerif.Proofs.CollectM
import PgVerif.Basic.Lemmas
namespace PgVerif.Props.C10.Dropped
open PgVerif PgVerif.Model PgVerif.Proofs
open PgVerif.Props.C10.Cluster (TotalReader C10_total_parsePGDatabase C10_total_parsePGClass)

/-- readAttrRowsWithDropped (three reads of pg_attribute, one per layout, and the choice between them) returns for
every byte string. -/
theorem C10_total_readAttrRowsWithDropped (rr : RowReader) (h : TotalReader rr) (data : Bytes) :
    ∃ r, readAttrRowsWithDropped rr data = .ok r := by
  unfold readAttrRowsWithDropped
  exact tot_bind (h data _ true) fun _ _ => tot_bind (h data _ true) fun _ _ => tot_bind (h data _ true) fun _ _ => ⟨_, rfl⟩

/-- parseDroppedColumns returns for every pg_attribute byte string and every table-name map. -/
theorem C10_total_parseDroppedColumns (rr : RowReader) (h : TotalReader rr) (data : Bytes) (names : List (Nat × Bytes)) :
    ∃ r, parseDroppedColumns rr data names = .ok r := by
  unfold parseDroppedColumns
  exact tot_bind (C10_total_readAttrRowsWithDropped rr h data) fun _ _ => ⟨_, rfl⟩

/-- parseAllAttributes returns for every pg_attribute byte string and every relation oid. -/
theorem C10_total_parseAllAttributes (rr : RowReader) (h : TotalReader rr) (data : Bytes) (relOID : Nat) :
    ∃ r, parseAllAttributes rr data relOID = .ok r := by
  unfold parseAllAttributes
  exact tot_bind (C10_total_readAttrRowsWithDropped rr h data) fun _ _ => ⟨_, rfl⟩

/-- FindDroppedColumns returns (a result or an error) for every file tree, database name and map iteration order. -/
theorem C10_total_findDroppedColumns (rr : RowReader) (h : TotalReader rr) (π : MapOrder TableInfo)
    (fs : Bytes → Option Bytes) (dbName : Bytes) : ∃ r, findDroppedColumns rr π fs dbName = .ok r := by
  unfold findDroppedColumns
  cases fs pathGlobal1262 with
  | none => exact ⟨_, rfl⟩
  | some dbData =>
    refine tot_bind (C10_total_parsePGDatabase rr h dbData) fun dbs _ => ?_
    cases drFindDb dbs dbName with
    | none => exact ⟨_, rfl⟩
    | some db =>
      dsimp only
      cases fs (basePath db.oid 1249) with
      | none => exact ⟨_, rfl⟩
      | some attrData =>
        dsimp only
        cases fs (basePath db.oid 1259) with
        | none => exact ⟨_, rfl⟩
        | some classData =>
          refine tot_bind (C10_total_parsePGClass rr h classData) fun tables _ => ?_
          exact tot_bind (C10_total_parseDroppedColumns rr h attrData _) fun _ _ => ⟨_, rfl⟩

/-- ScanDroppedColumns returns for every file tree. -/
theorem C10_total_scanDroppedColumns (rr : RowReader) (h : TotalReader rr) (π : MapOrder TableInfo)
    (fs : Bytes → Option Bytes) : ∃ r, scanDroppedColumns rr π fs = .ok r := by
  unfold scanDroppedColumns
  cases fs pathGlobal1262 with
  | none => exact ⟨_, rfl⟩
  | some dbData =>
    refine tot_bind (C10_total_parsePGDatabase rr h dbData) fun dbs _ => ?_
    refine tot_bind (collectM_total _ _ fun db => ?_) fun _ _ => ⟨_, rfl⟩
    unfold drScanOne
    refine tot_ite (fun _ => ⟨_, rfl⟩) fun _ => ?_
    refine tot_bind (C10_total_findDroppedColumns rr h π fs db.name) fun r _ => ?_
    cases r <;> exact ⟨_, rfl⟩

/-- GetDroppedColumnSchema returns for every file tree, database name and table name. -/
theorem C10_total_getDroppedColumnSchema (rr : RowReader) (h : TotalReader rr) (π : MapOrder TableInfo)
    (fs : Bytes → Option Bytes) (dbName tableName : Bytes) :
    ∃ r, getDroppedColumnSchema rr π fs dbName tableName = .ok r := by
  unfold getDroppedColumnSchema
  cases fs pathGlobal1262 with
  | none => exact ⟨_, rfl⟩
  | some dbData =>
    refine tot_bind (C10_total_parsePGDatabase rr h dbData) fun dbs _ => ?_
    cases drFindDb dbs dbName with
    | none => exact ⟨_, rfl⟩
    | some db =>
      dsimp only
      cases fs (basePath db.oid 1259) with
      | none => exact ⟨_, rfl⟩
      | some classData =>
        refine tot_bind (C10_total_parsePGClass rr h classData) fun tables _ => ?_
        cases drFindTable π tables tableName with
        | none => exact ⟨_, rfl⟩
        | some t =>
          refine tot_ite (fun _ => ⟨_, rfl⟩) fun _ => ?_
          cases fs (basePath db.oid 1249) with
          | none => exact ⟨_, rfl⟩
          | some attrData => exact tot_bind (C10_total_parseAllAttributes rr h attrData t.oid) fun _ _ => ⟨_, rfl⟩

/-- RecoverDroppedColumnData returns for every file tree (the heap file of the table included: any bytes), database
name, table name and attribute number (zero and negative ones too). -/
theorem C10_total_recoverDroppedColumnData (rr : RowReader) (h : TotalReader rr) (π : MapOrder TableInfo)
    (fs : Bytes → Option Bytes) (dbName tableName : Bytes) (attNum : Int) :
    ∃ r, recoverDroppedColumnData rr π fs dbName tableName attNum = .ok r := by
  unfold recoverDroppedColumnData
  cases fs pathGlobal1262 with
  | none => exact ⟨_, rfl⟩
  | some dbData =>
    refine tot_bind (C10_total_parsePGDatabase rr h dbData) fun dbs _ => ?_
    cases drFindDb dbs dbName with
    | none => exact ⟨_, rfl⟩
    | some db =>
      dsimp only
      cases fs (basePath db.oid 1259) with
      | none => exact ⟨_, rfl⟩
      | some classData =>
        refine tot_bind (C10_total_parsePGClass rr h classData) fun tables _ => ?_
        cases drFindTable π tables tableName with
        | none => exact ⟨_, rfl⟩
        | some t =>
          dsimp only
          cases fs (basePath db.oid 1249) with
          | none => exact ⟨_, rfl⟩
          | some attrData =>
            refine tot_bind (C10_total_parseAllAttributes rr h attrData t.oid) fun attrs _ => ?_
            cases attrs.find? (fun c => c.attNum == attNum) with
            | none => exact ⟨_, rfl⟩
            | some col =>
              dsimp only
              cases fs (basePath db.oid t.filenode) with
              | none => exact ⟨_, rfl⟩
              | some tableData => exact tot_bind (h tableData _ true) fun _ _ => ⟨_, rfl⟩

/-- ReadRows (area `rows`' model) with any total scalar decoder is a total reader … -/
theorem totalReader_readRows (dec : Dec) (hdec : Rows.TotalDec dec) : TotalReader (readRows dec) :=
  Rows.C10_total_readRows dec hdec

/-- … hence the four exported entry points of dropped.go, on top of the modelled ReadRows, return for every file
tree whatsoever, for every scalar decoder that itself returns. -/
theorem C10_total_dropped_readRows (dec : Dec) (hdec : Rows.TotalDec dec) (π : MapOrder TableInfo)
    (fs : Bytes → Option Bytes) (dbName tableName : Bytes) (attNum : Int) :
    (∃ r, findDroppedColumns (readRows dec) π fs dbName = .ok r) ∧
    (∃ r, scanDroppedColumns (readRows dec) π fs = .ok r) ∧
    (∃ r, getDroppedColumnSchema (readRows dec) π fs dbName tableName = .ok r) ∧
    (∃ r, recoverDroppedColumnData (readRows dec) π fs dbName tableName attNum = .ok r) :=
  have h := totalReader_readRows dec hdec
  ⟨C10_total_findDroppedColumns _ h π fs dbName, C10_total_scanDroppedColumns _ h π fs,
   C10_total_getDroppedColumnSchema _ h π fs dbName tableName,
   C10_total_recoverDroppedColumnData _ h π fs dbName tableName attNum⟩

/-- the hypotheses are satisfiable: the decoder that renders nothing is total -/
example : Rows.TotalDec (fun _ _ => pure .nil) := fun _ _ => ⟨_, rfl⟩

end PgVerif.Props.C10.Dropped
