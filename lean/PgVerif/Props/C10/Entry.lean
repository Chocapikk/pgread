/-
  C10 (area "entry"; /verif/C10_COVERAGE.md is the table of exported entry points) — totality of the path-taking wrappers of
  relmap.go and sequence.go, of GetRecentWALRecords for every limit, and the CLOSED form of DecodeType / DecodeTuple / ReadRows / the catalog parsers, in which the
  decoder parameters of the per-area theorems (`hdec`, `hext`, `TotalReader`) are discharged.
  No well-formedness of any input is assumed anywhere in this module.
-/
import PgVerif.Proofs.EntryWrappers
import PgVerif.Proofs.EntryClosed
import PgVerif.Props.C10.Rows
import PgVerif.Props.C10.Cluster
import PgVerif.Props.C10.Wal
namespace PgVerif.Props.C10.Entry
open PgVerif PgVerif.Proofs PgVerif.Proofs.Entry

/-! ## relmap.go: the file-reading wrappers -/

/-- ReadGlobalRelMap returns (a map, or the error) for every file system and data directory: the file may be
missing, empty, truncated or arbitrary bytes. -/
theorem C10_total_readGlobalRelMap (fs : String → Option Bytes) (dir : String) :
    ∃ r, Model.readGlobalRelMap fs dir = .ok r :=
  readGlobalRelMap_total fs dir

/-- ReadDatabaseRelMap returns for every file system, data directory and database oid. -/
theorem C10_total_readDatabaseRelMap (fs : String → Option Bytes) (dir : String) (db : Nat) :
    ∃ r, Model.readDatabaseRelMap fs dir db = .ok r :=
  readDatabaseRelMap_total fs dir db

/-- ReadAllRelMaps returns for every file system and whatever ParsePGDatabase makes of global/1262 (any list of
database oids: duplicates, zero, oids without a directory). -/
theorem C10_total_readAllRelMaps (fs : String → Option Bytes) (parseDatabase : Bytes → List Nat) (dir : String) :
    ∃ r, Model.readAllRelMaps fs parseDatabase dir = .ok r :=
  readAllRelMaps_total fs parseDatabase dir

/-! ## sequence.go: the cluster-level functions -/

/-- FindSequences returns (a list, or the error) for every file system, every result of the two catalog parsers
(any database list, any relation list: duplicates, zero oids, sequences without a file or with a damaged one) and every
database name. -/
theorem C10_total_findSequences (env : Model.SeqEnv) (dir : String) (db : Bytes) :
    ∃ r, Model.findSequences env dir db = .ok r :=
  findSequences_total env dir db

/-- ScanAllSequences returns for every file system and every result of the catalog parsers. -/
theorem C10_total_scanAllSequences (env : Model.SeqEnv) (dir : String) :
    ∃ r, Model.scanAllSequences env dir = .ok r :=
  scanAllSequences_total env dir

/-- non-vacuity: an environment in which FindSequences reaches a (damaged) sequence file and still returns -/
example : Model.findSequences
    { fs := fun p => if p == "D/global/1262" then some [] else if p == "D/base/5/1259" then some [] else some [1, 2, 3],
      parseDatabase := fun _ => [⟨5, [100]⟩], parseClass := fun _ => [⟨7, 7, [115], [83]⟩] } "D" [100] = .ok (some []) := by
  rfl

/-! ## wal.go: GetRecentWALRecords for every limit

The clamp of fixes/entry/01 (`if limit < 0 { limit = 0 }`) is part of area wal's model (Model/Wal.lean `getRecentWALRecords`):
`C10.Wal.C10_total_getRecentWALRecords` holds for every limit, and `C10.Wal.C10_getRecentWALRecords_negative_limit_before_fix`
is the witness against the code without it.  The definition below states the clamp by itself, in front of that model
(clamping twice is clamping once). -/

/-- the clamp of fixes/entry/01, `if limit < 0 { limit = 0 }`, in front of area wal's model of GetRecentWALRecords (which contains it) -/
def getRecentWALRecordsClamped (dir : Model.Wal.Dir) (limit : Int) : M (List Model.Wal.Record) :=
  Model.Wal.getRecentWALRecords dir (if limit < 0 then 0 else limit)

/-- With this second clamp in front, as without it (`Wal.C10_total_getRecentWALRecords`, of which this is an instance), the model
returns for every directory content and EVERY limit. -/
theorem C10_total_getRecentWALRecords_clamped (dir : Model.Wal.Dir) (limit : Int) :
    ∃ r, getRecentWALRecordsClamped dir limit = .ok r := by
  unfold getRecentWALRecordsClamped
  exact Wal.C10_total_getRecentWALRecords dir _

/-- The second clamp changes nothing for a limit ≥ 0 (nor for a negative one, since the model clamps: the hypothesis is what this
proof uses, not what the equation needs). -/
theorem getRecentWALRecordsClamped_eq (dir : Model.Wal.Dir) (limit : Int) (h : 0 ≤ limit) :
    getRecentWALRecordsClamped dir limit = Model.Wal.getRecentWALRecords dir limit := by
  unfold getRecentWALRecordsClamped
  rw [if_neg (by omega)]

/-- … and turns the panic into an empty answer: the witness of `C10_getRecentWALRecords_negative_limit_before_fix`, clamped. -/
example : getRecentWALRecordsClamped [] (-1) = .ok [] := by rfl

/-! ## DecodeType and everything above it, closed

The per-area totality theorems are relative: `C10.Scalars.C10_total_decodeType` assumes the array / numeric / jsonb
decoders return, `C10.Arrays.C10_total_decodeArray` assumes the element decoder returns, `C10.Rows.*` assume the value
decoder returns, `C10.Cluster.*` assume the row reader returns.  Below the assumptions are discharged against each
other: `decodeTypeC X` (Proofs/EntryClosed.lean) is the model of types.go:DecodeType with the array, numeric and JSONB
models plugged into the scalar model and the array elements decoded by DecodeType itself. -/

/-- DecodeType — the closed model: scalar switch + ranges (area scalars), arrays with elements decoded by DecodeType
(area arrays), numeric and JSONB (area numjson) — returns for EVERY byte string and EVERY type oid.  No hypothesis. -/
theorem C10_closed_decodeType (X : Render) (data : Bytes) (oid : Nat) : ∃ r, decodeTypeC X data oid = .ok r :=
  decodeTypeN_total X 2 data oid

/-- The closed model is a fixed point of DecodeType's recursion: it equals the scalar model whose array branch calls
decodeArray with the closed model itself as element decoder.  (The unrolling that defines it is stationary from depth 2,
`decodeTypeN_stable`, because no element type of `arrayElemTypes` is an array type.)  So the theorem above is about
the function the Go code computes, not about a truncation of it. -/
theorem C10_closed_decodeType_fixpoint (X : Render) :
    decodeTypeC X = fun data oid => Model.Scalars.decodeType (extOf X (decodeTypeC X)) data oid :=
  (decodeTypeN_stable X 1).symm

/-- decodeArray with DecodeType as its element decoder returns for every byte string and every element oid. -/
theorem C10_closed_decodeArray (X : Render) (raw : Bytes) (elemOid : Nat) :
    ∃ r, Model.Arrays.decodeArray (decodeTypeC X) raw elemOid = .ok r :=
  Proofs.Arrays.decodeArray_total _ (decodeTypeN_total X 2) raw elemOid

/-- the value decoder of heap.go (column type ids are Go ints: a negative id is in no table of types.go and takes
the `default` branch, like id 0) -/
def rowsDec (X : Render) : Model.Dec := fun b t => decodeTypeC X b t.toNat

theorem rowsDec_total (X : Render) : Rows.TotalDec (rowsDec X) := fun b t => C10_closed_decodeType X b t.toNat

/-- DecodeTuple with the closed DecodeType returns for every tuple and every schema. -/
theorem C10_closed_decodeTuple (X : Render) (t : Model.HeapTuple) (cols : List Model.Column) :
    ∃ r, Model.decodeTuple (rowsDec X) t cols = .ok r :=
  Rows.C10_total_decodeTuple _ (rowsDec_total X) t cols

/-- ReadRows with the closed DecodeType returns for every byte string, every schema, both visibility settings. -/
theorem C10_closed_readRows (X : Render) (data : Bytes) (cols : List Model.Column) (vis : Bool) :
    ∃ r, Model.readRows (rowsDec X) data cols vis = .ok r :=
  Rows.C10_total_readRows _ (rowsDec_total X) data cols vis

/-- ReadDeletedRows / ReadRowsWithDeleted with the closed DecodeType return for every byte string and schema. -/
theorem C10_closed_readDeletedRows (X : Render) (data : Bytes) (cols : List Model.Column) :
    ∃ r, Model.readDeletedRows (rowsDec X) data cols = .ok r :=
  Rows.C10_total_readDeletedRows _ (rowsDec_total X) data cols

theorem C10_closed_readRowsWithDeleted (X : Render) (data : Bytes) (cols : List Model.Column) :
    ∃ r, Model.readRowsWithDeleted (rowsDec X) data cols = .ok r :=
  Rows.C10_total_readRowsWithDeleted _ (rowsDec_total X) data cols

/-- ReadRows is a total row reader in the sense of area cluster: every theorem of `Props.C10.Cluster` applies to it. -/
theorem C10_closed_reader (X : Render) : Cluster.TotalReader (Model.readRows (rowsDec X)) :=
  fun data cols vis => C10_closed_readRows X data cols vis

/-- The three catalog parsers, closed: they return for every byte string (and version hint). -/
theorem C10_closed_catalogs (X : Render) (data : Bytes) (v : Int) :
    (∃ r, Model.parsePGDatabase (Model.readRows (rowsDec X)) data = .ok r) ∧
    (∃ r, Model.parsePGClass (Model.readRows (rowsDec X)) data = .ok r) ∧
    (∃ r, Model.parsePGAttribute (Model.readRows (rowsDec X)) data v = .ok r) :=
  ⟨Cluster.C10_total_parsePGDatabase _ (C10_closed_reader X) data, Cluster.C10_total_parsePGClass _ (C10_closed_reader X) data,
   Cluster.C10_total_parsePGAttribute _ (C10_closed_reader X) data v⟩

/-- DumpDatabaseFromFiles and DumpDataDir, closed: they return for arbitrary catalog bytes, any file reader / file
tree and all options. -/
theorem C10_closed_dump (X : Render) (π : Model.MapOrder Model.TableInfo) (o : Spec.Options) :
    (∀ classData attrData reader, ∃ r, Model.dumpDatabaseFromFiles (Model.readRows (rowsDec X)) π classData attrData reader o = .ok r) ∧
    (∀ fs, ∃ r, Model.dumpDataDir (Model.readRows (rowsDec X)) π fs o = .ok r) :=
  ⟨fun c a rd => Cluster.C10_total_dumpDatabaseFromFiles _ (C10_closed_reader X) π c a rd o,
   fun fs => Cluster.C10_total_dumpDataDir _ (C10_closed_reader X) π fs o⟩

/-- renderers exist: the one that renders nothing -/
def trivialRender : Render := ⟨fun _ => .nil, fun _ => .nil, fun _ => none⟩
/-- non-vacuity: the closed model really decodes — an int4[] value {7} through the array branch and the element through the
scalar switch -/
example : decodeTypeC trivialRender (le 4 1 ++ le 4 0 ++ le 4 23 ++ le 4 1 ++ le 4 1 ++ le 4 7) 1007 = .ok (.arr [.int 7]) := by
  rfl

end PgVerif.Props.C10.Entry
