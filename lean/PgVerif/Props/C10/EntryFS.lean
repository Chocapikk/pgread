/-
  C10 (area "entry") — "never hangs" at the level of the FILE SYSTEM (fixes entry/02, 03, 04).

  Model: `Model/ExtraFS.lean` — a path names a `Kind` (regular bytes / fifo / endless device / directory / missing) and a
  read has the outcomes data / err / `blocks` (= the call does not return).

    * the code up to a054878 read the fixed-name files of a data directory with os.ReadFile: it can block
      (`C10_osReadFile_blocks`, exactly on a fifo or an endless device: `C10_osReadFile_blocks_iff`);
    * `readRegularFile` (pgdump/readfile.go) returns for EVERY kind (`C10_readRegularFile_never_blocks`), and wherever
      os.ReadFile returned it returns the same (`C10_readRegularFile_unchanged`); a link to a regular file is a regular
      file for it (`C10_readRegularFile_regular`: `Kind` is what the path resolves to);
    * the `path → Option Bytes` readers the models of the entry points take are exactly what readRegularFile hands over
      (`view`, `C10_view_iff`), so the existing totality theorems apply to EVERY kind-level file system: the corollaries
      `C10_anyKind_*` (no hypothesis about any file);
    * directory scans: the old filter `!e.IsDir()` selects entries whose read never returns
      (`C10_oldScan_blocks`); the new filter `e.Type().IsRegular()` selects only entries of type regular
      (`C10_newSelect_regular`), no read of a selected entry blocks (`C10_newSelect_read_returns`), the scan always
      finishes (`C10_newScan_returns`), and on a directory that holds only regular files and directories — everything
      PostgreSQL creates in base/<db>, global and pg_wal — both filters select the same entries and the scan gives the same
      result (`C10_scan_unchanged`).
-/
import PgVerif.Proofs.ExtraFS
import PgVerif.Props.C10.Extra
import PgVerif.Props.C10.Dropped
import PgVerif.Props.C10.DeletedScan
namespace PgVerif.Props.C10.EntryFS
open PgVerif PgVerif.Model PgVerif.Model.FSKind
open PgVerif.Proofs.ExtraFS (readRegularFile_eq view_eq newSelect_target readEntry_regular)

/-! ## os.ReadFile and readRegularFile -/

/-- os.ReadFile does not return exactly when the path resolves to a FIFO or an endless device. -/
theorem C10_osReadFile_blocks_iff {π} (fs : FS π) (p : π) :
    osReadFile fs p = .blocks ↔ (fs p = .fifo ∨ fs p = .endless) := by
  unfold osReadFile
  cases h : fs p <;> simp

/-- The old read can block: there is a file system (one FIFO at the path) on which os.ReadFile never returns. -/
theorem C10_osReadFile_blocks : ∃ (fs : FS String) (p : String), osReadFile fs p = .blocks :=
  ⟨fun p => if p = "global/1262" then .fifo else .missing, "global/1262",
    (C10_osReadFile_blocks_iff _ _).mpr (Or.inl (if_pos rfl))⟩

/-- readRegularFile returns — data or an error — whatever the path names. -/
theorem C10_readRegularFile_never_blocks {π} (fs : FS π) (p : π) : readRegularFile fs p ≠ .blocks := by
  rw [readRegularFile_eq]
  split <;> simp

/-- Wherever os.ReadFile returned (data or error), readRegularFile returns the same. -/
theorem C10_readRegularFile_unchanged {π} (fs : FS π) (p : π) (h : osReadFile fs p ≠ .blocks) :
    readRegularFile fs p = osReadFile fs p := by
  rw [readRegularFile_eq]
  unfold osReadFile at *
  cases hk : fs p <;> simp_all

/-- the hypothesis of `C10_readRegularFile_unchanged` is met by a regular file and by a directory -/
example : osReadFile (fun (_ : String) => Kind.regular [1, 2]) "x" ≠ .blocks := by decide
example : osReadFile (fun (_ : String) => Kind.dir) "x" ≠ .blocks := by decide

/-- A regular file — reached directly or through symbolic links — is read as before. -/
theorem C10_readRegularFile_regular {π} (fs : FS π) (p : π) (b : Bytes) (h : fs p = .regular b) :
    readRegularFile fs p = .data b := by
  rw [readRegularFile_eq, h]

example : (fun (_ : String) => Kind.regular [7]) "x" = Kind.regular [7] := rfl

/-- Everything that is not a regular file is an error, exactly like a missing file. -/
theorem C10_readRegularFile_nonregular {π} (fs : FS π) (p : π) (h : (fs p).isRegular = false) :
    readRegularFile fs p = .err := by
  rw [readRegularFile_eq]
  cases hk : fs p <;> simp_all [Kind.isRegular]

example : (Kind.fifo).isRegular = false := rfl

/-- The reader handed to the models is defined for a path exactly when it names a regular file, and gives its bytes. -/
theorem C10_view_iff {π} (fs : FS π) (p : π) (b : Bytes) : view fs p = some b ↔ fs p = .regular b := by
  rw [view_eq]
  cases fs p <;> simp

/-- A FIFO, a device and a directory are indistinguishable from a missing file for every entry point that reads through
readRegularFile: the reader of a file system equals the reader of the same file system with those paths removed. -/
theorem C10_view_nonregular_as_missing {π} (fs : FS π) :
    view fs = view (fun p => if (fs p).isRegular then fs p else .missing) := by
  funext p
  rw [view_eq, view_eq]
  cases fs p <;> rfl

/-! ## the entry points on an arbitrary kind-level file system

Their models take the reader as a parameter and their totality theorems hold for every reader; with `view fs` as the
reader they are statements about every data directory in which ANY path may be a FIFO, a device, a directory or missing. -/

theorem C10_anyKind_readControlFile (fs : FS String) (dir : String) :
    ∃ r, Model.readControlFile (view fs) dir = .ok r :=
  Control.C10_total_readControlFile (view fs) dir

theorem C10_anyKind_readGlobalRelMap (fs : FS String) (dir : String) :
    ∃ r, Model.readGlobalRelMap (view fs) dir = .ok r :=
  Entry.C10_total_readGlobalRelMap (view fs) dir

theorem C10_anyKind_readDatabaseRelMap (fs : FS String) (dir : String) (db : Nat) :
    ∃ r, Model.readDatabaseRelMap (view fs) dir db = .ok r :=
  Entry.C10_total_readDatabaseRelMap (view fs) dir db

theorem C10_anyKind_readAllRelMaps (fs : FS String) (parseDatabase : Bytes → List Nat) (dir : String) :
    ∃ r, Model.readAllRelMaps (view fs) parseDatabase dir = .ok r :=
  Entry.C10_total_readAllRelMaps (view fs) parseDatabase dir

theorem C10_anyKind_findSequences (fs : FS String) (env : Model.SeqEnv) (dir : String) (db : Bytes) :
    ∃ r, Model.findSequences { env with fs := view fs } dir db = .ok r :=
  Entry.C10_total_findSequences _ dir db

theorem C10_anyKind_scanAllSequences (fs : FS String) (env : Model.SeqEnv) (dir : String) :
    ∃ r, Model.scanAllSequences { env with fs := view fs } dir = .ok r :=
  Entry.C10_total_scanAllSequences _ dir

theorem C10_anyKind_extractPasswords (fs : FS Bytes) : ∃ r, Model.Extra.extractPasswords (view fs) = .ok r :=
  (Extra.C10_total_extractPasswords (view fs)).2

theorem C10_anyKind_dumpDataDir (X : Proofs.Entry.Render) (π : MapOrder TableInfo) (fs : FS Bytes) (o : Spec.Options) :
    ∃ r, Model.dumpDataDir (Extra.closedRR X) π (view fs) o = .ok r :=
  Cluster.C10_total_dumpDataDir _ (Entry.C10_closed_reader X) π (view fs) o

theorem C10_anyKind_listDatabases (X : Proofs.Entry.Render) (fs : FS Bytes) :
    ∃ r, Model.Extra.listDatabases (Extra.closedRR X) (view fs) = .ok r :=
  Extra.C10_closed_listDatabases X (view fs)

theorem C10_anyKind_analyzeTOAST (X : Proofs.Entry.Render) (fs : FS Bytes) (dbName : Bytes) :
    ∃ r, Model.Extra.analyzeTOAST (Extra.closedRR X) (view fs) dbName = .ok r :=
  Extra.C10_closed_analyzeTOAST X (view fs) dbName

theorem C10_anyKind_quickSearch (R : Spec.Search.Regex) (sh : GoVal → Bytes) (X : Proofs.Entry.Render)
    (π : MapOrder TableInfo) (fs : FS Bytes) (pattern : Bytes) :
    ∃ r, Model.Extra.quickSearchDir R sh (Extra.closedRR X) π (view fs) pattern = .ok r :=
  Extra.C10_closed_quickSearchDir R sh X π (view fs) pattern

theorem C10_anyKind_scanAllDeletedRows (X : Proofs.Entry.Render) (π : MapOrder TableInfo) (fs : FS Bytes)
    (o : Spec.Options) :
    ∃ r, Model.scanAllDeletedRows (Extra.closedRR X) (Entry.rowsDec X) π (view fs) o = .ok r :=
  DeletedScan.C10_total_scanAllDeletedRows_readRows (Entry.rowsDec X) (Entry.rowsDec_total X) π (view fs) o

theorem C10_anyKind_findDroppedColumns (X : Proofs.Entry.Render) (π : MapOrder TableInfo) (fs : FS Bytes)
    (dbName : Bytes) : ∃ r, Model.findDroppedColumns (Extra.closedRR X) π (view fs) dbName = .ok r :=
  Dropped.C10_total_findDroppedColumns _ (Entry.C10_closed_reader X) π (view fs) dbName

theorem C10_anyKind_scanDroppedColumns (X : Proofs.Entry.Render) (π : MapOrder TableInfo) (fs : FS Bytes) :
    ∃ r, Model.scanDroppedColumns (Extra.closedRR X) π (view fs) = .ok r :=
  Dropped.C10_total_scanDroppedColumns _ (Entry.C10_closed_reader X) π (view fs)

/-! ## directory scans (checksum.go, wal.go) -/

/-- The old filter lets a scan hang: a directory with ONE entry — a FIFO named like a relation file or a WAL segment —
passes `!e.IsDir()`, and the read of it never returns. -/
theorem C10_oldScan_blocks :
    ∃ es : List Entry, (∀ e ∈ es, e.consistent = true) ∧ FSKind.scan oldSelect es = none :=
  ⟨[⟨[49, 54, 51, 56, 52], .fifo, .fifo⟩], by decide, by decide⟩

/-- … and so does a symbolic link to a FIFO. -/
theorem C10_oldScan_blocks_link :
    ∃ es : List Entry, (∀ e ∈ es, e.consistent = true) ∧ FSKind.scan oldSelect es = none :=
  ⟨[⟨[49, 54, 51, 56, 52], .symlink, .fifo⟩], by decide, by decide⟩

/-- The new filter selects entries of type regular only. -/
theorem C10_newSelect_regular (es : List Entry) : ∀ e ∈ es.filter newSelect, e.type = .regular := by
  intro e he
  have := (List.mem_filter.mp he).2
  simpa [newSelect] using this

/-- Reading an entry the new filter selected returns (on a consistent directory: type regular means a regular file). -/
theorem C10_newSelect_read_returns (e : Entry) (hc : e.consistent = true) (hs : newSelect e = true) :
    readEntry e ≠ .blocks := by
  obtain ⟨b, hb⟩ := newSelect_target hc hs
  rw [readEntry_regular hb]
  exact Outcome.noConfusion

/-- the hypotheses of `C10_newSelect_read_returns` are met by a regular file -/
example : (Entry.mk [49] .regular (.regular [0])).consistent = true ∧ newSelect (Entry.mk [49] .regular (.regular [0])) = true := by
  decide

/-- What the repaired scans read is what `Entry.bytes?` says: the bytes of the entries of type regular, in order. -/
theorem C10_newScan_eq (es : List Entry) (hc : ∀ e ∈ es, e.consistent = true) :
    FSKind.scan newSelect es = some (es.filterMap fun e => e.bytes?.map fun b => (e.name, b)) := by
  induction es with
  | nil => rfl
  | cons e rest ih =>
    unfold FSKind.scan
    rw [ih (fun x hx => hc x (List.mem_cons_of_mem _ hx)), List.filterMap_cons]
    by_cases hs : newSelect e = true
    · obtain ⟨b, hb⟩ := newSelect_target (hc e (List.mem_cons_self ..)) hs
      have hbs : e.bytes? = some b := by unfold Entry.bytes?; rw [if_pos hs, hb]
      rw [if_pos hs, readEntry_regular hb, hbs]; rfl
    · have hbs : e.bytes? = none := by unfold Entry.bytes?; rw [if_neg hs]
      rw [if_neg hs, hbs]; rfl

/-- The repaired scans finish on every consistent directory, whatever it holds. -/
theorem C10_newScan_returns (es : List Entry) (hc : ∀ e ∈ es, e.consistent = true) :
    ∃ r, FSKind.scan newSelect es = some r :=
  ⟨_, C10_newScan_eq es hc⟩

/-- a directory holding a FIFO, a link to a FIFO and a regular file is consistent: the repaired scans finish on it -/
example : ∀ e ∈ [Entry.mk [49] .fifo .fifo, Entry.mk [50] .symlink .fifo, Entry.mk [51] .regular (.regular [])],
    e.consistent = true := by decide

/-- On a directory that holds only regular files and directories the two filters agree, entry by entry, and the scan
result is unchanged. -/
theorem C10_scan_unchanged (es : List Entry) (h : ∀ e ∈ es, e.type = .regular ∨ e.type = .dir) :
    es.filter oldSelect = es.filter newSelect ∧ FSKind.scan oldSelect es = FSKind.scan newSelect es := by
  induction es with
  | nil => exact ⟨rfl, rfl⟩
  | cons e rest ih =>
    obtain ⟨ih1, ih2⟩ := ih (fun x hx => h x (List.mem_cons_of_mem _ hx))
    have he : oldSelect e = newSelect e := by
      rcases h e (List.mem_cons_self ..) with ht | ht <;> simp [oldSelect, newSelect, ht]
    constructor
    · simp only [List.filter_cons, he, ih1]
    · unfold FSKind.scan
      rw [he, ih2]

/-- the hypothesis of `C10_scan_unchanged` is met by a directory of regular files and directories -/
example : ∀ e ∈ [Entry.mk [49] .regular (.regular [1]), Entry.mk [50] .dir .dir], e.type = .regular ∨ e.type = .dir := by
  decide

/-- The one entry kind whose treatment changes without a hang being at stake: a symbolic link named like a relation file
or a segment is no longer followed (pg_checksums tests lstat + S_ISREG the same way; PostgreSQL never creates one). -/
theorem C10_scan_link_not_followed (n b : Bytes) :
    FSKind.scan oldSelect [⟨n, .symlink, .regular b⟩] = some [(n, b)] ∧ FSKind.scan newSelect [⟨n, .symlink, .regular b⟩] = some [] := by
  constructor <;> simp [FSKind.scan, oldSelect, newSelect, readEntry, osReadFile]

end PgVerif.Props.C10.EntryFS
