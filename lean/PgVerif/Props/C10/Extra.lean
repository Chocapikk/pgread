/-
  C10 — totality theorems for

    (1) the exported functions whose models are in the fault monad: ListDatabases, DumpAll, AnalyzeTOAST, Search / QuickSearch /
        ScanForSecrets / SearchSecrets on a file tree, RemoteClient.Credentials / Control / Summary
        (models: Model/ExtraCluster.lean, ExtraToast.lean, ExtraSearch.lean, ExtraDir.lean, ExtraBlock.lean).  The dump-level
        search wrappers, ScanDatabaseDump, FormatBinaryDump and SummaryResult.MarshalJSON have no fault point and therefore no
        totality statement (said where they would stand); for FormatBinaryDump what it prints is stated instead;
    (2) every state-passing `rc*` model of the RemoteClient methods (Model/Remote.lean): each method returns for every
        file system, every argument and EVERY cache state — consistent or not — and hands back a consistent cache when it
        was given one (`Props.C11.CacheOK`), so the statements chain over any sequence of calls on one client.

  Each theorem comes in the form relative to a total row reader (`Cluster.TotalReader rr`, like `Props/C10/Cluster.lean`)
  and — where the row reader is the only parameter that can fault — CLOSED with the model of ReadRows over the closed
  DecodeType (`Entry.C10_closed_reader`): no hypothesis at all.  No well-formedness of any file is assumed anywhere.
  The correctness statements are in Props/C12Extra.lean, Props/C15Extra.lean, Props/C08Extra.lean.
-/
import PgVerif.Proofs.ExtraRemote
import PgVerif.Props.C11
import PgVerif.Proofs.ExtraCluster
import PgVerif.Proofs.ExtraSearch
import PgVerif.Proofs.ExtraToast
import PgVerif.Proofs.HexDump
import PgVerif.Props.C10.Entry
import PgVerif.Props.C10.Control
import PgVerif.Basic.Lemmas
namespace PgVerif.Props.C10.Extra
open PgVerif PgVerif.Model PgVerif.Model.Extra PgVerif.Proofs.Extra PgVerif.Props.C10.Cluster PgVerif.Props.C11

/-- the row reader of the closed theorems: the model of heap.go:ReadRows over the closed model of DecodeType -/
abbrev closedRR (X : Proofs.Entry.Render) : RowReader := Model.readRows (Entry.rowsDec X)

/-! ## detect.go, pgdump.go:DumpAll -/

/-- ListDatabases returns for every file tree (global/1262 missing, empty, truncated, arbitrary bytes). -/
theorem C10_total_listDatabases (rr : RowReader) (h : TotalReader rr) (fs : Bytes → Option Bytes) :
    ∃ r, listDatabases rr fs = .ok r := by
  unfold listDatabases
  cases fs pathGlobal1262 with
  | none => exact ⟨_, rfl⟩
  | some data => exact tot_bind (C10_total_parsePGDatabase rr h data) fun _ _ => ⟨_, rfl⟩

/-- … closed: with ReadRows and DecodeType as modelled, no hypothesis. -/
theorem C10_closed_listDatabases (X : Proofs.Entry.Render) (fs : Bytes → Option Bytes) :
    ∃ r, listDatabases (closedRR X) fs = .ok r :=
  C10_total_listDatabases _ (Entry.C10_closed_reader X) fs

/-- DetectAllDataDirs reports only directories that passed `isValidDataDir` (a non-empty regular `global/1262`), for every
answer of `os.Getenv` / `os.Stat`.  (DetectDataDir / DetectAllDataDirs parse no byte of any file and contain no index,
slice or division: there is no fault point and hence no totality statement — C10_COVERAGE.md, "no fault point".) -/
theorem C10_detect_valid (e : DetectEnv) : ∀ d ∈ detectAllDataDirs e, e.valid d = true :=
  detectAll_valid e

/-- DumpAll returns for every environment, every content of every detected directory and all options. -/
theorem C10_total_dumpAll (rr : RowReader) (h : TotalReader rr) (π : MapOrder TableInfo) (e : DetectEnv)
    (fsAt : Bytes → Bytes → Option Bytes) (o : Spec.Options) : ∃ r, dumpAll rr π e fsAt o = .ok r := by
  rw [dumpAll_eq]
  exact Proofs.collectM_total _ _ (fun dir => C10_total_dumpDataDir rr h π (fsAt dir) o)

theorem C10_closed_dumpAll (X : Proofs.Entry.Render) (π : MapOrder TableInfo) (e : DetectEnv)
    (fsAt : Bytes → Bytes → Option Bytes) (o : Spec.Options) : ∃ r, dumpAll (closedRR X) π e fsAt o = .ok r :=
  C10_total_dumpAll _ (Entry.C10_closed_reader X) π e fsAt o

/-! ## toast.go:AnalyzeTOAST -/

/-- AnalyzeTOAST returns (a list, or an error) for every file tree and every database name: pg_database, pg_class and
every TOAST relation file may be missing, truncated or arbitrary bytes.  Its one raw read, `u32(tuple.Data, 48)`, is
inside the tuple data because of the guard `len(tuple.Data) < 60`. -/
theorem C10_total_analyzeTOAST (rr : RowReader) (h : TotalReader rr) (fs : Bytes → Option Bytes) (dbName : Bytes) :
    ∃ r, analyzeTOAST rr fs dbName = .ok r :=
  analyzeTOAST_total rr h fs dbName

theorem C10_closed_analyzeTOAST (X : Proofs.Entry.Render) (fs : Bytes → Option Bytes) (dbName : Bytes) :
    ∃ r, analyzeTOAST (closedRR X) fs dbName = .ok r :=
  analyzeTOAST_total _ (Entry.C10_closed_reader X) fs dbName

/-- the loop body alone: every tuple entry, every file system -/
theorem C10_total_analyzeEntry (fs : Bytes → Option Bytes) (dbOID : Nat) (e : TupleEntry) :
    ∃ r, analyzeEntry fs dbOID e = .ok r :=
  analyzeEntry_total fs dbOID e

/-! ## search.go / secrets.go: the wrappers -/

/-- Search on a file tree returns for every tree, every pattern and option set, nil options included (every regex
engine, every scalar text). -/
theorem C10_total_searchDir (R : Spec.Search.Regex) (sh : GoVal → Bytes) (rr : RowReader) (h : TotalReader rr)
    (π : MapOrder TableInfo) (fs : Bytes → Option Bytes) (opts : Option Spec.Search.Opts) :
    ∃ r, searchDir R sh rr π fs opts = .ok r :=
  searchDir_total R sh rr h π fs opts

/-- QuickSearch returns for every tree and every pattern text (any bytes: it is quoted, never compiled as given). -/
theorem C10_total_quickSearchDir (R : Spec.Search.Regex) (sh : GoVal → Bytes) (rr : RowReader) (h : TotalReader rr)
    (π : MapOrder TableInfo) (fs : Bytes → Option Bytes) (pattern : Bytes) :
    ∃ r, quickSearchDir R sh rr π fs pattern = .ok r :=
  searchDir_total R sh rr h π fs _

theorem C10_closed_quickSearchDir (R : Spec.Search.Regex) (sh : GoVal → Bytes) (X : Proofs.Entry.Render)
    (π : MapOrder TableInfo) (fs : Bytes → Option Bytes) (pattern : Bytes) :
    ∃ r, quickSearchDir R sh (closedRR X) π fs pattern = .ok r :=
  searchDir_total R sh _ (Entry.C10_closed_reader X) π fs _

/-- ScanForSecrets returns for every tree, every option set and every detector list. -/
theorem C10_total_scanForSecretsDir (dets : List Spec.Search.Detector) (sh : GoVal → Bytes) (rr : RowReader)
    (h : TotalReader rr) (π : MapOrder TableInfo) (fs : Bytes → Option Bytes) (o : Spec.Options) :
    ∃ r, scanForSecretsDir dets sh rr π fs o = .ok r := by
  unfold scanForSecretsDir
  exact tot_bind (dumpedBy_total rr h π fs o) fun _ _ => ⟨_, rfl⟩

/-- SearchSecrets returns for every tree and every detector list. -/
theorem C10_total_searchSecretsDir (dets : List Spec.Search.Detector) (sh : GoVal → Bytes)
    (red : Spec.Search.Finding → Bytes) (ver : Spec.Search.Finding → Bool) (rr : RowReader)
    (h : TotalReader rr) (π : MapOrder TableInfo) (fs : Bytes → Option Bytes) :
    ∃ r, searchSecretsDir dets sh red ver rr π fs = .ok r := by
  unfold searchSecretsDir
  exact tot_bind (dumpedBy_total rr h π fs searchDumpOptions) fun _ _ => ⟨_, rfl⟩

-- The dump-level wrappers (QuickSearch / ScanForSecrets / SearchSecrets given DumpDataDir's result, ScanDatabaseDump,
-- regexp.QuoteMeta) are plain functions without index, slice or division: no fault point, no totality statement.

/-! ## blockrange.go:FormatBinaryDump, remote.go:MarshalJSON and Credentials -/

-- FormatBinaryDump is `hex.Dump(data)`: no fault point, no totality statement.

/-- **What FormatBinaryDump prints**: one line per started 16-byte chunk and nothing else — line `i` renders bytes
`16·i … 16·i+15` of the input (fewer on the last line) at offset `16·i`; the empty input gives the empty text.  So the
dump shows every input byte exactly once, in order. -/
theorem C10_formatBinaryDump_lines (data : Bytes) :
    formatBinaryDump data =
      (List.range ((data.length + 15) / 16)).flatMap fun i =>
        CliRender.hexDumpLine (16 * i) ((data.drop (16 * i)).take 16) :=
  formatBinaryDump_lines data

-- SummaryResult.MarshalJSON builds a struct of strings, string slices and a string-keyed map (made with `make`, so the
-- `append` into `summary.Databases[db.Name]` never meets a nil map) and calls json.Marshal, which has no error case for
-- these types: no fault point, no totality statement.  Its content is
-- `Props.C12Extra.C12_summary_one_database`.

/-- RemoteClient.Credentials returns for every reader. -/
theorem C10_total_rcCredentials (fs : RemoteReader) : ∃ r, rcCredentials fs = .ok r :=
  rcCredentials_total fs

/-! ## one-line wrappers: ScanAllDeletedRows, ExtractPasswords, RemoteClient.Control -/

-- ScanAllDeletedRows (the DELETED rows of every table, fix rows/07): its model and totality theorem are
-- `Model.scanAllDeletedRows` (Model/DeletedScan.lean) and `Props.C10.DeletedScan.C10_total_scanAllDeletedRows`.

/-- ExtractPasswords is ExtractPasswordsFromFiles over the directory's files, and returns for every tree. -/
theorem C10_total_extractPasswords (fs : Bytes → Option Bytes) :
    extractPasswords fs = Model.extractPasswordsFromFiles fs ∧ ∃ r, extractPasswords fs = .ok r :=
  ⟨rfl, Rows.C10_total_extractPasswordsFromFiles fs⟩

/-- RemoteClient.Control returns for every reader (pg_control missing, short, or arbitrary bytes). -/
theorem C10_total_rcControl (fs : RemoteReader) : ∃ r, rcControl fs = .ok r := by
  unfold rcControl
  cases fs (strBytes "global/pg_control") with
  | none => exact ⟨_, rfl⟩
  | some d => exact Control.C10_total_parseControlFile d

/-! ## remote.go: the methods with the cache threaded through

`RcOK rr fs c m` (Proofs/ExtraRemote.lean): the method `m`, started in cache state `c`, returns some `(result, c')`, and
`c'` is consistent (`CacheOK`) if `c` was.  `c` is ARBITRARY: a cache holding garbage cannot make a method panic.
Each is one half of `Remote.Impl` (Proofs/RemoteCold.lean), where the method bodies are walked. -/

theorem RcOK_iff (rr : RowReader) (fs : RemoteReader) {α} (c : Cache) (m : M (α × Cache)) :
    RcOK rr fs c m ↔ ∃ r c', m = .ok (r, c') ∧ (CacheOK rr fs c → CacheOK rr fs c') := Iff.rfl

theorem C10_total_rcDatabases (rr : RowReader) (h : TotalReader rr) (fs : RemoteReader) (c : Cache) :
    RcOK rr fs c (rcDatabases rr fs c) :=
  rcOK_of_impl h (Proofs.Remote.impl_databases rr fs c)

/-- loadCatalog + the two cache reads (the helper `catalog` of remote.go) -/
theorem C10_total_rcCatalog (rr : RowReader) (h : TotalReader rr) (fs : RemoteReader) (db : Nat) (c : Cache) :
    RcOK rr fs c (rcCatalog rr fs db c) :=
  rcOK_of_impl h (Proofs.Remote.impl_catalog rr fs db c)

/-- Database(name): every name (empty, unknown, not UTF-8). -/
theorem C10_total_rcDatabase (rr : RowReader) (h : TotalReader rr) (fs : RemoteReader) (name : Bytes) (c : Cache) :
    RcOK rr fs c (rcDatabase rr fs name c) :=
  rcOK_of_impl h (Proofs.Remote.impl_database rr fs name c)

/-- Tables(dbOID): every oid, whether or not such a database exists. -/
theorem C10_total_rcTables (rr : RowReader) (h : TotalReader rr) (π : MapOrder TableInfo) (fs : RemoteReader) (db : Nat)
    (c : Cache) : RcOK rr fs c (rcTables rr π fs db c) :=
  rcOK_of_impl h (Proofs.Remote.impl_tables rr π fs db c)

theorem C10_total_rcTablesByName (rr : RowReader) (h : TotalReader rr) (π : MapOrder TableInfo) (fs : RemoteReader)
    (name : Bytes) (c : Cache) : RcOK rr fs c (rcTablesByName rr π fs name c) :=
  rcOK_of_impl h (Proofs.Remote.impl_tablesByName rr π fs name c)

theorem C10_total_rcTable (rr : RowReader) (h : TotalReader rr) (π : MapOrder TableInfo) (fs : RemoteReader) (db : Nat)
    (name : Bytes) (c : Cache) : RcOK rr fs c (rcTable rr π fs db name c) :=
  rcOK_of_impl h (Proofs.Remote.impl_table rr π fs db name c)

theorem C10_total_rcColumns (rr : RowReader) (h : TotalReader rr) (fs : RemoteReader) (db tbl : Nat) (c : Cache) :
    RcOK rr fs c (rcColumns rr fs db tbl c) :=
  rcOK_of_impl h (Proofs.Remote.impl_columns rr fs db tbl c)

theorem C10_total_rcColumnNames (rr : RowReader) (h : TotalReader rr) (fs : RemoteReader) (db tbl : Nat) (c : Cache) :
    RcOK rr fs c (rcColumnNames rr fs db tbl c) :=
  rcOK_of_impl h (Proofs.Remote.impl_columnNames rr fs db tbl c)

/-- Query(dbOID, table, opts): nil table, filenode 0, unreadable file, nil options, projections of unknown columns,
every limit (negative, zero, huge). -/
theorem C10_total_rcQuery (rr : RowReader) (h : TotalReader rr) (fs : RemoteReader) (db : Nat) (t : Option TableInfo)
    (o : Option QueryOptions) (c : Cache) : RcOK rr fs c (rcQuery rr fs db t o c) :=
  rcOK_of_impl h (Proofs.Remote.impl_query rr fs db t o c)

theorem C10_total_rcQueryByName (rr : RowReader) (h : TotalReader rr) (π : MapOrder TableInfo) (fs : RemoteReader)
    (dbName tbl : Bytes) (o : Option QueryOptions) (c : Cache) : RcOK rr fs c (rcQueryByName rr π fs dbName tbl o c) :=
  rcOK_of_impl h (Proofs.Remote.impl_queryByName rr π fs dbName tbl o c)

theorem C10_total_rcDumpTable (rr : RowReader) (h : TotalReader rr) (fs : RemoteReader) (db : Nat) (t : TableInfo)
    (c : Cache) : RcOK rr fs c (rcDumpTable rr fs db t c) :=
  rcOK_of_impl h (Proofs.Remote.impl_dumpTable rr fs db t c)

theorem C10_total_rcDumpDatabase (rr : RowReader) (h : TotalReader rr) (π : MapOrder TableInfo) (fs : RemoteReader)
    (db : Nat) (c : Cache) : RcOK rr fs c (rcDumpDatabase rr π fs db c) :=
  rcOK_of_impl h (Proofs.Remote.impl_dumpDatabase rr π fs db c)

theorem C10_total_rcDumpDatabaseByName (rr : RowReader) (h : TotalReader rr) (π : MapOrder TableInfo) (fs : RemoteReader)
    (name : Bytes) (c : Cache) : RcOK rr fs c (rcDumpDatabaseByName rr π fs name c) :=
  rcOK_of_impl h (Proofs.Remote.impl_dumpDatabaseByName rr π fs name c)

theorem C10_total_rcDumpAll (rr : RowReader) (h : TotalReader rr) (π : MapOrder TableInfo) (fs : RemoteReader) (c : Cache) :
    RcOK rr fs c (rcDumpAll rr π fs c) :=
  rcOK_of_impl h (Proofs.Remote.impl_dumpAll rr π fs c)

/-- the `databases` object of MarshalJSON as Model/Remote.lean computes it -/
theorem C10_total_summaryDatabases (rr : RowReader) (h : TotalReader rr) (π : MapOrder TableInfo) (fs : RemoteReader)
    (c : Cache) : RcOK rr fs c (summaryDatabases rr π fs c) :=
  rcOK_of_impl h (Proofs.Remote.impl_summaryDatabases rr π fs c)

theorem C10_total_rcSummary (rr : RowReader) (h : TotalReader rr) (π : MapOrder TableInfo) (fs : RemoteReader) (c : Cache) :
    RcOK rr fs c (rcSummary rr π fs c) :=
  rcOK_of_impl h (impl_summary rr π fs c)

/-- **All of it, closed.**  With ReadRows / DecodeType as modelled, every RemoteClient method returns for every
reader, every argument and every cache state, and preserves cache consistency.  No hypothesis. -/
theorem C10_closed_remote (X : Proofs.Entry.Render) (π : MapOrder TableInfo) (fs : RemoteReader) (c : Cache) :
    RcOK (closedRR X) fs c (rcDatabases (closedRR X) fs c) ∧
    (∀ name, RcOK (closedRR X) fs c (rcDatabase (closedRR X) fs name c)) ∧
    (∀ db, RcOK (closedRR X) fs c (rcTables (closedRR X) π fs db c)) ∧
    (∀ name, RcOK (closedRR X) fs c (rcTablesByName (closedRR X) π fs name c)) ∧
    (∀ db name, RcOK (closedRR X) fs c (rcTable (closedRR X) π fs db name c)) ∧
    (∀ db tbl, RcOK (closedRR X) fs c (rcColumns (closedRR X) fs db tbl c)) ∧
    (∀ db tbl, RcOK (closedRR X) fs c (rcColumnNames (closedRR X) fs db tbl c)) ∧
    (∀ db t o, RcOK (closedRR X) fs c (rcQuery (closedRR X) fs db t o c)) ∧
    (∀ dbn tbl o, RcOK (closedRR X) fs c (rcQueryByName (closedRR X) π fs dbn tbl o c)) ∧
    (∀ db t, RcOK (closedRR X) fs c (rcDumpTable (closedRR X) fs db t c)) ∧
    (∀ db, RcOK (closedRR X) fs c (rcDumpDatabase (closedRR X) π fs db c)) ∧
    (∀ name, RcOK (closedRR X) fs c (rcDumpDatabaseByName (closedRR X) π fs name c)) ∧
    RcOK (closedRR X) fs c (rcDumpAll (closedRR X) π fs c) ∧
    RcOK (closedRR X) fs c (rcSummary (closedRR X) π fs c) :=
  have h := Entry.C10_closed_reader X
  ⟨C10_total_rcDatabases _ h fs c, fun n => C10_total_rcDatabase _ h fs n c, fun db => C10_total_rcTables _ h π fs db c,
   fun n => C10_total_rcTablesByName _ h π fs n c, fun db n => C10_total_rcTable _ h π fs db n c,
   fun db t => C10_total_rcColumns _ h fs db t c, fun db t => C10_total_rcColumnNames _ h fs db t c,
   fun db t o => C10_total_rcQuery _ h fs db t o c, fun d t o => C10_total_rcQueryByName _ h π fs d t o c,
   fun db t => C10_total_rcDumpTable _ h fs db t c, fun db => C10_total_rcDumpDatabase _ h π fs db c,
   fun n => C10_total_rcDumpDatabaseByName _ h π fs n c, C10_total_rcDumpAll _ h π fs c, C10_total_rcSummary _ h π fs c⟩

/-- **A session.**  The `RcOK` statements chain: on one client, started from `NewRemoteClient` (empty cache), the calls
Summary(); DumpAll(); Database(n) each return, and the cache is consistent at the end.  (One sequence, as an instance: every
`RcOK` hands the next call the consistency it asks for.) -/
theorem C10_remote_session (rr : RowReader) (h : TotalReader rr) (π : MapOrder TableInfo) (fs : RemoteReader) (n : Bytes) :
    ∃ s c1 d c2 db c3, rcSummary rr π fs Cache.empty = .ok (s, c1) ∧ rcDumpAll rr π fs c1 = .ok (d, c2) ∧
      rcDatabase rr fs n c2 = .ok (db, c3) ∧ CacheOK rr fs c3 := by
  obtain ⟨s, c1, h1, k1⟩ := C10_total_rcSummary rr h π fs Cache.empty
  obtain ⟨d, c2, h2, k2⟩ := C10_total_rcDumpAll rr h π fs c1
  obtain ⟨db, c3, h3, k3⟩ := C10_total_rcDatabase rr h fs n c2
  exact ⟨s, c1, d, c2, db, c3, h1, h2, h3, k3 (k2 (k1 (C11_cache_empty_ok rr fs)))⟩

/-! ## non-vacuity -/

/-- a total reader exists, and on it the models run: a tree without global/1262 -/
example : listDatabases (fun _ _ _ => pure []) (fun _ => none) = .ok [] := rfl
example : analyzeTOAST (fun _ _ _ => pure []) (fun _ => none) [100] = .ok none := rfl
example : dumpAll (fun _ _ _ => pure []) id ⟨[64], [], id, fun _ => false⟩ (fun _ _ => none) {} = .ok [] := rfl
/-- the loop body of AnalyzeTOAST on a 60-byte tuple whose bytes 48..51 name relation 7, every path holding a 3-byte file -/
example : analyzeEntry (fun _ => some [1, 2, 3]) 5
    ⟨⟨⟨24, 0, 0, true, true, false, false⟩, none, List.replicate 48 0 ++ [7, 0, 0, 0] ++ List.replicate 8 0⟩, 0⟩ = .ok none := by rfl
example : summaryMarshalJSON ⟨[49, 52], [], [], []⟩ = Txt.asc "{\"version\":\"14\"}" := by
  -- the kernel reads the literal's UTF-8 bytes directly (Lib/Lit.lean) instead of decoding it through `String.toList`
  unfold Txt.asc; rw [Lit.toList_eq_chars]; decide +kernel

end PgVerif.Props.C10.Extra
