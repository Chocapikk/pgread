/-
  C10 (area heap) — the heap scan never faults, for every byte string.
  The model's slice/index primitives check against the length of the slice they are given (Go checks
  re-slicing against capacity), so "no fault" here means: no Go panic AND no read beyond the page/tuple slice.
-/
import PgVerif.Proofs.HeapScan
namespace PgVerif.Props.C10.Heap
open PgVerif PgVerif.Model PgVerif.Proofs

/-- ParseHeapTuple returns (a tuple or nil) for every byte string. -/
theorem C10_total_parseHeapTuple (data : Bytes) : ∃ r, parseHeapTuple data = .ok r :=
  parseHeapTuple_total data

/-- ParsePage returns for every byte string (any header, any pointer array, any tuple bytes). -/
theorem C10_total_parsePage (data : Bytes) : ∃ r, parsePage data = .ok r :=
  ⟨_, parsePage_eq data⟩

/-- ReadTuples returns for every byte string and both settings of the visibility switch. -/
theorem C10_total_readTuples (data : Bytes) (vis : Bool) : ∃ r, readTuples data vis = .ok r :=
  ⟨_, readTuples_eq data vis⟩

/-- Page isolation for heap scans, arbitrary bytes: replacing the bytes `b` after a page-aligned prefix `a` by any `b'` does
not change what is reported for `a`'s pages (`ra` in both conjuncts; the concatenation law twice).  The other direction is not a
conjunct: it is read off the quantifier over `a`, whose bytes enter what is reported for the rest only through `a.length`. -/
theorem C10_isolate_heap (a b b' : Bytes) (vis : Bool) (h : a.length % 8192 = 0)
    (ra rb rb' : List TupleEntry) (h1 : readTuples a vis = .ok ra) (h2 : readTuples b vis = .ok rb)
    (h3 : readTuples b' vis = .ok rb') :
    readTuples (a ++ b) vis = .ok (ra ++ rb.map (shiftE a.length)) ∧
    readTuples (a ++ b') vis = .ok (ra ++ rb'.map (shiftE a.length)) := by
  rw [readTuples_eq] at h1 h2 h3
  cases h1; cases h2; cases h3
  exact ⟨by rw [readTuples_eq, scan_append a b vis h], by rw [readTuples_eq, scan_append a b' vis h]⟩

end PgVerif.Props.C10.Heap
