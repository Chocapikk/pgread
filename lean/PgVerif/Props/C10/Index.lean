/-
  C10 (area index) — ParseIndexFile and everything below it never faults, for every byte string.
  The model's slice/index primitives check against the length of the slice they are given (Go checks re-slicing
  against capacity), so "no fault" means: no Go panic AND no read beyond the page that is being parsed.  Both happened in
  the code before fixes/index/06: a hash page with pd_special = 8180 had its flag word read from the *next* page of the
  file, one with pd_special = 8179 as block 0 panicked (`A36_orig_parseIndexFile_faults`, Proofs/IndexDefects.lean); the
  model of that code faults on both.
-/
import PgVerif.Proofs.IndexTotal
namespace PgVerif.Props.C10.Index
open PgVerif PgVerif.Model.Index PgVerif.Proofs.Index

/-- detectIndexType returns a type for every byte string (any pd_special, any trailer). -/
theorem C10_total_detectIndexType (page : Bytes) : ∃ r, detectIndexType page = .ok r :=
  ⟨_, detect_eq page⟩

/-- the six special-space parsers return for every slice they are handed. -/
theorem C10_total_specialParsers (info : PageInfo) (sp : Bytes) :
    (∃ r, parseBTreePageSpecial info sp = .ok r) ∧ (∃ r, parseHashPageSpecial info sp = .ok r) ∧
    (∃ r, parseGiSTPageSpecial info sp = .ok r) ∧ (∃ r, parseGINPageSpecial info sp = .ok r) ∧
    (∃ r, parseSPGiSTPageSpecial info sp = .ok r) ∧ (∃ r, parseBRINPageSpecial info sp = .ok r) :=
  ⟨tot_ite (fun _ => tot_ok _) fun _ => tot_uN (by omega) fun _ => tot_uN (by omega) fun _ => tot_uN (by omega) fun _ =>
      tot_uN (by omega) fun _ => tot_ok _,
   tot_ite (fun _ => tot_ok _) fun _ => tot_uN (by omega) fun _ => tot_uN (by omega) fun _ => tot_uN (by omega) fun _ =>
      tot_uN (by omega) fun _ => tot_ok _,
   tot_ite (fun _ => tot_ok _) fun _ => tot_uN (by omega) fun _ => tot_uN (by omega) fun _ => tot_ok _,
   tot_ite (fun _ => tot_ok _) fun _ => tot_uN (by omega) fun _ => tot_uN (by omega) fun _ => tot_uN (by omega) fun _ => tot_ok _,
   tot_ite (fun _ => tot_ok _) fun _ => tot_uN (by omega) fun _ => tot_ok _,
   tot_ite (fun _ => tot_ok _) fun _ => tot_uN (by omega) fun _ => tot_uN (by omega) fun _ => tot_ok _⟩

/-- parseIndexPage returns for every byte string, page number and index type: every pd_special / pd_lower / pd_upper,
every method's special-space parser on whatever `page[special:]` is (1 … 8192 bytes on the 8192-byte pages ParseIndexFile hands
over; `C10_total_specialParsers` covers every length). -/
theorem C10_total_parseIndexPage (page : Bytes) (num t : Nat) : ∃ r, parseIndexPage page num t = .ok r := by
  unfold parseIndexPage
  refine tot_ite (fun _ => tot_ok _) fun hl => tot_uN (by omega) fun hi => tot_uN (by omega) fun lo => tot_uN (by omega) fun lower =>
    tot_uN (by omega) fun upper => tot_uN (by omega) fun special => tot_ite (fun hs => ?_) fun _ => tot_ok _
  refine tot_bind ⟨_, sliceFrom_ok page special (by omega)⟩ fun sd _ => ?_
  have sp := C10_total_specialParsers
  split
  · exact tot_bind (sp _ _).1 fun _ _ => tot_ok _
  · exact tot_bind (sp _ _).2.1 fun _ _ => tot_ok _
  · exact tot_bind (sp _ _).2.2.1 fun _ _ => tot_ok _
  · exact tot_bind (sp _ _).2.2.2.1 fun _ _ => tot_ok _
  · exact tot_bind (sp _ _).2.2.2.2.1 fun _ _ => tot_ok _
  · exact tot_bind (sp _ _).2.2.2.2.2 fun _ _ => tot_ok _
  · exact tot_ok _

/-- parseBTreeMeta returns (a metapage or nil) for every byte string. -/
theorem C10_total_parseBTreeMeta (page : Bytes) : ∃ r, parseBTreeMeta page = .ok r := ⟨_, parseBTreeMeta_eq page⟩

/-- parseHashMeta returns (a metapage or nil) for every byte string. -/
theorem C10_total_parseHashMeta (page : Bytes) : ∃ r, parseHashMeta page = .ok r := ⟨_, parseHashMeta_eq page⟩

/-- parseGINMeta returns (a metapage or nil) for every byte string. -/
theorem C10_total_parseGINMeta (page : Bytes) : ∃ r, parseGINMeta page = .ok r := ⟨_, parseGINMeta_eq page⟩

/-- ParseIndexFile returns (a report, or the "too small" error) for every byte string. -/
theorem C10_total_parseIndexFile (data : Bytes) : ∃ r, parseIndexFile data = .ok r := by
  unfold parseIndexFile
  refine tot_ite (fun _ => tot_ok _) fun hl => ?_
  rw [slice_ok data 0 8192 (by omega) (by omega), ok_bind, detect_eq, ok_bind, parsePages_all]
  refine tot_bind ?_ fun _ _ => tot_bind (mapM_total _ _ fun _ _ => C10_total_parseIndexPage _ _ _) fun _ _ => tot_ok _
  unfold parseMeta
  split
  · exact C10_total_parseBTreeMeta _
  · exact C10_total_parseHashMeta _
  · exact C10_total_parseGINMeta _
  · exact tot_ok _

/-- Page isolation, arbitrary bytes: in the page loop of ParseIndexFile the record of page `i` is parseIndexPage of that page's
own 8192 bytes, whatever precedes (`a`) and follows (`b`) it in the file — damage in one page cannot change what is reported for
another (the access method, decided from block 0, is the only shared input).  This is one step of the loop and holds of any
parseIndexPage; that the Go function reads nothing beyond the 8192 bytes it is handed (the slice's capacity reaches the end of
the file) is `C10_total_parseIndexPage`: the model faults on a read beyond the length. -/
theorem C10_isolate_index (a pg b : Bytes) (t n i : Nat) (ha : a.length = i * 8192) (hp : pg.length = 8192) :
    parsePages (a ++ pg ++ b) t (n + 1) i =
      (do let r ← parseIndexPage pg (i % 2 ^ 32) t
          let rest ← parsePages (a ++ pg ++ b) t n (i + 1)
          pure (r :: rest)) := by
  rw [parsePages, slice_mid a pg b _ _ ha hp]; rfl

end PgVerif.Props.C10.Index
