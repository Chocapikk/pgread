/-
  C10 — "Damage confined to one page, one tuple or one value does not change what is reported for the others":
  the tuple level and the value level (the page level is `Heap.C10_isolate_heap`, `Index.C10_isolate_index`,
  `Block.C10_isolate_checksum`, `Props.C17.C17_pages`).

  Tuple level (page.go:ParsePage, heap.go:ReadTuples): `C10_isolate_tuple`, `C10_isolate_tuple_file`.
  Value level (heap.go:DecodeTuple): `C10_isolate_value_before` (columns in front of a damaged value),
  `C10_isolate_value_after` (columns behind it: unchanged when the damaged value still ends at the same
  offset), and the two counter-examples showing that a hypothesis cannot be dropped: `C10_value_after_shift` (the same end
  offset) and `C10_value_before_lookahead` (the byte at `e` in `SameUpTo`).
  Resource clause at the tuple level: `C10_size_parsePage`, `C10_size_readTuples` (for every byte string, by the overlap guard of
  fix heap/02), `C10_total_pageLoop`.
  The lemmas: Proofs/Isolation.lean, Proofs/IsolationRows.lean, Proofs/PageSize.lean.  No well-formedness of any byte
  is assumed.
-/
import PgVerif.Proofs.Isolation
import PgVerif.Proofs.IsolationRows
import PgVerif.Proofs.PageSize
namespace PgVerif.Props.C10.Isolation
open PgVerif PgVerif.Model PgVerif.Proofs PgVerif.Proofs.Isolation

/-- **Tuple-level isolation in one page.**  `data` is a page (at least 8192 bytes) with a valid header `h` whose
line-pointer array parses to `pre ++ bad :: post`.  `data'` is ANY page of the same length that differs from `data` only
inside the storage `[bad.offset, bad.offset + bad.length)` of the one pointer `bad` — the tuple behind it damaged in any
way.  If that storage begins behind the line-pointer array and no other NORMAL pointer (flags = 1, length ≠ 0) overlaps
it (otherwise the damage is not confined to ONE tuple; a pointer in any other state may point anywhere) then the two
results are the same list `A`, then at most one entry each (`r` vs `r'`: a tuple, another tuple, or nothing), then the same
list `B`, in the same order.  (The statement leaves `A`, `B`, `r`, `r'` existential; the proof takes for `A` and `B` what the
loop reports for `pre` and for `post`, for `r` and `r'` the entry of `bad` on either page: `Isolation.loopOf_split`,
`loopOf_split_congr`.)  This holds with the overlap guard of ParsePage (fix heap/02) in place: whether `bad` is reported or not
changes what is claimed, but no other NORMAL pointer touches that storage, and the pointers of `pre` / `post` may overlap
EACH OTHER in any way (the guard then decides the same on both pages). -/
theorem C10_isolate_tuple (data data' : Bytes) (h : PageHeader) (pre post : List ItemID) (bad : ItemID)
    (hd : 8192 ≤ data.length) (hh : parseHeader data = .ok h) (hv : validHeader h = true)
    (hi : parseItems data h.lower = .ok (pre ++ bad :: post))
    (hagree : AgreeOutside data data' bad.offset (bad.offset + bad.length))
    (hlow : 24 + 4 * itemCount h.lower ≤ bad.offset)
    (hdis : ∀ it ∈ pre ++ post, it.flags = 1 → it.length ≠ 0 →
      it.offset + it.length ≤ bad.offset ∨ bad.offset + bad.length ≤ it.offset) :
    ∃ (A B : List HeapTuple) (r r' : Option HeapTuple),
      parsePage data = .ok (A ++ r.toList ++ B) ∧ parsePage data' = .ok (A ++ r'.toList ++ B) := by
  have hd' : 8192 ≤ data'.length := by rw [hagree.1]; exact hd
  have hh' : parseHeader data' = .ok h := by rw [parseHeader_congr (hagree.on (.inl (by omega)))]; exact hh
  have hi' : parseItems data' h.lower = .ok (pre ++ bad :: post) := by rw [parseItems_congr _ (hagree.on (.inl hlow))]; exact hi
  -- the storage of every other accepted pointer holds the same bytes on both pages
  have hsame : ∀ it ∈ pre ++ post, accepted h.upper it = true →
      (data'.take (it.offset + it.length)).drop it.offset = (data.take (it.offset + it.length)).drop it.offset := by
    intro it hit ha
    obtain ⟨⟨h1, h2⟩, _⟩ := (accepted_iff _ _).mp ha
    exact (hagree.on (hdis it hit h1 h2)).window _ _ (Nat.le_refl _) (Nat.le_refl _)
  have hdis' : ∀ it ∈ post, accepted h.upper it = true → it.overlaps bad = false := fun it hit ha => by
    obtain ⟨⟨h1, h2⟩, _⟩ := (accepted_iff _ _).mp ha
    exact (overlaps_false_iff it bad).mpr (hdis it (List.mem_append_right _ hit) h1 h2).symm
  -- on either page: what `pre` reports on `data`, then `bad`'s own entry, then what `post` reports on `data`
  refine ⟨loopOf data h.upper pre [], loopOf data h.upper post (claimedOf data h.upper pre []),
    itemOf data h.upper (claimedOf data h.upper pre []) bad, itemOf data' h.upper (claimedOf data h.upper pre []) bad, ?_, ?_⟩
  · rw [parsePage_items data hd h hh hv _ hi, pageLoop_eq data hd, loopOf_split data h.upper pre post bad [] hdis']
  · rw [parsePage_items data' hd' h hh' hv _ hi', pageLoop_eq data' hd', loopOf_split_congr h.upper pre post bad [] hsame hdis']

/-- **From one page to a file.**  A heap file `a ++ page ++ b` (`a` a whole number of pages) is scanned as `a`, then
`page`, then `b` (the concatenation law, stated for `page` and once more for any other page `page'` in its place; no
hypothesis relates the two).  Together with `C10_isolate_tuple` for `page` and a damaged `page'`: the damage changes nothing
of what ReadTuples reports for the pages of `a`, for the pages of `b`, or for the other tuples of `page`. -/
theorem C10_isolate_tuple_file (a page page' b : Bytes) (vis : Bool) (ha : a.length % 8192 = 0)
    (hp : page.length = 8192) (hp' : page'.length = 8192) :
    readTuples (a ++ (page ++ b)) vis =
      (do let ra ← readTuples a vis; let rp ← readTuples page vis; let rb ← readTuples b vis
          pure (ra ++ (rp ++ rb.map (shiftE 8192)).map (shiftE a.length))) ∧
    readTuples (a ++ (page' ++ b)) vis =
      (do let ra ← readTuples a vis; let rp ← readTuples page' vis; let rb ← readTuples b vis
          pure (ra ++ (rp ++ rb.map (shiftE 8192)).map (shiftE a.length))) := by
  have e (pg : Bytes) (h : pg.length = 8192) : scan vis (pg ++ b) = scan vis pg ++ (scan vis b).map (shiftE 8192) :=
    h ▸ scan_append pg b vis (by omega)
  simp only [readTuples_eq, ok_bind, pure_eq_ok, scan_append a _ vis ha, e page hp, e page' hp', and_self]

/-! ## value level: heap.go:DecodeTuple -/

/-- **Columns in front of a damaged value.**  Let the columns `cs₁` of a tuple decode (on the undamaged data) to the pairs
`ps` and end at data offset `e` — so the storage of the next column, the damaged one, begins at `e`.  Let `data'` be ANY
data of the same length with the same bytes below `e` whose byte at `e` is 18 in both or in neither (`SameUpTo`: the
damage may change everything from `e` on, except that it neither creates nor removes the external-pointer tag 18 in the
very first damaged byte — see `C10_value_before_lookahead` for why that one byte value matters).  Then DecodeTuple's column
loop reports on BOTH tuples exactly the pairs `ps` for `cs₁`, and continues with the remaining columns `cs₂` from the same
offset `e`: a damaged value does not change any column in front of it.  Holds for every schema (hostile lengths,
alignments, attribute numbers) and every scalar decoder. -/
theorem C10_isolate_value_before (dec : Dec) (hdr : TupleHeader) (bm : Option Bytes) (data data' : Bytes)
    (cs₁ cs₂ : List Column) (ps : List (Bytes × GoVal)) (e : Nat)
    (h1 : decodeColsOff dec ⟨hdr, bm, data⟩ cs₁ 0 0 = .ok (ps, e)) (hs : SameUpTo data data' e) :
    decodeCols dec ⟨hdr, bm, data⟩ (cs₁ ++ cs₂) 0 0 =
      (do let rest ← decodeCols dec ⟨hdr, bm, data⟩ cs₂ cs₁.length e; pure (ps ++ rest)) ∧
    decodeCols dec ⟨hdr, bm, data'⟩ (cs₁ ++ cs₂) 0 0 =
      (do let rest ← decodeCols dec ⟨hdr, bm, data'⟩ cs₂ cs₁.length e; pure (ps ++ rest)) :=
  ⟨decodeCols_append_of_ok h1 cs₂,
    decodeCols_append_of_ok (decodeColsOff_prefix dec hdr bm hs cs₁ 0 0 ps e h1 (Nat.le_refl _)) cs₂⟩

/-- **Columns behind a damaged value** — what exactly holds.  The columns `cs₂` behind the columns `cs₁` (the last of
which is damaged) are decoded from the offset at which `cs₁` ended.  If the damage leaves the data length and all bytes
from `o` on intact and `cs₁` still ends at the same offset `e ≥ o` on the damaged tuple (a fixed-width value damaged in
place, a varlena whose length word survived), then `cs₂` decodes to exactly the same pairs on both tuples.  If the damaged
value's length changes, the columns behind it are read from a different offset and may all change, although their own
bytes are intact (`C10_value_after_shift`): DecodeTuple has no per-value framing that could prevent that. -/
theorem C10_isolate_value_after (dec : Dec) (hdr : TupleHeader) (bm : Option Bytes) (data data' : Bytes)
    (cs₁ cs₂ : List Column) (ps ps' : List (Bytes × GoVal)) (e o : Nat)
    (hl : data'.length = data.length) (hs : data'.drop o = data.drop o) (ho : o ≤ e)
    (h1 : decodeColsOff dec ⟨hdr, bm, data⟩ cs₁ 0 0 = .ok (ps, e))
    (h2 : decodeColsOff dec ⟨hdr, bm, data'⟩ cs₁ 0 0 = .ok (ps', e)) :
    decodeCols dec ⟨hdr, bm, data⟩ (cs₁ ++ cs₂) 0 0 =
      (do let rest ← decodeCols dec ⟨hdr, bm, data⟩ cs₂ cs₁.length e; pure (ps ++ rest)) ∧
    decodeCols dec ⟨hdr, bm, data'⟩ (cs₁ ++ cs₂) 0 0 =
      (do let rest ← decodeCols dec ⟨hdr, bm, data⟩ cs₂ cs₁.length e; pure (ps' ++ rest)) := by
  refine ⟨decodeCols_append_of_ok h1 cs₂, ?_⟩
  rw [decodeCols_append_of_ok h2 cs₂, decodeCols_suffix dec hdr bm (agreeOn_of_drop_eq hl hs _) cs₂ cs₁.length e ho]

/-- the decoder of the examples: every value is its raw bytes -/
def rawDec : Dec := fun b _ => pure (.str b)

def exHdr : TupleHeader := ⟨0, 0, 0, false, false, false, false⟩
def colV (n : UInt8) : Column := ⟨[n], 25, -1, 0, 1⟩        -- a varlena column, alignment 1
def colC (n : UInt8) : Column := ⟨[n], 18, 1, 0, 1⟩         -- a 1-byte fixed column

/-- Why the "same end offset" hypothesis of `C10_isolate_value_after` cannot be dropped: the tuple `05 41 42` under the
schema (varlena a, 1-byte b) decodes to a = "A", b = "B"; damaging only the length byte of `a` (05 → 07) gives
a = "AB" and b = NULL — b changes although its own byte is intact. -/
theorem C10_value_after_shift :
    decodeCols rawDec ⟨exHdr, none, [0x05, 0x41, 0x42]⟩ [colV 97, colC 98] 0 0 = .ok [([97], .str [0x41]), ([98], .str [0x42])] ∧
    decodeCols rawDec ⟨exHdr, none, [0x07, 0x41, 0x42]⟩ [colV 97, colC 98] 0 0 = .ok [([97], .str [0x41, 0x42]), ([98], .nil)] := by
  constructor <;> rfl

/-- Why `SameUpTo` speaks about the byte at `e`: behind a `0x01` header ReadVarlena looks at the tag byte and consumes
18 bytes when it is 18 (an on-disk TOAST pointer) but only the header byte otherwise.  Here column `a` ends at offset 1
on the first tuple; changing only the byte AT offset 1 (00 → 12 hex) leaves a's value (NULL) unchanged but moves its end
to 18, so the column behind it is read from offset 18 instead of 1. -/
theorem C10_value_before_lookahead :
    decodeColsOff rawDec ⟨exHdr, none, 0x01 :: 0x00 :: List.replicate 17 0x41⟩ [colV 97] 0 0 = .ok ([([97], .nil)], 1) ∧
    decodeColsOff rawDec ⟨exHdr, none, 0x01 :: 0x12 :: List.replicate 17 0x41⟩ [colV 97] 0 0 = .ok ([([97], .nil)], 18) := by
  constructor <;> rfl

/-- the hypotheses of `C10_isolate_value_before` are satisfiable by a real damage: `05 41 | 42 43` vs `05 41 | ff 00` under
(varlena a), e = 2 -/
example : decodeColsOff rawDec ⟨exHdr, none, [0x05, 0x41, 0x42, 0x43]⟩ [colV 97] 0 0 = .ok ([([97], .str [0x41])], 2) ∧
    SameUpTo [0x05, 0x41, 0x42, 0x43] [0x05, 0x41, 0xff, 0x00] 2 := by
  refine ⟨rfl, rfl, ?_, ?_⟩
  · intro j hj
    match j, hj with
    | 0, _ => rfl
    | 1, _ => rfl
  · decide

/-- `AgreeOutside` (the damage hypothesis of `C10_isolate_tuple`) on a small instance: two byte strings that differ
inside [1, 3) only -/
example : AgreeOutside [1, 2, 3, 4] [1, 9, 9, 4] 1 3 := by
  refine ⟨rfl, ?_⟩
  intro i hi
  match i, hi with
  | 0, _ => rfl
  | 1, h => omega
  | 2, h => omega
  | (n+3), _ => rfl

/-! ## resource clause at the tuple level: what one page can report -/

/-- **One page reports at most one page of tuple data — for EVERY byte string.**  Whatever `data` holds (any header, any
line-pointer array, pointers sharing storage in any way), the data bytes of all tuples ParsePage reports add up to at
most 8192.  ParsePage skips a NORMAL pointer whose storage overlaps the storage of a tuple it has already reported (fix
heap/02 for finding `C10-page-alias`: without the guard n pointers to one tuple are reported as n copies; family
`resource`, cases 0–2), so the reported tuples occupy pairwise disjoint pieces of the page. -/
theorem C10_size_parsePage (data : Bytes) (ts : List HeapTuple) (hp : parsePage data = .ok ts) :
    (ts.map fun t => t.data.length).sum ≤ 8192 :=
  PageSize.parsePage_dataSum_le data ts hp

/-- the same for a whole file: ReadTuples reports at most 8192 bytes of tuple data per whole page of the input — never
more tuple data than the file holds. -/
theorem C10_size_readTuples (data : Bytes) (vis : Bool) (es : List TupleEntry) (h : readTuples data vis = .ok es) :
    (es.map fun e => e.tuple.data.length).sum ≤ 8192 * (data.length / 8192) :=
  PageSize.readTuples_dataSum_le data vis es h

/-- ParsePage's guarded loop returns for every page of at least 8192 bytes, every pd_upper, every pointer list and
whatever is already claimed (totality of the guarded loop; `Heap.C10_total_parsePage` is the statement for ParsePage). -/
theorem C10_total_pageLoop (data : Bytes) (hd : 8192 ≤ data.length) (upper : Nat) (items claimed : List ItemID) :
    ∃ ts, pageLoop data upper items claimed = .ok ts :=
  ⟨_, pageLoop_eq data hd upper items claimed⟩

/-- the aliasing page of the finding in miniature: three NORMAL pointers to ONE 24-byte tuple at the end of an 8192-byte
page are reported as one tuple, not three -/
example :
    let lp : Bytes := le 4 (8168 + 2 ^ 15 + 2 ^ 17 * 24)
    let page : Bytes := zeros 12 ++ le 2 36 ++ le 2 8168 ++ le 2 8192 ++ le 2 0x2004 ++ zeros 4 ++ lp ++ lp ++ lp ++
      zeros (8168 - 36) ++ (zeros 20 ++ le 2 0x0900 ++ [24, 0])
    (parsePage page).toOption.map List.length = some 1 := by
  decide +kernel

end PgVerif.Props.C10.Isolation
