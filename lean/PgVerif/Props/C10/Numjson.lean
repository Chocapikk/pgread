/-
  C10 for area numjson — corrupt or hostile input never crashes: totality of the numeric and JSONB
  decoders over ALL byte strings (the model is fault-aware: every Go index / slice expression is a
  possible `.error`; these theorems say none is reachable), and independence of the recursion fuel.
  The lemmas these theorems rest on are in Proofs/Numeric.lean, Proofs/JsonbOffsets.lean and Proofs/Jsonb.lean.
-/
import PgVerif.Proofs.Jsonb
namespace PgVerif.Props.C10.Numjson
open PgVerif PgVerif.Model PgVerif.Proofs

/-- `DecodeNumeric` returns for every byte string: no index or slice expression can panic. -/
theorem C10_total_decodeNumeric (bs : Bytes) : ∃ r, decodeNumeric bs = .ok r := decodeNumeric_total bs

/-- `decodeJNumeric` (numeric behind its varlena header, inside JSONB) returns for every byte string. -/
theorem C10_total_decodeJNumeric (bs : Bytes) : ∃ r, decodeJNumeric bs = .ok r := decodeJNumeric_total bs

/-- `DecodeType(data, OidNumeric)` returns for every byte string. -/
theorem C10_total_decodeTypeNumeric (bs : Bytes) : ∃ r, decodeTypeNumeric bs = .ok r := by
  unfold decodeTypeNumeric
  split
  · exact ⟨_, rfl⟩
  · exact decodeNumeric_total bs

/-- `ParseJSONB` returns for every byte string — whatever the counts, flags, lengths and end offsets in
it, at any nesting, with no cap on the count: no panic (a HAS_OFF end offset below the entry's start, which would give a
negative length and a panic in `data[off:off+length]`, is refused: fix 07; the slices `entries[count:]`, `ends[count:]` and
the index `ends[count-1]` are possible faults of the model, none reachable), and the model's recursion budget is never
exhausted: the fuel `len(data)+1` handed out by `parseJSONB` is provably enough, because every child
slice starts after the 8 bytes of header and first JEntry.
SCOPE: this is a statement about index / slice faults and about the MODEL's recursion; it says nothing about the depth
of Go's call stack.  ParseJSONB recurses once per nesting level (one level costs 8 input bytes and ~0.5 KiB of stack):
within the property's 256 KiB inputs that is at most 32 768 levels / 17 MB of stack and returns (family `resource`,
case `decode 3802`); a 16 MiB document of pure nesting exceeds Go's 1 GB stack limit and dies with an unrecoverable
"stack overflow" (REVIEW.md F4) — outside C10's quantifier, not covered by this theorem. -/
theorem C10_total_parseJSONB (bs : Bytes) : ∃ r, parseJSONB bs = .ok r := parseJSONB_total bs

/-- Work bound, part 1 (fix 10: the count is bounded by the input, not by a constant): a container whose
header announces more children than the input can hold JEntry words for — `4 + count·4 > len(data)` —
is refused (nil) before any entry is read or anything is allocated.  So the entry array, the `ends`
array and the result slice / map are bounded by the length of the input, whatever the 28-bit count
field says (up to 2^28−1). -/
theorem C10_count_bounded (rec : Bytes → M JV) (data : Bytes) (h4 : 4 ≤ data.length)
    (hc : 0 < rd 4 data &&& 0x0FFFFFFF) (hbig : data.length < 4 + (rd 4 data &&& 0x0FFFFFFF) * 4) :
    parseContainer rec data = .ok .nil := by
  have hu : uN 4 data 0 = .ok (rd 4 data) := uN_ok 4 data 0 (by omega)
  rw [parseContainer_eq rec data _ _ _ _ _ _ hu rfl rfl rfl rfl rfl]
  generalize rd 4 data &&& 0x0FFFFFFF = count at hc hbig ⊢
  have hc0 : ¬ (count == 0) = true := by rw [beq_iff_eq]; omega
  by_cases hbad : (!(rd 4 data &&& 0x20000000 != 0) && !(rd 4 data &&& 0x40000000 != 0)) = true
  · rw [if_pos hbad]
  · rw [if_neg hbad, if_neg hc0, if_pos]
    -- an object announces twice as many entries: the bound holds a fortiori
    split <;> omega

/-- Work bound, part 2 (fix 10: linear offsets; fix 08: monotone end offsets): for EVERY entry array the
single forward pass accepts, the spans handed to `decodeJEntry` have non-negative lengths and tile the
data area without overlap — entry `idx+1` starts exactly where entry `idx` ends.  `spanAt ends idx` is what the loops of
parseJSONBArray / parseJSONBObject hand to `decodeJEntry` for entry `idx` (by reading the model's loops; no theorem relates
`spanAt` to them).  Read so, the children of one container are disjoint slices of its data area and k children cannot alias
the same bytes (finding A35); the work bound drawn from this (input size times nesting depth) is not stated as a theorem. -/
theorem C10_children_disjoint (es ends : List Nat) (h : endsFrom 0 es = some ends) (idx : Nat) (hidx : idx < es.length) :
    0 ≤ (spanAt ends idx).2 ∧ (spanAt ends (idx+1)).1 = (spanAt ends idx).1 + (spanAt ends idx).2.toNat := by
  have hm := (endsFrom_getD 0 es ends h idx hidx).2
  unfold spanAt
  simp only [Nat.add_sub_cancel, show idx + 1 > 0 from Nat.succ_pos idx, if_true]
  constructor
  · omega
  · omega

/-- non-vacuity: three entries (length 3, HAS_OFF end offset 7, length 2) — spans (0,3), (3,4), (7,2) -/
example : (endsFrom 0 [3, 0x80000007, 2]).map (fun ends => [spanAt ends 0, spanAt ends 1, spanAt ends 2]) =
    some [(0, 3), (3, 4), (7, 2)] := by rfl

/-- The forward pass (fix 10) and `entryOffLen` agree: for EVERY entry array the forward pass accepts — hostile ones included,
any placement of HAS_OFF flags, any length — the span `spanAt ends idx` of entry `idx` is exactly what `entryOffLen`
(backward scan to the nearest HAS_OFF entry, then forward sum: quadratic on entry arrays without HAS_OFF) returns. -/
theorem C10_offsets_unchanged (es ends : List Nat) (h : endsFrom 0 es = some ends) (idx : Nat) (hidx : idx < es.length) :
    entryOffLen es idx 0 = .ok ((spanAt ends idx).1, (spanAt ends idx).2) := by
  rw [entryOffLen_ok es idx 0 hidx, spanAt_eq_entryOffLen es ends h idx hidx]

/-- The result of `ParseJSONB` does not depend on surplus fuel: any fuel above the input length gives
the value `parseJSONB` gives.  (So the fuel is a device of the model, not a behaviour.) -/
theorem C10_fuel_parseJSONB (bs : Bytes) (fuel : Nat) (h : bs.length < fuel) :
    parseJSONBFuel fuel bs = parseJSONB bs :=
  (parseJSONBFuel_same fuel (bs.length + 1) bs h (by omega)).1

/-- `DecodeType(data, OidJSONB)` (parser + fallbacks) returns for every byte string. -/
theorem C10_total_decodeTypeJSONB (bs : Bytes) : ∃ r, decodeTypeJSONB bs = .ok r :=
  let ⟨v, hv⟩ := parseJSONB_total bs
  ⟨_, decodeTypeJSONB_eq bs v hv⟩

/-- the witness of the panic of fix 07 (array of two strings, entry 1 = HAS_OFF with end offset 2 below its start 10) is
answered with nil -/
example : parseJSONB (le 4 0x40000002 ++ le 4 0x8000000A ++ le 4 0x80000002 ++ zeros 16) = .ok .nil := by
  rfl

end PgVerif.Props.C10.Numjson
