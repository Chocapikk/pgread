/-
  C10 (area rows) — row decoding, varlena reading and credential extraction never fault, for every byte
  string, every tuple and every schema (hostile Len / Num / Align / TypID values included).
  The scalar decoder is a parameter; the theorems assume only that IT does not fault (area `scalars` owns
  DecodeType) and show that nothing in heap.go / deleted.go / passwords.go / ReadVarlena adds a fault.
-/
import PgVerif.Proofs.RowsViews
import PgVerif.Proofs.CollectM
import PgVerif.Proofs.InlineComp
namespace PgVerif.Props.C10.Rows
open PgVerif PgVerif.Model PgVerif.Proofs PgVerif.Proofs.Rows

def TotalDec (dec : Dec) : Prop := ∀ b t, ∃ v, dec b t = .ok v

/-- ReadVarlena returns for every byte string: every index and slice in it is guarded, and the decompressors of the
inline-compressed branch (fix 09) return for every stream and every claimed raw size. -/
theorem C10_total_readVarlena (data : Bytes) : ∃ r, readVarlena data = .ok r :=
  ⟨_, readVarlena_eq data⟩

/-- The inline-compressed branch of ReadVarlena (fix 09) returns for every byte string once ReadVarlena's own guards hold:
every stream (truncated tags, offsets before the start of the output, literal runs off the end), every claimed raw size,
every method value 0..3. -/
theorem C10_total_inlineDecompress (data : Bytes) (total : Nat) (h8 : 8 ≤ total) (hl : total ≤ data.length) :
    ∃ r, inlineDecompress data total = .ok r :=
  InlineComp.inlineDecompress_total data total h8 hl

/-- **Size, in the input.**  Whenever ReadVarlena returns a value, for ANY byte string: it consumes at most the input,
and the value it returns has at most 255 bytes per input byte (LZ4's densest encoding;
plain values: at most the input itself) — the 30-bit raw-size field of va_tcinfo, which a hostile file sets freely, is
no bound on what is produced: a stream that does not yield exactly that many bytes gives nil. -/
theorem C10_size_readVarlena (data v : Bytes) (n : Nat) (h : readVarlena data = .ok (some v, n)) :
    v.length ≤ 255 * data.length ∧ n ≤ data.length := by
  rw [readVarlena_eq] at h
  obtain ⟨hn, ⟨k, _, _, rfl⟩ | hv⟩ := varlenaOf_some (Except.ok.inj h)
  · rw [List.length_drop, List.length_take]; omega
  · have := (InlineComp.inlineDecompress_size data n v hv.1 hn hv.2).1
    omega

/-- readValue returns for every data, offset, type oid and attlen (negative, zero, huge …) as long as the
scalar decoder does. -/
theorem C10_total_readValue (dec : Dec) (hdec : TotalDec dec) (data : Bytes) (offset : Nat) (typid len : Int) :
    ∃ r, readValue dec data offset typid len = .ok r := by
  rw [readValue_eq]
  refine tot_ite (fun _ => ⟨_, rfl⟩) fun _ => tot_ite (fun _ => tot_ite (fun _ => ⟨_, rfl⟩) fun _ =>
    tot_bind (hdec _ typid) fun _ _ => ⟨_, rfl⟩) fun _ => tot_ite (fun _ => ?_) fun _ => ⟨_, rfl⟩
  -- the varlena branch: nil, or the value of the payload
  cases (varlenaOf (data.drop offset)).1 with
  | none => exact ⟨_, rfl⟩
  | some val =>
    refine tot_bind ?_ fun _ _ => ⟨_, rfl⟩
    unfold varlenaVal
    split
    · exact ⟨_, rfl⟩
    · exact hdec val typid

/-- The column loop of DecodeTuple returns for every tuple (any bitmap, any data) and every schema. -/
theorem C10_total_decodeCols (dec : Dec) (hdec : TotalDec dec) (t : HeapTuple) (cols : List Column) (i off : Nat) :
    ∃ r, decodeCols dec t cols i off = .ok r := by
  induction cols generalizing i off with
  | nil => exact ⟨_, rfl⟩
  | cons c cs ih =>
    rw [decodeCols_cons]
    exact tot_bind (colStep_total (fun o => C10_total_readValue dec hdec t.data o c.typid c.len) _ off) fun s _ =>
      tot_map _ (ih (i + 1) s.2)

/-- DecodeTuple returns (a row or nil) for every tuple and every schema — negative / huge Len, Num beyond
the bitmap or negative, unknown Align bytes, data shorter than the schema needs. -/
theorem C10_total_decodeTuple (dec : Dec) (hdec : TotalDec dec) (t : HeapTuple) (cols : List Column) :
    ∃ r, decodeTuple dec t cols = .ok r := by
  unfold decodeTuple
  exact tot_ite (fun _ => ⟨_, rfl⟩) fun _ => tot_bind (C10_total_decodeCols dec hdec t cols 0 0) fun _ _ => ⟨_, rfl⟩

/-- ReadRows returns for every byte string, every schema and both settings of the visibility switch. -/
theorem C10_total_readRows (dec : Dec) (hdec : TotalDec dec) (data : Bytes) (cols : List Column) (vis : Bool) :
    ∃ r, readRows dec data cols vis = .ok r := by
  rw [readRows_eq]
  exact collectM_total _ _ fun e => C10_total_decodeTuple dec hdec e.tuple cols

/-- … and so do ReadDeletedRows and ReadRowsWithDeleted. -/
theorem C10_total_readDeletedRows (dec : Dec) (hdec : TotalDec dec) (data : Bytes) (cols : List Column) :
    ∃ r, readDeletedRows dec data cols = .ok r := by
  rw [readDeletedRows_eq]
  refine collectM_total _ _ fun e => ?_
  unfold deletedStep
  exact tot_ite (fun _ => tot_ite (fun _ => tot_bind (C10_total_decodeTuple dec hdec e.tuple cols) fun _ _ => ⟨_, rfl⟩)
    fun _ => ⟨_, rfl⟩) fun _ => ⟨_, rfl⟩

theorem C10_total_readRowsWithDeleted (dec : Dec) (hdec : TotalDec dec) (data : Bytes) (cols : List Column) :
    ∃ r, readRowsWithDeleted dec data cols = .ok r := by
  rw [readRowsWithDeleted_eq]
  refine tot_bind ?_ fun _ _ => ⟨_, rfl⟩
  exact collectM_total _ _ fun e => tot_bind (C10_total_decodeTuple dec hdec e.tuple cols) fun _ _ => ⟨_, rfl⟩

/-- The per-tuple body of ParsePGAuthID returns for every tuple: the fixed offsets 0, 4, 68, 72, 80 are all
guarded (by `len(Data) < 70` and by the individual `offset+n <= len` tests). -/
theorem C10_total_authOne (t : HeapTuple) : ∃ r, authOne t = .ok r :=
  authOne_total t

/-- ParsePGAuthID returns for every byte string. -/
theorem C10_total_parsePGAuthID (data : Bytes) : ∃ r, parsePGAuthID data = .ok r := by
  rw [parsePGAuthID_eq]
  exact collectM_total _ _ fun e => C10_total_authOne e.tuple

/-- ExtractPasswordsFromFiles returns (roles, or the reader's error) for every reader. -/
theorem C10_total_extractPasswordsFromFiles (reader : Bytes → Option Bytes) :
    ∃ r, extractPasswordsFromFiles reader = .ok r := by
  unfold extractPasswordsFromFiles
  split
  · exact ⟨_, rfl⟩
  · exact tot_map _ (C10_total_parsePGAuthID _)

/-- Value isolation: a column's value and the number of bytes it consumes depend only on the data bytes from
the column's offset on — whatever bytes precede it (damaged or not) it decodes the same (`readValue` never
looks back). -/
theorem C10_isolate_value (dec : Dec) (pre pre' X : Bytes) (typid len : Int) :
    readValue dec (pre ++ X) pre.length typid len = readValue dec (pre' ++ X) pre'.length typid len := by
  rw [readValue_shift, readValue_shift]

/-- non-vacuity: the trivial decoder is total, and a hostile schema over a 3-byte tuple decodes -/
example : TotalDec (fun b _ => pure (.int b.length)) := fun _ _ => ⟨_, rfl⟩
example : decodeTuple (fun b _ => pure (.int b.length)) ⟨⟨0, 0, 0, false, false, false, true⟩, some [5], [3, 1, 18]⟩
    [⟨[97], 25, -1, -4, 255⟩, ⟨[98], 0, 9223372036854775807, 2, 0⟩, ⟨[99], 16, -7, 9999, 100⟩]
    = .ok (some [([97], .str []), ([98], .nil), ([99], .nil)]) := by rfl

end PgVerif.Props.C10.Rows
