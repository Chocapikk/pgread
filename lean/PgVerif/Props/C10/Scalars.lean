/-
  C10 for area `scalars`: DecodeType (types.go) returns on every input; the work bound of decodeBitString.
  Property theorems only; the lemmas are in Proofs/ScalarsTotal.lean and Proofs/ScalarsClosed.lean.
-/
import PgVerif.Proofs.ScalarsTotal
namespace PgVerif.Props.C10.Scalars
open PgVerif PgVerif.Model.Scalars PgVerif.Proofs.Scalars

/-- For every byte string and every type oid, DecodeType returns a value (it does not panic on an
index, a slice bound or an allocation size): every scalar decoder of types.go — fixed-width types
behind the short-input guard, path/polygon with any count field, bit strings with any length
field, inet/cidr of any length, all range types with any flag byte — provided the three decoders
that belong to other areas (arrays, numeric, jsonb: the `Ext` parameters) return on every input. -/
theorem C10_total_decodeType (ext : Ext) (hext : ExtTotal ext) (bs : Bytes) (oid : Nat) :
    ∃ r, decodeType ext bs oid = .ok r :=
  decodeType_total ext hext bs oid

/-- the same for the scalar switch alone (no array dispatch): what a range bound re-enters -/
theorem C10_total_decodeScalar (ext : Ext) (hext : ExtTotal ext) (bs : Bytes) (oid : Nat) :
    ∃ r, decodeScalar ext bs oid = .ok r :=
  decodeScalar_total ext hext bs oid

/-- the hypothesis is satisfiable: decoders that always return -/
example : ExtTotal { decodeArray := fun _ _ => pure .nil, decodeNumeric := fun _ => pure .nil,
                     parseJSONB := fun _ => pure .nil, jsonUnmarshal := fun _ => none } :=
  ⟨fun _ _ => ⟨_, rfl⟩, fun _ => ⟨_, rfl⟩, fun _ => ⟨_, rfl⟩⟩

/-- Work bound of the bit-string decoder (A33, repaired): the text it builds is never longer than
eight characters per input byte, whatever the stored length field says. -/
theorem C10_bitstring_bounded (data : Bytes) (s : Bytes) (h : decodeBitString data = .ok (.str s)) :
    s.length ≤ 8 * data.length := by
  rw [decodeBitString_eq] at h
  cases h
  rw [bitChars_length]
  exact bitCount_le data

end PgVerif.Props.C10.Scalars
