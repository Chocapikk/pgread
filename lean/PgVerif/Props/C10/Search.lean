/-
  C10 (area search) — search and secret scan.
  search.go / secrets.go take decoded values (a dump), a pattern text and detectors.  The models
  (Model/Search.lean, Model/Secrets.lean) are plain functions, not in the fault monad: the Go code has no index,
  division, make or type assertion that could fail on them (map lookups, `range` loops, `append`, `fmt`), with ONE
  exception, the slice expression `s[i:i+len(substr)]` of `bytesContains`, which is re-modelled with the bounds-checked
  `slice` in Proofs/SearchTotal.lean and proved safe below.  For a plain Lean function "a result exists" is true by
  construction and is therefore NOT stated as a theorem (that SearchInDump's only failure is the error return for a
  pattern that does not compile is `Props.C15.C15_invalid`).  What is stated here: the slice is safe, damage is
  confined between databases at the level of the exported function, and short cells are skipped by the secret scan.
-/
import PgVerif.Props.C15
import PgVerif.Proofs.SearchTotal
namespace PgVerif.Props.C10.Search
open PgVerif PgVerif.Spec.Search PgVerif.Model.Search PgVerif.Proofs.Search

/-- `bytesContains` (secrets.go; the keyword pre-filter of ScanString): its slice expression `s[i:i+len(substr)]`,
written with Go's bounds check, never faults — for every text and every keyword, empty ones and keywords longer than
the text included — and the function returns exactly what the pure model `Model.Secrets.bytesContains` returns (which
`Props.C15.C15_contains` characterises as "substr occurs in s"). -/
theorem C10_total_bytesContains (s substr : Bytes) :
    Proofs.SearchTotal.bytesContainsM s substr = .ok (Model.Secrets.bytesContains s substr) := by
  unfold Proofs.SearchTotal.bytesContainsM Model.Secrets.bytesContains
  by_cases h0 : substr.length = 0
  · simp [h0]
  · rw [if_neg h0, if_neg h0]
    by_cases h1 : substr.length > s.length
    · simp [h1]
    · rw [if_neg h1, if_neg h1, Proofs.SearchTotal.containsLoopM_eq s substr _ 0 (by omega)]
      rfl

/-- Isolation between databases, for the exported function: without a result limit (MaxResults ≤ 0), SearchInDump on a
dump made of the databases `d₁` followed by `d₂` fails iff it fails on either part (i.e. iff the pattern does not
compile), and otherwise returns the hits of `d₁` followed by the hits of `d₂` — what is reported for the databases of
`d₁` does not depend on the content of `d₂`, however damaged, and vice versa.  (With a limit the result is the
corresponding prefix: `Props.C15.C15_prefix`.) -/
theorem C10_isolate_search (R : Regex) (sh : GoVal → Bytes) (d₁ d₂ : Dump) (o : Opts) (hm : o.maxResults ≤ 0) :
    hits R sh (d₁ ++ d₂) o = (hits R sh d₁ o).bind fun a => (hits R sh d₂ o).map fun b => a ++ b := by
  rw [Props.C15.C15_prefix, Props.C15.C15_prefix, Props.C15.C15_prefix]
  unfold expected
  cases R.compile (effPattern o) with
  | none => rfl
  | some re =>
    have h : ¬ o.maxResults > 0 := by omega
    simp [h, allMatches]

/-- The secret scan skips short cells: a cell whose `%v` text is shorter than 8 bytes contributes no finding, for every
set of detectors (not a totality statement: the scan is a plain function). -/
theorem C10_scan_short_cell (dets : List Spec.Search.Detector) (sh : GoVal → Bytes) (db tbl : Bytes) (i : Nat) (row : Row) (c : Bytes)
    (h : (fmtV sh ((lookup c row).getD .nil)).length < 8) : Model.Secrets.scanCell dets sh db tbl i row c = [] := by
  simp only [Model.Secrets.scanCell]; rw [if_pos h]

/-- the hypothesis `MaxResults ≤ 0` of `C10_isolate_search` is satisfiable -/
example : (∃ o : Opts, o.maxResults ≤ 0) := ⟨{ pattern := [], caseSensitive := true, includeRow := false, maxResults := 0 }, by decide⟩

end PgVerif.Props.C10.Search
