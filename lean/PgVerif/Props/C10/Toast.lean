/-
  C10 (area toast) — nothing in pgdump/toast.go faults, for every byte string, every pointer, every chunk list.
  The models are those of toast.go with fixes/toast/01..06, 20..22 applied (Model/Toast.lean, Model/Pglz.lean, Model/Lz4.lean);
  their slice/index primitives check against the length of the slice they are given, so "no fault" means: no Go panic
  (index, slice bounds, division by zero in `i % offset`) AND no read beyond the slice.

  Resource clause ("does not run or allocate beyond a small multiple of what the input size warrants"): SIZE of the
  results for arbitrary bytes, as bounds in the size of what each function is HANDED (`C10_size_*`): the stream for the
  decompressors, the chunk list for ReassembleTOAST.  The raw size a pointer
  declares is 4 bytes of an 18-byte datum the caller hands in — an attacker's number, not a measure of the input — so the
  bounds "≤ rawSize" are stated but are not what limits the cost; what does is the stream:
      pglz   ≤  91 · len(stream)   (a 3-byte tag stands for at most 18 + 255 = 273 bytes)
      LZ4    ≤ 255 · len(stream)   (one length-extension byte stands for 255 bytes)
      zlib fallback (a format PostgreSQL never writes to TOAST) ≤ min(rawSize, 255 · len(stored))   (fixes toast/20, toast/22)
      ReassembleTOAST ≤ 255 · (chunk bytes of the value in the chunk list), on every path, for every pointer.
  These ratios are properties of the two formats (PostgreSQL itself stores 64 MiB of zeros as 256 KiB of LZ4), so a tool
  that returns the original value cannot stay below them: they are what "the input warrants" here, and the claim says so.
  NOT BOUNDED in the size of the relation FILE: the chunk bytes ReadTOASTTable returns.  readTOASTTuples has the pointer
  checks of ParsePage without its overlap guard (`overlapsAny`, fix heap/02), so on a damaged page several line pointers
  may name the same storage and each yields a chunk: no theorem here bounds `readTOASTTable data` by `data.length` (the heap
  area has `readTuples_dataSum_le` for ReadTuples), and the composition file -> ReadTOASTTable -> ReassembleTOAST exceeds
  255 bytes per file byte on such a page.
  ALLOCATION is not in the model: each decompressor allocates its result once, at exactly the size
  it produces (a counting pass over the stream first, fix toast/22), the zlib fallback inflates twice for the same reason; family
  `resource` (cases lz4amp / pglzamp / zbomb with va_rawsize = 0xFFFFFFFF) and `toastmut` measure
  allocation ≤ 2·output + 8·input + 1 MiB on the real code.
  TERMINATION: `C10_terminates_*`: the loops in which an exhausted iteration budget is a FAULT give the model's (fault-free)
  answer with the budget len(stream)+1, so the Go loops leave their condition within that many iterations.
-/
import PgVerif.Proofs.ToastTotal
import PgVerif.Proofs.ToastPtr
namespace PgVerif.Props.C10.Toast
open PgVerif PgVerif.Model PgVerif.Model.Toast PgVerif.Proofs.Toast

/-- ParseTOASTPointer returns (a pointer or nil) for every byte string. -/
theorem C10_total_parseTOASTPointer (data : Bytes) : ∃ r, parseTOASTPointer data = .ok r := by
  unfold parseTOASTPointer
  refine tot_ite (fun _ => ⟨_, rfl⟩) fun h => tot_bind ⟨_, idx_ok _ _ (by omega)⟩ fun tag _ => ?_
  refine tot_ite (fun _ => ⟨_, rfl⟩) fun _ => tot_ite (fun _ => ⟨_, rfl⟩) fun _ => ?_
  rw [le32_eq _ 2 (by omega), le32_eq _ (2 + 4) (by omega), le32_eq _ (2 + 8) (by omega), le32_eq _ (2 + 12) (by omega)]
  exact tot_uN (by omega) fun _ => tot_uN (by omega) fun _ => tot_uN (by omega) fun _ => tot_uN (by omega) fun _ => ⟨_, rfl⟩

theorem C10_total_isTOASTPointer (data : Bytes) : ∃ r, isTOASTPointer data = .ok r :=
  tot_ite (fun _ => ⟨_, rfl⟩) fun h => tot_bind ⟨_, idx_ok _ _ (by omega)⟩ fun _ _ => ⟨_, rfl⟩

/-- ReadVarlena (as used for chunk_data) returns for every byte string: every header form, every claimed length. -/
theorem C10_total_readVarlena (data : Bytes) : ∃ r, readVarlena data = .ok r :=
  readVarlena_total data

/-- ReadTOASTTable returns for every byte string (any pages, any tuples, any chunk headers). -/
theorem C10_total_readTOASTTable (data : Bytes) : ∃ r, readTOASTTable data = .ok r :=
  readTOASTTable_total data

/-- decompressPGLZ returns (bytes or the error) for every stream and every claimed raw size: truncated tags, offsets
of 0 or beyond the output, missing extension bytes included; the index `start + i % offset` of the copy loop is
always inside the output. -/
theorem C10_total_decompressPGLZ (data : Bytes) (rawSize : Nat) : ∃ r, Pglz.decompressPGLZ data rawSize = .ok r :=
  decompressPGLZ_total data rawSize

/-- decompressLZ4 returns (bytes or the error) for every block and every claimed raw size: literal lengths running off
the end, truncated offsets, offset 0 or beyond the output, unterminated length extensions included. -/
theorem C10_total_decompressLZ4 (data : Bytes) (rawSize : Nat) : ∃ r, Lz4.decompressLZ4 data rawSize = .ok r :=
  decompressLZ4_total data rawSize

/-- ReassembleTOAST returns for every chunk list (duplicates, gaps, empty chunks), every value id, every pointer
(any raw size incl. 0..3 and 2^32−1, any method, compressed or not, or nil) and every behaviour of the zlib fallback. -/
theorem C10_total_reassembleTOAST (zlib : Bytes → Nat → Option Bytes) (chunks : List Chunk) (valueID : Nat) (ptr : Option Ptr) :
    ∃ r, reassembleTOAST zlib chunks valueID ptr = .ok r :=
  Proofs.ToastSize.reassembleTOAST_cases (P := fun x => ∃ r, x = .ok r) zlib chunks valueID ptr ⟨_, rfl⟩
    (fun _ _ => ⟨_, rfl⟩) fun p data _ _ h4 =>
    tot_bind (decompressStored_total zlib p data (by omega)) fun _ _ => ⟨_, rfl⟩

/-- TOASTReader.ReadValue returns for every input, every set of loaded tables, and every outcome of reading the
relation file from the data directory. -/
theorem C10_total_readValue (zlib : Bytes → Nat → Option Bytes) (readFile : Nat → Option Bytes) (r : Reader) (data : Bytes) :
    ∃ x, readValue zlib readFile r data = .ok x := by
  unfold readValue
  refine tot_bind (C10_total_parseTOASTPointer data) fun p _ => ?_
  cases p with
  | none => exact ⟨_, rfl⟩
  | some p =>
    dsimp -zeta only
    extract_lets rest
    -- `rest`: what ReadValue does once the tables are settled
    have hrest : ∀ tables, ∃ x, rest tables = .ok x := fun tables => by
      dsimp only [rest]
      cases tables.lookup p.toastRelID with
      | none => exact ⟨_, rfl⟩
      | some cs => exact tot_bind (C10_total_reassembleTOAST zlib cs p.valueID (some p)) fun _ _ => ⟨_, rfl⟩
    refine tot_ite (fun _ => ?_) fun _ => tot_bind ⟨_, rfl⟩ fun _ _ => hrest _
    cases readFile p.toastRelID with
    | none => exact tot_bind ⟨_, rfl⟩ fun _ _ => hrest _
    | some f => exact tot_bind (readTOASTTable_total f) fun _ _ => tot_bind ⟨_, rfl⟩ fun _ _ => hrest _

theorem C10_total_getTOASTVerboseInfo (relid : Nat) (data : Bytes) : ∃ r, getTOASTVerboseInfo relid data = .ok r :=
  getTOASTVerboseInfoWith_total id relid data

/-! ## resource clause: sizes and termination, arbitrary bytes -/

/-- decompressPGLZ, for every stream and every claimed raw size: at most `rawSize` bytes, and — a bound in the input — at
most 91 bytes per stream byte (a 3-byte tag yields at most 273 bytes: the ratio of the pglz format). -/
theorem C10_size_decompressPGLZ (data : Bytes) (rawSize : Nat) (d : Bytes)
    (h : Pglz.decompressPGLZ data rawSize = .ok (some d)) : d.length ≤ rawSize ∧ d.length ≤ 91 * data.length :=
  Proofs.ToastSize.decompressPGLZ_bound data rawSize d h

/-- decompressLZ4, for every block: the result has at most `rawSize + len(stream)` bytes (matches stop at rawSize,
literals are copied without looking at it) and — a bound in the input — at most `255 · len(stream)` bytes (the expansion
the LZ4 block format can reach: one length-extension byte stands for 255 output bytes — a property of the format, not of
this decoder). -/
theorem C10_size_decompressLZ4 (data : Bytes) (rawSize : Nat) (d : Bytes)
    (h : Lz4.decompressLZ4 data rawSize = .ok (some d)) : d.length ≤ rawSize + data.length ∧ d.length ≤ 255 * data.length :=
  Proofs.ToastSize.decompressLZ4_len data rawSize d h

/-- ReassembleTOAST, for every chunk list, value id and pointer: the value it returns is never longer than 255 times the
chunk bytes it was given for that value — WHATEVER the pointer declares (va_rawsize = 2^32 − 1 included) — and never longer
than those chunk bytes plus, for a compressed pointer, va_rawsize − 4.  `hz` is io.LimitReader's contract for the zlib
fallback (`zlib d n` = at most `n` bytes); the limit the fallback is given is min(va_rawsize − 4, 255 · stored bytes)
(fixes toast/20 and toast/22, finding C10-zlib-bomb).  The chunk bytes are those of the chunk LIST: see the head of this file
for what is not bounded in the size of the relation file. -/
theorem C10_size_reassembleTOAST (zlib : Bytes → Nat → Option Bytes) (hz : ZlibBounded zlib) (chunks : List Chunk)
    (valueID : Nat) (ptr : Option Ptr) (r : Bytes) (h : reassembleTOAST zlib chunks valueID ptr = .ok (some r)) :
    r.length ≤ 255 * Proofs.ToastSize.chunkBytes chunks valueID ∧
    r.length ≤ (match ptr with | some p => p.rawSize - 4 | none => 0) + Proofs.ToastSize.chunkBytes chunks valueID := by
  refine Proofs.ToastSize.reassembleTOAST_cases (P := fun x => x = .ok (some r) → _) zlib chunks valueID ptr
    (fun h => by cases h) (fun data hlen h => ?_) (fun p data hp hlen h4 h => ?_) h
  · cases h; omega
  · obtain ⟨d, hd, h⟩ := bind_eq_ok h
    cases h
    have := Proofs.ToastSize.decompressStored_len zlib hz p _ _ (by omega) hd
    rw [hlen] at this; subst hp; exact ⟨this.2, this.1⟩

/-- the ratio 255 of `C10_size_decompressLZ4` / `C10_size_reassembleTOAST` is the format's, not slack of the proof: the
13-byte LZ4 block `1F 41 0100 FF×8 00` with a declared raw size of 2^32 − 5 gives 1 + 19 + 8·255 = 2060 bytes (158 per
stream byte); with n extension bytes instead of 8 the quotient tends to 255. -/
example :
    (match Lz4.decompressLZ4 [0x1F, 0x41, 0x01, 0x00, 255, 255, 255, 255, 255, 255, 255, 255, 0] 4294967291 with
     | .ok (some r) => r.length
     | _ => 0) = 2060 := by
  -- the first iteration reads the token, the literal 0x41 and the match header; what is left is one copy of 2059 bytes
  have e : Lz4.decompressLZ4 [0x1F, 0x41, 0x01, 0x00, 255, 255, 255, 255, 255, 255, 255, 255, 0] 4294967291 =
      Pglz.copyLoopM (([0x41] : Bytes).length - 1) 1 4294967291 2059 0 [0x41] >>= fun out => pure (some out) := rfl
  rw [e, Proofs.Pglz.copyLoop_match [0x41] 1 2059 _ (by decide) (by decide) (by decide)]
  exact Proofs.Pglz.expandMatch_length 1 2059 [0x41]

/-- the hypothesis of `C10_size_reassembleTOAST` is satisfiable: a fallback that always fails, and one that returns a
prefix of its input -/
example : ZlibBounded (fun _ _ => none) := fun _ _ _ h => by cases h
example : ZlibBounded (fun d n => some (d.take n)) := fun d n z h => by
  cases h; simp only [List.length_take]; omega

/-- decompressPGLZ TERMINATES within len(stream)+1 iterations of its outer loop, for every stream and raw size:
`Pglz.decompressB` is the same loop in which using up the iteration budget while the Go loop condition
(`pos < len(data) && len(result) < rawSize`) still holds is a FAULT (`.budget`); run with the budget len(stream)+1 it gives
exactly the model's answer — and the model never faults (`C10_total_decompressPGLZ`), so the budget fault is unreachable:
the condition is false after at most len(stream)+1 iterations (every iteration consumes at least the control byte). -/
theorem C10_terminates_decompressPGLZ (data : Bytes) (rawSize : Nat) (h4 : ¬ data.length < 4) :
    Pglz.decompressPGLZ data rawSize = (do let r ← Pglz.decompressB rawSize (data.length + 1) data []; pure (some r)) ∧
    ∃ r, (do let r ← Pglz.decompressB rawSize (data.length + 1) data []; pure (some r) : M (Option Bytes)) = .ok r := by
  suffices h : Pglz.decompressPGLZ data rawSize = _ from ⟨h, by rw [← h]; exact decompressPGLZ_total data rawSize⟩
  unfold Pglz.decompressPGLZ
  rw [if_neg h4, Proofs.ToastSize.decompressB_eq rawSize (data.length + 1) data [] (by omega)]

/-- decompressLZ4 likewise (`Lz4.loopB`; every iteration of the main loop consumes the token byte). -/
theorem C10_terminates_decompressLZ4 (data : Bytes) (rawSize : Nat) (h1 : ¬ data.length < 1) :
    Lz4.decompressLZ4 data rawSize = Lz4.loopB rawSize (data.length + 1) data [] ∧
    ∃ r, Lz4.loopB rawSize (data.length + 1) data [] = .ok r := by
  suffices h : Lz4.decompressLZ4 data rawSize = _ from ⟨h, by rw [← h]; exact decompressLZ4_total data rawSize⟩
  unfold Lz4.decompressLZ4
  rw [if_neg h1, Proofs.ToastSize.loopB_eq rawSize (data.length + 1) data [] (by omega)]

/-- the budget fault of `decompressB` is real (the twin is not the lenient loop under another name): with a budget of 1 a
two-group stream is not finished -/
example : Pglz.decompressB 100 1 [0, 1, 2, 3, 4, 5, 6, 7, 8, 0, 9] [] = .error .budget := by rfl

/-- budget independence (weaker than termination): with ANY iteration budget above len(stream) the model's outer loop gives
the same result — the fuel is never the reason the loop stops. -/
theorem C10_fuel_decompressPGLZ (data : Bytes) (rawSize g : Nat) (hg : data.length < g) (h4 : ¬ data.length < 4) :
    Pglz.decompressPGLZ data rawSize = (do let r ← Pglz.decompress rawSize g data []; pure (some r)) := by
  unfold Pglz.decompressPGLZ
  rw [if_neg h4, Proofs.ToastSize.decompress_fuel rawSize (data.length + 1) g data [] (by omega) hg]

theorem C10_fuel_decompressLZ4 (data : Bytes) (rawSize g : Nat) (hg : data.length < g) (h1 : ¬ data.length < 1) :
    Lz4.decompressLZ4 data rawSize = Lz4.loop rawSize g data [] := by
  unfold Lz4.decompressLZ4
  rw [if_neg h1, Proofs.ToastSize.loop_fuel rawSize (data.length + 1) g data [] (by omega) hg]

end PgVerif.Props.C10.Toast
