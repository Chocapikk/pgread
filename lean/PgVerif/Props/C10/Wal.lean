/-
  C10 (area wal) — the WAL parsers never fault, for every byte string (and every directory content).
-/
import PgVerif.Proofs.WalDir
import PgVerif.Model.WalOrig
namespace PgVerif.Props.C10.Wal
open PgVerif PgVerif.Model.Wal PgVerif.Proofs.Wal

/-- The block-reference walk (parseBlockRefsFor; parseBlockRefs is its instance for PostgreSQL 16) returns for every byte string and both
bimg_info conventions: every index and slice in it is guarded. -/
theorem C10_total_parseBlockRefs (data : Bytes) (magic : Nat) : ∃ r, parseBlockRefsFor data magic = .ok r :=
  parseBlockRefsFor_total data magic

/-- parseXLogRecord returns for every byte string, LSN and magic. -/
theorem C10_total_parseXLogRecord (data : Bytes) (lsn magic : Nat) : ∃ r, parseXLogRecord data lsn magic = .ok r :=
  parseXLogRecord_total data lsn magic

/-- continuationData (the reassembly of a record cut by a page end, fixes/wal/04) returns — the continuation
bytes or nil — for every byte string standing for the following pages and every number of bytes needed. -/
theorem C10_total_continuationData (following : Bytes) (need : Nat) : ∃ r, continuationData following need = .ok r :=
  continuationData_total following need

/-- parseWALPage returns (records, or the "skip this page" error) for every byte string of any length as the
page and every byte string as the pages that follow it. -/
theorem C10_total_parseWALPage (data following : Bytes) : ∃ r, parseWALPage data following = .ok r :=
  parseWALPage_total data following

/-- ParseWALFile returns for every byte string: whatever a segment file contains, no page and no record in
it can make the parser fault. -/
theorem C10_total_parseWALFile (data : Bytes) : ∃ r, parseWALFile data = .ok r :=
  parseWALFile_total data

/-- ScanWALDirectory returns a summary for every directory content (any names, any file contents). -/
theorem C10_total_scanWALDirectory (dir : Dir) : ∃ r, scanWALDirectory dir = .ok r :=
  let ⟨_, h, _⟩ := scanWALDirectory_eq dir; ⟨_, h⟩

/-- GetRecentWALRecords returns for every directory content and EVERY limit (a Go int, negative values included:
fixes/entry/01 clamps them to 0). -/
theorem C10_total_getRecentWALRecords (dir : Dir) (limit : Int) :
    ∃ r, getRecentWALRecords dir limit = .ok r :=
  ⟨_, getRecentWALRecords_eq dir limit⟩

/-- The same for the `os.ReadDir` entries of pg_wal of every kind (fixes/entry/04: only regular files are opened, so a
FIFO, socket, device or directory with a segment's name cannot make the functions block or fail). -/
theorem C10_total_directory_entries (es : Entries) (limit : Int) :
    (∃ r, scanWALDirectoryOf es = .ok r) ∧ (∃ r, getRecentWALRecordsOf es limit = .ok r) :=
  ⟨C10_total_scanWALDirectory _, C10_total_getRecentWALRecords _ limit⟩

/-- **Allocation of the reassembly (fixes/wal/11).**  The only buffer parseWALPage allocates by a length read from the
input, `make([]byte, 0, totalLen)` for a record continued on the following pages, is requested only when
`totalLen - len(recData) <= len(following)`: whatever xl_tot_len says (up to 2^32 − 1), the bytes handed on to
parseXLogRecord are never more than the rest of the page plus the following pages, i.e. never more than the input. -/
theorem C10_reassembly_bounded (tail following out : Bytes) (h : recordBytes tail following = .ok out) :
    out.length ≤ tail.length + following.length :=
  (recordBytes_length tail following out h).1

/-- the hypothesis of `C10_reassembly_bounded` is satisfiable: xl_tot_len = 2^32 − 1 with nothing following — the rest of
the page is handed on as it is -/
example : recordBytes [0xFF, 0xFF, 0xFF, 0xFF, 1, 2, 3, 4] [] = .ok [0xFF, 0xFF, 0xFF, 0xFF, 1, 2, 3, 4] := by rfl

/-- What fixes/entry/01 repairs: without it (Model/WalOrig.lean `getRecentWALRecords`, the same code without the
clamp) a negative limit makes `allRecords[len(allRecords)-limit:]` go out of range even for an empty directory
(`impl-wal one waldir -1` on that code panics with "slice bounds out of range"); with the clamp the same call returns
no records. -/
theorem C10_getRecentWALRecords_negative_limit_before_fix :
    Model.WalOrig.getRecentWALRecords [] (-1) = .error .slice ∧ getRecentWALRecords [] (-1) = .ok [] := by
  constructor <;> rfl

end PgVerif.Props.C10.Wal
