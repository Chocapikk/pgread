/-
  C11 — results are a deterministic, side-effect-free function of the input (area `cluster`:
  pgdump.go, catalog.go, remote.go; the tree after fixes/cluster/01..09).

  Every `range` over a Go map is an explicit order parameter `π` in the model; "reproducible order" is
  `f π x = f π' x` for all rearrangements π, π'.  The model functions are pure: the only state is the
  RemoteClient cache, which is explicit (`Cache`), and `C11_no_hidden_state_*` show it never changes a result.
  Goroutine schedules and data races are decided at run time only (families `repeat`, `concurrent`,
  harness/cmd/cluster/racecheck under -race).
-/
import PgVerif.Proofs.ClusterClass
import PgVerif.Proofs.RemoteCold
namespace PgVerif.Props.C11
open PgVerif PgVerif.Model PgVerif.Proofs.Cluster List

/-- a legal iteration order of a Go map: some rearrangement of its entries -/
def IsOrder {β} (π : MapOrder β) : Prop := ∀ l, π l ~ l

/-- **The dump of one database does not depend on map iteration order** (fix 01): for every row reader, all
catalog bytes, every file reader and all options, any two iteration orders of the table map give the same
list of tables in the same order — hence byte-identical JSON, SQL and CSV. -/
theorem C11_dump_order_independent (rr : RowReader) (π π' : MapOrder TableInfo) (hπ : IsOrder π) (hπ' : IsOrder π')
    (classData attrData : Bytes) (reader : Option FileReader) (o : Spec.Options) :
    dumpDatabaseFromFiles rr π classData attrData reader o = dumpDatabaseFromFiles rr π' classData attrData reader o := by
  rw [dumpDatabaseFromFiles_eq rr π hπ, dumpDatabaseFromFiles_eq rr π' hπ']

/-- **The whole-directory dump does not depend on map iteration order.** -/
theorem C11_dataDir_order_independent (rr : RowReader) (π π' : MapOrder TableInfo) (hπ : IsOrder π) (hπ' : IsOrder π')
    (fs : Bytes → Option Bytes) (o : Spec.Options) : dumpDataDir rr π fs o = dumpDataDir rr π' fs o := by
  unfold dumpDataDir
  have : dumpDb rr π fs o = dumpDb rr π' fs o := by
    funext db
    unfold dumpDb
    simp only [C11_dump_order_independent rr π π' hπ hπ']
  rw [this]

/-- **RemoteClient.Tables does not depend on map iteration order** (fix 01), for every table map ParsePGClass
can produce. -/
theorem C11_remote_tables_order_independent (rr : RowReader) (π π' : MapOrder TableInfo) (hπ : IsOrder π) (hπ' : IsOrder π')
    (data : Bytes) (t : List (Nat × TableInfo)) (ht : parsePGClass rr data = .ok t) :
    tablesOf π t = tablesOf π' t := by
  have hk := parsePGClass_keysOK rr data t ht
  rw [tablesOf_eq_sort π hπ t hk, tablesOf_eq_sort π' hπ' t hk]

/-- the same at the level of the client method (any file system, cache-free meaning of `Tables`) -/
theorem C11_tablesCold_order_independent (rr : RowReader) (π π' : MapOrder TableInfo) (hπ : IsOrder π) (hπ' : IsOrder π')
    (fs : RemoteReader) (db : Nat) : tablesCold rr π fs db = tablesCold rr π' fs db := by
  rw [Proofs.Remote.tablesCold_eq rr π hπ, Proofs.Remote.tablesCold_eq rr π' hπ']

/-- what RemoteClient.Tables did before fix 01: the values in map iteration order -/
def tablesUnsorted (π : MapOrder TableInfo) (t : List (Nat × TableInfo)) : List TableInfo := (π t).map (·.2)

/-- **Without the sort the order leaks** (finding A38, the code before fix 01): a two-table map and two legal
iteration orders that give different listings. -/
theorem C11_unsorted_order_dependent :
    ∃ (t : List (Nat × TableInfo)) (π π' : MapOrder TableInfo), KeysOK t ∧ IsOrder π ∧ IsOrder π' ∧
      tablesUnsorted π t ≠ tablesUnsorted π' t := by
  refine ⟨[(1, ⟨10, 1, [97], [114]⟩), (2, ⟨20, 2, [98], [114]⟩)], id, List.reverse, ?_, fun l => Perm.refl l,
    fun l => reverse_perm l, by decide⟩
  exact ⟨by decide, by decide⟩

/-- **Name lookup is a function of the sorted listing** (fix 03): `Table(db, name)` looks the name up in
`Tables(db)`, so it inherits order independence — names differing only in case resolve the same way on every run. -/
theorem C11_lookup_order_independent (rr : RowReader) (π π' : MapOrder TableInfo) (hπ : IsOrder π) (hπ' : IsOrder π')
    (data : Bytes) (t : List (Nat × TableInfo)) (ht : parsePGClass rr data = .ok t) (name : Bytes) :
    findByName (·.name) (tablesOf π t) name = findByName (·.name) (tablesOf π' t) name := by
  rw [C11_remote_tables_order_independent rr π π' hπ hπ' data t ht]

/-! ### the RemoteClient cache is invisible -/

-- `CacheOK` (Proofs/RemoteCold.lean): a cache that only holds what the loaders computed

theorem C11_cache_empty_ok (rr : RowReader) (fs : RemoteReader) : CacheOK rr fs Cache.empty :=
  ⟨fun h => absurd rfl h, fun db t h => by simp [Cache.empty] at h⟩

/-- **Databases(): warm = cold.**  With any cache state reachable from an empty one, `Databases()` returns exactly
what it computes without a cache, and leaves the cache consistent. -/
theorem C11_no_hidden_state_databases (rr : RowReader) (fs : RemoteReader) (c : Cache) (hc : CacheOK rr fs c) :
    (rcDatabases rr fs c).map (·.1) = databasesCold rr fs ∧
    ∀ r c', rcDatabases rr fs c = .ok (r, c') → CacheOK rr fs c' :=
  (Proofs.Remote.impl_databases rr fs c).warm.spec hc

/-- **loadCatalog: warm = cold.**  The (tables, columns) a client sees for a database equal what loading them
afresh computes, and the cache stays consistent. -/
theorem C11_no_hidden_state_catalog (rr : RowReader) (fs : RemoteReader) (db : Nat) (c : Cache) (hc : CacheOK rr fs c) :
    (rcCatalog rr fs db c).map (·.1) = catalogCold rr fs db ∧
    ∀ r c', rcCatalog rr fs db c = .ok (r, c') → CacheOK rr fs c' :=
  (Proofs.Remote.impl_catalog rr fs db c).warm.spec hc

/-- **Tables(): warm = cold.** -/
theorem C11_no_hidden_state_tables (rr : RowReader) (π : MapOrder TableInfo) (fs : RemoteReader) (db : Nat) (c : Cache)
    (hc : CacheOK rr fs c) : (rcTables rr π fs db c).map (·.1) = tablesCold rr π fs db :=
  ((Proofs.Remote.impl_tables rr π fs db c).warm.spec hc).1

/-- **Columns(): warm = cold.** -/
theorem C11_no_hidden_state_columns (rr : RowReader) (fs : RemoteReader) (db tbl : Nat) (c : Cache)
    (hc : CacheOK rr fs c) : (rcColumns rr fs db tbl c).map (·.1) = columnsCold rr fs db tbl :=
  ((Proofs.Remote.impl_columns rr fs db tbl c).warm.spec hc).1

example : IsOrder (List.reverse : MapOrder TableInfo) := fun l => reverse_perm l

end PgVerif.Props.C11

#print axioms PgVerif.Props.C11.C11_dump_order_independent
#print axioms PgVerif.Props.C11.C11_dataDir_order_independent
#print axioms PgVerif.Props.C11.C11_remote_tables_order_independent
#print axioms PgVerif.Props.C11.C11_tablesCold_order_independent
#print axioms PgVerif.Props.C11.C11_unsorted_order_dependent
#print axioms PgVerif.Props.C11.C11_lookup_order_independent
#print axioms PgVerif.Props.C11.C11_no_hidden_state_databases
#print axioms PgVerif.Props.C11.C11_no_hidden_state_catalog
#print axioms PgVerif.Props.C11.C11_no_hidden_state_tables
#print axioms PgVerif.Props.C11.C11_no_hidden_state_columns
