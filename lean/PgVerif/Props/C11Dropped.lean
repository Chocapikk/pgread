/-
  C11 (area dropped) — the results of dropped.go do not depend on Go's map iteration order (the tree after
  fixes/dropped/02).  dropped.go ranges over the `map[filenode]TableInfo` returned by ParsePGClass in three places:
  to build the relation-oid ↦ name table (FindDroppedColumns) and to look a table up by name
  (RecoverDroppedColumnData, GetDroppedColumnSchema).  Each `range` is an explicit order parameter `π` of the model;
  the theorems quantify over all rearrangements.  Before fix 02 the name lookup returned the first hit in iteration
  order: with two relations of one name (legal in PostgreSQL: names are unique per schema only) the answer changed
  from run to run — `C11_dropped_lookup_order_dependent` is the witness at the level of the model, family
  `dropped_repeat` the one on the real code.
-/
import PgVerif.Model.Dropped
import PgVerif.Props.C11
namespace PgVerif.Props.C11Dropped
open PgVerif PgVerif.Model PgVerif.Proofs.Cluster List
open PgVerif.Props.C11 (IsOrder C11_remote_tables_order_independent)

/-- the relation-oid ↦ name table of FindDroppedColumns does not depend on the iteration order -/
theorem C11_tableNames_order_independent (rr : RowReader) (π π' : MapOrder TableInfo) (hπ : IsOrder π) (hπ' : IsOrder π')
    (data : Bytes) (t : List (Nat × TableInfo)) (ht : parsePGClass rr data = .ok t) :
    drTableNamesOf π t = drTableNamesOf π' t := by
  unfold drTableNamesOf
  rw [C11_remote_tables_order_independent rr π π' hπ hπ' data t ht]

/-- looking a table up by name does not depend on the iteration order (fix 02) -/
theorem C11_findTable_order_independent (rr : RowReader) (π π' : MapOrder TableInfo) (hπ : IsOrder π) (hπ' : IsOrder π')
    (data : Bytes) (t : List (Nat × TableInfo)) (ht : parsePGClass rr data = .ok t) (name : Bytes) :
    drFindTable π t name = drFindTable π' t name := by
  unfold drFindTable
  rw [C11_remote_tables_order_independent rr π π' hπ hπ' data t ht]

/-- **FindDroppedColumns does not depend on map iteration order**: for every row reader, every file tree and
database name, any two iteration orders give the same result (hence byte-identical JSON). -/
theorem C11_findDropped_order_independent (rr : RowReader) (π π' : MapOrder TableInfo) (hπ : IsOrder π) (hπ' : IsOrder π')
    (fs : Bytes → Option Bytes) (dbName : Bytes) :
    findDroppedColumns rr π fs dbName = findDroppedColumns rr π' fs dbName := by
  unfold findDroppedColumns
  split
  · rfl
  · refine bind_congr_ok fun dbs _ => ?_
    split
    · rfl
    · split
      · rfl
      · split
        · rfl
        · exact bind_congr_ok fun t ht => by rw [C11_tableNames_order_independent rr π π' hπ hπ' _ t ht]

/-- **ScanDroppedColumns does not depend on map iteration order.** -/
theorem C11_scanDropped_order_independent (rr : RowReader) (π π' : MapOrder TableInfo) (hπ : IsOrder π) (hπ' : IsOrder π')
    (fs : Bytes → Option Bytes) : scanDroppedColumns rr π fs = scanDroppedColumns rr π' fs := by
  unfold scanDroppedColumns
  have : drScanOne rr π fs = drScanOne rr π' fs := by
    funext db
    unfold drScanOne
    rw [C11_findDropped_order_independent rr π π' hπ hπ' fs db.name]
  rw [this]

/-- **GetDroppedColumnSchema does not depend on map iteration order** (fix 02) — also when several relations carry
the requested name. -/
theorem C11_schema_order_independent (rr : RowReader) (π π' : MapOrder TableInfo) (hπ : IsOrder π) (hπ' : IsOrder π')
    (fs : Bytes → Option Bytes) (dbName tableName : Bytes) :
    getDroppedColumnSchema rr π fs dbName tableName = getDroppedColumnSchema rr π' fs dbName tableName := by
  unfold getDroppedColumnSchema
  split
  · rfl
  · refine bind_congr_ok fun dbs _ => ?_
    split
    · rfl
    · split
      · rfl
      · exact bind_congr_ok fun t ht => by rw [C11_findTable_order_independent rr π π' hπ hπ' _ t ht]

/-- **RecoverDroppedColumnData does not depend on map iteration order** (fix 02). -/
theorem C11_recover_order_independent (rr : RowReader) (π π' : MapOrder TableInfo) (hπ : IsOrder π) (hπ' : IsOrder π')
    (fs : Bytes → Option Bytes) (dbName tableName : Bytes) (attNum : Int) :
    recoverDroppedColumnData rr π fs dbName tableName attNum = recoverDroppedColumnData rr π' fs dbName tableName attNum := by
  unfold recoverDroppedColumnData
  split
  · rfl
  · refine bind_congr_ok fun dbs _ => ?_
    split
    · rfl
    · split
      · rfl
      · exact bind_congr_ok fun t ht => by rw [C11_findTable_order_independent rr π π' hπ hπ' _ t ht]

/-- what the lookup of RecoverDroppedColumnData / GetDroppedColumnSchema did before fix 02: the first relation of
that name in map iteration order -/
def findTableUnsorted (π : MapOrder TableInfo) (tables : List (Nat × TableInfo)) (tableName : Bytes) : Option TableInfo :=
  ((π tables).map (·.2)).find? fun t => t.name == tableName

/-- **Without the sort the order leaks** (the code before fix 02): a table map ParsePGClass can produce, with two
relations called `t` (oids 10 and 20), and two legal iteration orders under which the lookup of `t` answers with
different relations. -/
theorem C11_dropped_lookup_order_dependent :
    ∃ (t : List (Nat × TableInfo)) (π π' : MapOrder TableInfo), KeysOK t ∧ IsOrder π ∧ IsOrder π' ∧
      findTableUnsorted π t [116] ≠ findTableUnsorted π' t [116] := by
  refine ⟨[(1, ⟨10, 1, [116], [114]⟩), (2, ⟨20, 2, [116], [114]⟩)], id, List.reverse, ?_, fun l => Perm.refl l,
    fun l => reverse_perm l, by decide⟩
  exact ⟨by decide, by decide⟩

example : IsOrder (List.reverse : MapOrder TableInfo) := fun l => reverse_perm l

end PgVerif.Props.C11Dropped
