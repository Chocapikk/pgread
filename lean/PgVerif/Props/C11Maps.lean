/-
  C11 — results are a deterministic function of the input: the two functions of areas `control` (sequence.go) and
  `toast` (toast.go) that range over a Go map (REVIEW B1).

  FindSequences ranges over the map ParsePGClass returns, GetTOASTVerboseInfo over the map value id ↦ chunks; both
  appended to their result inside the `range`, so the order of `pgread -sequences` / `-toast-verbose` changed from run to
  run.  fixes/control/08 and fixes/toast/05 visit the keys in ascending order.  In the models the iteration order of the
  `range` is an explicit parameter (any rearrangement of the map's entries); the theorems say the result is the same for
  every such order — hence byte-identical JSON.  The `*_order_dependent` theorems show, on the models of the code before
  the fixes, that the order did leak.  Every other `range` in sequence.go, toast.go, control.go, relmap.go is over a slice
  (ParsePGDatabase, ReadTuples, the chunk and mapping lists), or over a map whose result is order-free (`uniqueValues`
  in AnalyzeTOAST: only its size; `ChunkDistribution`: a map, rendered by key; the maximum of the chunk counts).
  ScanAllSequences returns a map (rendered by key) whose values are FindSequences results.
  Run-time side: families `seqrepeat`, `toastrepeat` (20 repetitions, byte comparison of json.Marshal).
-/
import PgVerif.Proofs.MapOrderR1
import PgVerif.Proofs.ToastStats
import PgVerif.Gen.Control
namespace PgVerif.Props.C11Maps
open PgVerif PgVerif.Model PgVerif.Proofs PgVerif.Proofs.MapOrderR1 List

attribute [local instance] exceptDecEq

/-- a legal iteration order of a Go map: some rearrangement of its entries -/
def IsOrder {α} (π : List α → List α) : Prop := ∀ l, π l ~ l

/-- a parser result that is a Go map keyed by relfilenode: each key once -/
def IsClassMap (parseClass : Bytes → List ClassInfo) : Prop :=
  ∀ data, KeySort.DistinctKeys (fun c : ClassInfo => c.filenode) (parseClass data)

/-- **FindSequences does not depend on map iteration order** (fixes/control/08): for every file system, every result of
the pg_database parser, every pg_class parser returning a map keyed by relfilenode, every data directory and database
name, any two iteration orders of the pg_class map give the same result — the same sequences in the same order. -/
theorem C11_findSequences_order_independent (env : SeqEnv) (π π' : List ClassInfo → List ClassInfo)
    (hπ : IsOrder π) (hπ' : IsOrder π') (hmap : IsClassMap env.parseClass) (dir : String) (db : Bytes) :
    findSequences (withOrder env π) dir db = findSequences (withOrder env π') dir db :=
  findSequences_order_independent env π π' hπ hπ' hmap dir db

/-- **ScanAllSequences does not depend on map iteration order**: the per-database lists are FindSequences results. -/
theorem C11_scanAllSequences_order_independent (env : SeqEnv) (π π' : List ClassInfo → List ClassInfo)
    (hπ : IsOrder π) (hπ' : IsOrder π') (hmap : IsClassMap env.parseClass) (dir : String) :
    scanAllSequences (withOrder env π) dir = scanAllSequences (withOrder env π') dir :=
  scanAllSequences_order_independent env π π' hπ hπ' hmap dir

/-- **Before fixes/control/08 the order leaked**: a database with two sequences and two legal iteration orders of its
pg_class map that give different listings. -/
theorem C11_findSequences_unsorted_order_dependent :
    ∃ (env : SeqEnv) (π π' : List ClassInfo → List ClassInfo), IsOrder π ∧ IsOrder π' ∧ IsClassMap env.parseClass ∧
      findSequencesUnsorted (withOrder env π) "D" [100] ≠ findSequencesUnsorted (withOrder env π') "D" [100] := by
  let env : SeqEnv :=
    { fs := fun p => if p = "D/global/1262" then some [1] else if p = "D/base/5/1259" then some [2]
                else if p = "D/base/5/77" ∨ p = "D/base/5/78" then some (Spec.encSeqPage (Gen.plainSeqPage 7 true))
                else none,
      parseDatabase := fun _ => [⟨5, [100]⟩],
      parseClass := fun _ => [⟨77, 70, [97], [83]⟩, ⟨78, 71, [98], [83]⟩] }
  -- under either order the listing is the two sequences as the map yields them; only the two paths are evaluated
  have h77 : "D" ++ "/base/" ++ toString 5 ++ "/" ++ toString 77 = "D/base/5/77" := by decide +kernel
  have h78 : "D" ++ "/base/" ++ toString 5 ++ "/" ++ toString 78 = "D/base/5/78" := by decide +kernel
  have key : ∀ π : List ClassInfo → List ClassInfo, IsOrder π →
      findSequencesUnsorted (withOrder env π) "D" [100] =
        .ok (some (((π [⟨77, 70, [97], [83]⟩, ⟨78, 71, [98], [83]⟩]).filter fun c => c.kind == [83]).map
          fun c => listed c (Gen.plainSeqPage 7 true))) := by
    intro π hπ
    rw [findSequencesUnsorted_enc (withOrder env π) "D" [100] [1] [2] ⟨5, [100]⟩ (fun _ => Gen.plainSeqPage 7 true)
      (hπ _) rfl rfl (by decide) rfl]
    · rfl
    · intro c hc _
      refine ⟨by decide, ?_⟩
      have hc' : c = ⟨77, 70, [97], [83]⟩ ∨ c = ⟨78, 71, [98], [83]⟩ := by simpa [withOrder, env] using hc
      rcases hc' with rfl | rfl
      · show env.fs ("D" ++ "/base/" ++ toString 5 ++ "/" ++ toString 77) = _
        rw [h77]
        rfl
      · show env.fs ("D" ++ "/base/" ++ toString 5 ++ "/" ++ toString 78) = _
        rw [h78]
        rfl
  refine ⟨env, id, List.reverse, fun l => Perm.refl l, fun l => reverse_perm l, ?_, ?_⟩
  · intro _; unfold KeySort.DistinctKeys; simp [env]
  · rw [key id (fun l => Perm.refl l), key List.reverse (fun l => reverse_perm l)]
    decide

open PgVerif.Model.Toast in
/-- **GetTOASTVerboseInfo does not depend on map iteration order** (fixes/toast/05): for every byte string taken as a
TOAST relation file, any two iteration orders of the value map give the same report — every field, `Values` in the same
order. -/
theorem C11_toastInfo_order_independent (π π' : GroupOrder) (hπ : IsOrder π) (hπ' : IsOrder π') (relid : Nat) (data : Bytes) :
    getTOASTVerboseInfoWith π relid data = getTOASTVerboseInfoWith π' relid data :=
  Toast.getTOASTVerboseInfoWith_order_independent π π' hπ hπ' relid data

open PgVerif.Model.Toast in
/-- in particular every order gives what the order-free name `getTOASTVerboseInfo` (used by C08_stats, C10) denotes -/
theorem C11_toastInfo_any_order (π : GroupOrder) (hπ : IsOrder π) (relid : Nat) (data : Bytes) :
    getTOASTVerboseInfoWith π relid data = getTOASTVerboseInfo relid data :=
  Toast.getTOASTVerboseInfoWith_order_independent π id hπ (fun l => Perm.refl l) relid data

open PgVerif.Model.Toast in
/-- **Before fixes/toast/05 the order leaked**: two one-chunk values and two legal iteration orders of the value map
that give different `Values` lists. -/
theorem C11_toastInfo_unsorted_order_dependent :
    ∃ (chunks : List Chunk) (π π' : GroupOrder), IsOrder π ∧ IsOrder π' ∧ valuesUnsorted π chunks ≠ valuesUnsorted π' chunks :=
  ⟨[⟨7, 0, [1]⟩, ⟨8, 0, [2, 3]⟩], id, List.reverse, fun l => Perm.refl l, fun l => reverse_perm l, by decide⟩

example : IsOrder (List.reverse : List ClassInfo → List ClassInfo) := fun l => reverse_perm l

end PgVerif.Props.C11Maps
