/-
  C12 — every access path exposes the same databases, tables and rows (pgdump.go, remote.go, main.go;
  the tree after fixes/cluster/01..09).  All paths are model functions over the same abstract file system,
  so the property is a set of equations between them, for EVERY file system (no well-formedness) and every
  row reader.  Go's `flag` parsing, process exit codes and stdout plumbing are decided at run time (family `cli`).
-/
import PgVerif.Proofs.ClusterClass
import PgVerif.Proofs.RemoteQuery
import PgVerif.Props.C11
import PgVerif.Model.Cli
namespace PgVerif.Props.C12
open PgVerif PgVerif.Model PgVerif.Proofs PgVerif.Proofs.Cluster List
open PgVerif.Spec (TableDump DatabaseDump DumpResult Options isPrefixB)

/-- **Directory dump = custom-reader dump, database by database.**  For a database that is not a template,
passes the database filter and has a non-empty pg_class file, DumpDataDir's entry is exactly
DumpDatabaseFromFiles on `base/<oid>/1259`, `base/<oid>/1249` and the reader `fn ↦ base/<oid>/<fn>`, with the
database's oid and name filled in. -/
theorem C12_files (rr : RowReader) (π : MapOrder TableInfo) (fs : Bytes → Option Bytes) (o : Options) (db : DatabaseInfo)
    (h1 : isPrefixB (strBytes "template") db.name = false) (h2 : o.dbFilter = [] ∨ db.name = o.dbFilter)
    (h3 : ((fs (basePath db.oid 1259)).getD []).length ≠ 0) :
    dumpDb rr π fs o db =
      (dumpDatabaseFromFiles rr π ((fs (basePath db.oid 1259)).getD []) ((fs (basePath db.oid 1249)).getD [])
        (some fun fn => fs (basePath db.oid fn)) o).map fun ts => some { oid := db.oid, name := db.name, tables := ts } := by
  have hf : (o.dbFilter != [] && db.name != o.dbFilter) = false := by
    rcases h2 with h | h <;> simp [h]
  rw [dumpDb_eq, if_neg (by rw [h1, hf]; simp [h3])]
  cases dumpDatabaseFromFiles rr π ((fs (basePath db.oid 1259)).getD []) ((fs (basePath db.oid 1249)).getD [])
      (some fun fn => fs (basePath db.oid fn)) o <;> rfl

/-- **Databases.**  A fresh client's `Databases()` is `ParsePGDatabase` of `global/1262` — the list DumpDataDir
iterates over (a missing file gives no databases instead of an error). -/
theorem C12_remote_dbs (rr : RowReader) (fs : RemoteReader) :
    (rcDatabases rr fs Cache.empty).map (·.1) =
      (match fs pathGlobal1262 with | some d => parsePGDatabase rr d | none => pure []) :=
  (C11.C11_no_hidden_state_databases rr fs Cache.empty (C11.C11_cache_empty_ok rr fs)).1

/-- **Tables.**  The directory dump and the remote listing expose the same tables: for every pg_class content,
the (oid, name, filenode, kind) of the tables DumpDatabaseFromFiles returns are those of `RemoteClient.Tables`
that pass the dump's three filters (ordinary table, not a system table when skipping them, name filter), in the
same order — whatever iteration order Go's map has in either path. -/
theorem C12_remote_tables (rr : RowReader) (π π' : MapOrder TableInfo) (hπ : ∀ l, π l ~ l) (hπ' : ∀ l, π' l ~ l)
    (cd ad : Bytes) (reader : Option FileReader) (o : Options) (tables : List (Nat × TableInfo))
    (ht : parsePGClass rr cd = .ok tables) (ts : List TableDump)
    (h : dumpDatabaseFromFiles rr π cd ad reader o = .ok ts) :
    ts.map tableKey = ((tablesOf π' tables).filter (keepTable o)).map infoKey := by
  rw [dump_tables rr π hπ cd ad reader o tables ht ts h, tablesOf_eq_sort π' hπ' tables (parsePGClass_keysOK rr cd tables ht)]

/-- **Columns.**  The attributes a client reports for (database, relation) are the entry of the relation's oid in
`ParsePGAttribute(base/<db>/1249, version of PG_VERSION)` — the list `dumpTable` receives when the directory dump
runs with the same version hint; a missing pg_class or pg_attribute file gives no columns. -/
theorem C12_remote_cols (rr : RowReader) (fs : RemoteReader) (db tbl : Nat) (cd ad : Bytes)
    (hc : fs (basePath db 1259) = some cd) (ha : fs (basePath db 1249) = some ad) (t : List (Nat × TableInfo))
    (ht : parsePGClass rr cd = .ok t) :
    columnsCold rr fs db tbl = (parsePGAttribute rr ad (rcVersionInt fs)).map fun attrs => (mapGet attrs tbl).getD [] := by
  unfold columnsCold catalogCold
  simp only [hc, ha, ht, ok_bind]
  cases parsePGAttribute rr ad (rcVersionInt fs) <;> rfl

/-! ### names differing only in case -/

/-- **An exact match wins** (fix 03): if some entry carries exactly the requested name, the lookup returns the
first such entry, whatever other entries equal it up to case. -/
theorem C12_case_exact {α} (name : α → Bytes) (l : List α) (n : Bytes) (x : α)
    (h : l.find? (fun y => name y == n) = some x) : findByName name l n = some x := by
  unfold findByName; rw [h]

/-- **Otherwise the match is case-insensitive and deterministic**: without an exact match the lookup returns the
first entry (in the sorted listing) whose name equals the request under Go's `strings.EqualFold` (`GoCase.goEqualFold`: ASCII
case on ASCII names), and nothing if there is none. -/
theorem C12_case_fold {α} (name : α → Bytes) (l : List α) (n : Bytes)
    (h : l.find? (fun y => name y == n) = none) :
    findByName name l n = l.find? (fun y => equalFold (name y) n) := by
  unfold findByName; rw [h]

/-- whatever the lookup returns does match the request up to case (Go's `strings.EqualFold`) -/
theorem C12_case_sound {α} (name : α → Bytes) (l : List α) (n : Bytes) (x : α) (h : findByName name l n = some x) :
    x ∈ l ∧ equalFold (name x) n = true := by
  unfold findByName at h
  cases he : l.find? (fun y => name y == n) with
  | some y =>
    rw [he] at h; injection h with h; subst h
    have := List.find?_some he
    refine ⟨List.mem_of_find?_eq_some he, ?_⟩
    have hn : name y = n := by simpa using this
    rw [hn]; exact Proofs.Remote.equalFold_refl n
  | none =>
    rw [he] at h
    simp only at h
    exact ⟨List.mem_of_find?_eq_some h, List.find?_some (p := fun y => equalFold (name y) n) h⟩

/-- agreement with the specification of name lookup: wherever the spec determines the answer (an exact match,
a unique case-insensitive match, or no match at all) the client returns it — for requests and names on which Go's
`strings.EqualFold` is equality of the ASCII lower-casings (`GoCase.foldStable`: every ASCII request on ASCII names —
`C12_case_ascii` —, also `été`; beyond that EqualFold folds by Unicode tables, K = U+212A, ſ = s, and treats every invalid byte
as U+FFFD, and the Spec, which folds ASCII letters only, is silent).  `GoCase.goEqualFold` folds by Go's
own complete `unicode.SimpleFold` tables (Model/GoCaseTables.lean, re-checked against the real `strings.EqualFold` for every
code point by family `gocase`): for table `Āb` (U+0100) and request `āb` the hypothesis is FALSE and nothing is claimed —
Go finds the table, and so does the model. -/
theorem C12_case (l : List TableInfo) (n : Bytes) (r : Option TableInfo) (hl : GoCase.foldStable (l.map (·.name)) n)
    (h : Spec.lookupName (·.name) l n = some r) : findByName (·.name) l n = r := by
  unfold Spec.lookupName at h
  unfold findByName
  cases he : l.find? (fun y => y.name == n) with
  | some y => rw [he] at h; simp only at h ⊢; injection h
  | none =>
    rw [he] at h
    simp only at h ⊢
    have hhead : l.find? (fun y => equalFold y.name n) = (l.filter fun y => Spec.lowerB y.name == Spec.lowerB n).head? := by
      rw [List.head?_filter]
      apply find?_congr
      intro y hy
      exact hl y.name (mem_map_of_mem hy)
    rw [hhead]
    cases hf : l.filter (fun y => Spec.lowerB y.name == Spec.lowerB n) with
    | nil => rw [hf] at h; simp at h; subst h; rfl
    | cons a rest =>
      rw [hf] at h
      cases rest with
      | nil => simp at h; subst h; rfl
      | cons b rest' => simp at h

/-- `C12_case` for ASCII requests and names -/
theorem C12_case_ascii (l : List TableInfo) (n : Bytes) (r : Option TableInfo) (hn : Spec.asciiB n = true)
    (hl : ∀ y ∈ l, Spec.asciiB y.name = true) (h : Spec.lookupName (·.name) l n = some r) : findByName (·.name) l n = r :=
  C12_case l n r (GoCase.foldStable_ascii _ n hn (fun y hy => by
    obtain ⟨t, ht, rfl⟩ := List.mem_map.mp hy
    exact hl t ht)) h

/-! ### the command line -/

/-- the flags main.go gives precedence over the dump -/
def noModeFlag (f : Flags) : Prop :=
  f.showVersion = false ∧ f.detectPaths = false ∧ f.singleFile = [] ∧ f.listDBs = false ∧ f.showControl = false ∧
  f.verifyChecksums = false ∧ f.showDropped = false ∧ f.showSequences = [] ∧ f.showRelmap = [] ∧ f.passwords = [] ∧
  f.secrets = [] ∧ f.searchPattern = [] ∧ f.showWAL = false

/-- **Filters, list and format flags select exactly the library options**: without a mode flag and with a data
directory given, the program runs `DumpDataDir(dir, {DatabaseFilter: -db, TableFilter: -t, ListOnly: -list,
SkipSystemTables: true, PostgresVersion: 0})` and renders it as SQL if -sql, else CSV if -csv, else JSON. -/
theorem C12_cli_dump (detected : Bytes) (f : Flags) (h : noModeFlag f) (hd : f.dataDir ≠ []) :
    cliAction detected f =
      .dump f.dataDir { dbFilter := f.dbFilter, tableFilter := f.tableFilter, listOnly := f.listOnly, skipSystem := true, pgVersion := 0 }
        (if f.sqlOutput then .sql else if f.csvOutput then .csv else .json) := by
  obtain ⟨h1, h2, h3, h4, h5, h6, h7, h8, h9, h10, h11, h12, h13⟩ := h
  simp [cliAction, h1, h2, h3, h4, h5, h6, h7, h8, h9, h10, h11, h12, h13, hd, dumpOptions, outFormat]

/-- without -d the detected directory is used, and none found means exit 1 -/
theorem C12_cli_detect (detected : Bytes) (f : Flags) (h : noModeFlag f) (hd : f.dataDir = []) :
    cliAction detected f = if detected = [] then .noDataDir else .dump detected (dumpOptions f) (outFormat f) := by
  obtain ⟨h1, h2, h3, h4, h5, h6, h7, h8, h9, h10, h11, h12, h13⟩ := h
  by_cases hdet : detected = []
  · simp [cliAction, h1, h2, h3, hd, hdet]
  · simp [cliAction, h1, h2, h3, h4, h5, h6, h7, h8, h9, h10, h11, h12, h13, hd, hdet]

/-- **Precedence of the modes**, as in main.go: -version, -detect, -f, then (with a data directory) -list-db,
-control, … each wins over everything after it. -/
theorem C12_cli_precedence (detected : Bytes) (f : Flags) :
    (f.showVersion = true → cliAction detected f = .version) ∧
    (f.showVersion = false → f.detectPaths = true → cliAction detected f = .detect) ∧
    (f.showVersion = false → f.detectPaths = false → f.singleFile ≠ [] → cliAction detected f = .file f.singleFile (fileMode f)) ∧
    (f.showVersion = false → f.detectPaths = false → f.singleFile = [] → f.dataDir ≠ [] → f.listDBs = true →
        cliAction detected f = .listDb f.dataDir) ∧
    (f.showVersion = false → f.detectPaths = false → f.singleFile = [] → f.dataDir ≠ [] → f.listDBs = false →
        f.showControl = true → cliAction detected f = .control f.dataDir) := by
  refine ⟨?_, ?_, ?_, ?_, ?_⟩
  · intro h; simp [cliAction, h]
  · intro h1 h2; simp [cliAction, h1, h2]
  · intro h1 h2 h3; simp [cliAction, h1, h2, h3]
  · intro h1 h2 h3 h4 h5; simp [cliAction, h1, h2, h3, h4, h5]
  · intro h1 h2 h3 h4 h5 h6; simp [cliAction, h1, h2, h3, h4, h5, h6]

/-- inside -f: -b wins over -index, over -toast-verbose, over -R, over the plain listing -/
theorem C12_cli_filemode (f : Flags) :
    (f.binaryDump = true → fileMode f = .binary f.blockRange) ∧
    (f.binaryDump = false → f.parseIndex = true → fileMode f = .index) ∧
    (f.binaryDump = false → f.parseIndex = false → f.toastVerbose = false → f.blockRange = [] → fileMode f = .plain) := by
  refine ⟨?_, ?_, ?_⟩
  · intro h; simp [fileMode, h]
  · intro h1 h2; simp [fileMode, h1, h2]
  · intro h1 h2 h3 h4; simp [fileMode, h1, h2, h3, h4]

/-- a flag record that satisfies the hypotheses of `C12_cli_dump` (they are not vacuous) -/
example : noModeFlag { dataDir := [47], dbFilter := [97], sqlOutput := true } := by simp [noModeFlag]

#print axioms C12_files
#print axioms C12_remote_dbs
#print axioms C12_remote_tables
#print axioms C12_remote_cols
#print axioms C12_case_exact
#print axioms C12_case_fold
#print axioms C12_case_sound
#print axioms C12_case
#print axioms C12_case_ascii
#print axioms C12_cli_dump
#print axioms C12_cli_detect
#print axioms C12_cli_precedence
#print axioms C12_cli_filemode

end PgVerif.Props.C12
