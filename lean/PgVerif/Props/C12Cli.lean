/-
  C12 (command-line program): what main.go PRINTS — in the dump modes (JSON / `-sql` / `-csv`) and in the
  other modes — preserves what the library reports, and the exit code says whether it did.

  The model is `Model/CliRender.lean` (`cliRun`: action ↦ stdout / stderr / exit code, over the library calls as
  parameters); family `clirender` ties it to the real binary.  The theorems here are about the model:

    * JSON modes: whatever `enc.Encode` prints is valid JSON (RFC 8259, parsed by the neutral `Spec.Json.parse`) denoting
      the JSON value it was given, and determines it (values without invalid UTF-8).  For `-control`, `-sequences <db>`,
      `-relmap global` / `<oid>` the printed TEXT determines the library struct (C16 / C20); for `-sequences all`,
      `-relmap all`, `-f … -R` only the struct → JSON value map is shown to lose nothing; `-wal` and `-checksum` are
      modelled (`walSummaryJV`, `dataDirChecksumJV`) and covered by the exit-code / stream theorems only;
    * text modes (`-passwords`, `-list-db`, `-f …/1262`, the lines of `-f …/1259`): the lines determine the listed records
      (C14, C12) under explicit printability hypotheses — and outside them they do not (witnesses below); the tuple count of
      `-f <heap file>` (`C12_cli_heapcount`) and one block of `-f <file> -b` (`C12_cli_binary_block`) are read back too;
    * dump modes (`pgread [-d DIR] [-db NAME] [-t SUBSTR] [-list] [-sql] [-csv]`): `C12_cli_dump_output` — stdout is
      exactly the JSON / SQL / CSV rendering of what `DumpDataDir` returned under the options the flags select;
      `C12_cli_dump_json_valid` / `C12_cli_dump_json_injective` — the JSON text is valid and determines the dump;
    * `C12_cli_exit`: the exit code is 0 exactly when every library call on the path succeeded and something could
      be printed; `C12_cli_streams`: what goes to stdout and what to stderr.

  Where nothing is claimed: `cliRun` returns `.unrendered` (no `Out`) for `-f … -index`, `-f … -toast-verbose`,
  `-dropped`, `-secrets`, `-search` and for the JSON dump of a result in which some cell holds a float32 / float64
  (`dumpFloatFree r = false`); every theorem below whose hypothesis is `cliRun L a = .ok (.out o)` says nothing about
  those runs.  `-v` and `-debug` are outside `cliRun` (see its doc comment).
-/
import PgVerif.Proofs.CliRender
import PgVerif.Proofs.CliDump
import PgVerif.Proofs.CliShape
import PgVerif.Proofs.CliLines
import PgVerif.Proofs.CliTime
import PgVerif.Proofs.HexDump
import PgVerif.Basic.Lemmas
import PgVerif.Props.C12
namespace PgVerif.Props.C12Cli
open PgVerif PgVerif.Export PgVerif.Model PgVerif.Model.CliRender PgVerif.Proofs.CliRender PgVerif.Proofs.CliDump
open PgVerif.Proofs.TxtNumerals (lines_view_inj fieldsR fieldsR_inj not_mem_fieldsR)

/-! ## JSON modes -/

/-- What `enc.Encode(v)` with two-space indentation writes is a complete, valid JSON text, and it denotes the value it
was rendered from: integers by their decimal text, strings byte for byte (all of Go's escapes — `\"`, `\\`, `\n`,
`\u003c` …, `\u2028` — are read back), arrays and objects member-wise in order.  Hypothesis: the strings are valid
UTF-8 (Go replaces every invalid byte by U+FFFD, which loses it). -/
theorem C12_cli_json_valid (v : JV) (hc : clean v = true) : Spec.Json.parse (encodeJSON v) = some (jOf v) :=
  (reads_indent v 0 [10] hc (follows_cons 10 [] (Or.inr (Or.inr (Or.inr (Or.inl rfl)))))).parse_text
    (fun _ h => List.mem_singleton.mp h ▸ rfl)

/-- Two library results whose JSON values differ are printed differently (the indented text determines the value). -/
theorem C12_cli_json_injective (v w : JV) (hv : clean v = true) (hw : clean w = true) (h : encodeJSON v = encodeJSON w) :
    v = w := by
  have h1 := C12_cli_json_valid v hv
  rw [h, C12_cli_json_valid w hw] at h1
  exact jOf_injective _ _ (Option.some.inj h1).symm

example : clean (.obj [(Txt.asc "a<b", .arr [.int (-7), .str [0xC3, 0xA9, 10], .null])]) = true := by decide

/-- Invalid UTF-8 is NOT preserved: the bytes FF and FE both print as `"\ufffd"` (the six ASCII bytes of the escape). -/
theorem C12_cli_json_invalid_utf8_lost : encodeJSON (.str [0xFF]) = encodeJSON (.str [0xFE]) := by decide

theorem jnat_inj (a b : Nat) (h : jnat a = jnat b) : a = b := Int.ofNat_inj.mp (JV.int.inj h)

theorem jstr_inj (a b : String) (h : jstr a = jstr b) : a = b := PgVerif.strBytes_inj a b (JV.str.inj h)

/-! ### `-control` (C16) -/

/-- the text fields of the struct are valid UTF-8 (for every result of ParseControlFile they are ASCII: state names,
`%X/%X` locations, the 24 hex digits of the WAL file name, WAL level names) -/
def ControlClean (c : ControlFile) : Prop :=
  utf8Clean (strBytes c.stateString) = true ∧ utf8Clean (strBytes c.checkpointLSN) = true ∧ utf8Clean (strBytes c.redoLSN) = true ∧
  utf8Clean (strBytes c.redoWALFile) = true ∧ utf8Clean (strBytes c.walLevel) = true

theorem controlJV_clean (c : ControlFile) (h : ControlClean c) : clean (controlJV c) = true := by
  obtain ⟨h1, h2, h3, h4, h5⟩ := h
  have ht := rfc3339_clean c.checkpointTime
  have hk : ∀ s : String, jstr s = .str (strBytes s) := fun _ => rfl
  -- every key is an ASCII literal: `asc_clean` rewrites its cleanliness to `true`, its side condition (the UTF-8 bytes
  -- of the literal are below 0x80) is decided in the kernel
  simp (disch := decide +kernel) only [controlJV, hk, clean, cleanKvs, h1, h2, h3, h4, h5, ht, jnat, Bool.and_true, key,
    asc_clean]

/-- within the years 0..9999 the printed `checkpoint_time` determines the stored second (`time.Unix(t, 0).UTC()` in
RFC 3339: the civil-calendar conversion is injective) -/
theorem C16_cli_control_time (s t : Int) (hs : timeInRange s = true) (ht : timeInRange t = true) (h : rfc3339 s = rfc3339 t) : s = t := by
  have rs := dayNumber_range s hs
  have rt := dayNumber_range t ht
  have bs := civilN_bounds _ rs.1 rs.2
  have bt := civilN_bounds _ rt.1 rt.2
  have hc := civilN_inj (s / 86400 + 865565).toNat (t / 86400 + 865565).toNat
  simp only [rfc3339, civilFromDays, List.append_assoc, List.cons_append, List.nil_append] at h
  -- the civil dates as variables: `omega` below sees only their bounds
  generalize civilN (s / 86400 + 865565).toNat = cs at h bs hc
  generalize civilN (t / 86400 + 865565).toNat = ct at h bt hc
  obtain ⟨ey, em, ed, ea⟩ := stamp_inj _ _ _ _ _ _ _ _ (by omega) (by omega) (by omega) (by omega) (by omega) (by omega)
    (secOfDay_lt s) (secOfDay_lt t) h
  exact day_sod_inj s t (by omega) (hc (Prod.ext (by omega) (Prod.ext em ed))) ea

/-- C16 through the CLI, all fields: two control files with representable checkpoint times that `pgread -control`
prints identically are equal in every field the library reports. -/
theorem C16_cli_control_all (c₁ c₂ : ControlFile) (t₁ : timeInRange c₁.checkpointTime = true) (t₂ : timeInRange c₂.checkpointTime = true)
    (k₁ : ControlClean c₁) (k₂ : ControlClean c₂) (h : (renderControl c₁).stdout = (renderControl c₂).stdout) : c₁ = c₂ := by
  simp only [renderControl, t₁, t₂, if_true, okOut] at h
  have hv := C12_cli_json_injective _ _ (controlJV_clean c₁ k₁) (controlJV_clean c₂ k₂) h
  have jn : ∀ a b : Nat, jnat a = jnat b ↔ a = b := fun a b => ⟨jnat_inj a b, congrArg jnat⟩
  have js : ∀ a b : String, jstr a = jstr b ↔ a = b := fun a b => ⟨jstr_inj a b, congrArg jstr⟩
  have tm := C16_cli_control_time _ _ t₁ t₂
  simp only [controlJV, JV.obj.injEq, List.cons.injEq, Prod.mk.injEq, true_and, and_true, JV.bool.injEq, JV.int.injEq,
    JV.str.injEq, jn, js] at hv
  -- `hv` is the conjunction of the 46 member equalities; `tm` turns the one on `checkpoint_time` into the field equality
  cases c₁; cases c₂
  simp_all

/-- C16 through the CLI: for control files whose checkpoint time the JSON encoder can represent (years 0..9999) the
text printed by `pgread -control` determines EVERY field of the library's `ControlFile` — system identifier, version
numbers, state and its name, checkpoint / redo locations, WAL file name, timelines, all xid / oid / multixact counters,
WAL level, connection limits, sizes, checksum flag, stored CRC and the CRC verdict, inferred version — exactly; the
checkpoint time is determined as its RFC 3339 text (see `C16_cli_control_time` for the seconds). -/
theorem C16_cli_control (c₁ c₂ : ControlFile) (t₁ : timeInRange c₁.checkpointTime = true) (t₂ : timeInRange c₂.checkpointTime = true)
    (k₁ : ControlClean c₁) (k₂ : ControlClean c₂) (h : (renderControl c₁).stdout = (renderControl c₂).stdout) :
    { c₁ with checkpointTime := 0 } = { c₂ with checkpointTime := 0 } ∧ rfc3339 c₁.checkpointTime = rfc3339 c₂.checkpointTime := by
  rw [C16_cli_control_all c₁ c₂ t₁ t₂ k₁ k₂ h]
  exact ⟨rfl, rfl⟩

def exampleControl : ControlFile :=
  let c : ControlFile := default
  let c := { c with stateString := "in production", checkpointLSN := "0/16B3D98", redoLSN := "0/16B3D60" }
  { c with redoWALFile := "000000010000000000000001", walLevel := "replica", checkpointTime := 1700000000 }

/-- the hypotheses are satisfiable -/
example : timeInRange exampleControl.checkpointTime = true ∧ ControlClean exampleControl := by
  refine ⟨by decide, ?_, ?_, ?_, ?_, ?_⟩ <;> decide +kernel

/-- `-control` on a checkpoint time outside the years 0..9999 prints NOTHING on stdout: the JSON encoder refuses the
time.  With fix cluster/07 the run fails loudly (stderr, exit 1); before it main.go dropped the error and exited 0
(family `clirender`, fixed case 0: time 253402300800 = 10000-01-01T00:00:00Z). -/
theorem C16_cli_control_unrepresentable (c : ControlFile) (h : timeInRange c.checkpointTime = false) :
    (renderControl c).stdout = [] ∧ (renderControl c).exit = 1 := by
  simp [renderControl, h, errOut]

/-! ### `-sequences` (C20) -/

theorem seq_keys_ne : key "name" ≠ key "oid" ∧ key "name" ≠ key "filenode" ∧ key "name" ≠ key "last_value" ∧
    key "oid" ≠ key "filenode" ∧ key "oid" ≠ key "last_value" ∧ key "filenode" ≠ key "last_value" := by decide +kernel

/-- the JSON object of a sequence determines every field of `SequenceData` (an omitted `name` / `oid` / `filenode` is the
empty / zero value) -/
theorem seqJV_inj (a b : SequenceData) (h : seqJV a = seqJV b) : a = b := by
  obtain ⟨k1, k2, _, k3, _, _⟩ := seq_keys_ne
  -- the eight members that are always there, then the optional ones from the left
  obtain ⟨ho, hfix⟩ := List.append_inj' (JV.obj.inj h) rfl
  rw [List.append_assoc, List.append_assoc] at ho
  obtain ⟨e1, ho⟩ := optField_inj (key "name") (optField_ite ..) (optField_ite ..)
    (List.forall_mem_append.2 ⟨(optField_ite ..).key_ne k1.symm, (optField_ite ..).key_ne k2.symm⟩)
    (List.forall_mem_append.2 ⟨(optField_ite ..).key_ne k1.symm, (optField_ite ..).key_ne k2.symm⟩) ho
  obtain ⟨e2, e3⟩ := optField_inj (key "oid") (optField_ite ..) (optField_ite ..)
    ((optField_ite ..).key_ne k3.symm) ((optField_ite ..).key_ne k3.symm) ho
  have n1 := omitempty_inj [] JV.str (fun _ _ => JV.str.inj) _ _ _ e1
  have n2 := omitempty_inj 0 jnat jnat_inj _ _ _ e2
  have n3 := omitempty_inj 0 jnat jnat_inj _ _ _ e3
  simp only [List.cons.injEq, Prod.mk.injEq, true_and, and_true, JV.int.injEq, JV.bool.injEq] at hfix
  cases a; cases b
  simp only [SequenceData.mk.injEq]
  exact ⟨n1, n2, n3, hfix⟩

theorem seq_keys_clean : utf8Clean (key "name") = true ∧ utf8Clean (key "oid") = true ∧ utf8Clean (key "filenode") = true ∧
    utf8Clean (key "last_value") = true ∧ utf8Clean (key "start_value") = true ∧ utf8Clean (key "increment_by") = true ∧
    utf8Clean (key "max_value") = true ∧ utf8Clean (key "min_value") = true ∧ utf8Clean (key "cache_value") = true ∧
    utf8Clean (key "is_cycled") = true ∧ utf8Clean (key "is_called") = true := by
  simp (disch := decide +kernel) only [key, asc_clean, and_self]

theorem seqListJV_inj (l₁ l₂ : List SequenceData) (h : seqListJV l₁ = seqListJV l₂) : l₁ = l₂ :=
  (List.map_inj_right seqJV_inj).mp (optList_inj _ _ (by simpa only [seqListJV, List.isEmpty_map] using h))

theorem seqList_clean (l : List SequenceData) (h : ∀ s ∈ l, utf8Clean s.name = true) : clean (seqListJV l) = true := by
  have one : ∀ s : SequenceData, utf8Clean s.name = true → clean (seqJV s) = true := fun s hn => by
    simp only [seqJV, clean, cleanKvs_append, cleanKvs_ite, cleanKvs, seq_keys_clean, hn, jnat, Bool.and_self]
  have all : cleanList (l.map seqJV) = true := by
    induction l with
    | nil => rfl
    | cons s t ih =>
      simp only [List.map_cons, cleanList, one s (h s (by simp)), ih (fun x hx => h x (by simp [hx])), Bool.and_self]
  unfold seqListJV
  split
  · rfl
  · exact all

/-- C20 through the CLI (`-sequences <db>`): the printed text determines the listed sequences — each with its name,
oid, filenode, last_value, is_called and the remaining state — exactly and in order (names valid UTF-8). -/
theorem C20_cli_sequences (l₁ l₂ : List SequenceData) (h₁ : ∀ s ∈ l₁, utf8Clean s.name = true) (h₂ : ∀ s ∈ l₂, utf8Clean s.name = true)
    (h : encodeJSON (seqListJV l₁) = encodeJSON (seqListJV l₂)) : l₁ = l₂ :=
  seqListJV_inj l₁ l₂ (C12_cli_json_injective _ _ (seqList_clean l₁ h₁) (seqList_clean l₂ h₂) h)

example : utf8Clean (Txt.asc "users_id_seq") = true := by decide

/-- in particular last_value (over the whole int64 range, negative values included) and is_called are printed exactly -/
theorem C20_cli_sequence_state (a b : SequenceData) (ha : utf8Clean a.name = true) (hb : utf8Clean b.name = true)
    (h : encodeJSON (seqListJV [a]) = encodeJSON (seqListJV [b])) : a.lastValue = b.lastValue ∧ a.isCalled = b.isCalled := by
  have := C20_cli_sequences [a] [b] (by simpa using ha) (by simpa using hb) h
  simp only [List.cons.injEq, and_true] at this
  rw [this]; exact ⟨rfl, rfl⟩

/-! ### `-relmap` (C20) -/

theorem mappingJV_inj (a b : RelMapping) (h : mappingJV a = mappingJV b) : a = b := by
  cases a; cases b
  simp only [mappingJV, jnat, JV.obj.injEq, List.cons.injEq, Prod.mk.injEq, true_and, and_true, JV.int.injEq, Int.ofNat_inj] at h
  simp [h.1, h.2]

theorem mappingsJV_inj (l₁ l₂ : List RelMapping)
    (h : (if l₁.isEmpty then JV.null else JV.arr (l₁.map mappingJV)) = (if l₂.isEmpty then JV.null else JV.arr (l₂.map mappingJV))) :
    l₁ = l₂ :=
  (List.map_inj_right mappingJV_inj).mp (optList_inj _ _ (by simpa only [List.isEmpty_map] using h))

theorem relmap_keys_ne : key "crc" ≠ key "is_global" ∧ key "path" ≠ key "is_global" := by decide

/-- the JSON object of a relation map determines the reported magic, mapping count, the mappings in stored order, the
stored CRC (an omitted `crc` is 0), the global flag and the path -/
theorem relmapJV_inj (a b : RelMapFile) (h : relmapJV a = relmapJV b) : a = b := by
  have k1 := relmap_keys_ne.1
  have k2 : key "path" ≠ key "crc" := by decide
  have h := JV.obj.inj h
  simp only [List.append_assoc, List.cons_append, List.nil_append, List.cons.injEq, Prod.mk.injEq, true_and, JV.int.injEq] at h
  obtain ⟨e1, e2, e3, h⟩ := h
  -- `crc` stands in front of `is_global` and `path`
  obtain ⟨e4, h⟩ := optField_inj (key "crc") (optField_ite ..) (optField_ite ..)
    (List.forall_mem_cons.2 ⟨k1.symm, (optField_ite ..).key_ne k2⟩)
    (List.forall_mem_cons.2 ⟨k1.symm, (optField_ite ..).key_ne k2⟩) h
  simp only [List.cons.injEq, Prod.mk.injEq, true_and, JV.bool.injEq] at h
  have n1 := jnat_inj _ _ e1
  have n3 := mappingsJV_inj _ _ e3
  have n4 := omitempty_inj 0 jnat jnat_inj _ _ _ e4
  have n6 := omitempty_inj "" jstr jstr_inj _ _ _ h.2
  cases a; cases b
  simp only [RelMapFile.mk.injEq]
  exact ⟨n1, e2, n3, n4, h.1, n6⟩

theorem relmap_keys_clean : utf8Clean (key "oid") = true ∧ utf8Clean (key "filenode") = true ∧ utf8Clean (key "magic") = true ∧
    utf8Clean (key "num_mappings") = true ∧ utf8Clean (key "mappings") = true ∧ utf8Clean (key "crc") = true ∧
    utf8Clean (key "is_global") = true ∧ utf8Clean (key "path") = true := by
  simp (disch := decide +kernel) only [key, asc_clean, and_self]

theorem mappings_clean (l : List RelMapping) : cleanList (l.map mappingJV) = true := by
  induction l with
  | nil => rfl
  | cons m t ih => simp only [List.map_cons, cleanList, mappingJV, clean, cleanKvs, relmap_keys_clean, jnat, ih, Bool.and_self]

theorem relmap_clean (r : RelMapFile) (h : utf8Clean (strBytes r.path) = true) : clean (relmapJV r) = true := by
  have hp : clean (jstr r.path) = true := h
  have hm : clean (if r.mappings.isEmpty then JV.null else JV.arr (r.mappings.map mappingJV)) = true := by
    split
    · rfl
    · exact mappings_clean r.mappings
  simp only [relmapJV, clean, cleanKvs_append, cleanKvs_ite, cleanKvs, relmap_keys_clean, hm, hp, jnat, Bool.and_self]

/-- C20 through the CLI (`-relmap global`, `-relmap <oid>`): the printed text determines the relation map the library
reports: magic, mapping count, every (oid, filenode) pair in stored order (duplicates included), the stored CRC. -/
theorem C20_cli_relmap (a b : RelMapFile) (ha : utf8Clean (strBytes a.path) = true) (hb : utf8Clean (strBytes b.path) = true)
    (h : encodeJSON (relmapJV a) = encodeJSON (relmapJV b)) : a = b :=
  relmapJV_inj a b (C12_cli_json_injective _ _ (relmap_clean a ha) (relmap_clean b hb) h)

example : utf8Clean (strBytes "/var/lib/postgresql/data/global/pg_filenode.map") = true := by
  decide +kernel

/-! ## text modes -/

/-! ### `-passwords` (C14) -/

theorem passwords_all (l : List AuthInfo) : renderPasswords (Txt.asc "all") l =
    if l.isEmpty then Txt.asc "No password hashes found\n" else passwordsHeader ++ l.flatMap authLine := by
  simp only [renderPasswords, beq_self_eq_true, Bool.true_or, filter_true]

theorem header_heads : passwordsHeader.head? = some 80 ∧ (Txt.asc "No password hashes found\n").head? = some 78 := by
  rw [passwordsHeader, asc_eq_utf8 _ (by decide +kernel), asc_eq_utf8 _ (by decide +kernel)]; decide +kernel

/-- C14 through the CLI: what `pgread -passwords all` prints determines, for every role in order (live or dead — the
library lists both), its name, its exact verifier text — or that it has none — and its SUPERUSER / LOGIN marks.
Hypotheses (`AuthPrintable`): no `:` or newline in a role name, no blank or newline in a verifier — true of every MD5
and SCRAM verifier; without them the rendering is ambiguous (`C14_cli_passwords_ambiguous`).  The role OID is not
printed at all (`C14_cli_passwords_no_oid`). -/
theorem C14_cli_passwords (l₁ l₂ : List AuthInfo) (h₁ : ∀ a ∈ l₁, AuthPrintable a) (h₂ : ∀ a ∈ l₂, AuthPrintable a)
    (h : renderPasswords (Txt.asc "all") l₁ = renderPasswords (Txt.asc "all") l₂) : l₁.map authView = l₂.map authView := by
  rw [passwords_all, passwords_all] at h
  obtain ⟨hh1, hh2⟩ := header_heads
  -- the two first lines differ in their first letter
  have header_differs : ∀ r : Bytes, Txt.asc "No password hashes found\n" ≠ passwordsHeader ++ r := by
    intro r e
    have := congrArg List.head? e
    rw [hh2, List.head?_append, hh1] at this
    cases this
  cases l₁ with
  | nil =>
    cases l₂ with
    | nil => rfl
    | cons b u => exact absurd h (header_differs _)
  | cons a t =>
    cases l₂ with
    | nil => exact absurd h.symm (header_differs _)
    | cons b u =>
      simp only [List.isEmpty_cons, Bool.false_eq_true, if_false] at h
      exact lines_view_inj [] List.not_mem_nil authLine_eq authBody_nonl authLine_inj _ _ h₁ h₂ (List.append_cancel_left h)

example : AuthPrintable ⟨10, Txt.asc "postgres", Txt.asc "SCRAM-SHA-256$4096:c2FsdA==$c3RvcmVk:c2VydmVy", true, true⟩ := by
  unfold AuthPrintable Txt.asc; rw [Lit.toList_eq_chars]; decide +kernel

/-- outside the hypotheses the text is ambiguous: a role with LOGIN and verifier `x`, and a role without LOGIN whose
verifier is `x [LOGIN]`, print the same line -/
theorem C14_cli_passwords_ambiguous :
    renderPasswords (Txt.asc "all") [⟨10, Txt.asc "a", Txt.asc "x", false, true⟩] =
    renderPasswords (Txt.asc "all") [⟨10, Txt.asc "a", Txt.asc "x [LOGIN]", false, false⟩] := by
  rw [passwords_all, passwords_all]
  exact congrArg (passwordsHeader ++ ·) (by decide)

/-- a role whose stored verifier is the text `(no password)` prints like a role with a NULL password -/
theorem C14_cli_passwords_ambiguous_null :
    renderPasswords (Txt.asc "all") [⟨10, Txt.asc "a", Txt.asc "(no password)", false, false⟩] =
    renderPasswords (Txt.asc "all") [⟨10, Txt.asc "a", [], false, false⟩] := by
  rw [passwords_all, passwords_all]
  exact congrArg (passwordsHeader ++ ·) (by decide)

/-- the role OID, which C14 lists among the reported fields, is not in the CLI's text -/
theorem C14_cli_passwords_no_oid (sel : Bytes) (a : AuthInfo) (oid : Nat) :
    renderPasswords sel [a] = renderPasswords sel [{ a with oid := oid }] := by
  unfold renderPasswords
  by_cases hs : (sel == Txt.asc "all" || a.roleName == sel) = true <;> simp [hs, authLine, authFlags]

/-! ### `-list-db`, `-f …/1262` (C12) -/

/-- C12 through the CLI: `pgread -list-db` output (stdout and exit code) determines the databases ListDatabases
returned — name and OID of each, in order — whatever the names contain except a newline. -/
theorem C12_cli_listdb (l₁ l₂ : List DatabaseInfo) (h₁ : ∀ d ∈ l₁, (10 : UInt8) ∉ d.name) (h₂ : ∀ d ∈ l₂, (10 : UInt8) ∉ d.name)
    (h : renderListDb l₁ = renderListDb l₂) : l₁ = l₂ := by
  unfold renderListDb at h
  cases l₁ with
  | nil =>
    cases l₂ with
    | nil => rfl
    | cons b u => simp [okOut] at h
  | cons a t =>
    cases l₂ with
    | nil => simp [okOut] at h
    | cons b u =>
      simp only [List.isEmpty_cons, Bool.false_eq_true, if_false, okOut, Out.mk.injEq, and_true] at h
      simpa using lines_view_inj (view := id) [] List.not_mem_nil listDbLine_eq dbBody_nonl (fun a b _ _ => dbBody_inj a b) _ _ h₁ h₂ h

example : (10 : UInt8) ∉ (⟨16384, Txt.asc "my db (OID 7)"⟩ : DatabaseInfo).name := by decide

/-- the same for `pgread -f <dir>/global/1262` -/
theorem C12_cli_file1262 (l₁ l₂ : List DatabaseInfo) (h₁ : ∀ d ∈ l₁, (10 : UInt8) ∉ d.name) (h₂ : ∀ d ∈ l₂, (10 : UInt8) ∉ d.name)
    (h : renderFile1262 l₁ = renderFile1262 l₂) : l₁ = l₂ := by
  unfold renderFile1262 at h
  simpa using lines_view_inj (view := id) (Txt.asc "  ") (by decide) (fun d => by simp [file1262Line, listDbLine_eq]) dbBody_nonl
    (fun a b _ _ => dbBody_inj a b) _ _ h₁ h₂ (List.append_cancel_left h)

/-! ### `-f …/1259` (C12: the relations of a database) -/

def classBody (t : TableInfo) : Bytes :=
  t.name ++ oidOpen ++ dec t.oid ++ Txt.asc ", filenode " ++ dec t.filenode ++ Txt.asc ", kind " ++ t.kind ++ [41]

theorem classLine_eq (t : TableInfo) : classLine t = (Txt.asc "  " ++ classBody t) ++ [10] := by
  simp [classLine, classBody, oidOpen, show Txt.asc ")\n" = [41, 10] by decide]

/-- a `pg_class` line read from the right (relkind without a blank — it is one letter): kind, filenode, oid, and
whatever is left is the name -/
theorem classBody_inj (a b : TableInfo) (ka : (32 : UInt8) ∉ a.kind) (kb : (32 : UInt8) ∉ b.kind) (h : classBody a = classBody b) : a = b := by
  have hf : ∀ t : TableInfo, classBody t = fieldsR 32 t.name (classFields t.oid t.filenode t.kind) := fun t => classFields_eq ..
  rw [hf, hf] at h
  obtain ⟨hname, e⟩ := fieldsR_inj 32 _ _ _ _ (by rfl) (classFields_free 32 (Or.inl rfl) _ _ _ ka) (classFields_free 32 (Or.inl rfl) _ _ _ kb) h
  simp only [classFields, List.cons.injEq, true_and, and_true, List.append_cancel_right_eq] at e
  cases a; cases b
  simp only [TableInfo.mk.injEq]
  exact ⟨dec_injective _ _ e.1, dec_injective _ _ e.2.1, hname, e.2.2⟩

/-- C12 through the CLI: the lines `pgread -f <db>/1259` prints determine the listed relations — name, oid, filenode,
relkind — for names and kinds without a newline and kinds without a blank. -/
theorem C12_cli_file1259_lines (l₁ l₂ : List TableInfo)
    (h₁ : ∀ t ∈ l₁, (10 : UInt8) ∉ t.name ∧ (10 : UInt8) ∉ t.kind ∧ (32 : UInt8) ∉ t.kind)
    (h₂ : ∀ t ∈ l₂, (10 : UInt8) ∉ t.name ∧ (10 : UInt8) ∉ t.kind ∧ (32 : UInt8) ∉ t.kind)
    (h : l₁.flatMap classLine = l₂.flatMap classLine) : l₁ = l₂ := by
  have nonl : ∀ t : TableInfo, ((10 : UInt8) ∉ t.name ∧ (10 : UInt8) ∉ t.kind ∧ (32 : UInt8) ∉ t.kind) → (10 : UInt8) ∉ classBody t :=
    fun t ht => by
      rw [show classBody t = _ from classFields_eq ..]
      exact not_mem_fieldsR (by decide) _ _ ht.1 (classFields_free 10 (Or.inr rfl) _ _ _ ht.2.1)
  simpa using lines_view_inj (view := id) (Txt.asc "  ") (by decide) classLine_eq nonl
    (fun a b ha hb => classBody_inj a b ha.2.2 hb.2.2) _ _ h₁ h₂ h

example : (10 : UInt8) ∉ (⟨16384, 16390, Txt.asc "users", [114]⟩ : TableInfo).name ∧ (32 : UInt8) ∉ (⟨16384, 16390, Txt.asc "users", [114]⟩ : TableInfo).kind := by decide

/-- `-f <heap file>`: the printed tuple count is the number ParseFile returned -/
theorem C12_cli_heapcount (a b : Nat) (h : renderHeapCount a = renderHeapCount b) : a = b := by
  unfold renderHeapCount at h
  have h1 := List.append_cancel_right h
  have h2 := List.append_cancel_left h1
  exact dec_injective a b h2

/-! ## JSON modes again: `-sequences all`, `-relmap all`, `-f … -R` (the struct → JSON value maps) -/

/-- `-sequences all` prints a JSON object keyed by database name (keys sorted by the encoder): it determines, for
every database in name order, its list of sequences -/
theorem C20_cli_sequences_all (m₁ m₂ : List (Bytes × List SequenceData)) (h : seqMapJV m₁ = seqMapJV m₂) :
    sortBy (fun a b => bytesLeB a.1 b.1) m₁ = sortBy (fun a b => bytesLeB a.1 b.1) m₂ := by
  simp only [seqMapJV, JV.obj.injEq] at h
  refine (List.map_inj_right (f := fun (x : Bytes × List SequenceData) => (x.1, seqListJV x.2)) fun a b hab => ?_).mp h
  obtain ⟨a1, a2⟩ := a; obtain ⟨b1, b2⟩ := b
  simp only [Prod.mk.injEq] at hab
  rw [hab.1, seqListJV_inj _ _ hab.2]

/-- `-relmap all`: the global map and the per-database maps (an omitted `databases` is the empty list) -/
theorem C20_cli_relmap_all (a b : RelMapInfo) (h : relmapInfoJV a = relmapInfoJV b) : a = b := by
  have h := JV.obj.inj h
  simp only [List.cons_append, List.nil_append, List.cons.injEq, Prod.mk.injEq, true_and] at h
  have hg := relmapJV_inj _ _ h.1
  have hd := (List.map_inj_right relmapJV_inj).mp
    (omitnil_inj _ (a.databases.map relmapJV) (b.databases.map relmapJV) (by simpa only [List.isEmpty_map] using h.2))
  cases a; cases b
  simp only [RelMapInfo.mk.injEq]
  exact ⟨hg, hd⟩

theorem blockInfoJV_inj (a b : BlockInfo) (h : blockInfoJV a = blockInfoJV b) : a = b := by
  have jn : ∀ x y : Nat, jnat x = jnat y ↔ x = y := fun x y => ⟨jnat_inj x y, congrArg jnat⟩
  have js : ∀ x y : String, jstr x = jstr y ↔ x = y := fun x y => ⟨jstr_inj x y, congrArg jstr⟩
  -- the eleven members that are always there, then `is_empty`
  obtain ⟨hfix, ho⟩ := List.append_inj (JV.obj.inj h) rfl
  simp only [List.cons.injEq, Prod.mk.injEq, true_and, and_true, jn, js] at hfix
  obtain ⟨e1, e2, e3, e4, e5, e6, e7, e8, e9, e10, e11⟩ := hfix
  have he : a.isEmpty = b.isEmpty := by
    cases ha : a.isEmpty <;> cases hb : b.isEmpty <;> simp [ha, hb] at ho ⊢
  cases a; cases b
  simp only [BlockInfo.mk.injEq]
  exact ⟨e1, e2, e3, e4, e5, e6, e7, e8, e9, e10, e11, he⟩
/-- `-f <file> -R <range>`: the JSON array determines every reported page header (block number, LSN text, checksum,
flags, lower / upper / special, page size, version, item count, free space, emptiness) -/
theorem C12_cli_blockrange (l₁ l₂ : List BlockInfo) (h : blockListJV l₁ = blockListJV l₂) : l₁ = l₂ :=
  (List.map_inj_right blockInfoJV_inj).mp (optList_inj _ _ (by simpa only [blockListJV, List.isEmpty_map] using h))

/-! ## `-f <file> -b` -/

/-- the hex dump printed for a block (`encoding/hex.Dump`) determines the block's bytes: nothing of the page is lost in
the text form -/
theorem C12_cli_binary_block (n : Nat) (off : Int) (sa sb : Nat) (a b : Bytes)
    (h : binaryBlock ⟨n, off, hexDump a, sa⟩ = binaryBlock ⟨n, off, hexDump b, sb⟩) : a = b := by
  simp only [binaryBlock, List.append_assoc] at h
  have h1 := List.append_cancel_left (List.append_cancel_left (List.append_cancel_left (List.append_cancel_left (List.append_cancel_left h))))
  exact hexDumpLoop_inj _ _ 0 a b (by omega) (by omega) (List.append_cancel_right h1)

example : hexDump [0x50, 0x47, 0, 0xFF] = Txt.asc "00000000  50 47 00 ff                                       |PG..|\n" := by
  rw [asc_eq_utf8 _ (by decide +kernel)]; decide +kernel

/-! ## exit code -/

/-- every library call main.go makes on the path of the action returns without error, and there is something to print:
a data directory was detected (`-detect`), a database was found (`-list-db`), the JSON encoder accepts the checkpoint
time (`-control`), no page has an invalid checksum (`-checksum`), DumpDataDir returned a result (the dump modes).
(`True` for the actions `cliRun` does not render: nothing is claimed about them.) -/
def CliSuccess (L : Lib) : Action → Prop
  | .version => True
  | .detect => L.detectAll ≠ []
  | .noDataDir => False
  | .relmapInvalid _ => False
  | .listDb dir => ∃ dbs, L.listDatabases dir = .ok dbs ∧ dbs ≠ []
  | .control dir => ∃ c, L.readControlFile dir = .ok (some c) ∧ timeInRange c.checkpointTime = true
  | .checksum dir => ∃ r, L.verifyChecksums dir = .ok (some r) ∧ r.invalidBlocks = 0
  | .sequencesAll dir => ∃ m, L.scanAllSequences dir = .ok (some m)
  | .sequencesDb dir db => ∃ l, L.findSequences dir db = .ok (some l)
  | .relmapGlobal dir => ∃ r, L.readGlobalRelMap dir = .ok (some r)
  | .relmapAll dir => ∃ r, L.readAllRelMaps dir = .ok (some r)
  | .relmapDb dir oid => ∃ r, L.readDatabaseRelMap dir oid = .ok (some r)
  | .passwords dir _ => ∃ l, L.extractPasswords dir = .ok (some l)
  | .wal dir => ∃ s, L.scanWAL dir = .ok (some s)
  | .file path .plain => (L.readFile path).isSome = true
  | .file path (.binary r) =>
    ∃ br, (if r = [] then (pure (some none) : M (Option (Option BlockRange))) else L.parseBlockRange r) = .ok (some br) ∧
      ∃ d, L.dumpBinaryRange path br = .ok (some d)
  | .file path (.range r seg) =>
    ∃ br, L.parseBlockRange r = .ok (some br) ∧ (∀ s, seg = some s → (L.segmentInfo path s).isSome = true) ∧
      ∃ bs, L.dumpBlockRange path br = .ok (some bs)
  | .dump dir opts _ => ∃ r, L.dumpDataDir dir opts = .ok (some r)
  | _ => True

theorem jsonOr_exit {α} (pre : String) (r : Option α) (f : α → Bytes) (o : Out) (h : jsonOr pre r f = .out o) :
    (o.exit = 0 ↔ ∃ x, r = some x) ∧ o.exit ≤ 1 := by
  cases r with
  | none => cases h; exact verdict_errOut (fun ⟨_, e⟩ => nomatch e) _
  | some x => cases h; exact verdict_okOut ⟨x, rfl⟩ _

theorem bind_jsonOr_exit {α} (pre : String) (m : M (Option α)) (f : α → Bytes) (o : Out)
    (h : (m >>= fun r => pure (jsonOr pre r f)) = .ok (.out o)) : (o.exit = 0 ↔ ∃ x, m = .ok (some x)) ∧ o.exit ≤ 1 :=
  verdict_jsonOr pre m f Iff.rfl _ h

/-- C12 (command-line program), exit code: whenever the program terminates without a panic in one of the rendered
modes — the dump modes (JSON of a dump without float cells, `-sql`, `-csv`) included; NOT `-f … -index`,
`-f … -toast-verbose`, `-dropped`, `-secrets`, `-search`, nor the JSON dump of a result holding a float, for which
`cliRun` returns `.unrendered` and the hypothesis is false — the exit code is 0 or 1, and it is 0 exactly when
`CliSuccess` holds: every library call on the path returned without error and there was something to print.
In the dump modes that is: DumpDataDir returned a result (`C12_cli_dump_output` says what is printed).
`-version` always succeeds; a missing data directory and a bad `-relmap` argument always fail; `-checksum` fails when a
page checksum is wrong even though the report is printed; `-control` fails when the JSON encoder refuses the checkpoint
time (fix cluster/07). -/
theorem C12_cli_exit (L : Lib) (a : Action) (o : Out) (h : cliRun L a = .ok (.out o)) :
    (o.exit = 0 ↔ CliSuccess L a) ∧ o.exit ≤ 1 := by
  -- walk `cliRun` forward: `CliSuccess` has the shape of the run, clause by clause (`verdict_call`, `verdict_jsonOr`)
  refine (?_ : Post (cliRun L a) (RunSat (Verdict (CliSuccess L a)))) _ h
  cases a with
  | version => exact post_pure (verdict_okOut True.intro _)
  | detect =>
    simp only [cliRun]
    split
    · next he => exact post_pure (.one (fun hn => hn (List.isEmpty_iff.mp he)) rfl)
    · next he => exact post_bind fun _ _ => post_pure (verdict_okOut (fun hn => he (List.isEmpty_iff.mpr hn)) _)
  | noDataDir => exact post_pure (verdict_failOut id _)
  | relmapInvalid arg => exact post_pure (verdict_failOut id _)
  | listDb dir =>
    refine post_bind fun dbs hm => post_pure ?_
    cases dbs with
    | nil => exact .one (by simp [CliSuccess, hm]) rfl
    | cons d ds => exact .zero (by simp [CliSuccess, hm]) rfl
  | control dir =>
    refine verdict_call _ _ _ Iff.rfl rfl fun c _ => post_pure ?_
    unfold renderControl
    split
    · next ht => exact verdict_okOut ht _
    · next ht => exact verdict_errOut ht _
  | checksum dir =>
    refine verdict_call _ _ _ Iff.rfl rfl fun c _ => post_pure ?_
    by_cases hi : c.invalidBlocks > 0
    · exact .one (by omega) (if_pos hi)
    · exact .zero (by omega) (if_neg hi)
  | sequencesAll dir => exact verdict_jsonOr _ _ _ Iff.rfl
  | sequencesDb dir db => exact verdict_jsonOr _ _ _ Iff.rfl
  | relmapGlobal dir => exact verdict_jsonOr _ _ _ Iff.rfl
  | relmapAll dir => exact verdict_jsonOr _ _ _ Iff.rfl
  | relmapDb dir oid => exact verdict_jsonOr _ _ _ Iff.rfl
  | passwords dir sel => exact verdict_jsonOr _ _ _ Iff.rfl
  | wal dir => exact verdict_jsonOr _ _ _ Iff.rfl
  | droppedDb _ _ => exact post_pure True.intro
  | droppedAll _ => exact post_pure True.intro
  | secrets _ _ => exact post_pure True.intro
  | search _ _ => exact post_pure True.intro
  | dump dir opts fmt =>
    exact verdict_call (T := fun _ => True) _ _ _ (by simp [CliSuccess]) rfl fun r _ => post_pure (runSat_renderDump L fmt r (verdict_okOut True.intro))
  | file path mode =>
    cases mode with
    | index => exact post_pure True.intro
    | toastVerbose => exact post_pure True.intro
    | plain =>
      simp only [cliRun, runPlain]
      cases hf : L.readFile path with
      | none => exact post_pure (verdict_errOut (by simp [CliSuccess, hf]) _)
      | some data =>
        -- whichever catalog the base name selects, the parser's result is printed with exit code 0
        have plain_ok : ∀ {α} (m : M α) (f : α → Bytes), Post (m >>= fun x => pure (Run.out (okOut (f x))))
            (RunSat (Verdict (CliSuccess L (.file path .plain)))) :=
          fun m f => post_bind fun _ _ => post_pure (verdict_okOut (by simp [CliSuccess, hf]) _)
        simp only
        split
        · exact plain_ok _ _
        · split
          · exact plain_ok _ _
          · split
            · exact plain_ok _ _
            · exact plain_ok _ _
    | binary r =>
      exact verdict_call _ _ _ Iff.rfl rfl fun br _ =>
        verdict_call (T := fun _ => True) _ _ _ (by simp) rfl fun d _ => post_pure (verdict_okOut True.intro _)
    | range r seg =>
      refine verdict_call _ _ _ Iff.rfl rfl fun br _ => ?_
      cases seg with
      | none =>
        exact verdict_call (T := fun _ => True) _ _ _ (by simp) rfl fun bs _ => post_pure (verdict_okOut True.intro _)
      | some s =>
        simp only
        cases hs : L.segmentInfo path s with
        | none => exact post_pure (verdict_errOut (by simp [hs]) _)
        | some si =>
          refine post_bind fun d hd => ?_
          cases d with
          | none => exact post_pure (.one (by simp [hd]) rfl)
          | some bs => exact post_pure (.zero (by simp [hd, hs]) rfl)

/-! ## where the text goes -/

/-- the run wrote an error message to stderr -/
def SaysError (o : Out) : Prop := o.stderrMore = true ∨ o.stderr ≠ []

theorem errOut_says (pre : String) : SaysError (errOut pre) ∧ (errOut pre).stdout = [] ∧ (errOut pre).exit = 1 := by
  simp [SaysError, errOut]

/-- C12 (command-line program), stdout vs stderr for the directory modes (every mode without `-f`; the dump modes
included; as in `C12_cli_exit` nothing is claimed for the runs `cliRun` leaves `.unrendered`: `-dropped`, `-secrets`,
`-search`, the JSON dump of a result holding a float): a successful run writes nothing to stderr; a
failed run writes an error message to stderr and nothing to stdout — except in the three modes that have a report going to
STDOUT with exit code 1: "No PostgreSQL data directories found" (`-detect`), "No databases found" (`-list-db`) and the checksum
report with invalid blocks (`-checksum`).  The exception is made by mode: of a failed run of these three modes the statement
says nothing (also not of `-checksum` when VerifyDataDirChecksums returned an error). -/
theorem C12_cli_streams (L : Lib) (a : Action) (o : Out) (h : cliRun L a = .ok (.out o)) (hf : ∀ p m, a ≠ .file p m) :
    (o.exit = 0 → o.stderr = [] ∧ o.stderrMore = false) ∧
    (o.exit = 1 → (o.stdout = [] ∧ SaysError o) ∨ a = .detect ∨ (∃ d, a = .listDb d) ∨ (∃ d, a = .checksum d)) := by
  -- a postcondition of every branch (`Tidy`), pushed through the library calls: the run is not inverted
  refine (?_ : Post (cliRun L a) (RunSat (Tidy (a = .detect ∨ (∃ d, a = .listDb d) ∨ (∃ d, a = .checksum d))))) _ h
  cases a with
  | version => exact post_pure (tidy_okOut _ _)
  | detect =>
    simp only [cliRun]
    split
    · exact post_pure (tidy_report (Or.inl True.intro) _ _)
    · exact post_bind fun _ _ => post_pure (tidy_okOut _ _)
  | noDataDir => exact post_pure (tidy_failOut _ (asc_ne_nil _ (by decide +kernel)))
  | relmapInvalid arg =>
    exact post_pure (tidy_failOut _ fun hh =>
      asc_ne_nil _ (by decide +kernel) (List.append_eq_nil_iff.mp (List.append_eq_nil_iff.mp hh).1).1)
  | listDb dir =>
    refine post_bind fun dbs _ => post_pure ?_
    unfold renderListDb
    split
    · exact tidy_report (Or.inr (Or.inl ⟨dir, rfl⟩)) _ _
    · exact tidy_okOut _ _
  | control dir =>
    refine post_bind fun r _ => ?_
    cases r with
    | none => exact post_pure (tidy_errOut _ _)
    | some c =>
      refine post_pure ?_
      unfold renderControl
      split
      · exact tidy_okOut _ _
      · exact tidy_errOut _ _
  | checksum dir =>
    refine post_bind fun r _ => ?_
    cases r with
    | none => exact post_pure (tidy_errOut _ _)
    | some c => exact post_pure (tidy_report (Or.inr (Or.inr ⟨dir, rfl⟩)) _ _)
  | sequencesAll dir => exact tidy_jsonOr _ _ _ _
  | sequencesDb dir db => exact tidy_jsonOr _ _ _ _
  | relmapGlobal dir => exact tidy_jsonOr _ _ _ _
  | relmapAll dir => exact tidy_jsonOr _ _ _ _
  | relmapDb dir oid => exact tidy_jsonOr _ _ _ _
  | passwords dir sel => exact tidy_jsonOr _ _ _ _
  | wal dir => exact tidy_jsonOr _ _ _ _
  | droppedDb _ _ => exact post_pure True.intro
  | droppedAll _ => exact post_pure True.intro
  | secrets _ _ => exact post_pure True.intro
  | search _ _ => exact post_pure True.intro
  | dump dir opts fmt =>
    refine post_bind fun r _ => ?_
    cases r with
    | none => exact post_pure (tidy_errOut _ _)
    | some r => exact post_pure (runSat_renderDump L fmt r (tidy_okOut _))
  | file path mode => exact absurd rfl (hf path mode)

def failingLib : Lib :=
  { version := Txt.asc "dev", detectAll := [], listDatabases := fun _ => pure [], readControlFile := fun _ => pure none,
    verifyChecksums := fun _ => pure none, scanAllSequences := fun _ => pure none, findSequences := fun _ _ => pure none,
    readGlobalRelMap := fun _ => pure none, readAllRelMaps := fun _ => pure none, readDatabaseRelMap := fun _ _ => pure none,
    extractPasswords := fun _ => pure none, scanWAL := fun _ => pure none, readFile := fun _ => none,
    parsePGDatabase := fun _ => pure [], parsePGClass := fun _ => pure [], parsePGAttribute := fun _ => pure [],
    countTuples := fun _ => pure 0, parseBlockRange := fun _ => pure none, dumpBinaryRange := fun _ _ => pure none,
    segmentInfo := fun _ _ => none, dumpBlockRange := fun _ _ => pure none,
    dumpDataDir := fun _ _ => pure none, now := Txt.asc "2026-01-01T00:00:00Z",
    floatFmt := { v64 := fun _ => [], v32 := fun _ => [], j64 := fun _ => none, j32 := fun _ => none } }

/-- the hypothesis of `C12_cli_exit` is satisfiable, on both sides of the verdict -/
example : ∃ o, cliRun failingLib .version = .ok (.out o) ∧ o.exit = 0 := ⟨_, rfl, rfl⟩
example : ∃ o, cliRun failingLib (.control (Txt.asc "/data")) = .ok (.out o) ∧ o.exit = 1 ∧ o.stdout = [] := ⟨_, rfl, rfl, rfl⟩

/-! ## the dump modes -/

def exampleDump : Spec.DumpResult :=
  [{ oid := 5, name := Txt.asc "postgres",
     tables := [{ oid := 16384, name := Txt.asc "t", filenode := 16390, kind := [114],
                  columns := [⟨Txt.asc "id", Txt.asc "int4", 23⟩, ⟨Txt.asc "name", Txt.asc "text", 25⟩],
                  rows := [[(Txt.asc "id", .int 7), (Txt.asc "name", .str (Txt.asc "a<b"))],
                           [(Txt.asc "name", .nil), (Txt.asc "id", .int (-8))]],
                  rowCount := 2 }] }]

def dumpLib : Lib := { failingLib with dumpDataDir := fun _ _ => pure (some exampleDump) }

/-- **C12 (command-line program), the dump modes: filters, `-list` and the format flags select exactly what the
corresponding library options select, and stdout is exactly the rendering of what the library returned.**
For every flag record without a mode flag (`noModeFlag`: no -version, -detect, -f, -list-db, -control, -checksum,
-dropped, -sequences, -relmap, -passwords, -secrets, -search, -wal) and with a data directory `dir` — the value of `-d`,
or the detected directory when `-d` is not given —, main.go calls
`DumpDataDir(dir, {DatabaseFilter: -db, TableFilter: -t, ListOnly: -list, SkipSystemTables: true, PostgresVersion: 0})`
once, and
  * when the call returns a result `r`: the exit code is 0, stderr is empty and stdout is, byte for byte,
    `r.ToSQL` (area export's `toSQL`, with the clock reading `L.now` in its `-- Generated at:` line) if `-sql` is set,
    else `r.ToCSV` (`toCSV`) if `-csv` is set, else the two-space indented JSON text of `r` (`encodeJSON` of `dumpJV r`:
    databases, tables, columns and rows in the order of `r`, the keys of a row sorted) — unless, in the JSON case, some
    cell of `r` holds a float: then `cliRun` says `.unrendered .dump` and nothing is claimed;
  * when the call returns an error: exit code 1, nothing on stdout, "Error: " followed by the error text on stderr;
  * when the call panics, so does the program.
(Without `-v`, `-debug`; writes to stdout are assumed not to fail — see `renderDump`.)
`L` is ANY library record here; Props/C12CliDump.lean instantiates `L.dumpDataDir` with the model of the real DumpDataDir on a
file system (`C12_cli_dump_is_dumpDataDir`: the run = render (dumpDataDir fs (dumpOptions flags))) and, on the tree of a
cluster, ties stdout to `Spec.expectedDump` (`C12_cli_dump_on_cluster`). -/
theorem C12_cli_dump_output (L : Lib) (detected : Bytes) (f : Flags) (hm : C12.noModeFlag f)
    (dir : Bytes) (hdir : dir = if f.dataDir = [] then detected else f.dataDir) (hne : dir ≠ []) :
    let opts : Spec.Options :=
      { dbFilter := f.dbFilter, tableFilter := f.tableFilter, listOnly := f.listOnly, skipSystem := true, pgVersion := 0 }
    (∀ r, L.dumpDataDir dir opts = .ok (some r) →
      cliRun L (cliAction detected f) = .ok (
        if f.sqlOutput then .out { stdout := Model.Export.toSQL L.floatFmt L.now (exportDump r), stderr := [], stderrMore := false, exit := 0 }
        else if f.csvOutput then .out { stdout := Model.Export.toCSV L.floatFmt (exportDump r), stderr := [], stderrMore := false, exit := 0 }
        else match dumpJV r with
          | some v => .out { stdout := encodeJSON v, stderr := [], stderrMore := false, exit := 0 }
          | none => .unrendered .dump)) ∧
    (L.dumpDataDir dir opts = .ok none →
      cliRun L (cliAction detected f) = .ok (.out { stdout := [], stderr := Txt.asc "Error: ", stderrMore := true, exit := 1 })) ∧
    (∀ e, L.dumpDataDir dir opts = .error e → cliRun L (cliAction detected f) = .error e) := by
  intro opts
  have ha : cliAction detected f = .dump dir opts (outFormat f) := by
    by_cases hd : f.dataDir = []
    · rw [if_pos hd] at hdir
      rw [C12.C12_cli_detect detected f hm hd, if_neg (by rw [← hdir]; exact hne), ← hdir]; rfl
    · rw [if_neg hd] at hdir
      rw [C12.C12_cli_dump detected f hm hd, ← hdir]; rfl
  rw [ha, cliRun_dump]
  refine ⟨fun r hr => ?_, fun hr => ?_, fun e hr => ?_⟩ <;> rw [hr]
  · exact congrArg Except.ok (renderDump_eq L f r)
  · rfl
  · rfl

/-- the flag hypothesis of `C12_cli_dump_output` is satisfiable (`-d /data -db postgres -t T -list`) -/
example : C12.noModeFlag { dataDir := Txt.asc "/data", dbFilter := Txt.asc "postgres", tableFilter := Txt.asc "T", listOnly := true } := by
  simp [C12.noModeFlag]

/-- on the example library `pgread -d /data` exits 0 with empty stderr and prints the JSON text of the example dump -/
example : ∃ o v, cliRun dumpLib (cliAction [] { dataDir := Txt.asc "/data" }) = .ok (.out o) ∧ dumpJV exampleDump = some v ∧
    o = { stdout := encodeJSON v, stderr := [], stderrMore := false, exit := 0 } := ⟨_, _, rfl, rfl, rfl⟩

/-- the `rows` member of that text: the keys of a row sorted (the second row lists `name` first), `<` escaped as
encoding/json does, NULL as `null`, negative integers in decimal -/
example : (rowsJV [[(Txt.asc "id", .int 7), (Txt.asc "name", .str (Txt.asc "a<b"))], [(Txt.asc "name", .nil), (Txt.asc "id", .int (-8))]]).map
      (fun l => encodeJSON (.arr l)) =
    some (Txt.asc "[\n  {\n    \"id\": 7,\n    \"name\": \"a\\u003cb\"\n  },\n  {\n    \"id\": -8,\n    \"name\": null\n  }\n]\n") := by
  rw [asc_eq_utf8 _ (by decide +kernel)]; decide +kernel

/-- `-csv` on the same dump -/
example : ∃ o, cliRun dumpLib (cliAction [] { dataDir := Txt.asc "/data", csvOutput := true }) = .ok (.out o) ∧
    o = { stdout := Txt.asc "# Database: postgres, Table: t\nid,name\n7,a<b\n-8,\n\n", stderr := [], stderrMore := false, exit := 0 } :=
  ⟨_, rfl, by rw [asc_eq_utf8 _ (by decide +kernel)]; decide +kernel⟩

/-- a failing library call: exit 1, empty stdout, "Error: …" on stderr -/
example : ∃ o, cliRun failingLib (cliAction (Txt.asc "/detected") {}) = .ok (.out o) ∧
    o = { stdout := [], stderr := Txt.asc "Error: ", stderrMore := true, exit := 1 } := ⟨_, rfl, by decide⟩

/-- The JSON dump is rendered exactly for the dumps in which no cell holds a float32 / float64 (`dumpFloatFree`): for
those — in particular for every dump of the column types bool, "char", int2, int4, int8, oid, name, text, varchar,
bpchar and of dropped columns — `C12_cli_dump_output`, `C12_cli_exit` and `C12_cli_streams` speak about the JSON mode. -/
theorem C12_cli_dump_json_rendered (r : Spec.DumpResult) : (∃ v, dumpJV r = some v) ↔ dumpFloatFree r = true := by
  rw [← dumpJV_isSome]
  cases dumpJV r <;> simp

example : dumpFloatFree exampleDump = true := by decide

/-- one database, one table without declared columns, one row holding the cell `v` under the key `c` -/
def oneCell (v : GoVal) : Spec.DumpResult :=
  [{ oid := 5, name := [],
     tables := [{ oid := 1, name := [], filenode := 1, kind := [114], columns := [], rows := [[(Txt.asc "c", v)]], rowCount := 1 }] }]

/-- a dump with a float cell is NOT rendered in the JSON mode -/
example : dumpJV (oneCell (.f64 0)) = none := by decide

/-- **The JSON text of a dump is valid JSON and denotes the dump.**  What `pgread -d DIR` prints for a dump `r` without
float cells whose strings (database, table, column and type names, relkinds, row keys, text cells) are valid UTF-8 is a
complete RFC 8259 text (neutral parser `Spec.Json.parse`) denoting the JSON value `dumpJV r`: the object
`{"databases": …}` with every database, table, column and row of `r` in order. -/
theorem C12_cli_dump_json_valid (r : Spec.DumpResult) (v : JV) (h : dumpJV r = some v) (hc : clean v = true) :
    ∃ j, Spec.Json.parse (encodeJSON v) = some j ∧ (dumpJV r).map jOf = some j :=
  ⟨jOf v, C12_cli_json_valid v hc, by rw [h]; rfl⟩

/-- **The JSON text determines the dump.**  Two dumps (no float cells, strings valid UTF-8) for which `pgread -d DIR`
prints the same text have the same databases in the same order, each with the same oid, name and tables in the same
order, each table with the same oid, name, filenode, relkind, columns (name, type name, type oid, in order), row count
and rows in the same order, each row with the same cells — everything but the order in which a row's association list
names its keys (`normDump`: a Go map has none).  So no database, table, column, row or cell value the library reports
is dropped, merged or reordered by the JSON rendering. -/
theorem C12_cli_dump_json_injective (r₁ r₂ : Spec.DumpResult) (v₁ v₂ : JV) (h₁ : dumpJV r₁ = some v₁) (h₂ : dumpJV r₂ = some v₂)
    (c₁ : clean v₁ = true) (c₂ : clean v₂ = true) (h : encodeJSON v₁ = encodeJSON v₂) : normDump r₁ = normDump r₂ := by
  have e := C12_cli_json_injective v₁ v₂ c₁ c₂ h
  subst e
  exact dumpJV_rel r₁ r₂ v₁ h₁ h₂

/-- the hypotheses are satisfiable: the example dump has a JSON value all of whose strings are valid UTF-8 -/
example : ∃ v, dumpJV exampleDump = some v ∧ clean v = true := ⟨_, rfl, by decide +kernel⟩

/-- outside the UTF-8 hypothesis the text does NOT determine the dump: a `name` / `"char"` cell (returned by DecodeType
as stored) holding the byte FF and one holding FE are both printed as `"\ufffd"` -/
theorem C12_cli_dump_json_invalid_utf8_lost :
    (dumpJV (oneCell (.str [0xFF]))).map encodeJSON = (dumpJV (oneCell (.str [0xFE]))).map encodeJSON := by decide +kernel

#print axioms C12_cli_exit
#print axioms C12_cli_streams
#print axioms C12_cli_dump_output
#print axioms C12_cli_dump_json_rendered
#print axioms C12_cli_dump_json_valid
#print axioms C12_cli_dump_json_injective
#print axioms C12_cli_dump_json_invalid_utf8_lost

end PgVerif.Props.C12Cli
