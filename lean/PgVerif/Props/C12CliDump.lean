/-
  C12, command-line program, dump modes — the `Lib` field instantiated.

  `C12_cli_dump_output` (Props/C12Cli.lean) speaks about an ABSTRACT library record `L`: it says what main.go prints given
  what `L.dumpDataDir` returns.  Here the field is the model of the real `DumpDataDir` on a file system
  (`libOn`), so that the statements read

      stdout = render (dumpDataDir fs (dumpOptions flags))                    `C12_cli_dump_is_dumpDataDir`
      … and on the tree of a cluster that dump is the Spec's expected dump     `C12_cli_dump_on_cluster`

  (the second through `C01_dump_real`, with its hypotheses — the open findings of C01 are carve-outs here too).
  Not stated in Lean: the flag parser (`Flags` is the record Go's `flag` package fills: a stated parameter), `-v` /
  `-debug` output, and the text of floats (`L.floatFmt`, area export's parameter; a JSON dump holding a float is
  `.unrendered`, see `C12_cli_dump_json_rendered`).
-/
import PgVerif.Props.C12Cli
import PgVerif.Props.C01
namespace PgVerif.Props.C12CliDump
open PgVerif PgVerif.Model PgVerif.Model.CliRender PgVerif.Proofs PgVerif.Proofs.Cluster PgVerif.Proofs.CliDump List
open PgVerif.Spec (DumpResult Options Cluster)

/-- **stdout / stderr / exit code of the dump modes = the rendering of `DumpDataDir(dir, dumpOptions flags)`.**  For every
flag record without a mode flag and with a data directory `dir` (the value of `-d`, else the detected directory), on every
file system, for every row reader and map order: the run of main.go is the model of the real `DumpDataDir` on the files
under `dir`, called once with `{DatabaseFilter: -db, TableFilter: -t, ListOnly: -list, SkipSystemTables: true}`
(`Model.dumpOptions`), followed by the output switch (`finish`: "Error: …" and exit 1 when the call returned an error,
else `renderDump` — `-sql`, else `-csv`, else JSON); a fault (Go panic) of the call is a fault of the program. -/
theorem C12_cli_dump_is_dumpDataDir (L0 : Lib) (rr : RowReader) (π : MapOrder TableInfo) (fs : Bytes → Option Bytes)
    (detected : Bytes) (f : Flags) (hm : C12.noModeFlag f)
    (dir : Bytes) (hdir : dir = if f.dataDir = [] then detected else f.dataDir) (hne : dir ≠ []) :
    cliRun (libOn L0 rr π fs) (cliAction detected f) =
      (Model.dumpDataDir rr π (under fs dir) (Model.dumpOptions f)).map (finish L0 (outFormat f)) := by
  have h := C12Cli.C12_cli_dump_output (libOn L0 rr π fs) detected f hm dir hdir hne
  simp only at h
  obtain ⟨hok, herr, hfault⟩ := h
  have hfield : (libOn L0 rr π fs).dumpDataDir dir
      { dbFilter := f.dbFilter, tableFilter := f.tableFilter, listOnly := f.listOnly, skipSystem := true, pgVersion := 0 } =
      Model.dumpDataDir rr π (under fs dir) (Model.dumpOptions f) := rfl
  rw [hfield] at hok herr hfault
  cases hd : Model.dumpDataDir rr π (under fs dir) (Model.dumpOptions f) with
  | error e => rw [hfault e hd]; rfl
  | ok x =>
    cases x with
    | none => rw [herr hd]; rfl
    | some r =>
      rw [hok r hd]
      exact congrArg Except.ok (CliRender.renderDump_eq L0 f r).symm

/-- **On the tree of a cluster the program prints the Spec's dump.**  Let the files under `dir` be the tree of a
well-formed cluster `c` (`Spec.fsOf c`), the row reader the model of heap.go:ReadRows over the composed model of
types.go:DecodeType (`rowsDec X`), and let `c` and the options of the command line satisfy the hypotheses of `C01_dump`
(outside the open findings C01-TPL, C01-SEG / C01-TBLSPC, C01-MAPPED, C01-MISSINGVAL, A02; `DbDumpable`).  Then
the run of `pgread -d dir [-db …] [-t …] [-list] [-sql | -csv]` is `renderDump` of a dump `r` (exit code 0 and the SQL / CSV / JSON
text of `r`; in the JSON mode `.unrendered .dump`, of which nothing is said, as soon as a cell of `r` holds a float) that is,
database by database, table by table, column by column and row by row, `Spec.expectedDump` at the options of the command
line (`Cluster.normDb` blanks the type-name text of type oids the Spec has no name for; not `CliDump.normDb`). -/
theorem C12_cli_dump_on_cluster (X : PgVerif.Proofs.Entry.Render) (L0 : Lib) (π : MapOrder TableInfo) (hπ : ∀ l, π l ~ l)
    (fs : Bytes → Option Bytes) (c : Cluster) (hwf : c.WF)
    (detected : Bytes) (f : Flags) (hm : C12.noModeFlag f)
    (dir : Bytes) (hdir : dir = if f.dataDir = [] then detected else f.dataDir) (hne : dir ≠ [])
    (hfs : ∀ p, fs (dir ++ 47 :: p) = Spec.fsOf c p)
    (htpl : Spec.TemplatesByName c) (hplain : c.Plain) (hid : c.IdentityMapped) (hnm : c.NoFastDefaults)
    (hdump : ∀ db ∈ c.dbs.live, Spec.selectedDb (Model.dumpOptions f) db = true → ∀ d, c.content.lookup db.oid = some d →
      DbDumpable c.layout d (Model.dumpOptions f) ∧ Spec.A02Free d (Model.dumpOptions f)) :
    ∃ r : DumpResult,
      r.map Cluster.normDb = Spec.expectedDump (varlenaVal (C10.Entry.rowsDec X)) c (Model.dumpOptions f) ∧
      cliRun (libOn L0 (readRows (C10.Entry.rowsDec X)) π fs) (cliAction detected f) = .ok (renderDump L0 (outFormat f) r) := by
  obtain ⟨r, hr, hspec⟩ := C01.C01_dump_real X π hπ c hwf (Model.dumpOptions f) htpl hplain hid hnm hdump
  refine ⟨r, hspec, ?_⟩
  rw [C12_cli_dump_is_dumpDataDir L0 _ π fs detected f hm dir hdir hne]
  have hu : under fs dir = Spec.fsOf c := funext hfs
  rw [hu, hr]
  rfl

/-- the flag and file-system hypotheses (`hm`, `hfs`) are satisfiable: the flags `-d /data -t T -list` on the example
cluster of Props/C01.lean mounted at `/data` (the cluster hypotheses `hwf` … `hdump` are those of `C01_dump_real` and are not discharged here) -/
example : C12.noModeFlag { dataDir := Txt.asc "/data", tableFilter := Txt.asc "T", listOnly := true } ∧
    (∀ p, (fun q => if (Txt.asc "/data/").isPrefixOf q then Spec.fsOf C01.exCluster (q.drop 6) else none) (Txt.asc "/data" ++ 47 :: p) =
      Spec.fsOf C01.exCluster p) := by
  refine ⟨by simp [C12.noModeFlag], ?_⟩
  intro p
  have h1 : Txt.asc "/data" ++ 47 :: p = Txt.asc "/data/" ++ p := by
    have : Txt.asc "/data/" = Txt.asc "/data" ++ [47] := by decide
    rw [this]; simp
  rw [h1]
  have h2 : (Txt.asc "/data/").isPrefixOf (Txt.asc "/data/" ++ p) = true := by simp
  have h3 : (Txt.asc "/data/" ++ p).drop 6 = p := by
    have : (Txt.asc "/data/").length = 6 := by decide
    rw [← this]; simp
  simp only [h2, if_true, h3]

#print axioms C12_cli_dump_is_dumpDataDir
#print axioms C12_cli_dump_on_cluster

end PgVerif.Props.C12CliDump
