/-
  C12 — the entry points that reach a cluster WITHOUT naming DumpDataDir give the same databases, tables and
  rows as DumpDataDir on the same directory:

    ListDatabases   the databases of global/1262 exactly once each (those ParsePGDatabase finds — the list DumpDataDir
                    walks), ordered non-templates first, then by name; every database DumpDataDir dumps is listed
    DumpAll         one DumpDataDir result per detected directory, in detection order; with $PGDATA pointing at a valid
                    directory and no other installation on the machine: exactly `[DumpDataDir($PGDATA)]`
    Summary / MarshalJSON   for a SummaryResult with ONE non-template database: the `databases` object has that name as its only
                    key, with the ordinary non-pg_/sql_ tables of Tables(db) in filenode order

  Models: Model/ExtraCluster.lean (same parameters as Model/Cluster.lean: row reader, map order, file system).
  Helper lemmas: Proofs/ExtraCluster.lean.
-/
import PgVerif.Proofs.ExtraCluster
import PgVerif.Proofs.ClusterClass
import PgVerif.Basic.Lemmas
namespace PgVerif.Props.C12Extra
open PgVerif PgVerif.Model PgVerif.Model.Extra PgVerif.Proofs.Extra PgVerif.Props.C10.Cluster
open scoped List

/-- **ListDatabases = the databases DumpDataDir walks, reordered.**  When global/1262 is readable and ParsePGDatabase
makes `dbs` of it, ListDatabases returns a permutation of `dbs` (every database once, none invented, none lost) in which
no template precedes a non-template and, within each of the two groups, names ascend in byte order. -/
theorem C12_listDatabases (rr : RowReader) (fs : Bytes → Option Bytes) (data : Bytes) (dbs : List DatabaseInfo)
    (hf : fs pathGlobal1262 = some data) (hp : parsePGDatabase rr data = .ok dbs) :
    ∃ l, listDatabases rr fs = .ok l ∧ l ~ dbs ∧
      l.Pairwise (fun a b => (xcIsTemplate a.name = true → xcIsTemplate b.name = true) ∧
                             (xcIsTemplate a.name = xcIsTemplate b.name → bytesLe a.name b.name = true)) := by
  refine ⟨goInsertionSort listDbLess dbs, ?_, goInsertionSort_perm _ _, ?_⟩
  · simp only [listDatabases, hf, hp, ok_bind, pure_eq_ok]
  · exact (goInsertionSort_sorted listDbLess listDbLess_strictWeak dbs).imp (fun {a b} h => listDbLess_false a b h)

/-- the hypotheses of `C12_listDatabases` are satisfiable with a non-trivial list: a row reader that finds two
pg_database rows (oid 5 "z", oid 6 "a") -/
example : ∃ (rr : RowReader) (fs : Bytes → Option Bytes) (data : Bytes) (dbs : List DatabaseInfo),
    fs pathGlobal1262 = some data ∧ parsePGDatabase rr data = .ok dbs ∧ dbs = [⟨5, [122]⟩, ⟨6, [97]⟩] := by
  refine ⟨fun _ _ _ => pure [[(strBytes "oid", .int 5), (strBytes "datname", .str [122])],
                             [(strBytes "oid", .int 6), (strBytes "datname", .str [97])]], fun _ => some [], [], _, rfl, ?_, rfl⟩
  simp [parsePGDatabase, getOID, getString, List.lookup, PgVerif.strBytes_beq]

/-- no global/1262: nil -/
theorem C12_listDatabases_missing (rr : RowReader) (fs : Bytes → Option Bytes) (hf : fs pathGlobal1262 = none) :
    listDatabases rr fs = .ok [] := by
  simp only [listDatabases, hf]; rfl

/-- **Every database of the dump is a listed database.**  For every tree, all options and every map order: each database
DumpDataDir puts in its result carries the oid and the name of an entry of ListDatabases on the same tree, and that
entry is not a template. -/
theorem C12_dump_databases_listed (rr : RowReader) (π : MapOrder TableInfo) (fs : Bytes → Option Bytes) (o : Spec.Options)
    (r : Spec.DumpResult) (l : List DatabaseInfo) (hd : dumpDataDir rr π fs o = .ok (some r)) (hl : listDatabases rr fs = .ok l) :
    ∀ d ∈ r, ∃ db ∈ l, db.oid = d.oid ∧ db.name = d.name ∧ xcIsTemplate db.name = false := by
  obtain ⟨data, dbs, hf, hp, hc⟩ := Proofs.Cluster.dumpDataDir_ok hd
  unfold listDatabases at hl
  rw [hf] at hl
  simp only [hp, ok_bind] at hl
  cases hl
  intro d hdm
  obtain ⟨db, hdb, hstep⟩ := Proofs.collectM_ok _ _ _ hc d hdm
  refine ⟨db, (goInsertionSort_perm listDbLess dbs).symm.subset hdb, ?_⟩
  -- dumpDb answers with a database only past its three `continue`s, and then with this oid and name
  rw [Proofs.Cluster.dumpDb_eq] at hstep
  split at hstep
  · cases hstep
  · next hno =>
    obtain ⟨ts, _, hstep⟩ := bind_eq_ok hstep
    cases hstep
    exact ⟨rfl, rfl, by simpa [xcIsTemplate] using (not_or.mp hno).1⟩

/-- **DumpAll = DumpDataDir over the detected directories.**  For every environment and every content of the
directories, DumpAll is the list of the (non-error) DumpDataDir results of the detected directories, in detection
order, under the same options — same databases, tables and rows, because it is literally the same computation. -/
theorem C12_dumpAll (rr : RowReader) (π : MapOrder TableInfo) (e : DetectEnv) (fsAt : Bytes → Bytes → Option Bytes)
    (o : Spec.Options) :
    dumpAll rr π e fsAt o = collectM (fun dir => dumpDataDir rr π (fsAt dir) o) (detectAllDataDirs e) :=
  dumpAll_eq rr π e fsAt o

/-- **$PGDATA alone.**  $PGDATA is set and valid, no other candidate path holds a cluster: DumpAll returns exactly
`[DumpDataDir($PGDATA, opts)]` (nothing when that call reports the error). -/
theorem C12_dumpAll_pgdata (rr : RowReader) (π : MapOrder TableInfo) (e : DetectEnv) (fsAt : Bytes → Bytes → Option Bytes)
    (o : Spec.Options) (h1 : e.pgdata ≠ []) (h2 : e.valid e.pgdata = true)
    (h3 : ∀ p ∈ e.candidates, e.valid (e.expand p) = false ∨ e.expand p = e.pgdata) :
    dumpAll rr π e fsAt o = (dumpDataDir rr π (fsAt e.pgdata) o >>= fun r => pure r.toList) := by
  rw [dumpAll_eq, detectAll_pgdata_only e h1 h2 h3]
  simp only [collectM]
  cases dumpDataDir rr π (fsAt e.pgdata) o with
  | error err => rfl
  | ok r => cases r <;> rfl

/-- **One result per detected directory.**  When `isValidDataDir` is read off the same file trees DumpDataDir reads
(global/1262 present and non-empty), no detected directory is dropped: DumpAll returns exactly as many dumps as
DetectAllDataDirs returns directories. -/
theorem C12_dumpAll_one_per_dir (rr : RowReader) (h : TotalReader rr) (π : MapOrder TableInfo) (e : DetectEnv)
    (fsAt : Bytes → Bytes → Option Bytes) (o : Spec.Options) (hv : e.valid = validBy fsAt) :
    ∃ rs, dumpAll rr π e fsAt o = .ok rs ∧ rs.length = (detectAllDataDirs e).length := by
  rw [dumpAll_eq]
  apply Proofs.collectM_length_of_some
  intro dir hdir
  have := detectAll_valid e dir hdir
  rw [hv] at this
  exact dumpDataDir_some_of_valid rr h π fsAt o dir this

/-- nothing detected: nil -/
theorem C12_dumpAll_none (rr : RowReader) (π : MapOrder TableInfo) (e : DetectEnv) (fsAt : Bytes → Bytes → Option Bytes)
    (o : Spec.Options) (h : detectAllDataDirs e = []) : dumpAll rr π e fsAt o = .ok [] := by
  rw [dumpAll_eq, h]; rfl

/-- the hypotheses of `C12_dumpAll_pgdata` are satisfiable: one valid directory named by $PGDATA -/
example : detectAllDataDirs ⟨[64], linuxCandidates, id, fun d => d == [64]⟩ = [[64]] := by
  apply detectAll_pgdata_only
  · simp
  · rfl
  · intro p _
    by_cases h : p = [64]
    · exact Or.inr h
    · left; simp [h]

/-! ### SummaryResult.MarshalJSON -/

/-- **What the `databases` object holds for one database.**  For a SummaryResult with a single non-template database, the object
MarshalJSON builds (`summaryDatabasesMap`) has that database's name as its only key and, under it, the names of the tables of
`Tables(db)` that are ordinary (`relkind r`) and neither pg_* nor sql_*, in the order of `Tables` (filenode order) — or no key
at all when there is no such table.  (For any number of databases on the tree of a cluster, `C12_remote_summary` in
Props/C12Remote.lean states the content of the object as `Model.summaryDatabases` computes it, one entry per database.) -/
theorem C12_summary_one_database (version : Bytes) (creds : List AuthInfo) (db : DatabaseInfo) (ts : List TableInfo)
    (hnt : xcIsTemplate db.name = false) :
    summaryDatabasesMap ⟨version, creds, [db], [(db.oid, ts)]⟩ =
      (if ts.filter summaryKeep = [] then [] else [(db.name, (ts.filter summaryKeep).map (·.name))]) := by
  have key : ∀ (l : List TableInfo) (acc : List Bytes),
      l.foldl (fun m t => strMapAppend m db.name t.name) [(db.name, acc)] = [(db.name, acc ++ l.map (·.name))] := by
    intro l
    induction l with
    | nil => intro acc; simp
    | cons t l ih =>
      intro acc
      simp only [List.foldl_cons, strMapAppend, beq_self_eq_true, if_true, List.map_cons]
      rw [ih (acc ++ [t.name])]
      simp
  simp only [summaryDatabasesMap, List.foldl_cons, List.foldl_nil, hnt, mapGet, List.lookup_cons, beq_self_eq_true,
    Option.getD_some]
  cases hf : ts.filter summaryKeep with
  | nil => simp
  | cons t rest =>
    simp only [List.foldl_cons, strMapAppend, List.map_cons]
    rw [key rest [t.name]]
    simp

end PgVerif.Props.C12Extra
