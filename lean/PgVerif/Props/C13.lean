/-
  C13 — SQL and CSV exports cannot be broken or hijacked by stored data.
  Property theorems only; helper lemmas are in Proofs/ExportDec, ExportJson, SqlLex, SqlCompose, SqlWrites, SqlArrayTypes,
  SqlValue, SqlTable, SqlDump (SQL side) and Proofs/CsvParse, CsvKept (CSV side).

  Spec side: `Spec.SqlLex` (PostgreSQL's lexer for text that reads the same with standard_conforming_strings on and off:
  a plain '…' constant holding a backslash has no setting-independent reading and is REFUSED; `E'…'` is read in scan.l's
  state xe under both settings; `next` recognises one token), `Spec.SqlExport` (which token sequence a dump must produce:
  every name and value exactly one token — or the fixed group of a signed number / ARRAY[…] — that decodes back; the
  statement forms are those PostgreSQL's grammar accepts: column lists, value lists and ARRAY[…] are never empty, a table
  without columns gets `INSERT … DEFAULT VALUES`, the empty array is '{}'), `Spec.Json` (RFC 8259), `Spec.Csv` (RFC 4180
  reader that, like the usual readers, skips empty lines), `Spec.CsvExport`.
  Model side: `Model.Export` = sql.go and csv.go after fixes/export 01–15.
  `Spec.SqlLex` refuses a NUL byte anywhere (fix 15): the scanner's input is a C string, psql drops the rest of a line after a
  NUL; `Spec.SqlExport.value F T` checks a value against the column type T: in an array-typed column the elements are values
  of pg_type's element type and the constructor is cast to the array type (fix 14).
  The per-token theorems are the injection-safety content: whatever bytes a stored name or value consists of, the
  lexer's token ends exactly where the tool's text for it ends, and decodes to the original.
  Assumptions that remain (not settings the dump can control): the text is read in an encoding in which the bytes `'` `"`
  `\` and the line ends never occur inside a multi-byte character (true of UTF-8 and of every PostgreSQL server encoding;
  not of the client-only encodings SJIS, BIG5, GBK, UHC, GB18030, JOHAB); names are at most 63 bytes (NAMEDATALEN).
-/
import PgVerif.Proofs.SqlLex
import PgVerif.Proofs.CsvParse
import PgVerif.Proofs.ExportJson
import PgVerif.Proofs.SqlDump
import PgVerif.Proofs.CsvKept
namespace PgVerif.Props.C13
open PgVerif PgVerif.Export PgVerif.Model.Export PgVerif.Proofs
open PgVerif.Spec.SqlLex (next next0 Tok)

/-- Identifiers: for EVERY non-empty byte string `n` without a NUL byte (pgread reads names with cstring(): a name ends at its
first NUL, so no stored name holds one; quotes, backslashes, dollars, semicolons, comment markers, line
breaks, control characters, upper case, key words, leading digits, non-ASCII …) the text `quoteIdent n`, followed by
anything that cannot continue an identifier (the tool writes a space, a comma or a parenthesis), is read by PostgreSQL's
lexer as exactly ONE token that ends exactly where `quoteIdent n` ends, and that token is the name `n`: a quoted
identifier with content `n`, or the bare word `n` where `n` is neither case-folded nor a key word PostgreSQL refuses as
a table or column name. -/
theorem C13_ident (n rest : Bytes) (hn : n ≠ []) (h0 : (0 : UInt8) ∉ n) (hb : SqlLex.IdentBoundary rest) :
    ∃ tok, next (quoteIdent n ++ rest) = some (some tok, rest) ∧ Spec.SqlExport.isName n tok = true :=
  ⟨SqlLex.identTok n, SqlLex.next_identTok n rest hn h0 hb, SqlLex.isName_identTok n⟩

/-- String literals: for EVERY byte string `s` — NUL bytes included — the text `quoteLiteral s` (the string up to its first
NUL; `'…'` with quotes doubled when that has no backslash, `E'…'` with quotes and backslashes doubled when it has one),
followed by the end of input or by any byte that is not a quote, white space or a dash (the tool writes `,` `)` or `]`),
is read as exactly one string constant whose value is `cstr s` — the C string PostgreSQL's own output functions deliver for
the datum (`C13_literal_value`: `s` itself when it holds no NUL) — ending exactly where the tool's text ends: no content can
close the literal early or extend it.  The lexer refuses a NUL anywhere (`C13_nul_refused`: the text written before fix 15
does not pass).  Because `Spec.SqlLex`
refuses every plain constant that holds a backslash and reads `E'…'` as scan.l does under both settings, this holds
whether the session that runs the dump has standard_conforming_strings on or off (`C13_plain_backslash_refused` shows
that the text written before fix 11 does not pass). -/
theorem C13_literal (s rest : Bytes) (hb : SqlLex.StrBoundary rest) :
    next (quoteLiteral s ++ rest) = some (some (.str (cstr s)), rest) :=
  SqlLex.next_quoteLiteral s rest hb

/-- the value of the constant: the string itself when it holds no NUL; in every case a prefix of it that holds no NUL and is
followed, in `s`, by a NUL or by nothing (the C string) -/
theorem C13_literal_value (s : Bytes) :
    ((0 : UInt8) ∉ s → cstr s = s) ∧ (0 : UInt8) ∉ cstr s ∧ (s = cstr s ∨ ∃ t, s = cstr s ++ 0 :: t) :=
  ⟨SqlLex.cstr_of_noNul s, SqlLex.cstr_noNul s, (SqlLex.cstr_split s).2⟩

/-- The specification does not accept what fix 15 repaired: the constant written for a string that holds a NUL WITHOUT
cutting it (quotes doubled, `E'…'` when there is a backslash — the text before the fix) is refused by the lexer whatever
follows, e.g. `'<NUL>'` for the "char" value 0. -/
theorem C13_nul_refused (s rest : Bytes) (hs : (0 : UInt8) ∈ s) (hb : SqlLex.StrBoundary rest) :
    next (SqlLex.quoteLit s ++ rest) = none :=
  SqlLex.next_nul _ _ _ (SqlLex.next0_quoteLit s rest hb) ((SqlLex.quoteLit_nul s).2 hs)

/-- the hypotheses of `C13_nul_refused` hold for the "char" value 0 followed by `)`, and the conclusion evaluated on it: the
text `'<NUL>')` written before fix 15 does not tokenise, the text `'')` of `quoteLiteral` does -/
example : (0 : UInt8) ∈ ([0] : Bytes) ∧ SqlLex.StrBoundary [41] ∧ next ([39, 0, 39, 41] : Bytes) = none ∧
    next (quoteLiteral [0] ++ [41]) = some (some (.str []), [41]) := by
  refine ⟨by decide, ?_, by decide +kernel, by decide +kernel⟩
  intro c hc; simp at hc; subst hc; decide

/-- The specification does not accept what fix 11 repaired: a plain constant `'…'` (quotes doubled, nothing else) of a
string that holds a backslash is refused by the lexer whatever follows — e.g. the value `\'; DROP TABLE x; --`, which with
standard_conforming_strings = off is the string `'` followed by a live `DROP TABLE`. -/
theorem C13_plain_backslash_refused (s rest : Bytes) (hs : 92 ∈ s) (hb : SqlLex.StrBoundary rest) :
    next (39 :: (escapeQ 39 s ++ [39]) ++ rest) = none := by
  apply SqlLex.next_none_of_next0
  have hr : rest.head? ≠ some 39 := by intro h; exact (hb 39 h).1 rfl
  rw [List.cons_append, List.append_assoc, SqlLex.next0_quote, List.singleton_append, SqlLex.scanQuoted_escape 39 s rest hr]
  simp [hs]

/-- the hypotheses of `C13_plain_backslash_refused` hold for the witness value `\';` followed by `)`, and the conclusion
evaluated on it: the text `'\'';')` written before fix 11 does not tokenise -/
example : (92 : UInt8) ∈ ([92, 39, 59] : Bytes) ∧ SqlLex.StrBoundary [41] ∧ next (Spec.SqlLex.asc "'\\'';')") = none := by
  refine ⟨by decide, ?_, by decide +kernel⟩
  intro c hc; simp at hc; subst hc; decide

/-- Comment lines: for EVERY name `s`, prefix and suffix without line breaks and NUL bytes, the line `--` prefix commentText(s) suffix
followed by a line break is read as exactly one comment token that stops at that line break (the name cannot end the
comment: no CR or LF survives `commentText`), and the token decodes back to `s` under the convention `\\` `\n` `\r`. -/
theorem C13_comment (pre s suf rest : Bytes) (hp : ∀ c ∈ pre, Spec.SqlLex.isNewline c = false ∧ c ≠ 0)
    (hs : ∀ c ∈ suf, Spec.SqlLex.isNewline c = false ∧ c ≠ 0) (h0 : (0 : UInt8) ∉ s) :
    next (45 :: 45 :: (pre ++ commentText s ++ suf) ++ 10 :: rest) = some (some (.comment (pre ++ commentText s ++ suf)), 10 :: rest) ∧
    Spec.SqlExport.isNameComment pre s suf (.comment (pre ++ commentText s ++ suf)) = true :=
  ⟨SqlLex.next_comment _ (10 :: rest) ((SqlLex.CommentSafe.append hp (SqlLex.commentText_safe s h0)).append hs)
    (by intro c hc; simp at hc; subst hc; decide),
   SqlLex.isNameComment_ok pre s suf⟩

/-- JSON: for every map (any nesting of arrays and maps, hostile keys and strings with quotes, backslashes, control
characters, NaN and infinite floats) the text of `mapToJSON` is valid JSON (RFC 8259) and its value is the map: keys and
strings byte for byte, integers by their decimal text, NaN/±Inf as quoted strings, members in the given (sorted) order.
`FloatOK F` is the contract on the library's `%v` for floats (a parameter of the model): finite values print as JSON
numbers, NaN/±Inf as exactly "NaN" / "+Inf" / "-Inf". -/
theorem C13_json (F : FloatFmt) (hF : ExportJson.FloatOK F) (kvs : List (Bytes × GoVal)) :
    ∃ j, Spec.Json.parse (mapToJSON F kvs) = some j ∧ Spec.Json.agrees F (.obj kvs) j = true := by
  refine ⟨ExportJson.jsonOf F (.obj kvs), ?_, ExportJson.agrees_jsonOf F hF (.obj kvs)⟩
  have := ExportJson.parse_value F hF (.obj kvs)
  simpa [writeJSONValue, mapToJSON] using this

/-- the same as one Boolean: the spec's check of a JSON string token succeeds on the tool's text -/
theorem C13_json_check (F : FloatFmt) (hF : ExportJson.FloatOK F) (kvs : List (Bytes × GoVal)) :
    Spec.Json.textAgrees F (.obj kvs) (mapToJSON F kvs) = true := by
  obtain ⟨j, hp, ha⟩ := C13_json F hF kvs
  simp only [Spec.Json.textAgrees, hp, ha]

/-- Values: for EVERY type oid `typID` (the column's type) and EVERY cell value — NULL, booleans, integers of any sign, floats
(finite, NaN, ±Inf), strings of any bytes (NUL included), arrays nested to any depth (empty ones included), maps with hostile
keys — the text of `formatSQLValue` for that typID, followed by a comma, `)` or `]`, is read by PostgreSQL's lexer as exactly
the tokens `valueToks` and nothing of what follows is consumed; and the spec's decoder for a value of type `typID`
(`Spec.SqlExport.value`: NULL ⇔ nil; for json/jsonb ONE string constant holding valid JSON equal to the value; otherwise
TRUE/FALSE, `-`? number with the decimal text, one string constant with the bytes up to the first NUL, one string constant
holding valid JSON equal to the map, the string constant '{}' for the empty array, and ARRAY [ … ] with AT LEAST ONE element —
where, when `typID` is an array type of pg_type, every element is decoded as a value of pg_type's ELEMENT type (a jsonb[]
element is a JSON document in one string constant) and the constructor is followed by the cast `::typname`, so that NaN / ±Inf
in a float8[] / float4[] / numeric[] array and the elements of uuid[] / date[] / inet[] … arrays are read by the element
type's input function) accepts exactly these tokens.  The Spec's element types and type names are pg_type's
(`C13_array_types` ties pgread's tables to them).  `FloatOK`/`FloatSqlOK` are the contracts on the library's `%v` of floats. -/
theorem C13_value (F : FloatFmt) (hF : ExportJson.FloatOK F) (hS : SqlValue.FloatSqlOK F) (typID : Int) (v : GoVal) :
    (∀ rest : Bytes, SqlValue.closeB rest.head? →
      Spec.SqlLex.lex (formatSQLValue F typID v ++ rest) = (Spec.SqlLex.lex rest).map (SqlValue.valueToks F typID v ++ ·)) ∧
    ∀ more, Spec.SqlExport.value F typID v (SqlValue.valueToks F typID v ++ more) = some more :=
  have h := SqlValue.writes_value F v typID typID (SqlArrayTypes.Pair.self typID)
  ⟨h.reads hS, fun more => h.takes hF more trivial⟩

/-- pgread's array type tables against PostgreSQL's catalog (`Spec.SqlExport.pgArrayTypes`, from pg_type.dat): the array
types pgread decodes (the keys of types.go:arrayElemTypes, read from the source on every run) are exactly the array types in
the Spec's scope; the element type is pg_type's typelem for every one of them except `_regproc` (1008: regproc, read as oid —
the same 4-byte representation, neither JSON nor an array); the table is what the executed code shows of it (for every oid in
-2..5999: is the cell [true] written with a cast, with which text, and is the element written as JSON text); and for every
array type the cast the code writes is ONE bare word that PostgreSQL folds to pg_type's typname. -/
theorem C13_array_types :
    Generated.Export.arrayElemTypes.map (·.1) = Spec.SqlExport.pgArrayTypes.map (·.1) ∧
    (∀ p ∈ Generated.Export.arrayElemTypes, (Spec.SqlExport.arrayType p.1).map (·.1) = some p.2 ∨
      (p.1 = 1008 ∧ p.2 = 26 ∧ (Spec.SqlExport.arrayType 1008).map (·.1) = some 24)) ∧
    Generated.Export.arrayCastProbe.map (fun e => (e.1, PgVerif.Export.asc e.2.1, e.2.2)) =
      Generated.Export.arrayElemTypes.map (fun p => (p.1, arrayCast p.1, isJsonOid p.2)) ∧
    (∀ ty ∈ Spec.SqlExport.pgArrayTypes.map (·.1),
      (Spec.SqlExport.arrayType ty).map (·.2) = some (Spec.SqlLex.fold (pgTypeToSQL (typeName ty) ty)) ∧
      arrayCast ty = PgVerif.Export.asc "::" ++ pgTypeToSQL (typeName ty) ty) := by
  refine ⟨SqlArrayTypes.gen_keys, by decide +kernel, ?_, ?_⟩
  · have h := congrArg (List.map fun q : Int × Bool => (q.1, arrayCast q.1, q.2)) SqlArrayTypes.probe_keys
    rw [List.map_map, List.map_map] at h
    refine Eq.trans (List.map_congr_left fun e he => ?_) h
    simp only [Function.comp, SqlArrayTypes.probe_cast he]
  intro ty hty
  obtain ⟨h1, _, ⟨em, hem⟩, _⟩ := SqlArrayTypes.key_facts hty
  exact ⟨h1, by simp [arrayCast, hem]⟩

/-- Whole export (composition): for every dump whose database, table and column names hold no NUL byte (pgread reads names with
cstring()), whose table and column names are non-empty and whose column type texts read as bare words (`DumpOK`; true of
every type text pgread itself produces, see `C13_types`; tables may have no columns, no rows, or both), and every timestamp
text without a line break or NUL, the text of DumpResult.ToSQL tokenises under PostgreSQL's
lexer — the same way with standard_conforming_strings on and off — and the token sequence is exactly the one the property
demands (`Spec.SqlExport.checkDump` consumes it entirely): per database two comments carrying name and OID, per table a
comment, CREATE TABLE IF NOT EXISTS name ( column type, … ) ; and, for a table with columns and rows,
INSERT INTO name ( columns ) VALUES ( cells ), … ; with no empty list anywhere; for a table with rows but no columns
INSERT INTO name DEFAULT VALUES ; once per row.  Every database, table and column name and every value is exactly one
comment / identifier / literal token (or the fixed group of a signed number or of ARRAY[…] with at least one element) that
decodes back to the original (strings up to their first NUL), NULLs stay NULL, maps are valid JSON, and every cell is a value
of its column's type in the sense of `C13_value` (array elements typed by pg_type's element type, the constructor cast).
What "well-formed statement" means here is the token skeleton above, written from PostgreSQL's grammar (gram.y:
OptTableElementList may be empty; insert_column_list, the rows of VALUES and the element list of ARRAY[…] may not);
PostgreSQL's parser itself is not in the loop, and type checking of the values against the column types is not part of it. -/
theorem C13_sql (F : FloatFmt) (hF : ExportJson.FloatOK F) (hS : SqlValue.FloatSqlOK F) (now : Bytes)
    (hnow : ∀ c ∈ now, Spec.SqlLex.isNewline c = false ∧ c ≠ 0) (d : DumpResult) (ok : SqlDump.DumpOK d) :
    Spec.SqlExport.sqlSafe F d (toSQL F now d) = true :=
  beq_iff_eq.mpr ((SqlDump.writes_toSQL F now hnow d ok).verdict_ok hS hF)

/-- the token sequence itself -/
theorem C13_sql_tokens (F : FloatFmt) (hS : SqlValue.FloatSqlOK F) (now : Bytes)
    (hnow : ∀ c ∈ now, Spec.SqlLex.isNewline c = false ∧ c ≠ 0) (d : DumpResult) (ok : SqlDump.DumpOK d) :
    Spec.SqlLex.lex (toSQL F now d) = some (SqlDump.dumpToks F now d) :=
  (SqlDump.writes_toSQL F now hnow d ok).lex_eq hS

/-- One table on its own (TableDump.ToSQL), whatever text follows it. -/
theorem C13_sql_table (F : FloatFmt) (hF : ExportJson.FloatOK F) (hS : SqlValue.FloatSqlOK F) (t : TableDump) (ok : SqlTable.TableOK t) :
    (∀ rest : Bytes, Spec.SqlLex.lex (tableToSQL F t ++ rest) = (Spec.SqlLex.lex rest).map (SqlTable.tableToks F t ++ ·)) ∧
    ∀ more, Spec.SqlExport.table F t (SqlTable.tableToks F t ++ more) = some more :=
  have h := SqlTable.writes_table F t ok
  ⟨fun rest => h.reads hS rest trivial, fun more => h.takes hF more trivial⟩

/-- The hypothesis of `C13_sql` on column types holds for every column pgread fills itself: for every type oid, the type
text written for (TypeName(oid), oid) — from the switch of pgTypeToSQL, or the upper-cased type name, or TEXT — reads as
one or more bare words. -/
theorem C13_types (oid : Int) : SqlTable.TypeTextOK (pgTypeToSQL (SqlDump.typeNameOf oid) oid) := by
  apply SqlTable.typeTextOK_of_wordsText
  unfold pgTypeToSQL
  cases hsw : Generated.Export.sqlTypeSwitch.find? (·.1 == oid) with
  | some e =>
    have := List.all_eq_true.mp SqlArrayTypes.switchTypes_ok e (List.mem_of_find?_eq_some hsw)
    simpa using this
  | none =>
    simp only []
    unfold SqlDump.typeNameOf typeName
    cases hn : Generated.Export.typeNames.find? (·.1 == oid) with
    | none =>
      simp only []
      have : ¬ (Export.asc "oid:" ++ decInt oid ≠ [] ∧ Export.asc "oid:" ++ decInt oid ≠ Export.asc "oid:" ++ decInt oid) :=
        fun h => h.2 rfl
      rw [if_neg this]; decide
    | some e =>
      have hup := List.all_eq_true.mp SqlArrayTypes.upperTypeNames_ok e (List.mem_of_find?_eq_some hn)
      simp only []
      split
      · exact hup
      · decide

/-- CSV, one table: for every table with at least one column (and whose header is not a single empty name) and ANY cell
texts — commas, quotes, CR, LF, leading spaces, empty strings, NULLs — an RFC 4180 reader (`Spec.Csv`, which keeps CR LF
inside quoted fields and skips empty lines) gets back exactly the header of column names followed by one record per row
whose fields are the texts csv.go chose for the cells (`cellCSV`: this theorem is about the FRAMING — no cell text can add,
drop or split a field or a record; which text stands for a value is csv.go's choice: NULL and the empty string are both
the empty field; `C13_csv_value_kept`: no other value is).
(Includes the one-column rows with an empty field, which the code before fix 07 wrote as empty lines.) -/
theorem C13_csv (F : FloatFmt) (t : TableDump) (hc : t.columns ≠ []) (hh : t.columns.map (·.name) ≠ [[]]) :
    Spec.Csv.parse (tableToCSV F t) = some (t.columns.map (·.name) :: t.rows.map fun r => t.columns.map (cellCSV F r)) := by
  rw [CsvParse.tableToCSV_lines F t hc hh]
  exact CsvParse.parse_lines _ (CsvParse.expectedRecords_ne F t hc)

/-- CSV, no value is dropped: the only cells written as the EMPTY field are NULL (nil, or a missing key) and the empty string.
Every boolean, number, non-empty string, array and map has a non-empty field text — for arrays and maps the text of
json.Marshal, or, when Marshal refuses the value because it holds a NaN or infinite float, the text of sql.go's JSON writer
(before fix 13 such a cell was silently written as the empty field, i.e. read back as NULL).  So the records of `C13_csv`
satisfy the spec's `valuesKept`.  `FloatOK F`: the contract on `%v` of floats (never the empty text). -/
theorem C13_csv_value_kept (F : FloatFmt) (hF : ExportJson.FloatOK F) :
    (∀ v : GoVal, formatCSVValue F v = [] → v = .nil ∨ v = .str []) ∧
    ∀ t : TableDump, Spec.CsvExport.valuesKept t (t.columns.map (·.name) :: t.rows.map fun r => t.columns.map (cellCSV F r)) = true :=
  ⟨CsvKept.formatCSVValue_nil F hF, CsvKept.valuesKept_model F hF⟩

/-- CSV, whole dump: the export is the concatenation, database by database and table by table, of one header line, the
table's CSV and one empty line; the header line is a single line (no name can break it), and the database and table names
are ONE OF its decodings (`headerOK` tries every occurrence of `, Table: ` as the separator: when the database name itself
contains `, Table: ` the line has several readings — (`a, Table: b`, `c`) and (`a`, `b, Table: c`) give the same line — so
the header does not identify the pair uniquely; the property asks only for the concatenation). -/
theorem C13_csv_multi (F : FloatFmt) (d : DumpResult) :
    toCSV F d = d.flatMap (fun db => db.tables.flatMap fun t => CsvParse.headerLine db.name t.name ++ [10] ++ tableToCSV F t ++ [10]) ∧
    ∀ db t : Bytes, (∀ c ∈ CsvParse.headerLine db t, (c == 10 || c == 13) = false) ∧
      Spec.CsvExport.headerOK db t (CsvParse.headerLine db t) = true := by
  constructor
  · rfl
  · intro db t
    exact ⟨CsvParse.headerLine_noNewline db t, CsvParse.headerOK_headerLine db t⟩

/-- CSV, whole dump, read back: a reader that takes the export section by section — one header line, then as many records
as the table has rows plus its header (skipping empty lines as standard readers do), then the empty separator line — finds,
for every database and table in order, a header line that decodes to the two names and exactly the table's records with the
same field texts, and nothing is left over.  (Tables without columns contribute a header line and no records.) -/
theorem C13_csv_sections (F : FloatFmt) (d : DumpResult) (h : ∀ db ∈ d, ∀ t ∈ db.tables, t.columns.map (·.name) ≠ [[]]) :
    Spec.CsvExport.sectionsVerdict (CsvParse.sectionsOf F d) (toCSV F d) = "ok" := by
  induction d with
  | nil => simp [CsvParse.sectionsOf, toCSV, Spec.CsvExport.sectionsVerdict]
  | cons db d ih =>
    have ih := ih fun x hx => h x (by simp [hx])
    have := CsvParse.sections_ok F db.name db.tables (CsvParse.sectionsOf F d) (toCSV F d) (h db (by simp))
    simp only [CsvParse.sectionsOf, toCSV, List.flatMap_cons, CsvParse.sectionsOfDb, dbToCSV] at this ih ⊢
    rw [this]
    exact ih

/-- non-vacuity of the hypotheses of the per-token theorems: a hostile name, and the boundaries the tool really writes after an
identifier and after a string constant (and the end of input) -/
example : ([97, 59, 34, 10] : Bytes) ≠ [] ∧ SqlLex.IdentBoundary [32, 40] ∧ SqlLex.StrBoundary [44, 32] ∧ SqlLex.StrBoundary [] := by
  refine ⟨by decide, ?_, ?_, ?_⟩
  · intro c hc; simp at hc; subst hc; decide
  · intro c hc; simp at hc; subst hc; decide
  · intro c hc; simp at hc

/-- a concrete one-column table with an empty string, a missing value and a field full of separators: the hypotheses of
`C13_csv` hold, and the reader gets four records (evaluated, not just implied) -/
example :
    let t : TableDump := { name := [116], columns := [{ name := [99], type := [], typID := 25 }],
                           rows := [[([99], .str [])], [], [([99], .str [97, 44, 34, 10])]], rowCount := 3 }
    t.columns ≠ [] ∧ t.columns.map (·.name) ≠ [[]] ∧
    Spec.Csv.parse (tableToCSV SqlDump.exampleF t) = some [[[99]], [[]], [[]], [[97, 44, 34, 10]]] := by
  decide

/-- `valuesKept` has teeth: the records the code produced BEFORE fix 13 for a cell holding the array [1.5, NaN] (the empty
field) are rejected, the records after it are accepted -/
example :
    let t : TableDump := { name := [116], columns := [{ name := [97], type := [], typID := 1022 }, { name := [98], type := [], typID := 25 }],
                           rows := [[([97], .arr [.f64 0x3ff8000000000000, .f64 0x7ff8000000000001]), ([98], .str [120])]], rowCount := 1 }
    Spec.CsvExport.valuesKept t [[[97], [98]], [[], [120]]] = false ∧
    Spec.CsvExport.valuesKept t [[[97], [98]], [Spec.SqlLex.asc "[0,\"NaN\"]", [120]]] = true ∧
    Spec.CsvExport.valuesKept t (t.columns.map (·.name) :: t.rows.map fun r => t.columns.map (cellCSV SqlDump.exampleF r)) = true := by
  decide +kernel

/-- non-vacuity of the contracts on the float rendering: a rendering exists that satisfies both -/
example : ExportJson.FloatOK SqlDump.exampleF ∧ SqlValue.FloatSqlOK SqlDump.exampleF := SqlDump.exampleF_ok

/-- non-vacuity of `DumpOK`: a dump with a hostile database name, table name and column names, a jsonb and a float8 column -/
example :
    let d : DumpResult := [{ oid := 5, name := [100, 10, 45, 45], tables := [{
      name := [97, 59, 68, 82, 79, 80, 34, 39], rowCount := -1,
      columns := [{ name := [115, 101, 108, 101, 99, 116], type := SqlDump.typeNameOf 3802, typID := 3802 },
                  { name := [49, 10], type := SqlDump.typeNameOf 701, typID := 701 }],
      rows := [[([49, 10], .f64 0x7ff8000000000001), ([115, 101, 108, 101, 99, 116], .obj [([34, 92, 10], .str [39, 59])])]] }] }]
    SqlDump.DumpOK d := by
  intro d
  simp only [d, SqlDump.DumpOK, List.forall_mem_cons, List.not_mem_nil, false_imp_iff, implies_true, and_true]
  exact ⟨by decide, ⟨by simp, by decide, (by simp; exact ⟨C13_types 3802, C13_types 701⟩), by decide⟩⟩

/-- the composition evaluated on that dump (kernel computation, independent of the proofs): the model's text tokenises and
the decoder consumes every token -/
example :
    let d : DumpResult := [{ oid := 5, name := [100, 10, 45, 45], tables := [{
      name := [97, 59, 68, 82, 79, 80, 34, 39], rowCount := -1,
      columns := [{ name := [115, 101, 108, 101, 99, 116], type := SqlDump.typeNameOf 3802, typID := 3802 },
                  { name := [49, 10], type := SqlDump.typeNameOf 701, typID := 701 }],
      rows := [[([49, 10], .f64 0x7ff8000000000001), ([115, 101, 108, 101, 99, 116], .obj [([34, 92, 10], .str [39, 59])])]] }] }]
    Spec.SqlExport.sqlSafe SqlDump.exampleF d (toSQL SqlDump.exampleF [84] d) = true := by
  decide +kernel

/-- the specification has teeth: the texts the UNFIXED code wrote for the table names `Users` and `a;DROP TABLE x;--`
(bare identifiers) are rejected — the first decodes to `users`, the second ends the statement and starts another -/
example :
    let t (n : String) : TableDump := { name := Spec.SqlLex.asc n, columns := [{ name := [99], type := [], typID := 25 }], rows := [], rowCount := 0 }
    (Spec.SqlExport.verdict (Spec.SqlExport.table SqlDump.exampleF (t "Users"))
      (Spec.SqlLex.asc "-- Table: Users (0 rows)\nCREATE TABLE IF NOT EXISTS Users (\n    c TEXT\n);\n\n") == "ok") = false ∧
    (Spec.SqlExport.verdict (Spec.SqlExport.table SqlDump.exampleF (t "a;DROP TABLE x;--"))
      (Spec.SqlLex.asc "-- Table: a;DROP TABLE x;-- (0 rows)\nCREATE TABLE IF NOT EXISTS a;DROP TABLE x;-- (\n    c TEXT\n);\n\n") == "ok") = false ∧
    (Spec.SqlExport.verdict (Spec.SqlExport.table SqlDump.exampleF (t "Users"))
      (tableToSQL SqlDump.exampleF (t "Users")) == "ok") = true := by
  dsimp only
  repeat rw [SqlLex.asc_ofList]
  decide +kernel

/-- tables WITHOUT COLUMNS and EMPTY ARRAYS are inside `DumpOK` (no hypothesis excludes them), and the composition evaluated on
such a dump (kernel computation): a zero-column table with two rows, an empty table without columns, an array column holding
the empty array, an array with an empty array inside, and the value `\'; DROP TABLE x; --` -/
example :
    let d : DumpResult := [{ oid := 1, name := [100], tables := [
      { name := [116], rowCount := 2, columns := [], rows := [[], []] },
      { name := [101], rowCount := 0, columns := [], rows := [] },
      { name := [117], rowCount := 1,
        columns := [{ name := [97], type := SqlDump.typeNameOf 1007, typID := 1007 }, { name := [98], type := SqlDump.typeNameOf 25, typID := 25 }],
        rows := [[([97], .arr []), ([98], .str [92, 39, 59, 32, 68, 82, 79, 80, 32, 84, 65, 66, 76, 69, 32, 120, 59, 32, 45, 45])],
                 [([97], .arr [.arr [], .int 1])]] }] }]
    SqlDump.DumpOK d ∧ Spec.SqlExport.sqlSafe SqlDump.exampleF d (toSQL SqlDump.exampleF [84] d) = true := by
  refine ⟨?_, by decide +kernel⟩
  simp only [SqlDump.DumpOK, List.forall_mem_cons, List.not_mem_nil, false_imp_iff, implies_true, and_true]
  exact ⟨by decide, ⟨by simp, by decide, by simp, by decide⟩, ⟨by simp, by decide, by simp, by decide⟩,
    ⟨by simp, by decide, (by simp; exact ⟨C13_types 1007, C13_types 25⟩), by decide⟩⟩

/-- the specification has teeth (2): the texts written BEFORE fixes 09–11 are rejected —
`INSERT INTO t () VALUES (), ();` for a table without columns (a syntax error in PostgreSQL), `ARRAY[]` for the empty
array ("cannot determine type of empty array"), and the plain constant `'\'';…'` for a string with a backslash (does not
even tokenise: its reading depends on standard_conforming_strings) — while the repaired texts are accepted -/
example :
    let t0 : TableDump := { name := [116], columns := [], rows := [[], []], rowCount := 2 }
    let ta (v : GoVal) : TableDump := { name := [116], columns := [{ name := [97], type := [], typID := 25 }], rows := [[([97], v)]], rowCount := 1 }
    let verdict (t : TableDump) (text : String) := Spec.SqlExport.verdict (Spec.SqlExport.table SqlDump.exampleF t) (Spec.SqlLex.asc text)
    verdict t0 "-- Table: t (2 rows)\nCREATE TABLE IF NOT EXISTS t (\n);\n\nINSERT INTO t () VALUES\n    (),\n    ();\n" = "bad:tok" ∧
    verdict t0 "-- Table: t (2 rows)\nCREATE TABLE IF NOT EXISTS t (\n);\n\nINSERT INTO t DEFAULT VALUES;\nINSERT INTO t DEFAULT VALUES;\n" = "ok" ∧
    verdict (ta (.arr [])) "-- Table: t (1 rows)\nCREATE TABLE IF NOT EXISTS t (\n    a TEXT\n);\n\nINSERT INTO t (a) VALUES\n    (ARRAY[]);\n" = "bad:tok" ∧
    verdict (ta (.arr [])) "-- Table: t (1 rows)\nCREATE TABLE IF NOT EXISTS t (\n    a TEXT\n);\n\nINSERT INTO t (a) VALUES\n    ('{}');\n" = "ok" ∧
    verdict (ta (.str [92, 39, 59])) "-- Table: t (1 rows)\nCREATE TABLE IF NOT EXISTS t (\n    a TEXT\n);\n\nINSERT INTO t (a) VALUES\n    ('\\'';');\n" = "bad:lex" ∧
    verdict (ta (.str [92, 39, 59])) "-- Table: t (1 rows)\nCREATE TABLE IF NOT EXISTS t (\n    a TEXT\n);\n\nINSERT INTO t (a) VALUES\n    (E'\\\\'';');\n" = "ok" := by
  dsimp only
  repeat rw [SqlLex.asc_ofList]
  decide +kernel

/-- the specification has teeth (3): the texts written BEFORE fixes 14 and 15 are rejected — a jsonb[] value
["abc", 5, [], {"a":1}] written as ARRAY['abc', 5, '{}', '{"a":1}'] (elements that are not JSON documents, no cast), a float8[]
value [1, NaN] written as ARRAY[1, 'NaN'] (without the cast PostgreSQL reads 'NaN' as an integer), the "char" value 0 written
as a raw NUL inside the constant (does not tokenise) — while the repaired texts (the model's, evaluated) are accepted; an
int4[] value in an array-typed column needs the cast, in a text column it does not -/
example :
    let ta (ty : Int) (v : GoVal) : TableDump := { name := [116], columns := [{ name := [97], type := SqlDump.typeNameOf ty, typID := ty }], rows := [[([97], v)]], rowCount := 1 }
    let verdict (t : TableDump) (text : Bytes) := Spec.SqlExport.verdict (Spec.SqlExport.table SqlDump.exampleF t) text
    let pre (ty : String) := Spec.SqlLex.asc ("-- Table: t (1 rows)\nCREATE TABLE IF NOT EXISTS t (\n    a " ++ ty ++ "\n);\n\nINSERT INTO t (a) VALUES\n    (")
    let vj : GoVal := .arr [.str [97, 98, 99], .int 5, .arr [], .obj [([97], .int 1)]]
    let vf : GoVal := .arr [.int 1, .f64 0x7ff8000000000001]
    verdict (ta 3807 vj) (pre "_JSONB" ++ Spec.SqlLex.asc "ARRAY['abc', 5, '{}', '{\"a\":1}']);\n") = "bad:tok" ∧
    verdict (ta 3807 vj) (pre "_JSONB" ++ Spec.SqlLex.asc "ARRAY['\"abc\"', '5', '[]', '{\"a\":1}']);\n") = "bad:tok" ∧
    verdict (ta 3807 vj) (pre "_JSONB" ++ Spec.SqlLex.asc "ARRAY['\"abc\"', '5', '[]', '{\"a\":1}']::_JSONB);\n") = "ok" ∧
    verdict (ta 3807 vj) (tableToSQL SqlDump.exampleF (ta 3807 vj)) = "ok" ∧
    verdict (ta 1022 vf) (pre "_FLOAT8" ++ Spec.SqlLex.asc "ARRAY[1, 'NaN']);\n") = "bad:tok" ∧
    verdict (ta 1022 vf) (pre "_FLOAT8" ++ Spec.SqlLex.asc "ARRAY[1, 'NaN']::_FLOAT8);\n") = "ok" ∧
    verdict (ta 1022 vf) (tableToSQL SqlDump.exampleF (ta 1022 vf)) = "ok" ∧
    verdict (ta 25 vf) (pre "TEXT" ++ Spec.SqlLex.asc "ARRAY[1, 'NaN']);\n") = "ok" ∧
    verdict (ta 18 (.str [0])) (pre "CHAR" ++ [39, 0, 39] ++ Spec.SqlLex.asc ");\n") = "bad:lex" ∧
    verdict (ta 18 (.str [0])) (pre "CHAR" ++ Spec.SqlLex.asc "'');\n") = "ok" ∧
    verdict (ta 18 (.str [0])) (tableToSQL SqlDump.exampleF (ta 18 (.str [0]))) = "ok" ∧
    verdict (ta 25 (.str [97, 0, 39, 41, 59])) (pre "TEXT" ++ Spec.SqlLex.asc "'a');\n") = "ok" := by
  simp only [SqlLex.asc_append]
  repeat rw [SqlLex.asc_ofList]
  decide +kernel

end PgVerif.Props.C13
