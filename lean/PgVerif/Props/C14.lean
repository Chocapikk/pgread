/-
  C14 — credential extraction returns every stored role and its exact verifier.
  The property theorems; the walk as a function of the data bytes is `authOne_eq` (Proofs/RowsViews.lean), the role's layout
  and password Proofs/RowsAuth.lean, the file level Proofs/RowsFile.lean.
  (ExtractPasswords / RemoteClient.Credentials: Props/C14Paths.lean.  The CLI rendering `-passwords` belongs to area
  `command line`.  pg_authid is a mapped catalog: the tool reads the fixed path global/1260, which is its file until the first
  VACUUM FULL / CLUSTER of pg_authid rewrites it under a new filenode recorded in global/pg_filenode.map — outside the
  property's quantifier "for all pg_authid contents", not modelled.)
-/
import PgVerif.Proofs.RowsAuth
import PgVerif.Proofs.RowsFile
namespace PgVerif.Props.C14
open PgVerif PgVerif.Model PgVerif.Spec PgVerif.Proofs PgVerif.Proofs.Rows

/-- **The hand-computed offsets are PostgreSQL's.**  Tuple formation for the 12 columns of pg_authid puts oid at
0, rolname at 4, rolsuper at 68, rolcanlogin at 72, rolconnlimit at 76 (after one pad byte) and rolpassword at
80 — the offsets ParsePGAuthID hard-codes — for every role, whatever the two nullable columns hold. -/
theorem C14_layout (r : Role) (h : r.WF) (m : Nat) (hdr : TupleHeader) :
    (rowTuple hdr authidCols (roleRow r m)).data =
      le 4 r.oid ++ ((r.name ++ zeros (64 - r.name.length)) ++ ([bb r.super, bb r.inherit, bb r.createrole, bb r.createdb,
        bb r.canlogin, bb r.replication, bb r.bypassrls, 0] ++ (le 4 r.connlimit ++ authTail r))) :=
  role_data r m hdr (by have := h.2.2.1; omega)

/-- **One role version.**  For every well-formed role (name 1..63 NUL-free bytes, every combination of the seven
booleans, any connection limit, password NULL or any non-empty text stored the way PostgreSQL stores a catalog text:
with a 1-byte header when it is at most 126 bytes long, with a 4-byte header otherwise (`Spec.textDatum`) —, valid-until
NULL or set, hence with or without null bitmap) and any tuple header (live or dead version), the per-tuple
walk reports the role's oid, name, superuser and login flags and exactly the stored verifier, and the empty
string when the password is NULL.  (Outside `Spec.Role`: a 4-byte header on a short verifier, and an inline-compressed
or out-of-line rolpassword — PostgreSQL compresses / toasts only tuples above ~2 kB, a pg_authid tuple with a verifier of
up to 400 bytes stays below 600; on such crafted data the tool returns the compressed bytes / no password.) -/
theorem C14_role (r : Role) (h : r.WF) (m : Nat) (hdr : TupleHeader) :
    authOne (rowTuple hdr authidCols (roleRow r m)) = .ok (some (authView r)) := by
  have hpwd := authPassword_role r h m hdr
  obtain ⟨hoid, hn1, hn63, hn0, _, _, _⟩ := h
  have hdata := role_data r m hdr (by omega)
  have hN : (r.name ++ zeros (64 - r.name.length)).length = 64 := by
    simp only [List.length_append, zeros_length]; omega
  generalize hD : (rowTuple hdr authidCols (roleRow r m)).data = D at hdata
  have hlen : 70 ≤ D.length := by
    rw [hdata]; simp only [List.length_append, le_length, hN, List.length_cons, List.length_nil]; omega
  -- what the walk reads at 0, 4, 68 and 72
  have hoidv : rd 4 D = r.oid := by rw [hdata, rd_le 4 r.oid _ (by simpa using hoid)]
  have hname : cstring (D.drop 4) 64 = r.name := by
    rw [hdata, List.drop_left' (le_length 4 _), cstring_name r.name _ hn0 hn63]
  have h68 : D[68]?.getD 0 = bb r.super := by
    rw [hdata, ← List.append_assoc, List.getElem?_append_right (by simp [hN]), show (le 4 r.oid ++ _).length = 68 by simp [hN]]; rfl
  have h72 : D[72]?.getD 0 = bb r.canlogin := by
    rw [hdata, ← List.append_assoc, List.getElem?_append_right (by simp [hN]), show (le 4 r.oid ++ _).length = 68 by simp [hN]]; rfl
  rw [authOne_eq _ (hD ▸ hlen), hpwd, ok_bind, hD, hoidv, hname, h68, h72, if_neg (by omega)]
  simp only [bb_ne, authView, pure_eq_ok]

/-- **Every stored role, live or dead, on any page.**  For every well-formed heap file (any number of pages,
zero pages, line pointers in any state and order, trailing partial block) whose stored tuples are the role
versions `vers` in scan order — each with ARBITRARY header fields `v.1` (xmin: 1 for bootstrap roles, ≥ 3 for created
ones; xmax, t_ctid → successor and HEAP_HOT_UPDATED | HEAP_KEYS_UPDATED for the dead version ALTER ROLE leaves behind;
HEAP_ONLY_TUPLE for its successor) and arbitrary t_infomask `v.2.2` —: ParsePGAuthID returns exactly one entry per
version, in that order, each as in `C14_role`. -/
theorem C14_roles (bs : List Block) (tail : Bytes) (vers : List (HdrFields × Role × Nat))
    (hb : ∀ b ∈ bs, b.WF) (ht : tail.length < 8192)
    (hvers : fileTuples bs = vers.map fun v => encRoleH v.1 v.2.1 v.2.2)
    (hwf : ∀ v ∈ vers, v.2.1.WF ∧ v.2.2 < 65536) :
    parsePGAuthID (encHeap bs tail) = .ok (vers.map fun v => authView v.2.1) := by
  rw [parsePGAuthID_eq, collect_scan_tuples authOne (fun v => .ok (some (authView v.2.1))) _ bs tail false vers hb ht hvers ?step]
  · simp only [Bool.not_false, Bool.true_or, filter_true]
    exact collectM_eq_map _ _ vers fun _ _ => rfl
  · intro v hv
    obtain ⟨hr, hm⟩ := hwf v hv
    have := mtuple_formTupleH v.1 authidCols (roleRow v.2.1 v.2.2) (roleRow_WF v.2.1 hr v.2.2 hm)
    simp only [roleRow] at this
    simp only [encRoleH]
    rw [this]
    exact C14_role v.2.1 hr v.2.2 _

/-- **No password reported exactly for NULL passwords.**  (Stored passwords are never empty: PostgreSQL turns
`PASSWORD ''` into NULL.) -/
theorem C14_null (r : Role) (h : r.WF) : (authView r).password = [] ↔ r.password = none := by
  obtain ⟨_, _, _, _, _, hpw, _⟩ := h
  unfold authView
  cases hp : r.password with
  | none => simp
  | some p =>
    have := (hpw p hp).1
    simp only [Option.getD_some, reduceCtorEq, iff_false]
    intro h0; rw [h0] at this; simp at this

/-- **Through the file plumbing.**  ExtractPasswordsFromFiles with a reader that serves, under the path "global/1260",
a well-formed pg_authid heap storing the role versions `vers` (as in `C14_roles`) returns exactly one entry per
version with its exact verifier; the reader is asked for no other path (the result is a function of the reader's
answer for that one path).  (The error case is `C14_paths_error`.) -/
theorem C14_paths (reader : Bytes → Option Bytes) (bs : List Block) (tail : Bytes) (vers : List (HdrFields × Role × Nat))
    (hb : ∀ b ∈ bs, b.WF) (ht : tail.length < 8192)
    (hvers : fileTuples bs = vers.map fun v => encRoleH v.1 v.2.1 v.2.2)
    (hwf : ∀ v ∈ vers, v.2.1.WF ∧ v.2.2 < 65536)
    (hfile : reader (strBytes "global/1260") = some (encHeap bs tail)) :
    extractPasswordsFromFiles reader = .ok (some (vers.map fun v => authView v.2.1)) := by
  unfold extractPasswordsFromFiles
  rw [hfile]
  simp only [C14_roles bs tail vers hb ht hvers hwf, ok_bind, pure_eq_ok]

/-- A read error of the path "global/1260" is passed through as the error (no entries are invented). -/
theorem C14_paths_error (reader : Bytes → Option Bytes) (h : reader (strBytes "global/1260") = none) :
    extractPasswordsFromFiles reader = .ok none := by
  unfold extractPasswordsFromFiles
  rw [h]
  rfl

/-- superuser "pg" (oid 10) with a 35-byte md5-style verifier and no expiry -/
def exRole : Role :=
  { oid := 10, name := [112, 103], super := true, inherit := true, createrole := true, createdb := true,
    canlogin := true, replication := true, bypassrls := true, connlimit := 2 ^ 32 - 1,
    password := some (List.replicate 35 97), validUntil := none }

example : exRole.WF :=
  ⟨by decide, by decide, by decide, by decide, by decide,
   fun p hp => by cases hp; decide, fun v hv => by cases hv⟩
example : authView exRole = ⟨10, [112, 103], List.replicate 35 97, true, true⟩ := rfl

/-- the dead version ALTER ROLE left of that role (a short verifier, a dead version, a header as PostgreSQL writes it): xmin 700, xmax 701,
t_ctid → (0,2), t_infomask2 = 0x600C, t_infomask = 0x0502 (+ HASNULL) — and the bootstrap version with xmin 1 -/
def exDeadHdr : HdrFields := { xmin := 700, xmax := 701, ctid := [0, 0, 0, 0, 2, 0], flags2 := 12 }
example : exDeadHdr.WF := by decide
example : (encRoleH exDeadHdr exRole 0x0500).xmin = 700 ∧ (encRoleH exDeadHdr exRole 0x0500).xmax = 701 ∧
    (encRoleH exDeadHdr exRole 0x0500).infomask2 = 0x600C ∧ (encRoleH exDeadHdr exRole 0x0500).infomask = 0x0503 ∧
    (encRoleH { xmin := 1 } exRole 0x0900).xmin = 1 := by decide

end PgVerif.Props.C14
