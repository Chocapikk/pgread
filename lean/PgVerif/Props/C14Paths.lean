/-
  C14, the other two access paths the property names beside ExtractPasswordsFromFiles — ExtractPasswords (data directory) and RemoteClient.Credentials
  (remote reader) on a tree whose global/1260 is a well-formed pg_authid heap: both return exactly the role versions
  of `C14_roles`.  Property theorems only.  (The models of the two wrappers are area `entry`'s, Model/ExtraCluster.lean.)
-/
import PgVerif.Props.C14
import PgVerif.Model.ExtraCluster
namespace PgVerif.Props.C14
open PgVerif PgVerif.Model PgVerif.Spec PgVerif.Proofs PgVerif.Proofs.Rows

/-- **ExtractPasswords(dataDir).**  On a data directory whose file global/1260 is a well-formed pg_authid heap storing
the role versions `vers` (any header fields, any t_infomask — live or dead), ExtractPasswords returns one entry per
version with the role's name, oid, superuser and login flags and exactly the stored verifier; when the file cannot be
read it returns the error. -/
theorem C14_extractPasswords (fs : Bytes → Option Bytes) (bs : List Block) (tail : Bytes) (vers : List (HdrFields × Role × Nat))
    (hb : ∀ b ∈ bs, b.WF) (ht : tail.length < 8192)
    (hvers : fileTuples bs = vers.map fun v => encRoleH v.1 v.2.1 v.2.2)
    (hwf : ∀ v ∈ vers, v.2.1.WF ∧ v.2.2 < 65536) :
    (fs (strBytes "global/1260") = some (encHeap bs tail) →
      Extra.extractPasswords fs = .ok (some (vers.map fun v => authView v.2.1))) ∧
    (fs (strBytes "global/1260") = none → Extra.extractPasswords fs = .ok none) := by
  exact ⟨C14_paths fs bs tail vers hb ht hvers hwf, C14_paths_error fs⟩

/-- **RemoteClient.Credentials.**  The same through a remote reader; an unreadable global/1260 gives no credentials
(nil), never an invented one. -/
theorem C14_credentials (fs : RemoteReader) (bs : List Block) (tail : Bytes) (vers : List (HdrFields × Role × Nat))
    (hb : ∀ b ∈ bs, b.WF) (ht : tail.length < 8192)
    (hvers : fileTuples bs = vers.map fun v => encRoleH v.1 v.2.1 v.2.2)
    (hwf : ∀ v ∈ vers, v.2.1.WF ∧ v.2.2 < 65536) :
    (fs (strBytes "global/1260") = some (encHeap bs tail) →
      Extra.rcCredentials fs = .ok (vers.map fun v => authView v.2.1)) ∧
    (fs (strBytes "global/1260") = none → Extra.rcCredentials fs = .ok []) := by
  constructor
  · intro hfile
    unfold Extra.rcCredentials
    rw [hfile]
    exact C14_roles bs tail vers hb ht hvers hwf
  · intro h
    unfold Extra.rcCredentials
    rw [h]
    rfl

end PgVerif.Props.C14
