/-
  C15 — search and secret scan report exactly the matching cells.
  The small regex engine of the examples is Model/SearchRe.lean.

  Spec side (Spec/Search.lean): a dump is a list of databases → tables (declared columns, rows) → rows (finite maps
  column → value, `Row.WF` = distinct keys).  `cellMatches re sh v` says when a value matches (strings directly,
  JSON objects through their keys and values, arrays through their elements, NULL never, other scalars through their
  text `sh`).  `allMatches` lists every matching cell in (database, table, row, column) order; `expected` is the view:
  error for a pattern that does not compile, else the first MaxResults elements of `allMatches`.
  Everything is parametric in the regex engine `R : Regex` (Go's `regexp`: `compile p = none` iff `p` is not valid
  RE2 syntax; a leading `(?i)` = case-insensitive — with Go's engine that is Unicode simple case folding: `(?i)k` also
  matches U+212A KELVIN SIGN, `(?i)é` matches `É`; what `(?i)` means is the engine's business and is exercised against
  the real engine by the families `search` (ASCII) and `searchuni` (non-ASCII case pairs)), in the scalar text `sh`
  (search.go `scalarText` for the search, `fmt` `%v` for the secret scan), and for the secret scan in the detectors (`keywords`, `fromData`; a real detector's verdict depends on
  the whole text it is given, so every hypothesis about a detector below is about ONE text: the cell's).
  "Case-insensitively unless asked otherwise" = the effective pattern `Spec.Search.effPattern` (`(?i)` in front unless
  CaseSensitive) that `C15_prefix` is stated with.  MaxResults: a positive value is a bound (`C15_bound`); 0 is the
  documented "unlimited" and negative values behave the same (`C15_unlimited`).
  The model is the code AFTER fixes search/01 and search/02 (rows walked in column order); the original loops, with Go's
  map iteration order as an explicit parameter, are `Model.SearchOrig` (finding A39).
-/
import PgVerif.Proofs.SearchMain
import PgVerif.Proofs.SearchOrig
import PgVerif.Proofs.Secrets
import PgVerif.Model.SearchRe
namespace PgVerif.Props.C15
open PgVerif PgVerif.Spec.Search PgVerif.Model.Search PgVerif.Proofs.Search
open scoped List

/-- **Prefix / exactness.**  For every dump (no well-formedness needed), every option set, every regex engine and
scalar text: SearchInDump returns an error when the effective pattern (with `(?i)` in front unless CaseSensitive) does
not compile, and otherwise exactly the first MaxResults matching cells in (database, table, row, column) order — all of
them when MaxResults ≤ 0 — each with database, table, row index, column, the cell's value, and the full row iff IncludeRow. -/
theorem C15_prefix (R : Regex) (sh : GoVal → Bytes) (d : Dump) (o : Opts) : hits R sh d o = expected R sh d o :=
  search_eq_expected R sh d o

/-- **Invalid patterns.**  The search fails exactly when the effective pattern does not compile; no dump makes it fail. -/
theorem C15_invalid (R : Regex) (sh : GoVal → Bytes) (d : Dump) (o : Opts) :
    searchInDump R sh d o = none ↔ R.compile (effPattern o) = none := by
  have h := search_eq_expected R sh d o
  simp only [hits, expected] at h
  cases hc : R.compile (effPattern o) with
  | none => rw [hc] at h; simpa using h
  | some re => rw [hc] at h; cases hs : searchInDump R sh d o <;> simp [hs] at h ⊢

/-- **The directory entry point.**  `Search` on a directory whose dump is `d` returns what `SearchInDump` returns on `d`
(so every theorem of this module about SearchInDump applies to it); nil options and an unreadable directory give the error. -/
theorem C15_search_entry (R : Regex) (sh : GoVal → Bytes) (d : Dump) (o : Opts) :
    search R sh (some d) (some o) = searchInDump R sh d o ∧ search R sh (some d) none = none ∧
    search R sh none (some o) = none := by
  refine ⟨?_, rfl, ?_⟩
  · simp only [search, searchInDump]
  · simp only [search]; cases R.compile _ <;> rfl

/-- **No limit.**  `MaxResults = 0` is the documented "unlimited" (search.go: `MaxResults int // Maximum results
(0 = unlimited)`), and a negative value behaves the same: the result is then EVERY matching cell, in cell order.
(So "never more than the requested maximum" is a statement about MaxResults > 0 only: `C15_bound`.) -/
theorem C15_unlimited (R : Regex) (sh : GoVal → Bytes) (d : Dump) (o : Opts) (hmax : o.maxResults ≤ 0) (re : Bytes → Bool)
    (hc : R.compile (effPattern o) = some re) : hits R sh d o = some (allMatches re sh o.includeRow d) := by
  rw [C15_prefix]
  simp only [expected, hc]
  rw [cut_eq_self o _ (Or.inl hmax)]

/-- **Bound.**  With MaxResults > 0 never more than MaxResults hits are returned. -/
theorem C15_bound (R : Regex) (sh : GoVal → Bytes) (d : Dump) (o : Opts) (hmax : o.maxResults > 0)
    (hs : List Hit) (h : hits R sh d o = some hs) : (hs.length : Int) ≤ o.maxResults := by
  obtain ⟨re, _, rfl⟩ := hits_some R sh d o hs h
  exact cut_length_le o _ hmax

/-- **Soundness.**  In a well-formed dump every hit names a real cell — there is a database of that name with a table of
that name whose row number `h.row` has the binding `h.col ↦ h.value` — and that value matches the pattern; the hit
carries that very row iff IncludeRow. -/
theorem C15_sound (R : Regex) (sh : GoVal → Bytes) (d : Dump) (hw : Dump.WF d) (o : Opts) (re : Bytes → Bool)
    (hc : R.compile (effPattern o) = some re) (hs : List Hit) (hh : hits R sh d o = some hs) :
    ∀ h ∈ hs, ∃ row, IsCell d h.db h.table h.row h.col h.value row ∧ cellMatches re sh h.value = true ∧
      h.fullRow = if o.includeRow then some row else none :=
  fun h hmem => (mem_allMatches_isCell re sh _ d hw h).1 (mem_allMatches_of_hits R sh d o re hc hs hh h hmem)

/-- **Completeness.**  In a well-formed dump, when there is no limit (MaxResults ≤ 0) or the limit is not smaller than
the number of matching cells, every matching cell of every table of every database is reported, with its coordinates,
its value and (iff IncludeRow) its row. -/
theorem C15_complete (R : Regex) (sh : GoVal → Bytes) (d : Dump) (hw : Dump.WF d) (o : Opts) (re : Bytes → Bool)
    (hc : R.compile (effPattern o) = some re)
    (hlim : o.maxResults ≤ 0 ∨ ((allMatches re sh o.includeRow d).length : Int) ≤ o.maxResults)
    (db tbl : Bytes) (i : Nat) (col : Bytes) (v : GoVal) (row : Row)
    (hcell : IsCell d db tbl i col v row) (hm : cellMatches re sh v = true) :
    ∃ hs, hits R sh d o = some hs ∧
      ({ db := db, table := tbl, row := i, col := col, value := v, fullRow := if o.includeRow then some row else none } : Hit) ∈ hs := by
  rw [C15_prefix]
  simp only [expected, hc]
  rw [cut_eq_self o _ hlim]
  exact ⟨_, rfl, (mem_allMatches_isCell re sh _ d hw _).2 ⟨row, hcell, hm, rfl⟩⟩

/-- **Row attachment.**  Every hit carries the full row it was found in when IncludeRow is set, and no row otherwise
(for every dump; which row that is, is part of `C15_sound`). -/
theorem C15_row (R : Regex) (sh : GoVal → Bytes) (d : Dump) (o : Opts) (hs : List Hit) (hh : hits R sh d o = some hs) :
    ∀ h ∈ hs, h.fullRow.isSome = o.includeRow := by
  obtain ⟨re, hc, _⟩ := hits_some R sh d o hs hh
  intro h hmem
  obtain ⟨D, _, t, _, row, i, _, cv, _, _, rfl⟩ :=
    (mem_allMatches re sh o.includeRow d h).1 (mem_allMatches_of_hits R sh d o re hc hs hh h hmem)
  cases o.includeRow <;> rfl

/-- **Exactly the matching cells, as multisets.**  On a well-formed dump `allMatches` — hence, by `C15_prefix`, the
result of an unlimited search — is a rearrangement of `matchingCells`: every matching cell of every row of every
table of every database is reported exactly once, and nothing else is. -/
theorem C15_exact (re : Bytes → Bool) (sh : GoVal → Bytes) (incl : Bool) (d : Dump) (hw : Dump.WF d) :
    allMatches re sh incl d ~ matchingCells re sh incl d :=
  walk_perm _ _ _ _ d fun D hD t ht r hr _ => ((rowCells_perm t.columns r (hw D hD t ht r hr)).filter _).map _

/-- **Multiset form, one row.**  In a row that is a map, the cells visited in column order are a
rearrangement of the row's bindings: each binding is visited exactly once. -/
theorem C15_cells_once (cols : List Bytes) (row : Row) (h : Row.WF row) : rowCells cols row ~ row :=
  rowCells_perm cols row h

/-- **Column order.**  When the declared columns are exactly the row's keys (the normal case: rows decoded from a table
with that schema), the cells are visited in declaration order. -/
theorem C15_column_order (cols : List Bytes) (row : Row) (hn : cols.Nodup) (hk : ∀ c, c ∈ cols ↔ c ∈ row.map (·.1)) :
    colOrder cols row = cols := by
  -- every declared column is a key and is met for the first time: the first loop keeps them all, and no key is left
  -- for the second
  have hrest : (row.map (·.1)).filter (fun k => !cols.contains k) = [] := by
    rw [List.filter_eq_nil_iff]
    intro k hkm
    simp [(hk k).2 hkm]
  simp only [colOrder, declaredIn_eq_self _ cols [] hn (fun c hc => ⟨(hk c).1 hc, List.not_mem_nil⟩), hrest]
  simp

/-- **Order independence (C11 for search hits).**  Go walks a map in an arbitrary order; the order in which the fixed
code visits the columns of a row does not depend on it. -/
theorem C15_order_independent (cols : List Bytes) (r₁ r₂ : Row) (hp : r₁ ~ r₂) : rowKeys cols r₁ = rowKeys cols r₂ := by
  rw [rowKeys_eq, rowKeys_eq]; exact colOrder_order_independent cols r₁ r₂ hp

/-- `matchMap` (an "exists" over a Go map) does not depend on the iteration order either. -/
theorem C15_matchMap_order_independent (re : Bytes → Bool) (sh : GoVal → Bytes) (m₁ m₂ : List (Bytes × GoVal))
    (hp : m₁ ~ m₂) : matchMap re sh m₁ = matchMap re sh m₂ := by
  rw [matchMap_eq, matchMap_eq, kvMatches_any, kvMatches_any]
  exact hp.any_eq

/-- **When does a value match** (the property's wording, independent of the code's recursion).  `matchValue` answers
true exactly when the pattern matches one of the value's texts `searchTexts`: the string itself for a string; for a JSON
object one of its keys or, recursively, a text of one of its values; for an array, recursively, a text of one of its
elements; for any other scalar its text `sh`; NULL has no text and never matches (not even the empty pattern). -/
theorem C15_matchValue (re : Bytes → Bool) (sh : GoVal → Bytes) (v : GoVal) :
    matchValue re sh v = true ↔ ∃ t ∈ searchTexts sh v, re t = true := by
  rw [matchValue_eq, cellMatches_texts, List.any_eq_true]

/-- the texts of a nested value: keys, strings at every depth, scalar texts; none for NULL -/
example : searchTexts (fun _ => [63])
    (.obj [([107], .arr [.str [97], .nil, .obj [([75], .int 5)]]), ([110], .nil)]) = [[107], [97], [75], [63], [110]] := by
  decide +kernel

/-- **Original code, completeness as multisets.**  Whatever order the runtime walks the maps in (`π r` any rearrangement
of `r`), on a well-formed dump without an effective limit the original loops return a rearrangement of `allMatches`:
every matching cell exactly once.  (Only the ORDER depended on `π` — and, under a smaller limit, the choice: `A39_witness`.) -/
theorem C15_orig_complete (π : Row → Row) (hπ : ∀ r, π r ~ r) (R : Regex) (sh : GoVal → Bytes) (d : Dump) (hw : Dump.WF d)
    (o : Opts) (re : Bytes → Bool) (hc : R.compile (effPattern o) = some re)
    (hlim : o.maxResults ≤ 0 ∨ ((allMatches re sh o.includeRow d).length : Int) ≤ o.maxResults) :
    ∃ hs, Model.SearchOrig.origHits π R sh d o = some hs ∧ hs ~ allMatches re sh o.includeRow d := by
  have hp := Proofs.SearchOrig.allOrig_perm π hπ re sh o d hw
  refine ⟨_, by rw [Proofs.SearchOrig.search_eq, hc]; rfl, ?_⟩
  exact (List.Perm.of_eq (cut_eq_self o _ (hp.length_eq ▸ hlim))).trans hp

/-- **Original code, soundness and bound.**  For every iteration order every returned hit is an element of `allMatches`
(so, by `mem_allMatches`, a matching cell with its coordinates, value and row), and with MaxResults > 0 there are at
most MaxResults of them. -/
theorem C15_orig_sound_bound (π : Row → Row) (hπ : ∀ r, π r ~ r) (R : Regex) (sh : GoVal → Bytes) (d : Dump) (hw : Dump.WF d)
    (o : Opts) (re : Bytes → Bool) (hc : R.compile (effPattern o) = some re) (hs : List Hit)
    (hh : Model.SearchOrig.origHits π R sh d o = some hs) :
    (∀ h ∈ hs, h ∈ allMatches re sh o.includeRow d) ∧ (o.maxResults > 0 → (hs.length : Int) ≤ o.maxResults) := by
  rw [Proofs.SearchOrig.search_eq, hc] at hh
  cases hh
  exact ⟨fun h hmem => (Proofs.SearchOrig.allOrig_perm π hπ re sh o d hw).mem_iff.1 (mem_of_mem_cut o _ hmem), cut_length_le o _⟩

/-- **A39 (original code).**  One table, one row with two text columns, pattern matching both, MaxResults = 1: if the
runtime walks the row's map as stored the hit is column `a`, if it walks it in reverse the hit is column `b` — the SET of
hits depends on Go's map iteration order.  (The fixed code returns `a` in both cases: `C15_order_independent`.) -/
theorem A39_witness :
    let row : Row := [([97], .str [120]), ([98], .str [120])]
    let d : Dump := [{ name := [100], tables := [{ name := [116], columns := [[97], [98]], rows := [row] }] }]
    let o : Opts := { pattern := [120], caseSensitive := false, includeRow := false, maxResults := 1 }
    ((Model.SearchOrig.searchInDump id Model.SearchOrig.anyRegex (fun _ => []) d o).map (·.map (·.column))) = some [[97]] ∧
    ((Model.SearchOrig.searchInDump List.reverse Model.SearchOrig.anyRegex (fun _ => []) d o).map (·.map (·.column))) = some [[98]] ∧
    ((Model.Search.searchInDump Model.SearchOrig.anyRegex (fun _ => []) d o).map (·.map (·.column))) = some [[97]] := by
  decide +kernel

open PgVerif.Model.Secrets PgVerif.Proofs.Secrets

/-- `bytesContains` is the substring test; `containsIgnoreCase` is the substring test on the ASCII-lower-cased texts. -/
theorem C15_contains (s sub : Bytes) :
    bytesContains s sub = occursIn sub s ∧ containsIgnoreCase s sub = occursIn (lower sub) (lower s) :=
  ⟨bytesContains_eq s sub, containsIgnoreCase_eq s sub⟩

/-- **Secret scan, exactly.**  For every dump, every detector set and every scalar text, ScanDumpResult returns
`expectedFindings`: cell by cell in (database, table, row, column) order, for each cell whose text (`%v`) has at least
8 bytes, for each detector in order whose keyword pre-filter passes ON THAT TEXT and which does not fail, each of its
results, tagged with the cell's database, table, column and row index.  Nothing else, nothing twice. -/
theorem C15_secret_exact (dets : List Detector) (sh : GoVal → Bytes) (d : Dump) :
    scanDumpResult dets sh d = expectedFindings dets sh d :=
  walk_congr Database.tables Table.rows _ _
    (fun D t ri => by rw [rowKeys_eq]; exact scanRow_eq dets sh D.name t.name ri.2 ri.1 _) d

/-- **… each cell once.**  On a well-formed dump (rows are maps) the findings are, as a multiset, the findings of every
stored binding of every row: no cell is skipped and none is scanned twice. -/
theorem C15_secret_cells_once (dets : List Detector) (sh : GoVal → Bytes) (d : Dump) (hw : Dump.WF d) :
    scanDumpResult dets sh d ~ allCellFindings dets sh d := by
  rw [C15_secret_exact]
  exact walk_perm _ _ _ _ d fun D hD t ht r hr _ => (rowCells_perm t.columns r (hw D hD t ht r hr)).flatMap_right _

/-- **A planted token is reported — what that requires.**  Take a cell of a well-formed dump whose text `fmtV sh v`
has at least 8 bytes.  If some detector `det` of the scanner (hk) passes its keyword pre-filter on THAT text (it has no
keywords, or one of them occurs in the cell's own text, as is or ignoring ASCII case) and (hd) reports the result `r`
on THAT text, then the scan returns a finding with that cell's database, table, row index and column and with `r`'s
detector name and raw text.  Nothing is assumed about any other text: a real detector's verdict depends on what
surrounds the token (word boundaries, greedy character classes, a keyword within reach), and it is the cell's own text
— not the column name, not a neighbouring cell — that decides (`C15_secret_needs_keyword`). -/
theorem C15_secret (dets : List Detector) (sh : GoVal → Bytes) (d : Dump) (hw : Dump.WF d) (db tbl : Bytes) (i : Nat)
    (col : Bytes) (v : GoVal) (row : Row) (hcell : IsCell d db tbl i col v row) (hlen : 8 ≤ (fmtV sh v).length)
    (det : Detector) (hdet : det ∈ dets) (hk : keywordPass det (fmtV sh v) = true)
    (found : List DetResult) (hd : det.fromData (fmtV sh v) = some found) (r : DetResult) (hr : r ∈ found) :
    ({ detector := r.detector, db := db, table := tbl, col := col, row := i, raw := r.raw } : Finding)
      ∈ scanDumpResult dets sh d := by
  obtain ⟨D, hD, rfl, t, ht, rfl, hri, hcv⟩ := hcell
  have hrw := wf_row_of_getElem? d hw D hD t ht i row hri
  rw [C15_secret_exact, mem_expectedFindings]
  refine ⟨D, hD, t, ht, row, i, hri, List.mem_flatMap.2 ⟨(col, v), (mem_rowCells t.columns row hrw (col, v)).2 hcv, ?_⟩⟩
  simp only [cellFindings]
  rw [if_neg (by omega)]
  exact List.mem_map.2 ⟨r, (mem_scanText dets _ r).2 ⟨det, hdet, hk, found, hd, hr⟩, rfl⟩

/-- **The keyword must be in the cell.**  A detector that has keywords, none of which occurs in a text (neither as is
nor ignoring ASCII case), contributes nothing for that text, whatever its `fromData` would say; so a cell on whose text
no detector passes the pre-filter yields no finding at all.  E.g. a bare Heroku-format UUID alone in a cell is not
reported (the Heroku detector's keyword `heroku` is not in the cell), although `HEROKU_API_KEY=<uuid>` in one cell is. -/
theorem C15_secret_needs_keyword (dets : List Detector) (sh : GoVal → Bytes) (db tbl : Bytes) (i : Nat) (cv : Bytes × GoVal)
    (h : ∀ det ∈ dets, keywordPass det (fmtV sh cv.2) = false) : cellFindings dets sh db tbl i cv = [] := by
  simp only [cellFindings]
  have : scanText dets (fmtV sh cv.2) = [] := by
    simp only [scanText, List.flatMap_eq_nil_iff]
    intro det hdet
    rw [h det hdet]; rfl
  rw [this]; simp

/-- **Coordinates of findings are real.**  Every finding of the scan names a cell of the dump whose text has at least
8 bytes, and comes from a detector of the scanner that passed its pre-filter on that cell's text and reported that
result on it. -/
theorem C15_secret_sound (dets : List Detector) (sh : GoVal → Bytes) (d : Dump) (hw : Dump.WF d) (f : Finding)
    (hf : f ∈ scanDumpResult dets sh d) :
    ∃ v row, IsCell d f.db f.table f.row f.col v row ∧ 8 ≤ (fmtV sh v).length ∧
      ∃ det ∈ dets, keywordPass det (fmtV sh v) = true ∧ ∃ found, det.fromData (fmtV sh v) = some found ∧
        (⟨f.detector, f.raw⟩ : DetResult) ∈ found := by
  rw [C15_secret_exact, mem_expectedFindings] at hf
  obtain ⟨D, hD, t, ht, row, i, hri, hf⟩ := hf
  obtain ⟨cv, hcv, hcell⟩ := List.mem_flatMap.1 hf
  have hcv' := (mem_rowCells t.columns row (wf_row_of_getElem? d hw D hD t ht i row hri) cv).1 hcv
  simp only [cellFindings] at hcell
  by_cases hlen : (fmtV sh cv.2).length < 8
  · rw [if_pos hlen] at hcell; cases hcell
  · rw [if_neg hlen] at hcell
    obtain ⟨res, hres, rfl⟩ := List.mem_map.1 hcell
    exact ⟨cv.2, row, ⟨D, hD, rfl, t, ht, rfl, hri, hcv'⟩, by omega, (mem_scanText dets _ res).1 hres⟩

/-- a concrete well-formed dump with a nested JSON cell; pattern `^b` (case-insensitive through `(?i)`) of the small
regex engine; two cells match (`B`-something at top level, and the key `Bee` inside the JSON object) -/
example :
    let row : Row := [([105, 100], .int 7), ([110], .str [66, 111, 98]), ([106], .obj [([66, 101, 101], .arr [.nil, .str [122]])])]
    let d : Dump := [{ name := [100], tables := [{ name := [116], columns := [[105, 100], [110], [106]], rows := [row] }] }]
    let o : Opts := { pattern := [94, 98], caseSensitive := false, includeRow := false, maxResults := 0 }
    Dump.WF d ∧ ((hits Model.SearchRe.litRegex (fun _ => []) d o).map (·.map (·.col))) = some [[110], [106]] := by
  exact ⟨wf_single _ _ _ _ (by unfold Row.WF; decide), by decide +kernel⟩

/-- the hypotheses of `C15_column_order` hold for a row decoded with its table's schema -/
example :
    let cols : List Bytes := [[105, 100], [110]]
    let row : Row := [([110], .str [66]), ([105, 100], .int 7)]
    cols.Nodup ∧ (∀ c, c ∈ cols ↔ c ∈ row.map (·.1)) ∧ colOrder cols row = cols := by
  refine ⟨by decide, ?_, by decide +kernel⟩
  intro c; simp only [List.map_cons, List.map_nil, List.mem_cons, List.not_mem_nil, or_false]
  exact ⟨fun h => h.elim Or.inr Or.inl, fun h => h.elim Or.inr Or.inl⟩

/-- an iteration order that is not the stored one: walking every map backwards is a legitimate `π` -/
example : ∀ r : Row, (fun r : Row => r.reverse) r ~ r := fun r => List.reverse_perm r

/-- the hypotheses of `C15_secret` are satisfiable by a detector that is NOT uniform in the surrounding text (here:
it reports the token only when the text is exactly the token — stricter than any boundary-anchored real detector):
keyword `glpat-`, cell text = the token `glpat-AB` -/
example :
    let tok : Bytes := [103, 108, 112, 97, 116, 45, 65, 66]
    let det : Detector := { keywords := [[103, 108, 112, 97, 116, 45]],
                            fromData := fun s => some (if s = tok then [⟨[71], tok⟩] else []) }
    let row : Row := [([107], .str tok)]
    let d : Dump := [{ name := [100], tables := [{ name := [116], columns := [[107]], rows := [row] }] }]
    Dump.WF d ∧ IsCell d [100] [116] 0 [107] (.str tok) row ∧ 8 ≤ (fmtV (fun _ => []) (.str tok)).length ∧
      keywordPass det (fmtV (fun _ => []) (.str tok)) = true ∧
      det.fromData (fmtV (fun _ => []) (.str tok)) = some [⟨[71], tok⟩] ∧
      det.fromData (120 :: tok) = some [] := by
  exact ⟨wf_single _ _ _ _ (by unfold Row.WF; decide), ⟨_, List.mem_cons_self, rfl, _, List.mem_cons_self, rfl, rfl, List.mem_cons_self⟩,
    by decide, by decide, by decide, by decide⟩

/-- the hypothesis of `C15_secret_needs_keyword` is satisfiable: a bare UUID-shaped text and a detector keyed on `heroku` -/
example :
    keywordPass { keywords := [[104, 101, 114, 111, 107, 117]], fromData := fun _ => some [] }
      [49, 50, 51, 52, 53, 54, 55, 56, 45, 49, 50, 51, 52] = false := by decide

end PgVerif.Props.C15
