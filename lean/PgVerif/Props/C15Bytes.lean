/-
  C15 — search and secret scan on dumps that hold Go `[]byte` values.

  The dumps DumpDataDir makes hold no `[]byte` (Props/C15.lean covers them: values are `GoVal`s).  `SearchInDump` and
  `ScanDumpResult` are exported and accept any `*DumpResult`; `Spec.SearchB.SVal` adds the kind `[]byte`, at any depth.
  Specification (Spec/SearchBytes.lean): a `[]byte` is searched and scanned as the text it holds.  The search always did
  that; the secret scan did not (`%v` prints a `[]byte` as decimal numbers) — repaired by fix search/04, and the model
  here is the repaired code.  Parameters as in Props/C15.lean.
-/
import PgVerif.Proofs.SearchBytes
namespace PgVerif.Props.C15Bytes
open PgVerif PgVerif.Spec.Search PgVerif.Spec.SearchB PgVerif.Model.Search PgVerif.Model.SearchB PgVerif.Proofs.Search
  PgVerif.Proofs.SearchB
open scoped List

/-- **Prefix / exactness with `[]byte` cells.**  For every dump whose values are of any kind a `DumpResult` can hold —
NULL, booleans, integers, floats, strings, `[]byte`, arrays and JSON objects of these to any depth —, every option set,
regex engine and scalar text: SearchInDump returns the error when the effective pattern does not compile, and otherwise
exactly the first MaxResults (all when MaxResults ≤ 0) matching cells in (database, table, row, column) order, where a
`[]byte` matches like the string of the same bytes; each hit carries the cell's own value (the `[]byte` itself) and,
iff IncludeRow, the row as it is in the dump. -/
theorem C15_bytes_prefix (R : Regex) (sh : GoVal → Bytes) (d : SDump) (o : Opts) : hitsS R sh d o = expectedS R sh d o := by
  simp only [hitsS, searchInDumpS, dbBodyS_eq_loops]
  exact searchLoops_eq SDatabase.tables STable.rows _ R o _ _ toHitS (fun re D t => rowHitsS re sh o.includeRow D.name t.name t.columns)
    (fun re D t ri => by
      simp only [rowPart, rowKeysS_eq, matchValueS_eq]
      exact filter_getD (lookupS · ri.1) .nil (cellMatchesS re sh) rfl
        (fun c v => ({ db := D.name, table := t.name, row := ri.2, col := c, value := v,
                       fullRow := if o.includeRow then some ri.1 else none } : HitS)) _) d

/-- **When does a value match.**  `matchValue` (all cases of its type switch, `[]byte` included) answers true exactly when
the pattern matches one of the value's texts: a string or `[]byte` itself; an object's keys and, recursively, the texts of
its values; recursively the texts of an array's elements; any other scalar's text `sh`; NULL has none. -/
theorem C15_bytes_matchValue (re : Bytes → Bool) (sh : GoVal → Bytes) (v : SVal) :
    matchValueS re sh v = true ↔ ∃ t ∈ searchTextsS sh v, re t = true := by
  rw [matchValueS_eq, cellMatches_texts, List.any_eq_true]; rfl

/-- **A `[]byte` is text**, for the search and (after fix search/04) for the secret scan alike: it matches iff the pattern
matches its bytes, and the text handed to the detectors is its bytes — at the top of a cell … -/
theorem C15_bytes_as_text (re : Bytes → Bool) (sh : GoVal → Bytes) (b : Bytes) :
    matchValueS re sh (.bytes b) = re b ∧ cellText sh (.bytes b) = b ∧
    matchValueS re sh (.bytes b) = matchValueS re sh (.str b) ∧ cellText sh (.bytes b) = cellText sh (.str b) :=
  ⟨rfl, rfl, rfl, rfl⟩

/-- … and at any depth: replacing every `[]byte` of a value by the string of the same bytes changes neither whether the
value matches nor the text the detectors see. -/
theorem C15_bytes_as_text_nested (re : Bytes → Bool) (sh : GoVal → Bytes) (v : SVal) :
    matchValueS re sh v = matchValueS re sh (ofGo (asText v)) ∧ cellText sh v = cellText sh (ofGo (asText v)) := by
  refine ⟨?_, ?_⟩
  · rw [matchValueS_eq, matchValueS_eq, asText_ofGo]
  · simp only [cellText, asText_ofGo]

/-- **Decoded values.**  On a value of a decoded kind (no `[]byte`) the extended model is the model of
Model/Search.lean / Model/Secrets.lean: same match, same cell text. -/
theorem C15_bytes_decoded (re : Bytes → Bool) (sh : GoVal → Bytes) (v : GoVal) :
    matchValueS re sh (ofGo v) = matchValue re sh v ∧ cellText sh (ofGo v) = fmtV sh v := by
  refine ⟨?_, ?_⟩
  · rw [matchValueS_eq, asText_ofGo, matchValue_eq]
  · simp only [cellText, asText_ofGo]

/-- **Exactly the matching cells, as multisets.**  On a well-formed dump every matching binding of every row is reported
exactly once by an unlimited search, and nothing else is. -/
theorem C15_bytes_exact (re : Bytes → Bool) (sh : GoVal → Bytes) (incl : Bool) (d : SDump) (hw : SDump.WF d) :
    allMatchesS re sh incl d ~ matchingCellsS re sh incl d :=
  walk_perm _ _ _ _ d fun D hD t ht r hr _ => ((rowCellsS_perm t.columns r (hw D hD t ht r hr)).filter _).map _

/-- **Secret scan, exactly (code after fix search/04).**  ScanDumpResult returns, cell by cell in (database, table, row,
column) order, for each cell whose text — `%v` with every `[]byte` read as the text it holds — has at least 8 bytes,
the results of every detector that passes its keyword pre-filter on that text, with the cell's coordinates. -/
theorem C15_bytes_secret_exact (dets : List Detector) (sh : GoVal → Bytes) (d : SDump) :
    scanDumpResultS dets sh d = expectedFindingsS dets sh d :=
  walk_congr SDatabase.tables STable.rows _ _
    (fun D t ri => by rw [rowKeysS_eq]; exact scanRowS_eq dets sh D.name t.name ri.2 ri.1 _) d

/-- **A token planted in a cell of any kind is reported** under the per-cell hypotheses of `Props.C15.C15_secret`: if a
detector of the scanner passes its pre-filter on the cell's text and reports `r` on it, the scan returns a finding with
the cell's coordinates — also when the token sits in a `[]byte` (the cell itself, an array element, an object value). -/
theorem C15_bytes_secret (dets : List Detector) (sh : GoVal → Bytes) (d : SDump) (hw : SDump.WF d) (db tbl : Bytes) (i : Nat)
    (col : Bytes) (v : SVal) (row : SRow) (hcell : IsCellS d db tbl i col v row) (hlen : 8 ≤ (cellTextS sh v).length)
    (det : Detector) (hdet : det ∈ dets) (hk : keywordPass det (cellTextS sh v) = true)
    (found : List DetResult) (hd : det.fromData (cellTextS sh v) = some found) (r : DetResult) (hr : r ∈ found) :
    ({ detector := r.detector, db := db, table := tbl, col := col, row := i, raw := r.raw } : Finding)
      ∈ scanDumpResultS dets sh d := by
  obtain ⟨D, hD, rfl, t, ht, rfl, hri, hcv⟩ := hcell
  have hrw := wfS_row_of_getElem? d hw D hD t ht i row hri
  rw [C15_bytes_secret_exact, mem_expectedFindingsS]
  refine ⟨D, hD, t, ht, row, i, hri, List.mem_flatMap.2 ⟨(col, v), (mem_rowCellsS t.columns row hrw (col, v)).2 hcv, ?_⟩⟩
  simp only [cellFindingsS]
  rw [if_neg (by omega)]
  exact List.mem_map.2 ⟨r, (Proofs.Secrets.mem_scanText dets _ r).2 ⟨det, hdet, hk, found, hd, hr⟩, rfl⟩

/-- **Finding search-04 (code before the fix).**  `%v` renders the `[]byte` cell holding `sk_live_` as
`[115 107 95 108 105 118 101 95]`; the token does not occur in that text, so no detector could report it, while the
search matched the same cell.  After the fix the text is the token. -/
theorem search04_witness :
    let tok : Bytes := [115, 107, 95, 108, 105, 118, 101, 95]
    fmtVOrig (fun _ => []) (.bytes tok) =
      [91, 49, 49, 53, 32, 49, 48, 55, 32, 57, 53, 32, 49, 48, 56, 32, 49, 48, 53, 32, 49, 49, 56, 32, 49, 48, 49, 32, 57, 53, 93] ∧
    occursIn tok (fmtVOrig (fun _ => []) (.bytes tok)) = false ∧
    cellText (fun _ => []) (.bytes tok) = tok ∧ matchValueS (fun s => occursIn tok s) (fun _ => []) (.bytes tok) = true := by
  decide +kernel

/-- the hypotheses of `C15_bytes_secret` are satisfiable with the token in a `[]byte` nested in an array -/
example :
    let tok : Bytes := [103, 108, 112, 97, 116, 45, 65, 66]
    let v : SVal := .arr [.int 7, .bytes tok]
    let det : Detector := { keywords := [[103, 108, 112, 97, 116, 45]],
                            fromData := fun s => some (if occursIn tok s then [⟨[71], tok⟩] else []) }
    let row : SRow := [([107], v)]
    let d : SDump := [{ name := [100], tables := [{ name := [116], columns := [[107]], rows := [row] }] }]
    SDump.WF d ∧ IsCellS d [100] [116] 0 [107] v row ∧ cellTextS (fun _ => [55]) v = [91, 55, 32] ++ tok ++ [93] ∧
      keywordPass det (cellTextS (fun _ => [55]) v) = true ∧ det.fromData (cellTextS (fun _ => [55]) v) = some [⟨[71], tok⟩] := by
  refine ⟨?_, ⟨_, List.mem_cons_self, rfl, _, List.mem_cons_self, rfl, rfl, List.mem_cons_self⟩, by decide, by decide, by decide⟩
  intro db hdb t ht r hr
  simp only [List.mem_cons, List.not_mem_nil, or_false] at hdb; subst hdb
  simp only [List.mem_cons, List.not_mem_nil, or_false] at ht; subst ht
  simp only [List.mem_cons, List.not_mem_nil, or_false] at hr; subst hr
  simp only [SRow.WF]; decide

end PgVerif.Props.C15Bytes
