/-
  C15 (topic E9) — the convenience wrappers of search.go / secrets.go report exactly what the functions they wrap report:

    QuickSearch(dir, p)     = SearchInDump(DumpDataDir(dir, {SkipSystemTables}), {Pattern: QuoteMeta(p), case-insensitive,
                              IncludeRow, no limit}); the quoted pattern denotes the literal text `p`
    Search(dir, opts)       = SearchInDump(DumpDataDir(dir, {SkipSystemTables}), opts)
    ScanForSecrets(dir, o)  = ScanDumpResult(DumpDataDir(dir, o))
    SearchSecrets(dir)      = the findings of ScanForSecrets(dir, {SkipSystemTables}), one SearchResult each, same
                              coordinates, the raw secret as Value
    ScanDumpResult(d)       = the concatenation of ScanDatabaseDump over d's databases

  so every theorem of Props/C15.lean (exactness, order, soundness, completeness, secret scan) applies to them.
  Parameters as in Props/C15.lean (regex engine, scalar text, detectors) and Model/Cluster.lean (row reader, map
  order, file system).  Helper lemmas: Proofs/ExtraSearch.lean.
-/
import PgVerif.Proofs.ExtraSearch
import PgVerif.Props.C15
namespace PgVerif.Props.C15Extra
open PgVerif PgVerif.Model PgVerif.Model.Extra PgVerif.Proofs.Extra PgVerif.Spec.Search PgVerif.Model.Search

/-- **QuickSearch on a dump = SearchInDump with the documented options**; the error when DumpDataDir failed. -/
theorem C15_quickSearch (R : Regex) (sh : GoVal → Bytes) (d : Dump) (p : Bytes) :
    quickSearch R sh (some d) p = searchInDump R sh d (quickOpts p) ∧ quickSearch R sh none p = none := by
  exact ⟨quickSearch_some R sh d p, (Props.C15.C15_search_entry R sh d (quickOpts p)).2.2⟩

/-- **… hence exactly the matching cells.**  QuickSearch's hits are the view of Spec/Search.lean for the pattern
`(?i)` ++ QuoteMeta(p): every cell matching it, in (database, table, row, column) order, each with its full row. -/
theorem C15_quickSearch_exact (R : Regex) (sh : GoVal → Bytes) (d : Dump) (p : Bytes) :
    (quickSearch R sh (some d) p).map (·.map toHit) = expected R sh d (quickOpts p) ∧
    effPattern (quickOpts p) = ciPrefix ++ quoteMeta p ∧ (quickOpts p).includeRow = true ∧ (quickOpts p).maxResults = 0 := by
  refine ⟨?_, rfl, rfl, rfl⟩
  rw [quickSearch_some]
  exact Props.C15.C15_prefix R sh d (quickOpts p)

/-- **The quoted pattern reads back as the literal.**  Removing the backslash escapes from QuoteMeta(p) gives back `p`,
for every byte string `p`: QuoteMeta escapes every byte RE2 treats as an operator and nothing else.  (A statement about
the two Lean functions `quoteMeta` / `unquoteMeta`, i.e. about the TEXT QuickSearch hands to the regex engine; that the
engine reads an escaped operator byte as that byte is RE2's documented syntax and part of the parameter `R`.  Go's
`regexp.Compile` additionally rejects a pattern that is not valid UTF-8, so `QuickSearch(dir, "\xff")` returns the
"invalid pattern" error instead of searching for the byte — in the model: `R.compile` answers `none` and
`C15_quickSearch_exact` gives the error.) -/
theorem C15_quoteMeta_literal (p : Bytes) : unquoteMeta (quoteMeta p) = some p :=
  unquoteMeta_quoteMeta p

/-- **Search / QuickSearch on a file tree.**  Whatever DumpDataDir(dir, {SkipSystemTables: true}) returns — a dump `r`
or its error — Search(dir, opts) returns SearchInDump(r, opts), resp. the error; QuickSearch(dir, p) likewise with
the quoted options.  (For every row reader, map order and file tree; if DumpDataDir's model faults, so does the
wrapper, and `C10_total_searchDir` shows it does not.) -/
theorem C15_search_on_tree (R : Regex) (sh : GoVal → Bytes) (rr : RowReader) (π : MapOrder TableInfo)
    (fs : Bytes → Option Bytes) (r : Option Spec.DumpResult) (hd : dumpDataDir rr π fs searchDumpOptions = .ok r) (o : Opts) (p : Bytes) :
    searchDir R sh rr π fs (some o) = .ok (match r with | some r => searchInDump R sh (toSearchDump r) o | none => none) ∧
    quickSearchDir R sh rr π fs p = .ok (match r with | some r => searchInDump R sh (toSearchDump r) (quickOpts p) | none => none) ∧
    searchDir R sh rr π fs none = .ok none :=
  ⟨searchDir_eq R sh rr π fs o r hd, searchDir_eq R sh rr π fs (quickOpts p) r hd, rfl⟩

/-- **ScanForSecrets = ScanDumpResult ∘ DumpDataDir**, on a dump and on a file tree. -/
theorem C15_scanForSecrets (dets : List Detector) (sh : GoVal → Bytes) (rr : RowReader) (π : MapOrder TableInfo)
    (fs : Bytes → Option Bytes) (o : Spec.Options) (r : Option Spec.DumpResult) (hd : dumpDataDir rr π fs o = .ok r) :
    scanForSecretsDir dets sh rr π fs o = .ok (r.map fun r => Secrets.scanDumpResult dets sh (toSearchDump r)) ∧
    (∀ d, scanForSecrets dets sh (some d) = some (Secrets.scanDumpResult dets sh d)) ∧ scanForSecrets dets sh none = none := by
  refine ⟨?_, fun _ => rfl, rfl⟩
  simp only [scanForSecretsDir, dumpedBy, hd, ok_bind, pure_eq_ok]
  cases r <;> rfl

/-- **SearchSecrets = the findings of ScanForSecrets, converted.**  One SearchResult per finding, in the same order, with
the finding's database, table, column, row index, the raw secret as the value, and a row holding the detector name. -/
theorem C15_searchSecrets (dets : List Detector) (sh : GoVal → Bytes) (red : Finding → Bytes) (ver : Finding → Bool)
    (dumped : Option Dump) :
    searchSecrets dets sh red ver dumped = (scanForSecrets dets sh dumped).map (·.map (secretHit red ver)) ∧
    ∀ f, (secretHit red ver f).database = f.db ∧ (secretHit red ver f).table = f.table ∧ (secretHit red ver f).column = f.col ∧
         (secretHit red ver f).rowNum = f.row ∧ (secretHit red ver f).value = .str f.raw ∧
         ((secretHit red ver f).row.bind (lookup (strBytes "detector"))) = some (.str f.detector) := by
  refine ⟨?_, fun f => ⟨rfl, rfl, rfl, rfl, rfl, ?_⟩⟩
  · unfold searchSecrets; cases scanForSecrets dets sh dumped <;> rfl
  · simp [secretHit, lookup]

/-- **ScanDumpResult = ScanDatabaseDump over the databases** (so a caller scanning database by database and
concatenating sees the same findings in the same order). -/
theorem C15_scanDatabaseDump (dets : List Detector) (sh : GoVal → Bytes) (d : Dump) :
    Secrets.scanDumpResult dets sh d = d.flatMap (Secrets.scanDatabaseDump dets sh) := rfl

/-- **The secret scan through the wrappers finds planted tokens.**  `Props.C15.C15_secret` transported: a cell (of a
well-formed dump) whose text has ≥ 8 bytes and on whose text a detector of the scanner passes its keyword pre-filter and
reports `r` is reported by ScanForSecrets, and SearchSecrets returns a result with the cell's coordinates and the raw
text.  (All hypotheses are about the cell's own text, as in `C15_secret`.) -/
theorem C15_secret_through_wrappers (dets : List Detector) (sh : GoVal → Bytes) (red : Finding → Bytes) (ver : Finding → Bool)
    (d : Dump) (hw : Dump.WF d) (db tbl : Bytes) (i : Nat) (col : Bytes) (v : GoVal) (row : Spec.Search.Row)
    (hcell : IsCell d db tbl i col v row) (hlen : 8 ≤ (fmtV sh v).length)
    (det : Detector) (hdet : det ∈ dets) (hk : keywordPass det (fmtV sh v) = true)
    (found : List DetResult) (hd : det.fromData (fmtV sh v) = some found) (r : DetResult) (hr : r ∈ found) :
    ∃ fs hs, scanForSecrets dets sh (some d) = some fs ∧ searchSecrets dets sh red ver (some d) = some hs ∧
      ({ detector := r.detector, db := db, table := tbl, col := col, row := i, raw := r.raw } : Finding) ∈ fs ∧
      ∃ h ∈ hs, h.database = db ∧ h.table = tbl ∧ h.rowNum = i ∧ h.column = col ∧ h.value = .str r.raw := by
  have hf := Props.C15.C15_secret dets sh d hw db tbl i col v row hcell hlen det hdet hk found hd r hr
  refine ⟨_, _, rfl, rfl, hf, _, List.mem_map.2 ⟨_, hf, rfl⟩, rfl, rfl, rfl, rfl, rfl⟩

/-- the hypothesis of `C15_search_on_tree` / `C15_scanForSecrets` is satisfiable (every tree satisfies it for a total
row reader, `Props.C10.Cluster.C10_total_dumpDataDir`); here: a reader that finds no rows, a tree of empty files -/
example : dumpDataDir (fun _ _ _ => pure []) id (fun _ => some []) searchDumpOptions = .ok (some []) := rfl

/-- the executable regex instance of family `extra` on a quoted pattern: `a.(` quoted is the literal `a.(`,
matched case-insensitively -/
example : (litQuoteRegex.compile (ciPrefix ++ quoteMeta [97, 46, 40])).map (fun re => (re [120, 65, 46, 40, 121], re [97, 98, 40])) =
    some (true, false) := by decide +kernel

end PgVerif.Props.C15Extra
