/-
  C15 — the text a float cell is searched as (fix search/06: search.go `floatText`).

  Spec side (Spec/SearchFloat.lean): `f64Text bits` / `f32Text bits` — computed from the IEEE-754 bit pattern by exact
  natural-number arithmetic: `NaN` / `Infinity` / `-Infinity`; otherwise sign, then the SHORTEST decimal digits `d · 10^k`
  lying in the float's round-to-nearest-even interval (largest k; nearer of two; even on an exact tie), written
  positionally (64 bits: numeric / JSON number / float8) or in C's %g layout (32 bits: float4).
  Model side (Model/SearchShow.lean): `searchScalar` = search.go `scalarText` → `floatText(f, bitSize)`, with
  `strconv.FormatFloat(f, fmt, -1, bitSize)` as its documented behaviour.  That the real strconv produces these texts is
  what family `floattext` checks on generated floats (the real code's text is recovered from its match results).
-/
import PgVerif.Proofs.SearchFloat
import PgVerif.Props.C15
namespace PgVerif.Props.C15Float
open PgVerif PgVerif.Spec.Search PgVerif.Spec.SearchFloat PgVerif.Model.Search PgVerif.Model.SearchShow
open PgVerif.Proofs.SearchFloat

/-- **Model = specification.**  The text search.go's `scalarText` gives a float64 / float32 (through `floatText`) is the
specified one, for every bit pattern; every other scalar keeps `%v`. -/
theorem C15_float_model_eq_spec : searchScalar = searchSh showScalar := by
  funext v
  cases v with
  | f64 b => exact goFloatText_eq (decode 52 11 b) positional
  | f32 b => exact goFloatText_eq (decode 23 8 b) gForm
  | nil | bool _ | int _ | str _ | arr _ | obj _ => rfl

/-- **NaN, Infinity, -Infinity (64 bits).**  Exponent field all ones: a non-zero fraction reads `NaN` (whatever the sign
and payload), a zero fraction `Infinity` / `-Infinity` by the sign bit — PostgreSQL's spellings for float8 and numeric
(fmt's %v had `NaN`, `+Inf`, `-Inf`). -/
theorem C15_float_nonfinite64 (bits : Nat) (he : bits / 2 ^ 52 % 2 ^ 11 = 2047) :
    f64Text bits = if bits % 2 ^ 52 ≠ 0 then sNaN else if bits / 2 ^ 63 % 2 = 1 then sMinus ++ sInfinity else sInfinity := by
  exact floatText_decode_special 52 11 bits positional he

/-- **… and 32 bits.** -/
theorem C15_float_nonfinite32 (bits : Nat) (he : bits / 2 ^ 23 % 2 ^ 8 = 255) :
    f32Text bits = if bits % 2 ^ 23 ≠ 0 then sNaN else if bits / 2 ^ 31 % 2 = 1 then sMinus ++ sInfinity else sInfinity := by
  exact floatText_decode_special 23 8 bits gForm he

example : f64Text 0x7ff0000000000000 = [73, 110, 102, 105, 110, 105, 116, 121] /- Infinity -/ ∧ f64Text 0xfff0000000000000 = [45, 73, 110, 102, 105, 110, 105, 116, 121] /- -Infinity -/ ∧
    f64Text 0x7ff8000000000001 = [78, 97, 78] /- NaN -/ ∧ f64Text 0xfff8000000000000 = [78, 97, 78] /- NaN -/ ∧
    f32Text 0x7f800000 = [73, 110, 102, 105, 110, 105, 116, 121] /- Infinity -/ ∧ f32Text 0xff800000 = [45, 73, 110, 102, 105, 110, 105, 116, 121] /- -Infinity -/ ∧ f32Text 0xffc00000 = [78, 97, 78] /- NaN -/ := by
  decide +kernel

/-- **A finite float64 is searched positionally.**  Whatever the magnitude (5e-324 … 1.8e308), the text of a finite
64-bit float is an optional `-` followed by digits and points: there is no exponent marker (`e`), no
`+`, nothing else.  (fmt's %v switches to `1e+21`-style at 21 digits and `1e-05` below 1e-4.) -/
theorem C15_float_positional (bits : Nat) (hfin : bits / 2 ^ 52 % 2 ^ 11 ≠ 2047) :
    ∃ body, f64Text bits = (if bits / 2 ^ 63 % 2 = 1 then sMinus else []) ++ body ∧ ∀ c ∈ body, c = 46 ∨ (48 ≤ c ∧ c ≤ 57) := by
  refine ⟨_, f64Text_finite bits hfin, ?_⟩
  intro c hc
  split at hc
  · simp only [List.mem_singleton] at hc; subst hc; exact Or.inr ⟨by decide, by decide⟩
  · exact positional_bytes _ _ c hc

/-- no text of a 64-bit float cell — finite or not — contains an exponent marker or a plus sign -/
theorem C15_float_no_exponent (bits : Nat) : (101 : UInt8) ∉ f64Text bits ∧ (43 : UInt8) ∉ f64Text bits := by
  have key : ∀ x : UInt8, x = 101 ∨ x = 43 → x ∉ f64Text bits := by
    intro x hx hm
    by_cases hfin : bits / 2 ^ 52 % 2 ^ 11 = 2047
    · -- NaN, Infinity, -Infinity have neither byte
      rw [C15_float_nonfinite64 bits hfin] at hm
      have : x ∈ sNaN ++ (sMinus ++ sInfinity) := by
        split at hm
        · exact List.mem_append_left _ hm
        · split at hm
          · exact List.mem_append_right _ hm
          · exact List.mem_append_right _ (List.mem_append_right _ hm)
      rcases hx with rfl | rfl <;> exact absurd this (by decide)
    · -- a finite value: an optional `-`, then digits and at most a point
      obtain ⟨body, hb, hbody⟩ := C15_float_positional bits hfin
      rw [hb] at hm
      have : x = 45 ∨ x = 46 ∨ (48 ≤ x ∧ x ≤ 57) := by
        rcases List.mem_append.1 hm with h | h
        · split at h
          · exact Or.inl (List.mem_singleton.1 h)
          · cases h
        · exact Or.inr (hbody x h)
      rcases hx with rfl | rfl <;> exact absurd this (by decide)
  exact ⟨key _ (Or.inl rfl), key _ (Or.inr rfl)⟩

/-- **An integer-valued float64 below 2^53 is searched as the integer's decimal text.**  Take a 64-bit pattern with
biased exponent `be` in 1 … 1075 (a normal number whose unit in the last place is at most 1, i.e. a value below 2^53)
whose value `(2^52 + fraction) · 2^(be − 1075)` is the natural number `N`.  Its text is `N` in decimal (all digits, no
point, no exponent), with `-` in front when the sign bit is set.  So numeric `1000000000000000`, JSONB `{"n": 1e15}` and
a float8 1e15 — all the float64 0x430c6bf526340000 — are found by the pattern `^1000000000000000$`. -/
theorem C15_float_integer (bits N : Nat) (hbe1 : 1 ≤ bits / 2 ^ 52 % 2 ^ 11) (hbe2 : bits / 2 ^ 52 % 2 ^ 11 ≤ 1075)
    (hval : 2 ^ 52 + bits % 2 ^ 52 = N * 2 ^ (1075 - bits / 2 ^ 52 % 2 ^ 11)) :
    f64Text bits = (if bits / 2 ^ 63 % 2 = 1 then sMinus else []) ++ dec N := by
  obtain ⟨hm, hI⟩ := decode_int 52 11 bits N hbe1 hbe2 hval
  rw [f64Text_finite bits (by omega), hm, if_neg Bool.false_ne_true, positional_shortest_int hI]

/-- the hypotheses of `C15_float_integer` hold for the float64 1e15 (witness of fix search/06), for 1, for 2^53 − 1 and
for −1000000 -/
example : (1 ≤ 0x430c6bf526340000 / 2 ^ 52 % 2 ^ 11 ∧ 0x430c6bf526340000 / 2 ^ 52 % 2 ^ 11 ≤ 1075 ∧
      2 ^ 52 + 0x430c6bf526340000 % 2 ^ 52 = 10 ^ 15 * 2 ^ (1075 - 0x430c6bf526340000 / 2 ^ 52 % 2 ^ 11)) ∧
    (2 ^ 52 + 0x3ff0000000000000 % 2 ^ 52 = 1 * 2 ^ (1075 - 0x3ff0000000000000 / 2 ^ 52 % 2 ^ 11)) ∧
    (2 ^ 52 + 0x433fffffffffffff % 2 ^ 52 = (2 ^ 53 - 1) * 2 ^ (1075 - 0x433fffffffffffff / 2 ^ 52 % 2 ^ 11)) ∧
    (2 ^ 52 + 0xc12e848000000000 % 2 ^ 52 = 1000000 * 2 ^ (1075 - 0xc12e848000000000 / 2 ^ 52 % 2 ^ 11)) := by decide

/-- **1e15** (the witness): the text is `1000000000000000`. -/
theorem C15_float_1e15 : f64Text 0x430c6bf526340000 = [49, 48, 48, 48, 48, 48, 48, 48, 48, 48, 48, 48, 48, 48, 48, 48] /- 1000000000000000 -/ := by
  rw [C15_float_integer 0x430c6bf526340000 (10 ^ 15) (by decide) (by decide) (by decide)]
  decide +kernel

/-- more texts, by evaluation: 0.00001 (numeric's text; %v has 1e-05), 1e21, 0.1, −0; float32 1e6 and 1234567 in
float4's layout, 100000 and 0.0001 still positional -/
example : f64Text 0x3ee4f8b588e368f1 = [48, 46, 48, 48, 48, 48, 49] /- 0.00001 -/ ∧ f64Text 0x444b1ae4d6e2ef50 = [49, 48, 48, 48, 48, 48, 48, 48, 48, 48, 48, 48, 48, 48, 48, 48, 48, 48, 48, 48, 48, 48] /- 1000000000000000000000 -/ ∧
    f64Text 0x3fb999999999999a = [48, 46, 49] /- 0.1 -/ ∧ f64Text 0x8000000000000000 = [45, 48] /- -0 -/ ∧
    f32Text 0x49742400 = [49, 101, 43, 48, 54] /- 1e+06 -/ ∧ f32Text 0x4996b438 = [49, 46, 50, 51, 52, 53, 54, 55, 101, 43, 48, 54] /- 1.234567e+06 -/ ∧
    f32Text 0x47c35000 = [49, 48, 48, 48, 48, 48] /- 100000 -/ ∧ f32Text 0x38d1b717 = [48, 46, 48, 48, 48, 49] /- 0.0001 -/ ∧ f32Text 0x3727c5ac = [49, 101, 45, 48, 53] /- 1e-05 -/ := by
  decide +kernel

/-- **Round trip.**  Whenever the search for the shortest digits of a finite positive float `F` finds a decimal `d · 10^k`
(it always does on the floats the families generate; totality over all bit patterns and minimality of the digit count
are checked by family `floattext` against the real code, not proved), that decimal lies in `F`'s round-to-nearest-even
interval: read back by a correctly rounding parser it is the same float, so the searched text denotes the stored value
and no other. -/
theorem C15_float_reads_back (F : Spec.SearchFloat.Fin)
    (h : (searchPos F (startExp F)).isSome = true ∨ (searchNeg F 400 1).isSome = true) :
    ReadsBack F (shortest F).1 (shortest F).2 := by
  unfold shortest
  cases hp : searchPos F (startExp F) with
  | some r =>
    obtain ⟨k', hk, hiv⟩ := searchPos_some _ r.1 r.2 hp
    rw [hk]; exact hiv
  | none =>
    rw [hp] at h
    cases hn : searchNeg F 400 1 with
    | none => rw [hn] at h; simp at h
    | some r => exact searchNeg_sound 400 1 r.1 r.2 (by decide) hn

/-- the hypothesis holds e.g. for 0.1 (digits found among the negative exponents), 1e15 and the float32 1234567 -/
example : (searchNeg (decode 52 11 0x3fb999999999999a).fin 400 1).isSome = true ∧
    (searchPos (decode 52 11 0x430c6bf526340000).fin (startExp (decode 52 11 0x430c6bf526340000).fin)).isSome = true ∧
    (searchPos (decode 23 8 0x4996b438).fin (startExp (decode 23 8 0x4996b438).fin)).isSome = true := by decide +kernel

/-- **A float cell is reported iff the pattern matches its text.**  In a well-formed dump searched without a limit, the
cell `(db, tbl, i, col)` holding the 64-bit float `b` is among the hits exactly when the compiled pattern matches
`f64Text b`; likewise a 32-bit float and `f32Text b`.  (Model: search.go after fix search/06.) -/
theorem C15_float_cell (R : Regex) (d : Dump) (hw : Dump.WF d) (o : Opts) (re : Bytes → Bool)
    (hc : R.compile (effPattern o) = some re) (hlim : o.maxResults ≤ 0)
    (db tbl : Bytes) (i : Nat) (col : Bytes) (row : Row) (v : GoVal) (t : Bytes)
    (hv : (∃ b, v = .f64 b ∧ t = f64Text b) ∨ (∃ b, v = .f32 b ∧ t = f32Text b))
    (hcell : IsCell d db tbl i col v row) :
    (∃ hs, hits R searchScalar d o = some hs ∧
      ({ db := db, table := tbl, row := i, col := col, value := v, fullRow := if o.includeRow then some row else none } : Hit) ∈ hs)
    ↔ re t = true := by
  have hm : cellMatches re searchScalar v = re t := by
    rw [C15_float_model_eq_spec]
    rcases hv with ⟨b, rfl, rfl⟩ | ⟨b, rfl, rfl⟩ <;> simp [cellMatches, searchSh]
  constructor
  · rintro ⟨hs, hh, hmem⟩
    obtain ⟨_, _, hcm, _⟩ := C15.C15_sound R searchScalar d hw o re hc hs hh _ hmem
    rw [← hm]; exact hcm
  · intro hr
    exact C15.C15_complete R searchScalar d hw o re hc (Or.inl hlim) db tbl i col v row hcell (by rw [hm]; exact hr)

/-- the hypotheses of `C15_float_cell` are satisfiable, and its right-hand side holds for the witness: table `acct(n)`
with the row `{n: 1e15}`, pattern `^1000000000000000$` of the small engine -/
example :
    let d : Dump := [{ name := [100], tables := [{ name := [116], columns := [[110]], rows := [[([110], .f64 0x430c6bf526340000)]] }] }]
    let o : Opts := { pattern := [94, 49, 48, 48, 48, 48, 48, 48, 48, 48, 48, 48, 48, 48, 48, 48, 48, 36] /- ^1000000000000000$ -/, caseSensitive := true, includeRow := false, maxResults := 0 }
    Dump.WF d ∧ IsCell d [100] [116] 0 [110] (.f64 0x430c6bf526340000) [([110], .f64 0x430c6bf526340000)] ∧
    (∃ re, Model.SearchRe.litRegex.compile (effPattern o) = some re ∧ re (f64Text 0x430c6bf526340000) = true) := by
  refine ⟨?_, ?_, ?_⟩
  · exact Proofs.Search.wf_single _ _ _ _ (by unfold Row.WF; decide)
  · exact ⟨_, List.mem_singleton.mpr rfl, rfl, _, List.mem_singleton.mpr rfl, rfl, rfl, List.mem_singleton.mpr rfl⟩
  · rw [C15_float_1e15]
    refine ⟨_, rfl, ?_⟩
    decide

end PgVerif.Props.C15Float
