/-
  C16 — pg_control fields and CRC verdict equal the stored control data.
  Property theorems only; helper lemmas are in Proofs/Crc.lean and Proofs/Control.lean.
  The model is that of control.go with the repairs of /verif/fixes/control (01–04, 10, 22) applied; the
  `witness_*` theorems at the end show, on the model of the code as it was written, the defects those
  repairs remove.
  What "every reported field" means below: `Spec.ControlView` has 45 fields — 41 of the 51 members of ControlFileData
  before the crc (float format and data_checksum_version as flags), the stored crc, and three derived ones (state name,
  redo WAL file name, CRC verdict).  The 10 stored members the tool does not report at all (time, unloggedLSN,
  minRecoveryPoint, minRecoveryPointTLI, backupStartPoint, backupEndPoint, backupEndRequired, the two pass-by-value
  bytes at 248/249, mock_authentication_nonce) are outside the property's list and outside the
  theorems.  `pg_version_major` is a 46th reported field, inferred from the two version numbers: `C16_version_*`.
-/
import PgVerif.Proofs.Control
import PgVerif.Model.ControlOrig
import PgVerif.Generated.Control
import PgVerif.Spec.ControlAnchor
import PgVerif.Gen.Control
namespace PgVerif.Props.C16
open PgVerif PgVerif.Spec PgVerif.Proofs

attribute [local instance] exceptDecEq

/-- Fields.  For every well-formed control data `c` (every field anywhere in its range: 64-bit identifiers and
LSNs, any int32 state, counters up to 2^32−1, wal_level 0..2, limits 0..2^31−1, legal block and WAL segment
sizes, any checksum version), every stored crc value and every amount of zero padding after the 296-byte
struct (0, 7896, anything): ParseControlFile succeeds on PostgreSQL's encoding and every reported field —
identifier, versions, state and its name, checkpoint/redo LSN text, redo WAL file name, timelines, xid/oid/
multixact counters, checkpoint time, WAL level name, settings, sizes, float-format and checksum flags, the
stored crc and the CRC verdict — equals the spec's view of `c`; the verdict is "valid" iff the stored crc is
the CRC-32C (bit-serial definition) of the 288 bytes before it. -/
theorem C16_fields (c : ControlData) (h : c.WF) (crc pad : Nat) (hcrc : crc < 2 ^ 32) :
    ∃ f, Model.parseControlFile (encControl c crc pad) = .ok (some f) ∧ f.toView = viewControl c crc := by
  obtain ⟨f, h1, h2, _⟩ := parseControlFile_enc_full c h crc pad hcrc
  exact ⟨f, h1, h2⟩

/-- The same through ReadControlFile when the data directory holds the image at global/pg_control. -/
theorem C16_fields_read (c : ControlData) (h : c.WF) (crc pad : Nat) (hcrc : crc < 2 ^ 32)
    (fs : String → Option Bytes) (dir : String) (hfs : fs (dir ++ "/global/pg_control") = some (encControl c crc pad)) :
    ∃ f, Model.readControlFile fs dir = .ok (some f) ∧ f.toView = viewControl c crc := by
  unfold Model.readControlFile; rw [hfs]; exact C16_fields c h crc pad hcrc

/-- CRC verdict on ANY image.  For every byte string of at least 296 bytes — any field values, any bytes in the struct's
padding holes and after the struct — ParseControlFile succeeds, reports the four bytes at offset 288 as the stored crc,
and reports the CRC valid iff they are the CRC-32C (bit-serial definition, `Spec.crc32c`) of the 288 bytes before them;
the two reported version numbers are the stored ones and `pg_version_major` is inferPGVersion of them. -/
theorem C16_crc_any_image (bs : Bytes) (h : bs.length ≥ 296) :
    ∃ f, Model.parseControlFile bs = .ok (some f) ∧ f.crc = rdAt 4 288 bs ∧
      f.crcValid = (rdAt 4 288 bs == crc32c (bs.take 288)) ∧
      f.pgControlVersion = rdAt 4 8 bs ∧ f.catalogVersionNo = rdAt 4 12 bs ∧
      f.pgVersionMajor = Model.inferPGVersion (rdAt 4 8 bs) (rdAt 4 12 bs) := by
  obtain ⟨s, hs⟩ := parseControlFile_ok bs h
  exact ⟨_, hs, rfl, verifyCRC32C_eq _ _, rfl, rfl, rfl⟩

/-- non-vacuity: a typical PostgreSQL 16 control data is well-formed; the WAL file name its view carries -/
example : Gen.typicalControl.WF := by decide
example : (viewControl Gen.typicalControl 7).redoWALFile = "000000010000000000000001" := by decide +kernel

/-- CRC table.  The 256-entry table built by makeCRC32CTable's shift-and-xor loop is the table of remainders
of the bit-serial definition (entry i = eight division steps from the byte i). -/
theorem C16_crc_table : Model.makeCRC32CTable = Spec.crc32cTable := table_eq

/-- two well-known entries of the CRC-32C table, computed by the kernel -/
example : Model.makeCRC32CTable.getD 1 0#32 = 0xF26B8303#32 ∧ Model.makeCRC32CTable.getD 255 0#32 = 0xAD7D5351#32 := by
  decide +kernel

/-- CRC verdict, every byte string of every length: the table-driven fold of verifyCRC32C accepts `x` iff `x`
is the bit-serial CRC-32C (reflected polynomial 0x82F63B78, init and final xor 0xFFFFFFFF) of the bytes. -/
theorem C16_crc (bs : Bytes) (x : Nat) : Model.verifyCRC32C bs x = (x == Spec.crc32c bs) :=
  verifyCRC32C_eq bs x

/-- Detection.  Whatever the image: if the verdict is "valid", then after any change confined to one of the covered
bytes (in particular after every single-bit flip of the body) the verdict is "invalid". -/
theorem C16_crc_detects (pre post : Bytes) (x y : UInt8) (crc : Nat)
    (hv : Model.verifyCRC32C (pre ++ x :: post) crc = true) (hxy : x ≠ y) :
    Model.verifyCRC32C (pre ++ y :: post) crc = false := by
  rw [C16_crc] at hv ⊢
  have h1 : crc = Spec.crc32c (pre ++ x :: post) := by simpa using hv
  have h2 := crc32c_byte_change pre post x y hxy
  simp only [beq_eq_false_iff_ne, ne_eq]
  rw [h1]; exact h2

/-- Detection of a changed stored crc: if the verdict is "valid", it is "invalid" for every other stored crc. -/
theorem C16_crc_detects_stored (bs : Bytes) (crc crc' : Nat) (hv : Model.verifyCRC32C bs crc = true) (h : crc' ≠ crc) :
    Model.verifyCRC32C bs crc' = false := by
  rw [C16_crc] at hv ⊢
  have h1 : crc = Spec.crc32c bs := by simpa using hv
  simp only [beq_eq_false_iff_ne, ne_eq]
  rw [← h1]; exact h

example : Model.verifyCRC32C ([1, 2] ++ 3 :: [4]) (Spec.crc32c [1, 2, 3, 4]) = true := by decide +kernel

/-- anchors of the bit-serial definition: the standard check string, and the control file a real PostgreSQL 10
server wrote (its stored CRC at offset 288 is 0xDB3E2024) -/
example : Spec.crc32c "123456789".toUTF8.toList = 0xE3069283 := by decide +kernel
set_option maxRecDepth 100000 in
example : Spec.crc32c (pg10ControlImage.take 288) = 0xDB3E2024 ∧ rdAt 4 288 pg10ControlImage = 0xDB3E2024 := by
  decide +kernel

/-- Redo WAL file name.  For every redo location below 2^64, every timeline and every legal WAL segment size
(2^20 … 2^30) the formatted name is PostgreSQL's XLogFileName: timeline, segno / (2^32/segsz), segno % (2^32/segsz),
each as %08X (no truncation of either quotient occurs). -/
theorem C16_walfile (redo tli segsz : Nat) (hr : redo < 2 ^ 64) (hs : segsz ∈ legalSegSizes) :
    Model.formatWALFilename redo tli segsz = .ok (Spec.xlogFileName tli redo segsz) :=
  formatWALFilename_eq redo tli segsz hr hs

example : Spec.xlogFileName 1 0x69300F358 (2 ^ 24) = "000000010000000600000093" := by decide +kernel
example : (2 : Nat) ^ 24 ∈ legalSegSizes := by decide

/-- LSN text: `%X/%X` of the high and low halves, for every 64-bit value. -/
theorem C16_lsn (lsn : Nat) (h : lsn < 2 ^ 64) : Model.ctlFormatLSN lsn = Spec.lsnText lsn := ctlFormatLSN_eq lsn h

/-- Names.  DBState.String is pg_controldata's wording on the seven defined states; on every other int32 it is
"unknown (n)" — the TOOL's wording, which the Spec adopts (pg_controldata prints "unrecognized status code" there; the
property asks for the state to equal the stored field, which is reported as the number beside the name); the WAL level
names are PostgreSQL's; and the model agrees with the graphs of DBState.String,
the WAL level naming and inferPGVersion obtained by executing the Go code (Generated/Control.lean, re-created
from the code on every run) on the breakpoint grids. -/
theorem C16_names (s : Int) : Model.dbStateString s = Spec.stateName s := dbStateString_eq s

theorem C16_names_wal (n : Nat) (h : n ≤ 2) : Model.walLevelName n = Spec.walLevelNames.getD n "" := walLevel_name n h

theorem C16_names_state_graph : ∀ p ∈ Generated.Control.dbStateGraph, Model.dbStateString p.1 = p.2 := by decide +kernel

theorem C16_names_wal_graph : ∀ p ∈ Generated.Control.walLevelGraph, Model.walLevelName p.1 = p.2 := by decide +kernel

theorem C16_names_version_graph :
    ∀ p ∈ Generated.Control.inferPGVersionGraph, Model.inferPGVersion p.1.1 p.1.2 = p.2 := by decide +kernel

/-- Major version (REVIEW B12; fixes/control/10, 22).  For every pair (PG_CONTROL_VERSION, CATALOG_VERSION_NO) a released
PostgreSQL 12, 13, 14, 15, 16 or 17 writes (`Spec.pgReleases`: 1201/201909212, 1300/202007201, 1300/202107181,
1300/202209061, 1300/202307071, 1700/202406281) inferPGVersion answers that major version. -/
theorem C16_version_major (cv cat M : Nat) (h : pgMajorOf cv cat = some M) : Model.inferPGVersion cv cat = M :=
  inferPGVersion_of_catalog cv cat M (pgMajorOfCatalog_of_pair h)

/-- The major version through ParseControlFile (`pg_version_major` of the report): the release's major on every
well-formed image carrying a pair a released PostgreSQL 12–17 writes, whatever the other fields, the stored crc and the
padding are. -/
theorem C16_version_major_file (c : ControlData) (h : c.WF) (crc pad : Nat) (hcrc : crc < 2 ^ 32) (M : Nat)
    (hM : pgMajorOf c.pgControlVersion c.catalogVersionNo = some M) :
    ∃ f, Model.parseControlFile (encControl c crc pad) = .ok (some f) ∧ f.pgVersionMajor = M := by
  obtain ⟨f, h1, _, h3⟩ := parseControlFile_enc_full c h crc pad hcrc
  exact ⟨f, h1, by rw [h3]; exact C16_version_major _ _ _ hM⟩

/-- non-vacuity: the typical control data is a PostgreSQL 16 one -/
example : pgMajorOf Gen.typicalControl.pgControlVersion Gen.typicalControl.catalogVersionNo = some 16 := by decide

/-- Known releases only (fixes/control/22), for EVERY pair of 32-bit (or any) numbers: when the catalog version is the
one of a released major 12–17 the answer is that major (whatever the control version: the catalog version decides);
for every other catalog version the answer is below 12 — never the name of a release of this table — and it is
0 = unknown under every control version ≥ 1201 (PostgreSQL 12 and later). -/
theorem C16_version_bands (cv cat : Nat) :
    (∀ M, pgMajorOfCatalog cat = some M → Model.inferPGVersion cv cat = M) ∧
    (pgMajorOfCatalog cat = none → Model.inferPGVersion cv cat < 12 ∧ (cv ≥ 1201 → Model.inferPGVersion cv cat = 0)) :=
  ⟨fun M h => inferPGVersion_of_catalog cv cat M h, fun h => inferPGVersion_unknown cv cat h⟩

example : pgMajorOfCatalog 202406281 = some 17 ∧ pgMajorOfCatalog 202406280 = none := by decide

/-- A reported major of 12 or more is never wrong: it is reported only for the catalog version of that release.
(The bands of fixes/control/10 reported 12..16 for 2^32 − 5 catalog versions no release carries: `witness_R22`.) -/
theorem C16_version_never_wrong (cv cat M : Nat) (h : Model.inferPGVersion cv cat = M) (hM : M ≥ 12) :
    pgMajorOfCatalog cat = some M := by
  cases hc : pgMajorOfCatalog cat with
  | some M' => rw [← h, inferPGVersion_of_catalog cv cat M' hc]
  | none => have := (inferPGVersion_unknown cv cat hc).1; omega

example : Model.inferPGVersion 1300 202209061 = 15 ∧ 15 ≥ 12 := by decide

/-- The report is the Spec's (`Spec.majorReport`): wherever the Spec speaks — a released pair → its major; control
version ≥ 1201 with a catalog version of no release → 0 — inferPGVersion answers exactly that. -/
theorem C16_version_report (cv cat M : Nat) (h : majorReport cv cat = some M) : Model.inferPGVersion cv cat = M := by
  rcases majorReport_some h with hc | ⟨hc, hcv, rfl⟩
  · exact inferPGVersion_of_catalog cv cat M hc
  · exact (inferPGVersion_unknown cv cat hc).2 hcv

/-- The Spec's report through ParseControlFile: on every well-formed image, whatever the other fields, the crc and
the padding, `pg_version_major` is what `Spec.majorReport` says, wherever it speaks. -/
theorem C16_version_report_file (c : ControlData) (h : c.WF) (crc pad : Nat) (hcrc : crc < 2 ^ 32) (M : Nat)
    (hM : majorReport c.pgControlVersion c.catalogVersionNo = some M) :
    ∃ f, Model.parseControlFile (encControl c crc pad) = .ok (some f) ∧ f.pgVersionMajor = M := by
  obtain ⟨f, h1, _, h3⟩ := parseControlFile_enc_full c h crc pad hcrc
  exact ⟨f, h1, by rw [h3]; exact C16_version_report _ _ _ hM⟩

/-- non-vacuity: a PostgreSQL 16 control file whose catalog version is a development snapshot's → unknown -/
example : ({ Gen.typicalControl with catalogVersionNo := 202307072 } : ControlData).WF ∧
    majorReport 1300 202307072 = some 0 := by decide

/-! ### the defects the repairs remove, on the model of the code as written (Model.Orig) -/

/-- R22 (fixes/control/22): the bands of fixes/control/10 answered 12 for (1201, 0) and (1300, 0), and 16 for PostgreSQL 17's own
pair (1700, 202406281), for (1300, 202406281) and for (1800, 202506291).  The Spec says 17 for the PostgreSQL 17 pair and 0 = unknown
for (1201, 0), (1300, 0) and (1800, 202506291); on (1300, 202406281) — a release's catalog version beside a control version that
release does not write — it is silent, and the repaired code lets the catalog version decide (17).  Wherever the Spec speaks the
repaired code answers the Spec's. -/
theorem witness_R22 :
    Model.Orig.inferPGVersionBands 1201 0 = 12 ∧ Model.Orig.inferPGVersionBands 1300 0 = 12 ∧
    Model.Orig.inferPGVersionBands 1700 202406281 = 16 ∧ Model.Orig.inferPGVersionBands 1300 202406281 = 16 ∧
    Model.Orig.inferPGVersionBands 1800 202506291 = 16 ∧
    majorReport 1201 0 = some 0 ∧ majorReport 1300 0 = some 0 ∧ majorReport 1700 202406281 = some 17 ∧
    majorReport 1800 202506291 = some 0 ∧
    Model.inferPGVersion 1201 0 = 0 ∧ Model.inferPGVersion 1300 0 = 0 ∧ Model.inferPGVersion 1700 202406281 = 17 ∧
    Model.inferPGVersion 1300 202406281 = 17 ∧ Model.inferPGVersion 1800 202506291 = 0 := by decide

/-- B12: as written, genuine PostgreSQL 12, 13 and 14 control files were reported as 13, 15 and 15 -/
theorem witness_B12 : Model.Orig.inferPGVersion 1201 201909212 = 13 ∧ Model.Orig.inferPGVersion 1300 202007201 = 15 ∧
    Model.Orig.inferPGVersion 1300 202107181 = 15 := by decide

/-- A50: on a typical image the storage-section search finds nothing (it looks for 8, _, 8192, _, 8192 from offset
220 on; the real fields are maxAlign@204, floatFormat@208, blcksz@216), so sizes were defaults and checksums "off" -/
theorem witness_A50 : Model.Orig.findStorageSection (encControl Gen.typicalControl 0 0) 220 = .ok 0 := by decide +kernel

/-- A49: with max_worker_processes = 0 the settings search skips the real section (180) and locks onto offset 244 -/
theorem witness_A49 :
    Model.Orig.findConfigSection (encControl { Gen.typicalControl with maxWorkerProcesses := 0 } 0 0) 180 = .ok 244 := by
  decide +kernel

/-- A51: the name as written used timeline 1, 16 MiB segments and `segNo >> 32` — wrong for the redo location of the
real PostgreSQL 10 file (0x6/9300F358, whose WAL file is 000000010000000600000093) -/
theorem witness_A51 : Model.Orig.formatWALFilename 0x69300F358 1 = "000000010000000000000693" := by decide +kernel

end PgVerif.Props.C16
