/-
  C17 — WAL records are enumerated with their stored header, position and names; directory summary tallies.
  Helper lemmas are in Proofs/Wal.lean, WalPages.lean, WalPageEnc.lean, WalCont.lean, WalLayout.lean, WalEnc.lean, WalNames.lean and
  WalDir.lean.
  The model is of wal.go with fixes/wal/01..13 applied (04, 05: records cut by a page end; 06: the page magics of
  PostgreSQL 12, 13, 14; 07, 08: operation names per version, and for every opcode PostgreSQL names; 09: resource-manager
  names spelled as PostgreSQL spells them; 10: only 24-hex-digit file names are segments; 11: records of any length up to
  XLogRecordMaxSize, over any number of pages; 12: the names rm_identify gives the combinations with XLOG_HEAP_INIT_PAGE /
  XLOG_BRIN_INIT_PAGE; 13: HEAP_CONFIRM and INVALIDATION as heap_identify / xact_identify spell them) and fixes/entry/04
  (the directory functions read regular files only).
  Open findings, each carved out by an explicit hypothesis below: C17-btree-rmname (`rm ≠ 11` in `C17_names`),
  C17-prepared-xid (`hd` in `C17_verdict_partial`), C17-cross-segment-record (`C17_records` speaks about files that hold
  their last record completely: `encSegment`).
-/
import PgVerif.Proofs.Wal
import PgVerif.Proofs.WalCont
import PgVerif.Proofs.WalNames
import PgVerif.Proofs.WalLayout
import PgVerif.Proofs.WalEnc
import PgVerif.Proofs.WalDir
import PgVerif.Proofs.WalPageEnc
import PgVerif.Proofs.WalPages
namespace PgVerif.Props.C17
open PgVerif PgVerif.Model.Wal PgVerif.Proofs.Wal

/-- **Names.**  (1) Every resource manager PostgreSQL defines (ids 0..21) except Btree is printed under exactly
PostgreSQL's name (rmgrlist.h); (2) Btree (id 11) is printed "BTree" where PostgreSQL says "Btree" — open finding
C17-btree-rmname, the spelling is held in place by TestRmgrName; ids PostgreSQL does not define are unconstrained.
(3) For every PostgreSQL version 12..16 with its page magic, every resource-manager id and every info byte:
where PostgreSQL names the operation (`pgOpName`: what rm_identify of each of the 22 resource managers returns, per
version — keyed by `info & ~XLR_INFO_MASK`, so for Heap, Heap2 and BRIN together with the INIT_PAGE bit 0x80: INSERT+INIT,
UPDATE+INIT, HOT_UPDATE+INIT, MULTI_INSERT+INIT, BRIN INSERT+INIT / UPDATE+INIT; HEAP_CONFIRM; INVALIDATION), the
tool prints exactly that name on a page of that version; where PostgreSQL names none, the tool prints the numeric
placeholder `op_0xNN` — except for the five (version, rmid, opcode) triples of `namedAhead` (opcodes that version does
not have yet, so none of its records carries them), for which it prints the name PostgreSQL 16 gives the opcode.
The tool's side is the graph generated by executing the code on pages of PostgreSQL 13, 14 and 16; the generator checks
that pages of 12 and 15 give the graphs of 13 and 16 (Generated/Wal.lean). -/
theorem C17_names :
    (∀ rm n, Spec.Wal.pgRmgrName rm = some n → rm ≠ 11 → rmgrName rm = n) ∧
    (rmgrName 11 = "BTree" ∧ Spec.Wal.pgRmgrName 11 = some "Btree") ∧
    (∀ ver magic, (ver, magic) ∈ Spec.Wal.pageMagicTable → ∀ rm info, info < 256 →
      (∀ n, Spec.Wal.pgOpName ver rm info = some n → operationNameFor rm info magic = n) ∧
      (Spec.Wal.pgOpName ver rm info = none → operationNameFor rm info magic = defaultOpName info ∨
        ((ver, rm, info &&& Spec.Wal.opMask rm) ∈ namedAhead ∧
          Spec.Wal.pgOpName 16 rm info = some (operationNameFor rm info magic)))) := by
  refine ⟨?_, by decide, ?_⟩
  · intro rm n h h11
    by_cases hrm : rm < 22
    · have := pgRmgrName_rmgrName rm hrm h11
      rw [this] at h
      exact (Option.some.inj h)
    · rw [pgRmgrName_none rm (by omega)] at h; cases h
  · intro ver magic hm rm info hi
    exact cellOK_spec _ ver rm info (cellOK_of_vocabOK _ ver (vocabOK_of_magic ver magic hm) rm info hi)

/-- Non-vacuity of `C17_names` (3): what a page of PostgreSQL 13 and of 16 must show for Heap2 0x10, Database 0x10,
XLOG 0xB0 and Standby 0x10, and the tool shows it -/
example : Spec.Wal.pgOpName 13 9 0x10 = some "CLEAN" ∧ operationNameFor 9 0x10 0xD106 = "CLEAN" ∧
    Spec.Wal.pgOpName 16 9 0x10 = some "PRUNE" ∧ operationNameFor 9 0x10 0xD113 = "PRUNE" ∧
    Spec.Wal.pgOpName 14 4 0x10 = some "DROP" ∧ Spec.Wal.pgOpName 15 4 0x10 = some "CREATE_WAL_LOG" ∧
    operationNameFor 4 0x10 0xD110 = "CREATE_WAL_LOG" ∧ operationNameFor 0 0xB0 0xD101 = "FPI" ∧
    operationNameFor 8 0x10 0xD10D = "RUNNING_XACTS" := by decide +kernel

/-- Non-vacuity of `C17_names` (3) for the INIT_PAGE combinations (fixes/wal/12) and the two spellings of fixes/wal/13:
PostgreSQL names
Heap 0x80 / 0xA0 / 0xC0, Heap2 0xD0, BRIN 0x90 / 0xA0 with `+INIT`, names nothing for Heap 0x90, Heap2 0x90, BRIN 0x80
(the tool prints the placeholder), says HEAP_CONFIRM and INVALIDATION; Transaction keeps bit 0x80 out of the opcode -/
example : Spec.Wal.pgOpName 16 10 0x80 = some "INSERT+INIT" ∧ operationNameFor 10 0x80 0xD113 = "INSERT+INIT" ∧
    Spec.Wal.pgOpName 13 10 0xA0 = some "UPDATE+INIT" ∧ operationNameFor 10 0xA0 0xD106 = "UPDATE+INIT" ∧
    Spec.Wal.pgOpName 14 10 0xC0 = some "HOT_UPDATE+INIT" ∧ operationNameFor 10 0xC0 0xD10D = "HOT_UPDATE+INIT" ∧
    Spec.Wal.pgOpName 16 10 0x90 = none ∧ operationNameFor 10 0x90 0xD113 = "op_0x90" ∧
    Spec.Wal.pgOpName 12 9 0xD0 = some "MULTI_INSERT+INIT" ∧ operationNameFor 9 0xD0 0xD101 = "MULTI_INSERT+INIT" ∧
    Spec.Wal.pgOpName 16 9 0x90 = none ∧ operationNameFor 9 0x90 0xD113 = "op_0x90" ∧
    Spec.Wal.pgOpName 15 17 0x90 = some "INSERT+INIT" ∧ operationNameFor 17 0x90 0xD110 = "INSERT+INIT" ∧
    Spec.Wal.pgOpName 16 17 0xA0 = some "UPDATE+INIT" ∧ operationNameFor 17 0xA0 0xD113 = "UPDATE+INIT" ∧
    Spec.Wal.pgOpName 16 17 0x80 = none ∧ operationNameFor 17 0x80 0xD113 = "op_0x80" ∧
    Spec.Wal.pgOpName 16 10 0x50 = some "HEAP_CONFIRM" ∧ operationNameFor 10 0x50 0xD113 = "HEAP_CONFIRM" ∧
    Spec.Wal.pgOpName 14 1 0x60 = some "INVALIDATION" ∧ operationNameFor 1 0x60 0xD10D = "INVALIDATION" ∧
    Spec.Wal.pgOpName 16 1 0x80 = some "COMMIT" ∧ operationNameFor 1 0x80 0xD113 = "COMMIT" := by decide +kernel

/-- **Page magics and versions.**  The tool accepts a page exactly when its magic is XLOG_PAGE_MAGIC of one of
PostgreSQL 12..16 (`Spec.Wal.pageMagics`), labels it with that version, and applies the pre-15 bimg_info bit
assignment exactly on the pages of 12..14. -/
theorem C17_magics :
    (∀ m, isValidMagic m = true ↔ m ∈ Spec.Wal.pageMagics) ∧
    (∀ ver magic, (ver, magic) ∈ Spec.Wal.pageMagicTable → pgVersionFromMagic magic = toString ver) ∧
    (∀ m ∈ Spec.Wal.pageMagics, decide (m < 0xD110) = Spec.Wal.pre15 m) :=
  ⟨isValidMagic_iff, fun ver magic h => (version_label (ver, magic) h), fun m hm => (pre15_eq m hm).symm⟩

/-- **Per-page independence.**  For every byte string `a` made of whole pages and every byte string `b`:
(1) the records ParseWALFile reports for `a ++ b` are those of the pages of `a` (`prefixRecs a b`) followed by
exactly the records of `b` read on its own — what precedes a page never influences what is reported for it
(its records and their positions: the LSN comes from the page's own xlp_pageaddr), so a damaged page cannot
disturb the pages after it;
(2) what is reported for the pages of `a` depends on `b` only through the continuation data `b` carries
(`continuationData`: the bytes after the headers of pages flagged FIRST_IS_CONTRECORD with the matching
xlp_rem_len, used to complete the record cut by the end of `a`);
(3) in particular, when `b` carries no continuation data (it is empty, or does not start with such a page),
reading `a ++ b` is reading `a`, then reading `b`;
(4) ParseWALFile is that page loop, for every input. -/
theorem C17_pages (a b : Bytes) (n : Nat) (ha : a.length = n * 8192) :
    fileRecs (a ++ b) = prefixRecs a b ++ fileRecs b ∧
    (∀ b', (∀ need, continuationData b need = continuationData b' need) → prefixRecs a b = prefixRecs a b') ∧
    ((∀ need, continuationData b need = .ok none) → fileRecs (a ++ b) = fileRecs a ++ fileRecs b) ∧
    (∀ d : Bytes, parseWALFile d = .ok (if d.length < 40 then none else some (fileRecs d))) := by
  refine ⟨fileRecs_append a b n ha, fun b' hb => prefixRecs_congr a b b' n ha hb, ?_, parseWALFile_eq⟩
  intro hb
  rw [fileRecs_append a b n ha, prefixRecs_congr a b [] n ha (fun need => by rw [hb]; exact (continuationData_zeros 0 need).symm),
    prefixRecs_nil a n ha]

/-- hypothesis (3) of `C17_pages` is satisfiable with a non-empty `b`: never-written pages carry no
continuation data -/
example : ∀ need, continuationData (zeros (8192 * 2)) need = .ok none := fun need => continuationData_zeros _ need

/-- **Block references.**  For every record whose block references are well formed for a PostgreSQL version
(`pre15` = written by ≤ 14: ids ≤ 32, fork < 16, any bimg_info byte with hole_length present exactly when that
version's bit assignment says so — the ordinary full-page image with a hole, 0x05 on ≤ 14 and 0x03 on ≥ 15,
included —, field ranges) and every magic the tool treats as that version: the block-reference walk over the
record's payload `encBody r` — block headers with and without image, hole_length, data and SAME_REL,
followed by origin / top-level-xid / short or long main-data headers or directly by the block data —
reports exactly the record's references, in order, each with id, fork, the fork_flags byte, block number
and the relation it refers to (SAME_REL resolved to the previous reference's relation).
(The walk is run on every reported record, also on those put together across pages: `C17_records`.) -/
theorem C17_blocks (r : Spec.Wal.WalRecord) (pre15 : Bool) (hb : ∀ b ∈ r.blocks, b.WF pre15) (magic : Nat)
    (hm : decide (magic < 0xD110) = pre15) :
    (parseBlockRefsFor (Spec.Wal.encBody r) magic).map (·.map viewOfM) = .ok (Spec.Wal.blockViews none r.blocks) := by
  subst hm
  rw [parseBlockRefsFor_enc r magic hb]
  simp only [Except.map]
  rw [viewsM_views]
  rfl

/-- a record with three references: image with hole_length, SAME_REL, data; origin and long main data -/
def exampleRecord : Spec.Wal.WalRecord :=
  { xid := 701, prev := 40, info := 0x20, rmid := 10, crc := 2,
    blocks := [⟨0, 0, false, some ⟨[9, 9], 24, 0x07, some 8000⟩, none, some ⟨1663, 5, 16384⟩, 1⟩,
               ⟨1, 0, false, none, some [1], none, 2⟩,
               ⟨3, 2, true, none, some [4, 4], some ⟨1663, 5, 16390⟩, 3⟩],
    origin := some 1, topXid := none, mainData := List.replicate 300 7 }

example : ∀ b ∈ exampleRecord.blocks, b.WF false := by decide

/-- the ordinary full-page image with a hole: bimg_info HAS_HOLE|APPLY is 0x05 on PostgreSQL ≤ 14 and 0x03 on ≥ 15, no
hole_length in either case; the same byte 0x03 on ≤ 14 means HAS_HOLE|IS_COMPRESSED and carries one -/
example : (⟨[9, 9], 24, 0x05, none⟩ : Spec.Wal.Image).WF true ∧ (⟨[9, 9], 24, 0x03, none⟩ : Spec.Wal.Image).WF false ∧
    (⟨[9, 9], 24, 0x03, some 8000⟩ : Spec.Wal.Image).WF true ∧ ¬ (⟨[9, 9], 24, 0x03, none⟩ : Spec.Wal.Image).WF true := by
  decide


/-- **Record loop / page.**  For every page made of a header (the magic of PostgreSQL 12..16, short or long, any timeline
and page address), a continuation area of MAXALIGN(rem_len) bytes when FIRST_IS_CONTRECORD is set, then any
number of well-formed MAXALIGN-padded records and a trailer — zero padding (or nothing), or the first n ≥ 8
bytes of a record that continues on the next page, n possibly smaller than the 24-byte record header — and
for every byte string `fol` standing for the pages that follow which carries the rest of that record
(`ContOK`): parseWALPage reports exactly the whole records in order and then the record cut by the page end,
each with position = xlp_pageaddr + offset in the page (mod 2^64), stored tot_len, xid, prev, info, rmid, crc
and block references. -/
theorem C17_page (magic info tli addr rem : Nat) (ext cont : Bytes) (rs : List Spec.Wal.WalRecord)
    (tr : Spec.Wal.Trailer) (fol : Bytes)
    (hm : magic < 2 ^ 16) (hi : info < 2 ^ 16) (ht : tli < 2 ^ 32) (ha : addr < 2 ^ 64) (hr : rem < 2 ^ 32)
    (hvalid : magic ∈ Spec.Wal.pageMagics)
    (hext : ext.length = if info &&& 0x0002 != 0 then 16 else 0)
    (hcont : cont.length = if info &&& 0x0001 != 0 && rem > 0 then Spec.Wal.align8 rem else 0)
    (hrs : ∀ r ∈ rs, r.WF (Spec.Wal.pre15 magic)) (htr : tr.WF (Spec.Wal.pre15 magic)) (hfol : ContOK fol tr) :
    parseWALPage (Spec.Wal.pageHdrBytes magic info tli addr rem ext ++ cont ++
        ((rs.flatMap fun r => Spec.Wal.pad8 (Spec.Wal.encRecord r)) ++ tr.bytes)) fol =
      .ok (some (loopRecs magic addr (24 + ext.length + cont.length) rs tr)) := by
  rw [pre15_eq magic hvalid] at hrs htr
  exact parseWALPage_enc magic info tli addr rem ext cont rs tr fol hm hi ht ha hr ((isValidMagic_iff magic).mpr hvalid)
    hext hcont hrs htr hfol

/-- **Continuation data.**  For every segment constant set `s` with the magic of PostgreSQL 12..16, every page number `k`, every
non-empty remainder `carry` (< 2^32 bytes) of a record cut by the end of page k−1, every list of
records to come (the statement asks for well-formed ones, `hrs`; the result does not need that: the pages have their length whatever the
records are) and every `tail`: on the pages the layout writes from page `k` on (enough of them, below 2^64),
continuationData finds exactly `carry` — over as many pages as it takes, whole pages of continuation data
included.  (This is what makes the hypothesis `ContOK` of `C17_page` hold inside a segment.) -/
theorem C17_continuation (s : Spec.Wal.WalSegment) (hm : s.magic < 2 ^ 16) (hv : s.magic ∈ Spec.Wal.pageMagics)
    (ht : s.tli < 2 ^ 32) (n k : Nat) (carry : Bytes) (rs : List Spec.Wal.WalRecord)
    (hc : carry.length < 2 ^ 32) (hne : carry ≠ []) (hrs : ∀ r ∈ rs, r.WF (Spec.Wal.pre15 s.magic))
    (hfuel : (Spec.Wal.align8 carry.length + recsLen rs) / 8 < n)
    (hfit : s.startAddr + 8192 * k + (Spec.Wal.layoutPages s n k carry rs).bytes.length ≤ 2 ^ 64) (tail : Bytes) :
    continuationData ((Spec.Wal.layoutPages s n k carry rs).bytes ++ tail) carry.length = .ok (some carry) := by
  exact (layoutPages_laid s n k carry rs (by omega)).contData ⟨hm, (isValidMagic_iff s.magic).mpr hv, ht⟩ hc hne hfit tail

/-- **Reassembly over any number of pages (fixes/wal/11).**  For every rest-of-page `tail` and every byte string `fol`
standing for the pages that follow:
(1) `continuationData_short` — with fewer bytes following than are still missing continuationData returns nil, so
(2) the guard `totalLen-len(recData) <= len(following)` parseWALPage puts in front of the reassembly never changes a
result: `recordBytes` is the same function as the reassembly without any bound on the record length;
(3) what continuationData returns has exactly the length asked for, and that many bytes do follow;
(4) the buffer handed to parseXLogRecord is either the rest of the page unchanged, or holds exactly xl_tot_len bytes,
and is never longer than the input that is there (rest of the page + following pages).
(That the reassembled bytes are the record's — over as many pages as it takes — is `C17_continuation` / `C17_records`.) -/
theorem C17_reassembly (tail fol : Bytes) :
    (∀ need, fol.length < need → continuationData fol need = .ok none) ∧
    recordBytes tail fol = (do
      let totalLen ← uN 4 tail 0
      if totalLen > tail.length then do
        match ← continuationData fol (totalLen - tail.length) with
        | some cont => pure (tail ++ cont)
        | none => pure tail
      else pure tail) ∧
    (∀ need out, continuationData fol need = .ok (some out) → out.length = need ∧ need ≤ fol.length) ∧
    (∀ out, recordBytes tail fol = .ok out →
      out.length ≤ tail.length + fol.length ∧ (out = tail ∨ uN 4 tail 0 = .ok out.length)) :=
  ⟨fun need h => continuationData_short fol need h, recordBytes_eq tail fol,
   fun need out h => continuationData_length fol need out h, fun out h => recordBytes_length tail fol out h⟩

/-- **The two Spec encoders of a segment agree.**  For every segment value (no well-formedness needed):
`encSegment` — cut the stream of MAXALIGNed records into pages, xlp_rem_len by a search over the record
intervals, record positions by the XLogBytePosToRecPtr arithmetic (`WalSegment.view`) — and `encSegmentOp` —
copy the records page by page the way CopyXLogRecordToWAL does, carrying the rest of the record cut by the
page end — produce the same file; the page-by-page copy places every record of the segment, once and in
order, at exactly the position the arithmetic gives (so what it placed, `Placed.view`, is `s.view`), and in the
way the arithmetic classifies that position (entirely on one page / header on the page, rest on the next /
header split by the page end: `classOK`); and the file has `usedPages` pages before the never-written tail.
(The driver of family walseg evaluates the same four comparisons on every generated segment.) -/
theorem C17_encoders_agree (s : Spec.Wal.WalSegment) :
    Spec.Wal.encSegment s = Spec.Wal.encSegmentOp s ∧
    s.layout.placed.map Spec.Wal.Placed.record = s.records ∧
    s.layout.placed.map Spec.Wal.Placed.lsn = s.offsets.map s.lsnAt ∧
    (s.layout.placed.zip s.offsets).all (fun po => Proofs.WalEnc.classOK po.1 po.2) = true ∧
    s.layout.placed.map Spec.Wal.Placed.view = s.view ∧
    s.layout.bytes.length = 8192 * s.usedPages :=
  ⟨Proofs.WalEnc.encSegment_eq s, layout_complete s, Proofs.WalEnc.Agree_lsn s _ _ (Proofs.WalEnc.layout_agrees s).2,
   Proofs.WalEnc.Agree_classes s _ _ (Proofs.WalEnc.layout_agrees s).2, Proofs.WalEnc.layout_view s,
   Proofs.WalEnc.layout_length s⟩

/-- **Segments.**  For every well-formed segment (`WalSegment.WF`: any timeline, start address, system id,
continuation data from the previous segment, any list of records well formed for the segment's PostgreSQL version —
of any length from 24 bytes up to PostgreSQL's own limit XLogRecordMaxSize (1020 MiB), spanning any number of pages —,
trailing never-written pages, the whole file below 2^64)
whose page magic is XLOG_PAGE_MAGIC of one of PostgreSQL 12, 13, 14, 15, 16 (`Spec.Wal.pageMagics`, written from the
PostgreSQL side): ParseWALFile on the segment image (`encSegment`: records MAXALIGNed across 8 KiB pages, long header
on page 0 and short headers after, records split over page ends with FIRST_IS_CONTRECORD / rem_len including
continuations that fill whole pages, zero padding after the last record) reports every record of the segment, exactly
once and in order (`s.view`): at the log position of its first byte (segment start + 8192·page + offset in the page),
with the stored tot_len, xid, prev, info, rmid, crc and its block references (relation, fork, flags, block number) —
also when the record continues on the following pages, and when even its 24-byte header is split by the page
end; and the names it attaches are `rmgrName rmid` / `operationNameFor rmid info magic` (whose agreement with
PostgreSQL's names for that version is `C17_names`).
Explicit limits: the file holds its last record completely (`encSegment` always writes the pages that record needs; a
record that continues in the NEXT segment file is open finding C17-cross-segment-record: the tool reports it without
block references, or not at all when fewer than 24 of its bytes are in this file). -/
theorem C17_records (s : Spec.Wal.WalSegment) (hs : s.WF) (hm : s.magic ∈ Spec.Wal.pageMagics) :
    ∃ rs, parseWALFile (Spec.Wal.encSegment s) = .ok (some rs) ∧
      rs.map viewOfRecord = s.view ∧
      (∀ r ∈ rs, r.rmName = rmgrName r.rmid ∧ r.operation = operationNameFor r.rmid r.info s.magic) := by
  have hfit : s.startAddr + s.layout.bytes.length ≤ 2 ^ 64 := by
    rw [Proofs.WalEnc.layout_length]
    have := segWF_fits hs
    omega
  refine ⟨s.layout.placed.map (placedM s.magic), ?_, ?_, ?_⟩
  · rw [Proofs.WalEnc.encSegment_eq]; exact segment_records s hs hm hfit
  · rw [map_map_view, Proofs.WalEnc.layout_view]
  · intro r hr
    obtain ⟨p, _, rfl⟩ := List.mem_map.mp hr
    exact ⟨rfl, rfl⟩

/-- a segment at 1/23000000 that starts with 3 bytes of a record continued from the previous segment, holds one
heap insert with a block reference, and ends with a never-written page -/
def exampleSegment : Spec.Wal.WalSegment :=
  { magic := 0xD113, tli := 1, startAddr := 0x123000000, sysid := 7, segSize := 16777216, removable := false,
    pre := [1, 2, 3],
    records := [{ xid := 700, prev := 40, info := 0x00, rmid := 10, crc := 1,
                  blocks := [⟨0, 0, false, none, some [1, 2, 3], some ⟨1663, 5, 16384⟩, 7⟩], origin := none,
                  topXid := none, mainData := [5, 5, 5] }],
    tailPages := 1 }

example : exampleSegment.WF := by decide
example : exampleSegment.magic ∈ Spec.Wal.pageMagics := by decide

/-- the bound in `WalRecord.WF` is PostgreSQL's XLogRecordMaxSize, which is the tool's constant -/
example : Spec.Wal.xlogRecordMaxSize = 1069547520 ∧ xlogRecordMaxSize = Spec.Wal.xlogRecordMaxSize := by decide

/-- a record without block references whose total length is `n` (main data of the length that makes it so) -/
def longPlain (n rmid info xid : Nat) : Spec.Wal.WalRecord :=
  { xid := xid, prev := 40, info := info, rmid := rmid, crc := 1, blocks := [], origin := none, topXid := none,
    mainData := List.replicate (if n ≤ 281 then n - 26 else n - 29) 7 }

/-- the witness of finding C17-long-records, which fixes/wal/11 repairs (walseg boundary case 26): a 40-byte heap INSERT, a
16392-byte XLOG FPI record (longer than two pages hold: it starts on page 0, covers page 1 entirely and ends on page 2),
a heap DELETE, a COMMIT -/
def exampleLong : Spec.Wal.WalSegment :=
  { exampleSegment with
    pre := [],
    records := [longPlain 40 10 0x00 700, longPlain 16392 0 0xB0 0, longPlain 40 10 0x10 700, longPlain 40 1 0x00 700],
    tailPages := 0 }

example : exampleLong.WF ∧ exampleLong.records.map (·.totLen) = [40, 16392, 40, 40] ∧
    exampleLong.offsets.map (fun o => Spec.Wal.locate o) = [(0, 40), (0, 80), (2, 136), (2, 176)] := by decide +kernel

/-- what must be reported for `exampleSegment` is not empty: the record at 1/23000030 with its block reference -/
example : exampleSegment.view =
    [⟨0x123000030, 52, 700, 40, 0, 10, 1, [⟨0, 0, 0x20, some ⟨1663, 5, 16384⟩, 7⟩]⟩] := by decide +kernel

/-- the hypotheses of `C17_continuation` are satisfiable: three bytes of a record carried onto page 1 -/
example : exampleSegment.magic < 2 ^ 16 ∧ exampleSegment.tli < 2 ^ 32 ∧
    (Spec.Wal.align8 ([1, 2, 3] : Bytes).length + recsLen []) / 8 < 2 ∧
    exampleSegment.startAddr + 8192 * 1 + (Spec.Wal.layoutPages exampleSegment 2 1 [1, 2, 3] []).bytes.length ≤ 2 ^ 64 := by
  decide +kernel

/-- a segment whose second record (with a block reference) has its 24-byte header split by the end of page 0
(16 bytes on page 0) — the class of findings C17-straddling-header / C17-crosspage-blocks, which fixes/wal/04, 05 repair -/
def exampleStraddle : Spec.Wal.WalSegment :=
  { exampleSegment with
    pre := [],
    records := [{ xid := 700, prev := 40, info := 0x00, rmid := 10, crc := 1, blocks := [], origin := none, topXid := none,
                  mainData := List.replicate (8136 - 24 - 5) 7 },
                { xid := 700, prev := 40, info := 0x00, rmid := 10, crc := 1,
                  blocks := [⟨0, 0, false, none, some [1, 2, 3], some ⟨1663, 5, 16384⟩, 7⟩], origin := none,
                  topXid := none, mainData := [5, 5, 5] }],
    tailPages := 0 }

example : exampleStraddle.WF := by decide +kernel
example : exampleStraddle.offsets.map (fun o => (Spec.Wal.locate o).2) = [40, 8176] := by decide +kernel

/-- a PostgreSQL 13 segment (magic 0xD106: fixes/wal/06) whose record carries the ordinary full-page image of that version
(bimg_info 0x05 = HAS_HOLE|APPLY) -/
def examplePg13 : Spec.Wal.WalSegment :=
  { exampleSegment with
    magic := 0xD106,
    records := [{ xid := 700, prev := 40, info := 0x00, rmid := 10, crc := 1,
                  blocks := [⟨0, 0, false, some ⟨[9, 9, 9], 24, 0x05, none⟩, none, some ⟨1663, 5, 16384⟩, 7⟩], origin := none,
                  topXid := none, mainData := [5, 5, 5] }] }

example : examplePg13.WF ∧ examplePg13.magic ∈ Spec.Wal.pageMagics := by decide +kernel


/-- **Directory summary.**  For every directory content (any file names in any order, any file contents):
ScanWALDirectory returns a summary whose numbers are the tallies over `allRecords dir` = the records
ParseWALFile reports (see `C17_records`) for the files it selects (`C17_files`: exactly the names PostgreSQL gives
WAL segments), taken in byte order of the names.  (A record that continues in the next segment file is reported
from the bytes of its own file only — open finding C17-cross-segment-record — so `allRecords dir` misses its block
references, or the record, although the directory holds them.)
record count = number of those records; segment count = number of selected files ParseWALFile accepts;
per-operation count = number of records with that operation name; per-relation count = number of block
references (relation present, filenode ≠ 0) with that `db/rel` key; both maps have distinct keys;
the transaction list is strictly ascending in xid, contains exactly the non-zero xids that occur, and gives
for each its number of records and the verdict (COMMIT/ABORT) of its last transaction-manager record that
has one, else IN_PROGRESS. -/
theorem C17_summary (dir : Dir) : ∃ s, scanWALDirectory dir = .ok s ∧
    s.recordCount = (allRecords dir).length ∧
    s.segmentCount = acceptedCount dir (walFiles dir) ∧
    (∀ op, lookupD s.ops op = ((allRecords dir).map (·.operation)).count op) ∧
    (∀ key, lookupD s.tables key = ((allRecords dir).flatMap fun r => tableKeys r.blocks).count key) ∧
    (keys s.ops).Nodup ∧ (keys s.tables).Nodup ∧
    (s.transactions.map (·.xid)).Pairwise (· < ·) ∧
    (∀ x, x ∈ s.transactions.map (·.xid) ↔ x ≠ 0 ∧ ∃ r ∈ allRecords dir, r.xid = x) ∧
    (∀ t ∈ s.transactions, t.operations = (xidKeys (allRecords dir)).count t.xid ∧
      t.status = (lastVerdict (allRecords dir) t.xid).getD "IN_PROGRESS") := by
  obtain ⟨t, ht, ⟨h1, h2, h3, h4, h5⟩, hs⟩ := scanWALDirectory_eq dir
  obtain ⟨o1, _, o3⟩ := counted h1
  obtain ⟨b1, _, b3⟩ := counted h2
  obtain ⟨x1, x2, x3⟩ := counted h4
  have hperm := sortBy_perm (fun a b : Nat × Nat => decide (a.1 ≤ b.1)) t.txnOps
  -- the xids of the transaction list are the keys of the sorted per-transaction counts
  have hx : (summaryOf t).transactions.map (·.xid) = (sortBy (fun a b => decide (a.1 ≤ b.1)) t.txnOps).map (·.1) :=
    List.map_map
  refine ⟨_, ht, h3.trans (Nat.zero_add _), hs, o3, b3, o1, b1, hx ▸ sortBy_strict Prod.fst t.txnOps x1, fun x => ?_, ?_⟩
  · rw [hx, (hperm.map _).mem_iff, ← mem_xidKeys]
    exact x2 x
  · intro tx htx
    obtain ⟨e, he, rfl⟩ := List.mem_map.mp htx
    refine ⟨(lookupD_of_mem t.txnOps e.1 e.2 (hperm.mem_iff.mp he) x1).symm.trans (x3 e.1), ?_⟩
    show statusOf t.txnStatus e.1 = _
    rw [statusOf_eq, h5, foldl_status_lookup]
    simp [lookupS]

/-- **File selection.**  The files ScanWALDirectory and GetRecentWALRecords read are exactly the directory entries
whose name is a WAL segment file name as PostgreSQL defines it (IsXLogFileName: 24 upper-case hexadecimal digits —
`Spec.Wal.isSegmentName`), each once per occurrence, in ascending byte order of the names.  (fixes/wal/10: a name of 24
characters is not enough, `backup_of_segment_000001` below.) -/
theorem C17_files (dir : Dir) :
    (walFiles dir).Perm ((dir.map (·.1)).filter Spec.Wal.isSegmentName) ∧
    (∀ n, n ∈ walFiles dir ↔ n ∈ dir.map (·.1) ∧ Spec.Wal.isSegmentName n = true) ∧
    (walFiles dir).Pairwise (fun a b => a ≤ b) := by
  rw [← isWALSegmentName_eq]
  refine ⟨sortBy_perm _ _, fun n => ?_, strSorted _⟩
  unfold walFiles
  rw [(sortBy_perm strLe _).mem_iff]
  exact List.mem_filter

/-- **Regular files only (fixes/entry/04).**  For every list of `os.ReadDir` entries of pg_wal (any names, any kinds:
regular file, directory, symbolic link, FIFO, socket, device): the selection loop of ScanWALDirectory and
GetRecentWALRecords (`e.Type().IsRegular() && isWALSegmentName(name)`, then `sort.Strings`) selects exactly the names
of the entries that are regular files and carry a segment file name — WAL segments are regular files; an entry of
another kind is never opened, whatever its name — and the two functions are the functions of `C17_summary` /
`C17_recent` applied to the regular files (`regularFiles`). -/
theorem C17_regular_files (es : Entries) :
    walFilesOf es = walFiles (regularFiles es) ∧
    (∀ n, n ∈ walFilesOf es ↔ ∃ e ∈ es, e.name = n ∧ e.kind = .regular ∧ Spec.Wal.isSegmentName n = true) ∧
    scanWALDirectoryOf es = scanWALDirectory (regularFiles es) ∧
    (∀ limit, getRecentWALRecordsOf es limit = getRecentWALRecords (regularFiles es) limit) :=
  ⟨walFilesOf_eq es, isWALSegmentName_eq ▸ mem_walFilesOf es, rfl, fun _ => rfl⟩

/-- a FIFO, a directory and a symbolic link named like segments beside one regular segment: only the regular file is read -/
example : walFilesOf [⟨"000000010000000000000001", .fifo, []⟩, ⟨"000000010000000000000002", .regular, [1]⟩,
    ⟨"000000010000000000000003", .dir, []⟩, ⟨"000000010000000000000004", .symlink, [2]⟩, ⟨"archive_status", .dir, []⟩] =
    ["000000010000000000000002"] := by decide +kernel

example : Spec.Wal.isSegmentName "000000010000000000000001" = true ∧
    Spec.Wal.isSegmentName "backup_of_segment_000001" = false ∧
    Spec.Wal.isSegmentName "0000000200000000.history" = false ∧
    Spec.Wal.isSegmentName "00000001000000000000000a" = false := by decide +kernel

/-- **Verdict of an opcode.**  The verdict string the tool derives from its own operation names agrees with
PostgreSQL's opcodes, on pages of every version: for a transaction-manager record (rmid 1) with a non-zero header xid,
COMMIT iff the opcode is COMMIT or COMMIT_PREPARED, ABORT iff ABORT or ABORT_PREPARED, none otherwise — for all 256
info bytes.  (Which transaction the verdict is credited to: `C17_verdict_partial`.) -/
theorem C17_verdict : ∀ cls < 3, ∀ info < 256,
    verdict { totalLen := 24, xid := 1, prev := 0, info, rmid := 1, crc := 0, lsn := 0, rmName := rmgrName 1,
              operation := opNameIn (opRunsOf cls 1) info, blocks := [] } = Spec.Wal.xactStatus 1 info :=
  fun cls _ info hi => (verdict_xact _ Nat.one_ne_zero rfl).trans (nameVerdict_xact cls info hi)

/-- the (transaction, verdict) pairs the tool's tally takes from one reported record: the header xid, when not 0 -/
def toolCredits (rec : Record) : List (Nat × String) :=
  match verdict rec with
  | some v => [(rec.xid, v)]
  | none => []

/-- the (transaction, verdict) pairs PostgreSQL's record gives (`Spec.Wal.decidedXids`: the header's transaction for
COMMIT / ABORT, the prepared transaction named in the body for COMMIT_PREPARED / ABORT_PREPARED, plus the
subtransactions listed in the body), transaction id 0 (none) left out -/
def specCredits (r : Spec.Wal.WalRecord) : List (Nat × String) :=
  match Spec.Wal.xactStatus r.rmid r.info with
  | some v => ((Spec.Wal.decidedXids r).filter (· != 0)).map (·, v)
  | none => []

/-- **Whose verdict — partial.**  For every transaction-manager record (rmid 1, info < 256) on a page of any version
whose body names no transaction other than the one of its header (`hd`: no subtransactions, not the end of a
prepared transaction — for COMMIT_PREPARED / ABORT_PREPARED PostgreSQL writes the header xid 0 and names the
transaction in the body), the tool credits the verdict to exactly the transactions PostgreSQL's record decides.
What is missing (open finding C17-prepared-xid): without `hd` the tool still credits the header xid only, so a
transaction ended by COMMIT PREPARED / ROLLBACK PREPARED and every committed or aborted subtransaction stays
IN_PROGRESS in the directory summary (`exampleCommitPrepared` below). -/
theorem C17_verdict_partial (r : Spec.Wal.WalRecord) (magic lsn : Nat) (blocks : List BlockRef)
    (hr : r.rmid = 1) (hi : r.info < 256)
    (hd : (Spec.Wal.decidedXids r).filter (· != 0) = if r.xid = 0 then [] else [r.xid]) :
    toolCredits (recM magic lsn r blocks) = specCredits r := by
  unfold toolCredits specCredits
  rw [hd, hr]
  by_cases hx : r.xid = 0
  · have hv : verdict (recM magic lsn r blocks) = none := by
      unfold verdict recM
      simp [hx]
    rw [hv, if_pos hx]
    cases Spec.Wal.xactStatus 1 r.info <;> rfl
  · have hv : verdict (recM magic lsn r blocks) = Spec.Wal.xactStatus 1 r.info := by
      rw [verdict_xact _ hx hr, ← nameVerdict_xact (opClass magic) r.info hi, ← hr]
      rfl
    rw [hv, if_neg hx]
    cases Spec.Wal.xactStatus 1 r.info <;> rfl

/-- a COMMIT PREPARED as PostgreSQL writes it: header xid 0, the prepared transaction 700 in xl_xact_twophase -/
def exampleCommitPrepared : Spec.Wal.WalRecord :=
  { xid := 0, prev := 40, info := 0x30 + 0x80, rmid := 1, crc := 1, blocks := [], origin := none, topXid := none,
    mainData := Spec.Wal.encXactEnd ⟨7, [], some 700⟩ }

/-- the hypothesis `hd` fails on it, and so does the conclusion: PostgreSQL's record commits transaction 700, the tool
credits nobody (finding C17-prepared-xid) -/
example : Spec.Wal.decidedXids exampleCommitPrepared = [700] ∧ specCredits exampleCommitPrepared = [(700, "COMMIT")] ∧
    toolCredits (recM 0xD113 0 exampleCommitPrepared []) = [] := by decide +kernel

/-- `hd` holds for an ordinary COMMIT (header xid 700, body without xinfo) -/
example : (Spec.Wal.decidedXids { exampleCommitPrepared with xid := 700, info := 0x00, mainData := Spec.Wal.encXactEnd ⟨7, [], none⟩ }).filter
    (· != 0) = [700] := by decide +kernel

/-- **Recent records.**  For every directory content and every limit ≥ 0, GetRecentWALRecords returns the
last `limit` records of `allRecords dir` (all of them when there are fewer), in order. -/
theorem C17_recent (dir : Dir) (limit : Nat) :
    getRecentWALRecords dir (limit : Int) = .ok (takeLast limit (allRecords dir)) :=
  getRecentWALRecords_eq dir limit

end PgVerif.Props.C17
