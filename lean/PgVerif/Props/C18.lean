/-
  C18 — index files are classified and their page metadata reported exactly.
  Property theorems only; helper lemmas are in Proofs/Index*.lean.

  Spec side (Spec/Index.lean): an index file (any segment of it) = an access method, a list of 8 KiB pages — each with the
  page header fields (pd_lsn as {xlogid, xrecoff}, pd_lower, pd_upper, pd_special = 8192 − size of the method's special
  space), opaque body bytes and the method's opaque struct (btree 16, hash 16, gist 16, gin 8, spgist 8, brin 8 bytes) —, the
  metapage contents at offset 24 of block 0 when block 0 is flagged as the metapage (btree, hash, gin), and a trailing
  partial block.  Block 0 may be any page of the method.  `Spec.Index.fileView` is what a correct tool reports.

  Model side (Model/Index.lean): pgdump/index.go after fixes/index/01…09 (the code before them: Model/IndexOrig.lean;
  its failures on concrete pages: Proofs/IndexDefects.lean).

  `code am` is the tool's enum value of an access method (1 … 6); `C18_type_names` ties the numbering to PostgreSQL's names.
-/
import PgVerif.Proofs.IndexFile
namespace PgVerif.Props.C18
open PgVerif PgVerif.Model.Index PgVerif.Spec.Index PgVerif.Proofs PgVerif.Proofs.Index

/-- IndexType.String gives the six access methods PostgreSQL's names (`pg_am.amname`), in the tool's numbering. -/
theorem C18_type_names : ∀ am, typeString (code am) = am.name := by
  intro am; cases am <;> decide

/-- Classification: for every well-formed index file of any of the six access methods — any number of pages, block 0 a
metapage or any other page of the method, any flag words, links, levels, any B-tree cycle id up to MAX_BT_CYCLE_ID, any
trailing partial block — ParseIndexFile succeeds, reports the file's access method (number and name) and its page count. -/
theorem C18_classify (f : File) (h : f.WF) :
    ∃ r, parseIndexFile (encFile f) = .ok (some r) ∧ r.type = code f.am ∧ r.typeString = f.am.name ∧
      r.totalPages = f.pages.length ∧ r.pages.length = f.pages.length := by
  refine ⟨expectInfo f, parseIndexFile_enc f h, rfl, C18_type_names f.am, rfl, ?_⟩
  exact expect_length f.pages 0

/-- Pages: the report has one record per page, in file order; read as a `PageView` (Go `int` fields are non-negative) record
`i` equals the Spec's view of page `i`: page number, flag word, meta/leaf/root/deleted bits, level (hash: bucket number of a
bucket page), previous/next (btree, hash) or right link (gist, gin), item count (`Spec.Index.itemCountOf`: the number of line
pointers (pd_lower − 24)/4 on pages that have a line pointer array; 0 on metapages, hash bitmap pages and BRIN range-map pages;
`maxoff` on GIN posting-tree pages), free space (pd_upper − pd_lower), LSN = xlogid·2^32 + xrecoff and its `%X/%X` text; every
record carries the file's access method. -/
theorem C18_pages (f : File) (h : f.WF) :
    ∃ r, parseIndexFile (encFile f) = .ok (some r) ∧ r.pages.map (viewOf f.am) = (fileView f).pages ∧
      ∀ pi ∈ r.pages, pi.indexType = code f.am ∧ pi.typeString = f.am.name ∧ 0 ≤ pi.itemCount ∧ 0 ≤ pi.freeSpace := by
  refine ⟨expectInfo f, parseIndexFile_enc f h, map_expect f.am f.pages h.1 0, fun pi hpi => ?_⟩
  obtain ⟨x, hx, rfl⟩ := List.mem_map.mp (show pi ∈ expectPagesFrom 0 f.pages from hpi)
  obtain ⟨hw, ha⟩ := h.1 x.1 (List.fst_mem_of_mem_zipIdx hx)
  have hv := viewOf_expect x.1 hw x.2
  exact ⟨ha ▸ (expectPage_type _ _).1, by rw [← ha, ← C18_type_names]; exact (expectPage_type _ _).2, hv.2.1, hv.2.2⟩

/-- The table behind the names: every (mask, name) pair of the tool's flag-name lists (generated from the code by execution)
is a single bit of the 16-bit flag word and the name is PostgreSQL's for that bit of that access method. -/
theorem C18_name_table : ∀ am ∈ AM.all, ∀ e ∈ flagTable (code am),
    ∃ k ∈ List.range 16, e.1 = 2 ^ k ∧ shortFlagName am k = some e.2 := by
  intro am ham e he
  obtain ⟨e', he', rfl⟩ := (mem_flagTable am e).mp he
  exact ⟨e'.1, List.mem_range.mpr ((pgFlagNames_keys am ham).2 e' he'), rfl, (shortFlagName_eq_some ..).mpr ⟨e'.2, he', rfl⟩⟩

/-- … and the table is complete with respect to PostgreSQL's: every flag bit PostgreSQL defines for an access method
(`Spec.Index.pgFlagNames` — 9 B-tree, 8 hash, 5 GiST, 8 GIN, 4 SP-GiST bits, 1 BRIN bit) has its (mask, name) entry. -/
theorem C18_name_table_complete : ∀ am ∈ AM.all, ∀ e ∈ pgFlagNames am,
    (2 ^ e.1, shortName am e.2) ∈ flagTable (code am) := fun am _ e he => (mem_flagTable am _).mpr ⟨e, he, rfl⟩

/-- Flag names: for every page, a name is in the reported list EXACTLY when it is PostgreSQL's name (`Spec.Index.pgFlagNames`:
btpo_flags BTP_*, hasho_flag LH_* including the four state bits, GiST F_*, GIN_*, SPGIST_*, BRIN_EVACUATE_PAGE; printed without the
per-method macro prefix and, for the four hash page-type bits, without `_PAGE`) of a bit that is set in the page's flag word.
No bit PostgreSQL defines stays silent, no name is printed for a clear or undefined bit.  (The order of the list is not part of
the statement — nor of the property.) -/
theorem C18_flag_names (f : File) (h : f.WF) :
    ∃ r, parseIndexFile (encFile f) = .ok (some r) ∧ r.pages.length = f.pages.length ∧
      ∀ x ∈ r.pages.zip f.pages, NamesOK f.am x.2.op.flags x.1.flagStrings := by
  refine ⟨expectInfo f, parseIndexFile_enc f h, expect_length f.pages 0, fun x hx => ?_⟩
  obtain ⟨k, hk⟩ := List.mem_iff_getElem?.mp hx
  obtain ⟨h1, h2⟩ := List.getElem?_zip_eq_some.mp hk
  rw [show (expectInfo f).pages = expectPagesFrom 0 f.pages from rfl, expect_getElem?, h2] at h1
  rw [← Option.some.inj h1, expect_flagStrings, (h.1 _ (List.mem_of_getElem? h2)).2]
  exact namesOK_flagStrings _ _

/-- Metapages: the reported metapage equals the stored one — btree (magic, version, root, level, fastroot, fastlevel), hash
(magic, version, maxbucket and maxbucket+1 buckets, highmask, lowmask, ffactor, ntuples as IEEE bits), gin (version, pending
head/tail/tail free size/pages/heap tuples, total/entry/data pages, entries) —, nil when block 0 is not a metapage (or the
method is gist/spgist/brin), and RootPage / Levels are the B-tree metapage's root and level (0 otherwise). -/
theorem C18_meta (f : File) (h : f.WF) :
    ∃ r, parseIndexFile (encFile f) = .ok (some r) ∧ r.metaInfo.map metaViewOf = (fileView f).metaPage ∧
      r.rootPage = (fileView f).rootPage ∧ r.levels = (fileView f).levels := by
  refine ⟨expectInfo f, parseIndexFile_enc f h, ?_⟩
  simp only [expectInfo, fileView, Option.map_map]
  cases f.metaPage with
  | none => exact ⟨rfl, rfl, rfl⟩
  | some m => cases m <;> exact ⟨rfl, rfl, rfl⟩

/-- No confusion, part 1 — the decision is a function of the page trailer: on ANY two 8192-byte pages (no well-formedness)
that agree on pd_special (at one of the two real special-space sizes), on their last 16 bytes and on the first word after
the page header, detectIndexType gives the same answer. -/
theorem C18_no_confusion_depends (a b : Bytes) (ha : a.length = 8192) (hb : b.length = 8192)
    (hs : rd 2 (a.drop 16) = 8176 ∨ rd 2 (a.drop 16) = 8184) (e1 : rd 2 (a.drop 16) = rd 2 (b.drop 16))
    (e2 : a.drop 8176 = b.drop 8176) (e3 : rd 4 (a.drop 24) = rd 4 (b.drop 24)) :
    detectIndexType a = detectIndexType b := by
  rw [detect_fn a ha hs, detect_fn b hb (e1 ▸ hs), e1, e2, e3]

/-- No confusion, part 2 — ONE direction only: on ANY 8192-byte page whose pd_special is 8176 or 8184, IF the Spec's decision
procedure `classify` (a function of pd_special, the last 16 bytes and the first meta word: page ids 0xFF80/0xFF81 and B-tree
cycle ids ≤ 0xFF7F behind a 16-byte special space, 0xFF82, the BRIN page types and the eight GIN flag bits behind an 8-byte
one) names an access method, THEN detectIndexType returns that method.  This covers every trailer that carries the signature of
one of PostgreSQL's methods (exhaustively, not sampled), which is what the property quantifies over.  It says NOTHING about
trailers on which `classify` is `none` (pages of no PostgreSQL index): there the tool may still name a method
(`C18_no_confusion_converse_fails`), so "the tool agrees with the Spec on every possible trailer" is NOT a theorem. -/
theorem C18_no_confusion (page : Bytes) (hl : page.length = 8192)
    (hs : rd 2 (page.drop 16) = 8176 ∨ rd 2 (page.drop 16) = 8184) (am : AM)
    (hc : classify (rd 2 (page.drop 16)) (page.drop 8176) (rd 4 (page.drop 24)) = some am) :
    detectIndexType page = .ok (code am) := by
  rw [detect_fn page hl hs, detectFn_classify _ _ _ _ hc]

/-- The converse of part 2 does not hold, and is not claimed: there are trailers that no PostgreSQL index page has (`classify`
= none) on which the tool nevertheless names a method — an 8-byte special space whose last word 0x0108 has an undefined GIN
bit, and a 16-byte special space ending in the SP-GiST page id 0xFF82 (the pd_special and last word of the page that the
repository's test TestDetectIndexTypeSPGiST builds and expects SP-GiST for). -/
theorem C18_no_confusion_converse_fails :
    (∃ page : Bytes, page.length = 8192 ∧ rd 2 (page.drop 16) = 8184 ∧
      classify (rd 2 (page.drop 16)) (page.drop 8176) (rd 4 (page.drop 24)) = none ∧
      (match detectIndexType page with | .ok t => t | .error _ => 0) = 4) ∧
    (∃ page : Bytes, page.length = 8192 ∧ rd 2 (page.drop 16) = 8176 ∧
      classify (rd 2 (page.drop 16)) (page.drop 8176) (rd 4 (page.drop 24)) = none ∧
      (match detectIndexType page with | .ok t => t | .error _ => 0) = 5) := by
  obtain ⟨al, a16, a76, a24⟩ := trailerPage_reads 8184 (by decide) (zeros 14 ++ le 2 0x0108) rfl
  obtain ⟨bl, b16, b76, b24⟩ := trailerPage_reads 8176 (by decide) (zeros 14 ++ le 2 0xFF82) rfl
  refine ⟨⟨_, al, a16, ?_, ?_⟩, ⟨_, bl, b16, ?_, ?_⟩⟩
  · rw [a16, a76, a24]; decide
  · rw [detect_fn _ al (Or.inr a16), a16, a76, a24]; decide
  · rw [b16, b76, b24]; decide
  · rw [detect_fn _ bl (Or.inl b16), b16, b76, b24]; decide

/-- No confusion, part 3 (Spec side) — `classify` is right about PostgreSQL's pages: it names the access method of every
well-formed page of every method (a B-tree page flagged BTP_META carrying BTREE_MAGIC).  Being a function, it thereby shows
that no two methods share a trailer. -/
theorem C18_classify_spec (p : Page) (h : p.WF) (hm : MagicOK p) :
    classify p.special ((encPage p).drop 8176) (rd 4 ((encPage p).drop 24)) = some p.op.am :=
  classify_enc p h hm

/-! ### non-vacuity -/

/-- a two-page B-tree file — metapage (root = block 1, one level) and a leaf root page with three items — satisfies `File.WF`;
its view has two pages, a metapage and root page 1 -/
example :
    let m : Meta := .btree { version := 4, root := 1, level := 0, fastroot := 1, fastlevel := 0 }
    let p0 : Page := { xlogid := 0, xrecoff := 0x1000, checksum := 0, pdflags := 0, lower := 72, upper := 8176, psv := 8196, prune := 0,
                       body := encMeta m ++ zeros (8152 - 24), op := .btree 0 0 0 8 0 }
    let p1 : Page := { xlogid := 1, xrecoff := 0x2000, checksum := 0, pdflags := 0, lower := 36, upper := 8000, psv := 8196, prune := 0,
                       body := zeros 8152, op := .btree 0 0 0 3 0xFF7F }
    let f : File := { am := .btree, pages := [p0, p1], metaPage := some m, tail := [1, 2, 3] }
    f.WF ∧ (fileView f).pages.length = 2 ∧ (fileView f).rootPage = 1 ∧ ((fileView f).pages.map (·.itemCount)) = [0, 3] := by
  intro m p0 p1 f
  have w0 : p0.WF :=
    wf_of_hdr _ (by decide) (by show (encMeta m ++ zeros (8152 - 24)).length = _; rw [List.length_append, zeros_length]; rfl)
  have w1 : p1.WF := wf_of_hdr _ (by decide) (zeros_length _)
  refine ⟨⟨?_, by decide, by decide, by decide⟩, by decide, by decide, by decide⟩
  intro p hp
  simp only [f, List.mem_cons, List.not_mem_nil, or_false] at hp
  rcases hp with rfl | rfl
  · exact ⟨w0, rfl⟩
  · exact ⟨w1, rfl⟩

/-- a GIN file whose block 0 is an entry-tree leaf page (no metapage) and a BRIN revmap page are well-formed too -/
example :
    let g : Page := { xlogid := 0, xrecoff := 8, checksum := 0, pdflags := 0, lower := 24, upper := 8184, psv := 8196, prune := 0,
                      body := zeros 8160, op := .gin 0xFFFFFFFF 0 2 }
    let b : Page := { g with op := .brin 0 0 1 0xF092 }
    (File.WF { am := .gin, pages := [g], metaPage := none, tail := [] }) ∧
    (File.WF { am := .brin, pages := [b, b], metaPage := none, tail := [] }) ∧ MagicOK g := by
  intro g b
  have wg : g.WF := wf_of_hdr _ (by decide) (zeros_length _)
  have wb : b.WF := wf_of_hdr _ (by decide) (zeros_length _)
  refine ⟨⟨?_, by decide, by decide, by decide⟩, ⟨?_, by decide, by decide, by decide⟩, magicOK_of_not_btree _ (by decide)⟩
  · intro p hp; rw [List.mem_singleton] at hp; subst hp; exact ⟨wg, rfl⟩
  · intro p hp; simp only [List.mem_cons, List.not_mem_nil, or_false, or_self] at hp; subst hp; exact ⟨wb, rfl⟩

/-- item counts from PostgreSQL's side: a GIN entry-tree leaf page with three line pointers and maxoff 0 holds 3 items; a GIN
posting-tree page with maxoff 7 holds 7 (its pd_lower does not count); a GIN metapage, a hash bitmap page and a BRIN range-map
page hold none -/
example :
    let g : Page := { xlogid := 0, xrecoff := 8, checksum := 0, pdflags := 0, lower := 36, upper := 8184, psv := 8196, prune := 0,
                      body := zeros 8160, op := .gin 0xFFFFFFFF 0 2 }
    itemCountOf g = 3 ∧ itemCountOf { g with op := .gin 5 7 1 } = 7 ∧ itemCountOf { g with op := .gin 5 7 8 } = 0 ∧
    itemCountOf { g with op := .hash 0 0 0 4 } = 0 ∧ itemCountOf { g with op := .brin 0 0 0 0xF092 } = 0 ∧
    itemCountOf { g with op := .brin 0 0 0 0xF093 } = 3 := by decide

/-- the hypotheses of `C18_no_confusion` are satisfiable by trailers of every method: the Spec's decision on six trailers; a
seventh, flagged BTP_META without BTREE_MAGIC in the first word, is no index page (`none`) -/
example :
    classify 8176 (zeros 12 ++ le 2 8 ++ le 2 0xFF7F) 0x053162 = some .btree ∧
    classify 8176 (zeros 14 ++ le 2 0xFF80) 0 = some .hash ∧ classify 8176 (zeros 14 ++ le 2 0xFF81) 0 = some .gist ∧
    classify 8184 (zeros 14 ++ le 2 0x00FF) 0 = some .gin ∧ classify 8184 (zeros 14 ++ le 2 0xFF82) 0 = some .spgist ∧
    classify 8184 (zeros 14 ++ le 2 0xF093) 0 = some .brin ∧ classify 8176 (zeros 12 ++ le 2 8 ++ le 2 0) 0 = none := by
  decide +kernel

end PgVerif.Props.C18
