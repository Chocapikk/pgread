/-
  C19 — block addressing and checksum accounting are exact and complete.
  The property theorems; helper lemmas are in Proofs/Block.lean, BlockRead.lean, BlockGrammar.lean,
  SegmentMulti.lean, SegmentPath.lean, ChecksumAcct.lean, ChecksumScan.lean, ChecksumDirSpec.lean, PgChecksum.lean.  The models are those of the repaired code
  (/verif/fixes/block 01–11).  Files are the `fs` parameter (a file = its bytes, `none` = cannot be
  opened); `hex.Dump` and the checksum function are parameters.

  The accounting theorems hold for any checksum function `ck`; the last section shows that the tool's own function
  (fix 11) is PostgreSQL's `pg_checksum_page`, so that the verdicts are PostgreSQL's (`C19_checksum_postgres`,
  `C19_verdict_postgres`; finding `C19-checksum-not-postgres`).
-/
import PgVerif.Proofs.BlockRead
import PgVerif.Proofs.BlockGrammar
import PgVerif.Proofs.SegmentMulti
import PgVerif.Proofs.ChecksumScan
import PgVerif.Proofs.SegmentPath
import PgVerif.Proofs.PgChecksum
import PgVerif.Proofs.ChecksumDirSpec
namespace PgVerif.Props.C19
open PgVerif PgVerif.Model PgVerif.Proofs.Block PgVerif.Proofs.BlockGrammar PgVerif.Proofs.SegmentMulti
  PgVerif.Proofs.ChecksumAcct PgVerif.Proofs.SegmentPath
open PgVerif.Spec.BlockAddr

/-! ## the range grammar -/

/-- For EVERY byte string: the empty string means "no range" (nil); a string of the grammar
`a | a:b | a: | :b` (decimal digits only, numbers below 2^63, a ≤ b) is accepted with exactly the numbers it
denotes (−1 = open side); every other string is rejected with an error — never a panic, never a range. -/
theorem C19_grammar (s : Bytes) :
    (s = [] → parseBlockRange s = .ok (.ok none)) ∧
    (∀ a b, rangeSyntax s = some (a, b) → parseBlockRange s = .ok (.ok (some ⟨a, b⟩))) ∧
    (s ≠ [] → rangeSyntax s = none → ∃ e, parseBlockRange s = .ok (.error e)) :=
  ⟨fun h => h ▸ parseBlockRange_empty, fun a b h => parseBlockRange_accepts s a b h,
   fun hs h => parseBlockRange_rejects s hs h⟩

/-- The grammar itself, declaratively: `rangeSyntax` accepts exactly `a`, `a:b` with a ≤ b, `a:` and `:b`
where a, b are non-empty strings of decimal digits (value < 2^63). -/
theorem C19_grammar_language (s : Bytes) (a b : Int) : rangeSyntax s = some (a, b) ↔
    (∃ n, number s = some n ∧ a = n ∧ b = n) ∨
    (∃ l r n m, s = l ++ 58 :: r ∧ number l = some n ∧ number r = some m ∧ n ≤ m ∧ a = n ∧ b = m) ∨
    (∃ l n, s = l ++ [58] ∧ number l = some n ∧ a = n ∧ b = -1) ∨
    (∃ r m, s = 58 :: r ∧ number r = some m ∧ a = -1 ∧ b = m) :=
  rangeSyntax_iff s a b

/-- non-vacuity: "12:34" is in the grammar, ":" and "+5" are not -/
example : rangeSyntax [49, 50, 58, 51, 52] = some (12, 34) ∧ rangeSyntax [58] = none ∧ rangeSyntax [43, 53] = none := by
  decide

/-! ## ReadBlockRange -/

/-- For EVERY file content (any byte string shorter than 2^62: the read is `io.ReadFull`, fix 10, so the 1 GiB limit of
a single `Read` does not cut the result) and every request: ReadBlockRange resolves
the request against `len / 8192` blocks as documented (start defaults to 0, stop to the last block and is
clamped to it; a start at or beyond the end → "beyond" error; start > stop → "invalid range" error) and
returns exactly the bytes [8192·a, 8192·(b+1)) — nothing of a partial tail, nothing else. -/
theorem C19_read_bytes (f : Bytes) (hlen : f.length < 2 ^ 62) (r : Option (Int × Int)) :
    readBlockRange (some f) (toRange r) = .ok (
      match resolve r (f.length / 8192) with
      | .error e => .error (rejectErr e)
      | .ok (a, b) => .ok ((f.drop (a * 8192)).take ((b - a + 1) * 8192))) := by
  rw [readBlockRange_bytes f hlen r]
  cases resolve r (f.length / 8192) with
  | error e => rfl
  | ok p => rfl

/-- On a relation file (blocks ++ partial tail): exactly the requested blocks, in order. -/
theorem C19_read (f : RelFile) (hwf : f.WF) (hn : f.blocks.length ≤ 2 ^ 32) (r : Option (Int × Int)) :
    readBlockRange (some (encFile f)) (toRange r) = .ok (
      match selectBlocks f r with
      | .error e => .error (rejectErr e)
      | .ok (_, bs) => .ok (bs.flatMap encBlock)) := by
  rw [readBlockRange_enc f hwf (encFile_small f hwf hn) r]
  cases selectBlocks f r with
  | error e => rfl
  | ok p => rfl

/-- a file that cannot be opened is an error, whatever the request -/
theorem C19_read_missing (r : Option BlockRange) : readBlockRange none r = .ok (.error .osOpen) := rfl

/-! ## DumpBlockRange, DumpBinaryRange, GetBlockRangeStats -/

/-- DumpBlockRange labels block `i` of the selection with `first + i` (its number in the file) and
reports the header fields as stored: LSN = xlogid·2^32 + xrecoff, checksum, flags, lower, upper, special,
page size and version (the two halves of pd_pagesize_version), item count (lower − 24)/4, free space
upper − lower; an all-zero block is reported as empty with every field zero. -/
theorem C19_info (f : RelFile) (hwf : f.WF) (hn : f.blocks.length ≤ 2 ^ 32) (r : Option (Int × Int)) :
    dumpBlockRange (some (encFile f)) (toRange r) = .ok (
      match selectBlocks f r with
      | .error e => .error (rejectErr e)
      | .ok (first, bs) => .ok ((infoViews first bs).map infoOfView)) := by
  unfold dumpBlockRange
  rw [readBlockRange_enc f hwf (encFile_small f hwf hn) r]
  cases hs : selectBlocks f r with
  | error e => rfl
  | ok p =>
    obtain ⟨first, bs⟩ := p
    obtain ⟨h1, h2, h3⟩ := selectBlocks_ok f r first bs hs
    have hbs : ∀ b ∈ bs, b.WF := fun b hb => hwf.1 b (h3 b hb)
    simp only [selectResult, ok_bind, rangeStart_toRange, ← h1, dumpBlocks_enc first bs hbs (by omega), pure_eq_ok]

/-- DumpBinaryRange: number `first + i`, byte offset 8192·(first + i), size 8192, and `hex.Dump` applied to
exactly the block's bytes (for any function `hexDump`). -/
theorem C19_hex {α} (hexDump : Bytes → α) (f : RelFile) (hwf : f.WF) (hn : f.blocks.length ≤ 2 ^ 32)
    (r : Option (Int × Int)) :
    dumpBinaryRange hexDump (some (encFile f)) (toRange r) = .ok (
      match selectBlocks f r with
      | .error e => .error (rejectErr e)
      | .ok (first, bs) => .ok ((dumpViews first bs).map fun d => ⟨d.number, (d.offset : Int), hexDump d.bytes, 8192⟩)) := by
  unfold dumpBinaryRange
  rw [readBlockRange_enc f hwf (encFile_small f hwf hn) r]
  cases hs : selectBlocks f r with
  | error e => rfl
  | ok p =>
    obtain ⟨first, bs⟩ := p
    obtain ⟨h1, h2, h3⟩ := selectBlocks_ok f r first bs hs
    have hbs : ∀ b ∈ bs, b.WF := fun b hb => hwf.1 b (h3 b hb)
    simp only [selectResult, ok_bind, rangeStart_toRange, ← h1, dumpBinaryBlocks_enc hexDump first bs hbs (by omega),
      pure_eq_ok]

/-- DumpBinaryBlock rejects a negative block number (fix 03) and otherwise is the one-block range. -/
theorem C19_hex_one {α} (hexDump : Bytes → α) (file : Option Bytes) (n : Int) :
    (n < 0 → dumpBinaryBlock hexDump file n = .ok (.error .negative)) ∧
    (0 ≤ n → dumpBinaryBlock hexDump file n =
      match readBlockRange file (some ⟨n, n⟩) with
      | .error f => .error f
      | .ok (.error e) => .ok (.error e)
      | .ok (.ok data) => .ok (.ok ⟨ofSigned 32 n, wrap64 (n * 8192), hexDump data, data.length⟩)) := by
  constructor
  · intro h; unfold dumpBinaryBlock; simp [h]
  · intro h
    unfold dumpBinaryBlock
    have : ¬ n < 0 := by omega
    simp only [this, if_false]
    cases readBlockRange file (some ⟨n, n⟩) with
    | error f => rfl
    | ok res => cases res <;> rfl

/-- GetBlockRangeStats is the tally over the summaries of C19_info: count, first and last number,
empty / used blocks, total items, total free space, and the fill ratio's numerator and denominator. -/
theorem C19_stats (f : RelFile) (hwf : f.WF) (hn : f.blocks.length ≤ 2 ^ 32) (r : Option (Int × Int)) :
    getBlockRangeStats (some (encFile f)) (toRange r) = .ok (
      match selectBlocks f r with
      | .error e => .error (rejectErr e)
      | .ok (first, bs) => .ok (statsOfView (statsView (infoViews first bs)))) := by
  unfold getBlockRangeStats
  rw [C19_info f hwf hn r]
  cases selectBlocks f r with
  | error e => rfl
  | ok p =>
    obtain ⟨first, bs⟩ := p
    simp only [ok_bind, pure_eq_ok, blockStats_views]

/-- non-vacuity of the hypotheses of C19_read … C19_stats: a two-block file with a partial tail -/
example : (⟨[zeroBlock, ⟨⟨1, 2, 3, 0, 28, 8000, 8192, 8196, 0⟩, zeros 8168⟩], [1, 2, 3]⟩ : RelFile).WF := by
  refine ⟨?_, by decide⟩
  intro b hb
  simp only [List.mem_cons, List.mem_nil_iff, or_false] at hb
  rcases hb with rfl | rfl <;> exact ⟨by decide, by simp [zeroBlock]⟩

/-! ## segments -/

/-- Segment arithmetic: for every global block number g ≥ 0 and every segment size of at least one block,
GlobalBlockToSegment returns (g / bps, g % bps) with bps = segmentSize / 8192 blocks per segment. -/
theorem C19_seg (g sz : Nat) (h : 8192 ≤ sz) :
    globalBlockToSegment g sz = .ok (((segmentOf g (sz / 8192)).1 : Int), ((segmentOf g (sz / 8192)).2 : Int)) := by
  have hbps : Int.tdiv (sz : Int) 8192 = ((sz / 8192 : Nat) : Int) := (Int.ofNat_tdiv sz 8192).symm
  rw [globalBlockToSegment_eq, if_neg (by omega), hbps, ← Int.ofNat_tdiv, ← Int.ofNat_tmod]
  rfl

/-- A non-positive segment size means the default (1 GiB = 131072 blocks per segment).  Stated for `sz ≤ 0`; the model takes the
default for every `sz < 8192`: `globalBlockToSegment_eq`. -/
theorem C19_seg_default (g : Nat) (sz : Int) (h : sz ≤ 0) :
    globalBlockToSegment g sz = .ok (((g / 131072 : Nat) : Int), ((g % 131072 : Nat) : Int)) := by
  have hbps : defaultSegmentSize.tdiv 8192 = ((131072 : Nat) : Int) := by decide
  rw [globalBlockToSegment_eq, if_pos (by omega), hbps, ← Int.ofNat_tdiv, ← Int.ofNat_tmod]

/-- GetSegmentNumberFromPath: a file name `<stem>.<digits>` (in any directory) carries segment number
`<digits>`; a file name without '.' is segment 0. -/
theorem C19_seg_path (dir stem ds : Bytes) (hd : IsDirPrefix dir) (hs : (47 : UInt8) ∉ stem) :
    (ds ≠ [] → ds.all isDigit = true → digitsVal ds < 2 ^ 63 →
      getSegmentNumberFromPath (dir ++ stem ++ 46 :: ds) = (digitsVal ds : Int)) ∧
    ((46 : UInt8) ∉ stem → stem ≠ [] → getSegmentNumberFromPath (dir ++ stem) = 0) :=
  ⟨fun h1 h2 h3 => segmentNumber_suffix dir stem ds hd hs h1 h2 h3,
   fun h1 h2 => segmentNumber_plain dir stem hd hs h1 h2⟩

/-- ListSegments on a relation whose segment files base, base.1, …, base.(n−1) all exist (1 ≤ n ≤ 1000):
one entry per file, in order, entry i = segment number i, its size, its whole blocks, global offset i GiB. -/
theorem C19_list (files : List Bytes) (h0 : 0 < files.length) (h1 : files.length ≤ 1000) :
    listSegments (files.map some) = (List.range files.length).map fun i => segEntry i (files[i]?.getD []) :=
  listSegments_all files h0 h1

/-- … and whatever exists beyond the first missing file `base.k` is not listed: the paths are 1, …, k−1 (or up to the budget). -/
theorem C19_list_gap (fs : SegFS) (k : Nat) (h1 : 1 ≤ k) (hk : fs.file k = none)
    (hall : ∀ j, 1 ≤ j → j < k → fs.file j ≠ none) :
    (listMore fs 999 1).map (·.path) = List.range' 1 (min 999 (k - 1)) :=
  listMore_gap fs k hk 999 1 h1 hall

/-- ReadSegmentBlock delivers block n of segment file i exactly when that file has such a block. -/
theorem C19_segblock (rel : Relation) (hwf : ∀ f ∈ rel, f.WF) (hsm : SmallFiles rel)
    (i : Nat) (hi : i < rel.length) (p : Int) (n : Nat) (opts : Option SegmentOptions) :
    readSegmentBlock (relFS rel) i p (n : Int) opts =
      if h : n < (rel[i]).blocks.length then .ok (encBlock (rel[i]).blocks[n]) else .error .segBeyond :=
  readSegmentBlock_spec rel hwf hsm i hi p n opts

/-- ReadMultiSegmentFile, any segment size of at least one block (explicit, default, or defaulted): the
concatenation of global blocks a, a+1, …, b — global block g being block g % bps of segment file g / bps —
up to the first one that is not there (missing segment, or beyond the end of a short segment). -/
theorem C19_multi (rel : Relation) (hwf : ∀ f ∈ rel, f.WF) (hsm : SmallFiles rel)
    (h0 : 0 < rel.length) (h1 : rel.length ≤ 1000) (a : Nat) (b : Int) (opts : Option SegmentOptions)
    (hsz : 8192 ≤ effSegSize opts) :
    readMultiSegmentFile (relFS rel) (a : Int) b opts =
      .ok (.ok (if b < (a : Int) then [] else multiView rel ((effSegSize opts).toNat / 8192) a b.toNat)) :=
  readMultiSegmentFile_eff rel hwf hsm h0 h1 a b opts hsz

/-- … and the documented rejections (fix 05): a segment size below one block, a negative start. -/
theorem C19_multi_reject (rel : Relation) (h0 : 0 < rel.length) (h1 : rel.length ≤ 1000) (a b : Int)
    (opts : Option SegmentOptions) :
    (effSegSize opts < 8192 → readMultiSegmentFile (relFS rel) a b opts = .ok (.error .smallSegment)) ∧
    (8192 ≤ effSegSize opts → a < 0 → readMultiSegmentFile (relFS rel) a b opts = .ok (.error .negative)) := by
  have hpos := effSegSize_pos opts
  rw [readMultiSegmentFile_unfold, if_neg (listSegments_rel_nonempty rel h0 h1), Int.tdiv_eq_ediv_of_nonneg (Int.le_of_lt hpos)]
  constructor
  · intro hsz
    rw [if_pos (by omega)]; rfl
  · intro hsz ha
    rw [if_neg (by omega), if_pos ha]; rfl

/-- non-vacuity of the hypotheses of C19_segblock / C19_multi / C19_multi_reject: a relation of two segment
files (one block each, the second with a partial tail), segment size = one block -/
example : (∀ f ∈ ([⟨[zeroBlock], []⟩, ⟨[zeroBlock], [1]⟩] : Relation), f.WF) ∧
    SmallFiles [⟨[zeroBlock], []⟩, ⟨[zeroBlock], [1]⟩] ∧
    8192 ≤ effSegSize (some ⟨0, 8192⟩) ∧ effSegSize (some ⟨0, 100⟩) < 8192 := by
  have hz : zeroBlock.WF := ⟨by decide, by simp [zeroBlock]⟩
  refine ⟨?_, ?_, by decide, by decide⟩
  · intro f hf
    simp only [List.mem_cons, List.mem_nil_iff, or_false] at hf
    rcases hf with rfl | rfl <;>
      exact ⟨fun b hb => by simp only [List.mem_cons, List.mem_nil_iff, or_false] at hb; exact hb ▸ hz, by decide⟩
  · intro f hf
    simp only [List.mem_cons, List.mem_nil_iff, or_false] at hf
    rcases hf with rfl | rfl <;> decide

/-! ## checksum accounting (any checksum function `ck`) -/

/-- For EVERY byte string, every checksum function and every segment number: VerifyFileChecksums returns
the closed form `fileResult`: TotalBlocks = len / 8192; the errors are exactly the blocks i that are not
all-zero and whose stored checksum (bytes 8..9) differs from `ck (block i) (number i)`, in order, each with
its number = segment·131072 + i (uint32), stored and computed value; InvalidBlocks = their count;
ValidBlocks = the rest (so every block is counted exactly once); ZeroBlocks = the all-zero blocks, all
counted valid.  The verdict for block i is `pageError ck (number i) (block i)`: a function of that
block's bytes and number only. -/
theorem C19_cksum_file (ck : Bytes → Nat → Nat) (data : Bytes) (seg : Nat) :
    verifyFileChecksums ck data seg = .ok (fileResult ck data seg) ∧
    (fileResult ck data seg).validBlocks + (fileResult ck data seg).invalidBlocks = data.length / 8192 ∧
    (fileResult ck data seg).zeroBlocks ≤ (fileResult ck data seg).validBlocks ∧
    (fileResult ck data seg).invalidBlocks = (fileResult ck data seg).errors.length :=
  ⟨verifyFileChecksums_eq ck data seg, (fileResult_valid_add_invalid ck data seg).trans (fileResult_total ck data seg),
   fileResult_zero_le_valid ck data seg, fileResult_invalid_eq_errors ck data seg⟩

/-- Isolation: two files of equal length that differ only inside block j have the same error entries
for every other block number. -/
theorem C19_cksum_isolated (ck : Bytes → Nat → Nat) (data data' : Bytes) (seg j : Nat)
    (hlen : data.length = data'.length) (hsame : ∀ i, i ≠ j → chunk data i = chunk data' i) :
    (fileResult ck data seg).errors.filter (fun e => e.blockNumber != blockNum seg j) =
      (fileResult ck data' seg).errors.filter (fun e => e.blockNumber != blockNum seg j) :=
  errors_isolated ck data data' seg j hlen hsame

/-- On a relation segment file whose block numbers fit PostgreSQL's 32-bit BlockNumber the result is the
spec's accounting: block i of segment `seg` is relation block seg·131072 + i; valid + invalid = total;
errors = exactly the non-zero blocks whose pd_checksum differs from `ck`. -/
theorem C19_cksum_file_spec (ck : Bytes → Nat → Nat) (f : RelFile) (seg : Nat) (hwf : f.WF)
    (hseg : seg * 131072 + f.blocks.length ≤ 2 ^ 32) :
    ∃ r, verifyFileChecksums ck (encFile f) seg = .ok r ∧
      r.totalBlocks = (ckFileView ck seg f.blocks).totalBlocks ∧
      r.validBlocks = (ckFileView ck seg f.blocks).validBlocks ∧
      r.invalidBlocks = (ckFileView ck seg f.blocks).invalidBlocks ∧
      r.zeroBlocks = (ckFileView ck seg f.blocks).zeroBlocks ∧
      r.errors.map toCkError = (ckFileView ck seg f.blocks).errors :=
  have h := PgVerif.Proofs.ChecksumDirSpec.toView_fileResult ck f seg hwf hseg
  ⟨_, verifyFileChecksums_eq ck _ seg, congrArg (·.totalBlocks) h, congrArg (·.validBlocks) h, congrArg (·.invalidBlocks) h,
    congrArg (·.zeroBlocks) h, congrArg (·.errors) h⟩

/-- VerifyDataDirChecksums, for every directory content and ANY order in which the directory listings come:
the summary is computed over the files the scan visits, and these are a permutation (every file exactly as often) of
`listedFiles`: the visited files of `global/`, of every `base/<uint32>/` and of every
`pg_tblspc/<uint32>/PG_…/<uint32>/`, taken straight from the directory contents as given.  So TotalFiles and the
three block totals are those of `listedFiles`, and the listed files with errors are a permutation of those of
`listedFiles`.  (Which entry of such a directory is visited: `C19_cksum_visit`.) -/
theorem C19_cksum_dir (ck : Bytes → Nat → Nat) (fs : DataDirFS) (entries : List (Bytes × BaseEntry))
    (h : fs.base = some entries) :
    ∃ r, verifyDataDirChecksums ck fs = .ok (.ok r) ∧
      r.checksumsEnabled = fs.checksumsEnabled ∧
      r.totalFiles = (listedFiles ck fs entries).length ∧
      r.totalBlocks = ((listedFiles ck fs entries).map (·.result.totalBlocks)).sum ∧
      r.validBlocks = ((listedFiles ck fs entries).map (·.result.validBlocks)).sum ∧
      r.invalidBlocks = ((listedFiles ck fs entries).map (·.result.invalidBlocks)).sum ∧
      r.files.Perm ((listedFiles ck fs entries).filter fun f => !f.result.errors.isEmpty) := by
  obtain ⟨l, hr, hp⟩ := verifyDataDirChecksums_perm ck fs entries h
  exact ⟨_, hr, rfl, hp.length_eq, (hp.map _).sum_nat, (hp.map _).sum_nat, (hp.map _).sum_nat, hp.filter _⟩

/-- Which entries of a scanned directory are visited, in PostgreSQL's terms: entry `(name, e)` of directory `db`
yields a verified file exactly when it is a plain file, the Spec's recogniser of relation segment file names
(`relSegNumber`: `<relfilenode>[_fsm|_vm|_init][.<segno>]`, 32-bit decimal numbers — EVERY fork, every segment
number) accepts `name` with segment number `seg`, and the file holds at least one block; the file is then verified
as segment `seg` (`fileResult`, see `C19_cksum_file`): block i is relation block seg·131072 + i, in every fork.
Sub-directories, `PG_VERSION`, `pg_filenode.map`, `pg_internal.init`, `pg_control`, temporary relations
(`t3_16384`) and malformed names are not visited. -/
theorem C19_cksum_visit (ck : Bytes → Nat → Nat) (db name : Bytes) (e : DbEntry) (sf : ScannedFile) :
    visitFile ck db (name, e) = some sf ↔
      ∃ data seg, e = .file data ∧ relSegNumber name = some seg ∧ 8192 ≤ data.length ∧
        sf = ⟨db, name, fileResult ck data seg⟩ := by
  unfold visitFile
  cases e with
  | dir => simp
  | file data =>
    simp only [relFileSegment_eq_relSegNumber]
    cases relSegNumber name with
    | none => simp
    | some seg => simp [eq_comm]

/-- Which files are visited at all: `sf` is among the visited files exactly when it comes from an entry of
`global/`, or of a real directory `base/<name>` whose name is a uint32, or of a real directory
`pg_tblspc/<spc>/<ver>/<name>` where `<spc>` and `<name>` are uint32s, `<spc>` can be listed (a directory or a
symbolic link to one) and `<ver>` is a real directory whose name starts with `PG_`. -/
theorem C19_cksum_dirs (ck : Bytes → Nat → Nat) (fs : DataDirFS) (entries : List (Bytes × BaseEntry)) (sf : ScannedFile) :
    sf ∈ listedFiles ck fs entries ↔
      (∃ es x, fs.global = some es ∧ x ∈ es ∧ visitFile ck globalName x = some sf) ∨
      (∃ name es x, (name, BaseEntry.dir es) ∈ entries ∧ (parseUint32 name).isSome ∧ x ∈ es ∧
        visitFile ck (joinPath baseName name) x = some sf) ∨
      (∃ spc vers ver dbs name es x, (spc, SpcEntry.dir vers) ∈ fs.tblspc ∧ (parseUint32 spc).isSome ∧
        (ver, VerEntry.dir dbs) ∈ vers ∧ ver.take 3 = pgPrefix ∧
        (name, BaseEntry.dir es) ∈ dbs ∧ (parseUint32 name).isSome ∧ x ∈ es ∧
        visitFile ck (joinPath (joinPath (joinPath tblspcName spc) ver) name) x = some sf) := by
  -- the membership lemmas give one existential per directory level; `exists_and_left` moves the conditions that do not
  -- mention the inner variables out of the inner existentials, which is the shape on the right-hand side
  unfold listedFiles
  cases fs.global with
  | none =>
    simp only [List.mem_append, List.not_mem_nil, false_or, mem_flatMap_visitDbU, mem_flatMap_visitVerU,
      mem_flatMap_visitSpcU, exists_and_left, reduceCtorEq, false_and, exists_false]
  | some es =>
    simp only [List.mem_append, List.mem_filterMap, or_assoc, mem_flatMap_visitDbU, mem_flatMap_visitVerU,
      mem_flatMap_visitSpcU, exists_and_left, Option.some.injEq, exists_eq_left']

/-- The file-name filter of the scan (fixes 07, 08) IS the Spec's recogniser of relation segment file names, for
every byte string: `<relfilenode>[_fsm|_vm|_init]` (segment 0) and `<relfilenode>[_fsm|_vm|_init].<segno>` (that
segment, any number of digits), both numbers decimal and below 2^32. -/
theorem C19_cksum_names (name : Bytes) : relFileSegment name = relSegNumber name :=
  relFileSegment_eq_relSegNumber name

/-- non-vacuity: "16384.11" is segment 11 of a relation, "16384_fsm" and "16384_vm.1" are segments 0 and 1 of its
forks; "16384.x", "16384_fsm_vm", "t3_16384" and "pg_filenode.map" are not relation files -/
example : relSegNumber [49, 54, 51, 56, 52, 46, 49, 49] = some 11 ∧
    relSegNumber [49, 54, 51, 56, 52, 95, 102, 115, 109] = some 0 ∧
    relSegNumber [49, 54, 51, 56, 52, 95, 118, 109, 46, 49] = some 1 ∧
    relSegNumber [49, 54, 51, 56, 52, 46, 120] = none ∧
    relSegNumber [49, 54, 51, 56, 52, 95, 102, 115, 109, 95, 118, 109] = none ∧
    relSegNumber [116, 51, 95, 49, 54, 51, 56, 52] = none ∧
    relSegNumber [112, 103, 95, 102, 105, 108, 101, 110, 111, 100, 101, 46, 109, 97, 112] = none := by decide +kernel

section DirSpec
open PgVerif.Proofs.ChecksumDirSpec

/-- The directory scan against the Spec.  For EVERY well-formed data directory in PostgreSQL's terms
(`Spec.BlockAddr.DataDir`: relation segment files of every fork — main, `_fsm`, `_vm`, `_init` — with segment
suffixes, next to non-relation files and sub-directories, in `global/`, in the database directories of `base/` and
in those of tablespaces `pg_tblspc/<oid>/PG_…/`; stray files and non-OID directories around them), whatever the
blocks' stored checksums and for any checksum function: VerifyDataDirChecksums on its file tree reports the Spec's
view `ckDirView` — TotalFiles = the relation segment files holding at least one block, the three block totals =
the sums of the Spec's per-file accounting (`ckFileView`: block i of segment `seg` of any fork is block
seg·131072 + i; every block counted once, valid or invalid), and the listed files are, up to order, exactly the Spec's
files with at least one invalid block, each with exactly its invalid blocks.  (`fsOf` lists a directory's entries in
one particular order; `C19_cksum_dir` shows the order does not matter.) -/
theorem C19_cksum_dir_spec (ck : Bytes → Nat → Nat) (enabled : Bool) (d : DataDir) (hwf : d.WF) :
    ∃ r, verifyDataDirChecksums ck (fsOf enabled d) = .ok (.ok r) ∧
      r.totalFiles = (ckDirView ck d).totalFiles ∧
      r.totalBlocks = (ckDirView ck d).totalBlocks ∧
      r.validBlocks = (ckDirView ck d).validBlocks ∧
      r.invalidBlocks = (ckDirView ck d).invalidBlocks ∧
      (r.files.map toCkDirFile).Perm (ckDirView ck d).files := by
  obtain ⟨l, hr, hp⟩ := verifyDataDirChecksums_perm ck (fsOf enabled d) (baseEntriesOf d.base) rfl
  -- the scanned files are, up to order, the Spec's files; `toCkDirFile` copies the counters, so every total agrees
  have hq : (l.map toCkDirFile).Perm (ckDirFiles ck d) := listedFiles_spec ck enabled d hwf ▸ hp.map toCkDirFile
  have sum (c : CkFileView → Nat) : ((l.map toCkDirFile).map fun f => c f.view).sum = ((ckDirFiles ck d).map fun f => c f.view).sum :=
    (hq.map _).sum_nat
  simp only [List.map_map] at sum
  refine ⟨_, hr, (List.length_map _).symm.trans hq.length_eq, sum (·.totalBlocks), sum (·.validBlocks), sum (·.invalidBlocks),
    .trans (.of_eq ?_) (hq.filter _)⟩
  simp only [summarize, List.filter_map, Function.comp_def, toCkDirFile, toView, List.isEmpty_map]

/-- non-vacuity: a data directory with a main-fork file, a visibility-map fork with a segment suffix, a shared catalog
in `global/` and a tablespace — next to `PG_VERSION`, `pg_filenode.map`, a temporary relation and a non-OID directory —
is well-formed, and the Spec's view counts its four relation segment files -/
example :
    let f : RelFile := ⟨[zeroBlock], []⟩
    let db : Database := { oid := 5, segs := [⟨16384, .main, 0, f⟩, ⟨16384, .vm, 1, f⟩],
                           others := [([80, 71, 95, 86, 69, 82, 83, 73, 79, 78], [1]), ([116, 51, 95, 49, 54, 51, 56, 52], [2])],
                           subdirs := [[120]] }
    let g : Database := { oid := 0, segs := [⟨1260, .main, 0, f⟩],
                          others := [([112, 103, 95, 102, 105, 108, 101, 110, 111, 100, 101, 46, 109, 97, 112], [3])], subdirs := [] }
    let t : Tablespace := ⟨16400, [80, 71, 95, 49, 53], ⟨[{ oid := 7, segs := [⟨16401, .fsm, 0, f⟩], others := [], subdirs := [] }], [], []⟩⟩
    let d : DataDir := ⟨some g, ⟨[db], [[50]], [([45, 49], [])]⟩, [t]⟩
    d.WF ∧ (ckDirView (fun _ _ => 0) d).totalFiles = 4 := by
  -- the relation file is well-formed by the length of `zeros`; names, numbers and sizes are evaluated
  have hf : (⟨[zeroBlock], []⟩ : RelFile).WF :=
    ⟨fun b hb => by rw [List.mem_singleton.mp hb]; exact ⟨by decide, by simp [zeroBlock]⟩, by decide⟩
  intro f db g t d
  refine ⟨?_, by decide +kernel⟩
  simp only [DataDir.WF, BaseDir.WF, Tablespace.WF, Database.WF, d, t, g, db, f, List.forall_mem_cons, List.not_mem_nil,
    Option.some.injEq, forall_eq', false_imp_iff, implies_true, and_true, hf, true_and]
  decide +kernel

end DirSpec

/-- a data directory without a readable `base` is an error -/
theorem C19_cksum_dir_nobase (ck : Bytes → Nat → Nat) (fs : DataDirFS) (h : fs.base = none) :
    verifyDataDirChecksums ck fs = .ok (.error .noBase) :=
  verifyDataDirChecksums_noBase ck fs h

/-! ## the tool's own checksum function -/

/-- computePageChecksum works on a copy: it is a pure function of the first 8192 bytes of the page and
the block number (the model has no way to write to its argument; the harness snapshots the input
buffer around every call). -/
theorem C19_copy (page : Bytes) (bn : Nat) :
    computePageChecksum page bn = computePageChecksum (page.take 8192) bn := by
  unfold computePageChecksum pageCopy
  have : (page.take 8192).take 8192 ++ zeros (8192 - (page.take 8192).length) = page.take 8192 ++ zeros (8192 - page.length) := by
    rw [List.take_take, Nat.min_self, List.length_take]
    congr 2
    omega
  rw [this]

/-- … and the stored checksum (bytes 8 and 9) does not enter it: the copy has them zeroed. -/
theorem C19_copy_field (page : Bytes) (bn : Nat) (x y : UInt8) (h : 10 ≤ page.length) :
    computePageChecksum (page.take 8 ++ [x, y] ++ page.drop 10) bn = computePageChecksum page bn := by
  have hc : pageCopy (page.take 8 ++ [x, y] ++ page.drop 10) = pageCopy page :=
    pageCopy_field page x y h
  unfold computePageChecksum
  rw [hc]

/-! ## the verdict against PostgreSQL's `pg_checksum_page` (finding `C19-checksum-not-postgres`, fix 11)

Everything above holds for ANY checksum function `ck`: it is accounting.  Whether a verdict is the one PostgreSQL
gives depends on `ck` being `pg_checksum_page` (`Spec/PgChecksum.lean`: 32 FNV-1a lanes seeded with
`checksumBaseOffsets`, `CHECKSUM_COMP`, two rounds of zeroes, xor of the lanes, `^ blkno`, `% 65535 + 1`, over the
page with `pd_checksum` taken as zero) — and the tool's `computePageChecksum` is that function. -/

section Postgres
open PgVerif.Spec.PgChecksum PgVerif.Proofs.PgChecksum

/-- For EVERY 8192-byte page and EVERY block number: the tool's `computePageChecksum` (the model of the Go code, with
the uint32 wrap-around of every product, `% 2^32`) returns exactly PostgreSQL's `pg_checksum_page(page, blkno)`. -/
theorem C19_checksum_postgres (page : Bytes) (bn : Nat) (hlen : page.length = 8192) :
    computePageChecksum page bn = pgChecksumPage page bn :=
  computePageChecksum_eq_pg page bn hlen

/-- The verdict of VerifyPageChecksum, for EVERY 8192-byte page and every block number: an all-zero page is reported
as such (valid, stored and computed value 0); for any other page the reported stored value is `pd_checksum`, the reported
computed value is `pg_checksum_page(page, blkno)`, and `Valid` holds exactly when the two are equal. -/
theorem C19_verdict_postgres (page : Bytes) (bn : Nat) (hlen : page.length = 8192) :
    ∃ r, verifyPageChecksum computePageChecksum page bn = .ok r ∧
      (Spec.PgChecksum.allZero page = true → r.valid = true ∧ r.stored = 0 ∧ r.computed = 0) ∧
      (Spec.PgChecksum.allZero page = false →
        r.stored = pdChecksum page ∧ r.computed = pgChecksumPage page bn ∧
        (r.valid = true ↔ pdChecksum page = pgChecksumPage page bn)) := by
  have hpg := computePageChecksum_eq_pg page bn hlen
  refine ⟨_, verifyPageChecksum_eq computePageChecksum page bn, ?_, ?_⟩
  · intro hz
    rw [if_neg (by omega), show Model.allZero page = true from hz]
    exact ⟨rfl, rfl, rfl⟩
  · intro hz
    rw [if_neg (by omega), show Model.allZero page = false from hz]
    exact ⟨rfl, hpg, by rw [hpg]; exact beq_iff_eq⟩

/-- … in the Spec's terms (`pageVerdict`: bufpage.c `PageIsVerifiedExtended` / pg_checksums.c `scan_file`): on a full
block that is all-zero or not new (`pd_upper ≠ 0`) the tool's `Valid` is PostgreSQL's verdict. -/
theorem C19_verdict_pageVerdict (page : Bytes) (bn : Nat) (hlen : page.length = 8192)
    (hnew : Spec.PgChecksum.allZero page = true ∨ pdUpper page ≠ 0) :
    ∃ r, verifyPageChecksum computePageChecksum page bn = .ok r ∧ some r.valid = pageVerdict page bn := by
  obtain ⟨r, hr, h1, h2⟩ := C19_verdict_postgres page bn hlen
  refine ⟨r, hr, ?_⟩
  unfold pageVerdict
  cases hz : Spec.PgChecksum.allZero page with
  | true => rw [if_pos rfl, (h1 hz).1]
  | false =>
    have hu : pdUpper page ≠ 0 := hnew.resolve_left (by rw [hz]; exact Bool.false_ne_true)
    obtain ⟨_, _, hv⟩ := h2 hz
    rw [if_neg Bool.false_ne_true, if_neg hu]
    exact congrArg some (Bool.eq_iff_iff.mpr (hv.trans beq_iff_eq.symm))

/-- non-vacuity: the empty heap page of `PageInit` (8192 bytes, not all-zero, `pd_upper` = 8192) has
`pg_checksum_page` 0x6560 / 0x655F / 0x655D as block 0 / 1 / 7 (the values known from two independent computations) -/
example : emptyHeapPage.length = 8192 ∧ Spec.PgChecksum.allZero emptyHeapPage = false ∧ pdUpper emptyHeapPage ≠ 0 ∧
    pgChecksumPage emptyHeapPage 0 = 0x6560 ∧ pgChecksumPage emptyHeapPage 1 = 0x655F ∧
    pgChecksumPage emptyHeapPage 7 = 0x655D :=
  -- the two middle facts are about bytes 12..15; their evaluation stops there
  ⟨emptyHeapPage_length, by decide +kernel, by decide +kernel, emptyHeapPage_checksums⟩

/-- The file-level result with PostgreSQL's function: VerifyFileChecksums (as the tool runs it, with
`computePageChecksum`) lists exactly the blocks that are not all-zero and whose stored `pd_checksum` differs from
`pg_checksum_page(block, segment·131072 + i)` — the closed form `fileResult` of `C19_cksum_file` taken at
PostgreSQL's function, for EVERY byte string and segment number. -/
theorem C19_cksum_file_postgres (data : Bytes) (seg : Nat) :
    verifyFileChecksums computePageChecksum data seg = .ok (fileResult pgChecksumPage data seg) :=
  (verifyFileChecksums_eq computePageChecksum data seg).trans
    (congrArg Except.ok (fileResult_congr computePageChecksum pgChecksumPage data seg computePageChecksum_eq_pg))

/-- The regression record of the repaired finding: BEFORE fix 11 the tool's function (`Orig.computePageChecksum`, a
rotate/xor fold) reported the block `witnessPage` (an empty heap page with stored checksum 0, as block 0) VALID, while
PostgreSQL reports it INVALID (`pg_checksum_page` is never 0); the repaired function reports it invalid. -/
theorem C19_checksum_not_postgres_before_fix :
    ∃ page bn, page.length = 8192 ∧ pdUpper page ≠ 0 ∧
      (∃ r, verifyPageChecksum Orig.computePageChecksum page bn = .ok r ∧ r.valid = true) ∧
      pageVerdict page bn = some false ∧
      (∃ r, verifyPageChecksum computePageChecksum page bn = .ok r ∧ r.valid = false) := by
  refine ⟨witnessPage, 0, witnessPage_length, by rw [witnessPage_upper]; decide, ?_, ?_, ?_⟩
  · refine ⟨_, verifyPageChecksum_full Orig.computePageChecksum witnessPage 0 witnessPage_length witnessPage_not_zero, ?_⟩
    show (storedCk witnessPage == Orig.computePageChecksum witnessPage 0) = true
    rw [witnessPage_tool_orig, (storedCk_eq_pdChecksum witnessPage).trans witnessPage_stored]
    rfl
  · exact pageVerdict_stored_zero witnessPage 0 witnessPage_not_zero (by rw [witnessPage_upper]; decide) witnessPage_stored
  · refine ⟨_, verifyPageChecksum_full computePageChecksum witnessPage 0 witnessPage_length witnessPage_not_zero, ?_⟩
    show (storedCk witnessPage == computePageChecksum witnessPage 0) = false
    rw [computePageChecksum_eq_pg _ _ witnessPage_length, (storedCk_eq_pdChecksum witnessPage).trans witnessPage_stored]
    exact zero_beq_pgChecksumPage witnessPage 0

/-- `pg_checksum_page` never returns 0 and does not depend on the stored checksum field. -/
theorem C19_pg_checksum_page_facts (page : Bytes) (bn : Nat) :
    (1 ≤ pgChecksumPage page bn ∧ pgChecksumPage page bn ≤ 65535) ∧
    (∀ x y : UInt8, 10 ≤ page.length →
      pgChecksumPage (page.take 8 ++ [x, y] ++ page.drop 10) bn = pgChecksumPage page bn) :=
  ⟨pgChecksumPage_range page bn, fun x y h => pgChecksumPage_field page bn x y h⟩

end Postgres

end PgVerif.Props.C19
