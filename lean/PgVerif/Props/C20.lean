/-
  C20 — sequence state and relation-map files are reported exactly.
  Property theorems only; helper lemmas are in Proofs/Sequence.lean and Proofs/Relmap.lean.
  The sequence model is that of sequence.go with the repairs 05–07 of /verif/fixes/control applied; the
  `witness_*` theorems show the defects on the model of the code as written.  relmap.go: with fixes/control/09, 21
  (both layouts: PostgreSQL 12–15 and 16, told apart by the stored crc); FindSequences with fixes/control/08 (filenode order).
-/
import PgVerif.Proofs.CrcNat
import PgVerif.Proofs.Sequence
import PgVerif.Proofs.Relmap
import PgVerif.Model.SequenceOrig
import PgVerif.Model.RelmapOrig
import PgVerif.Generated.Control
import PgVerif.Gen.Control
namespace PgVerif.Props.C20
open PgVerif PgVerif.Spec PgVerif.Proofs

attribute [local instance] exceptDecEq

/-- Sequence state.  For every well-formed sequence page — last_value anywhere in the int64 range (including the
values whose low 32 bits are 20, 21 or 23), any log_cnt, is_called either way, any tuple header length 23..255,
any other header bytes — ParseSequenceFile succeeds and reports exactly the stored last_value and is_called
(the remaining record fields are left at their zero values). -/
theorem C20_seq (p : SeqPage) (h : p.WF) :
    Model.parseSequenceFile (encSeqPage p) = .ok (some { lastValue := p.st.lastValue, isCalled := p.st.isCalled }) :=
  parseSequenceFile_enc p h

/-- non-vacuity, on a value of the class of finding A62 (low 32 bits 20): last_value = 2^32 + 20, is_called = true -/
example : (Gen.plainSeqPage (2 ^ 32 + 20) true).WF := by decide

/-- Recognition.  For every buffer of at least one page, IsSequenceFile answers true iff pd_special is non-zero,
the four bytes it points at lie inside the page, and they hold the u32 sequence magic 0x1717; shorter buffers are
never sequences. -/
theorem C20_isseq (p : Bytes) (hp : p.length ≥ 8192) : Model.isSequenceFile p = .ok (isSeqPage p) := by
  rw [isSequenceFile_eq, decide_eq_true hp, Bool.true_and]

theorem C20_isseq_short (p : Bytes) (hp : p.length < 8192) : Model.isSequenceFile p = .ok false := by
  rw [isSequenceFile_eq, decide_eq_false (by omega), Bool.false_and]

/-- an encoded sequence page is recognised -/
example : isSeqPage (encSeqPage (Gen.plainSeqPage 42 true)) = true := isSeqPage_enc _ (by decide)

/-- Listing.  For every file system and every database `d` found under the requested name (oid ≠ 0): if every
relkind-'S' relation the pg_class parser reports for `d` has a well-formed sequence page as its file
base/<d.oid>/<relfilenode>, FindSequences returns exactly those relations, nothing else, each once — in ascending
relfilenode order, WHATEVER order Go's `range` over the parsed map yields them in (`env.order`: any rearrangement;
fixes/control/08) — each with its own name, oid, filenode and the last_value / is_called stored in its own file.
`hmap` is what "the parser returns a Go map" means: every relfilenode is the key of one entry.
Relative to the pg_class / pg_database parsers, which are parameters here (other areas; every `seqfind` case checks the
lists given to the model against the real ParsePGClass / ParsePGDatabase), and for databases stored under
base/<oid>/ (a database in another tablespace makes the real FindSequences return an error: not covered). -/
theorem C20_find (env : Model.SeqEnv) (dir : String) (dbName dbData classData : Bytes) (d : Model.DbInfo)
    (pageOf : Model.ClassInfo → SeqPage)
    (hπ : (env.order (env.parseClass classData)).Perm (env.parseClass classData))
    (hmap : KeySort.DistinctKeys (fun c : Model.ClassInfo => c.filenode) (env.parseClass classData))
    (h1 : env.fs (dir ++ "/global/1262") = some dbData)
    (h2 : (env.parseDatabase dbData).find? (·.name == dbName) = some d) (h3 : d.oid ≠ 0)
    (h4 : env.fs (dir ++ "/base/" ++ toString d.oid ++ "/1259") = some classData)
    (h5 : ∀ c ∈ env.parseClass classData, c.kind = [83] → (pageOf c).WF ∧
      env.fs (dir ++ "/base/" ++ toString d.oid ++ "/" ++ toString c.filenode) = some (encSeqPage (pageOf c))) :
    Model.findSequences env dir dbName =
      .ok (some (((Model.keySort (·.filenode) (env.parseClass classData)).filter fun c => c.kind == [83]).map
        fun c => listed c (pageOf c))) := by
  unfold Model.findSequences
  simp only [h1, h2, if_neg h3, h4, pure_eq_ok]
  rw [seqVisitOrder_eq env _ hπ hmap]
  rw [findSeqLoop_enc env _ pageOf _ (fun c hc => h5 c ((KeySort.keySort_perm _ _).subset hc))]
  rfl

/-- a concrete cluster satisfying the hypotheses: database 5 "d" with table 80 (file 88) and sequence 70 (file 77,
last_value 2^32+20, called); the map is iterated back to front -/
def exEnv : Model.SeqEnv :=
  { fs := fun p =>
      if p = "D/global/1262" then some [1] else if p = "D/base/5/1259" then some [2]
      else if p = "D/base/5/77" then some (encSeqPage (Gen.plainSeqPage (2 ^ 32 + 20) true)) else none
    parseDatabase := fun _ => [⟨5, [100]⟩]
    parseClass := fun _ => [⟨88, 80, [116], [114]⟩, ⟨77, 70, [115], [83]⟩]
    order := List.reverse }

set_option maxRecDepth 100000 in
example : Model.findSequences exEnv "D" [100] =
    .ok (some [{ name := [115], oid := 70, filenode := 77, lastValue := 2 ^ 32 + 20, isCalled := true }]) := by
  have := C20_find exEnv "D" [100] [1] [2] ⟨5, [100]⟩ (fun _ => Gen.plainSeqPage (2 ^ 32 + 20) true)
    (List.reverse_perm _) (by unfold KeySort.DistinctKeys; decide)
    (by decide) (by decide) (by decide) (by decide)
    (by intro c hc hk
        refine ⟨by decide, ?_⟩
        have : c = ⟨77, 70, [115], [83]⟩ := by
          simp [exEnv] at hc
          rcases hc with rfl | rfl
          · simp at hk
          · rfl
        subst this
        -- only the path is evaluated; comparing the two pages byte by byte is not needed
        have hp : "D" ++ "/base/" ++ toString 5 ++ "/" ++ toString 77 = "D/base/5/77" := by decide +kernel
        show exEnv.fs ("D" ++ "/base/" ++ toString 5 ++ "/" ++ toString 77) = _
        rw [hp]; rfl)
  exact this

/-! ### relation map

Two layouts with the same magic (PostgreSQL 12–15: 62 slots, crc at 504, 4 bytes of padding, 512 bytes; PostgreSQL 16:
64 slots, crc at 520, 524 bytes).  The layout is asked of the image, not of its length (`relMapIsV16`, fixes/control/21):
fewer than 524 bytes → 12–15; a count above 62 → 16; else the layout whose stored CRC-32C verifies (`Spec.relmapCrcOk`,
PostgreSQL's own check; 16 first); when neither verifies, the exact size.  "The expected report" below = the magic, the
count, the mappings in stored order and the stored crc. -/

/-- Relation map, PostgreSQL 12–15 layout.  For every well-formed map (0..62 mappings of arbitrary 32-bit oids and
filenodes, duplicates allowed, any unused slots, any padding) that is INTACT (the stored crc is the CRC-32C of the 504
bytes before it — what PostgreSQL writes and demands), followed by ANY tail (a file read into a larger buffer, a padded
copy, 12 bytes that make it 524 long …), ParseRelMapFile gives the expected report — unless the same bytes are also a
valid PostgreSQL 16 image (`h16`: they verify at 520 too).  That carve-out is inherent, not a defect: the image then IS,
member by member, an intact 16 map (`C20_relmap_overlap`), and it does occur (`C20_relmap_collision`). -/
theorem C20_relmap (m : RelMap) (h : m.WF) (hi : m.Intact .v12) (tail : Bytes)
    (h16 : relmapCrcOk .v16 (encRelMap m ++ tail) = false) :
    Model.parseRelMapFile (encRelMap m ++ tail) =
      .ok (some { magic := relmapMagic, numMappings := m.mappings.length, mappings := m.mappings.map toMapping, crc := m.crc }) :=
  parseRelMapFile_enc .v12 m h tail (isV16Of_enc12 m h tail h16 (Or.inl hi))

/-- a three-mapping map with the crc PostgreSQL stores -/
def exMap12 : RelMap := Gen.withTrueCrc (RelMap.mk [(1262, 1262), (1259, 16384), (1262, 7)] (zeros (8 * 59)) 0 (zeros 4))

set_option maxRecDepth 100000 in
/-- non-vacuity: it is well-formed and intact, and padded with zeros to 600 bytes it does not verify as a 16 image -/
example : exMap12.WF ∧ exMap12.Intact .v12 ∧ relmapCrcOk .v16 (encRelMap exMap12 ++ zeros 88) = false :=
  ⟨(withTrueCrc_intact .v12 _ (by decide)).1, (withTrueCrc_intact .v12 _ (by decide)).2, by
    unfold relmapCrcOk exMap12 Gen.withTrueCrc
    rw [CrcNat.crc32c_eq_crcN]
    decide +kernel⟩

/-- The genuine file (and anything up to 523 bytes), unconditionally: a well-formed 12–15 map with ANY stored crc (valid
or not) followed by fewer than 12 bytes gets the expected report.  PostgreSQL writes exactly 512 bytes. -/
theorem C20_relmap_file (m : RelMap) (h : m.WF) (tail : Bytes) (ht : tail.length < 12) :
    Model.parseRelMapFile (encRelMap m ++ tail) =
      .ok (some { magic := relmapMagic, numMappings := m.mappings.length, mappings := m.mappings.map toMapping, crc := m.crc }) :=
  parseRelMapFile_enc .v12 m h tail (isV16Of_enc12_short m h tail ht)

set_option maxRecDepth 100000 in
example : (RelMap.mk [(1262, 1262), (1259, 16384), (1262, 7)] (zeros (8 * 59)) 0xDEADBEEF (zeros 4)).WF := by decide +kernel

/-- A damaged 12–15 file (any stored crc) in a longer buffer: as long as the bytes do not verify as a 16 image and the
buffer is not exactly 524 bytes long (the size of a 16 file — there the size decides), the
expected report, with the stored (wrong) crc. -/
theorem C20_relmap_damaged (m : RelMap) (h : m.WF) (tail : Bytes) (ht : tail.length ≠ 12)
    (h16 : relmapCrcOk .v16 (encRelMap m ++ tail) = false) :
    Model.parseRelMapFile (encRelMap m ++ tail) =
      .ok (some { magic := relmapMagic, numMappings := m.mappings.length, mappings := m.mappings.map toMapping, crc := m.crc }) :=
  parseRelMapFile_enc .v12 m h tail (isV16Of_enc12 m h tail h16 (Or.inr ht))

set_option maxRecDepth 100000 in
example : (RelMap.mk [(5, 6)] (zeros (8 * 61)) 0xDEADBEEF (zeros 4)).WF ∧
    relmapCrcOk .v16 (encRelMap (RelMap.mk [(5, 6)] (zeros (8 * 61)) 0xDEADBEEF (zeros 4)) ++ zeros 13) = false := by
  unfold relmapCrcOk
  rw [CrcNat.crc32c_eq_crcN]
  decide +kernel

/-- Relation map, PostgreSQL 16 layout (fixes/control/09, 21).  For every well-formed INTACT 16 map (0..64 mappings, any
unused slots, the crc PostgreSQL stores) followed by ANY tail — none (the genuine 524-byte file), one byte, zero padding to
8 KiB — the expected report.  No side condition: the 16 check is tried first. -/
theorem C20_relmap_v16 (m : RelMap) (h : m.WF16) (hi : m.Intact .v16) (tail : Bytes) :
    Model.parseRelMapFile (encRelMap m ++ tail) =
      .ok (some { magic := relmapMagic, numMappings := m.mappings.length, mappings := m.mappings.map toMapping, crc := m.crc }) :=
  parseRelMapFile_enc .v16 m h tail (isV16Of_enc16 m h tail (Or.inl hi))

/-- a PostgreSQL 16 map with 2 mappings and the crc PostgreSQL stores -/
def exMap16 : RelMap := Gen.withTrueCrc (RelMap.mk [(1262, 1262), (1259, 16384)] (zeros (8 * 62)) 0 [])

set_option maxRecDepth 100000 in
example : exMap16.WF16 ∧ exMap16.Intact .v16 ∧ (encRelMap exMap16).length = 524 :=
  ⟨(withTrueCrc_intact .v16 _ (by decide)).1, (withTrueCrc_intact .v16 _ (by decide)).2, by decide +kernel⟩

/-- Relation map, PostgreSQL 16 layout with 63 or 64 mappings: they fit no other layout, so the expected report holds
whatever the stored crc and whatever follows. -/
theorem C20_relmap_v16_full (m : RelMap) (h : m.WF16) (hn : m.mappings.length > 62) (tail : Bytes) :
    Model.parseRelMapFile (encRelMap m ++ tail) =
      .ok (some { magic := relmapMagic, numMappings := m.mappings.length, mappings := m.mappings.map toMapping, crc := m.crc }) :=
  parseRelMapFile_enc .v16 m h tail (isV16Of_enc16 m h tail (Or.inr (Or.inl hn)))

set_option maxRecDepth 100000 in
/-- non-vacuity: a PostgreSQL 16 map with 64 mappings, 524 bytes long -/
example : (RelMap.mk ((List.range 64).map fun i => (1000 + i, 2000 + i)) [] 0x15E3B201 []).WF16 ∧
    (encRelMap (RelMap.mk ((List.range 64).map fun i => (1000 + i, 2000 + i)) [] 0x15E3B201 [])).length = 524 ∧
    (RelMap.mk ((List.range 64).map fun i => (1000 + i, 2000 + i)) [] 0x15E3B201 []).mappings.length > 62 := by
  decide +kernel

/-- A damaged 16 file (any stored crc) of exactly 524 bytes: the expected report, with the stored (wrong) crc — unless the
bytes verify as a 12–15 image (`h12`; the same inherent overlap, seen from the other side). -/
theorem C20_relmap_v16_damaged (m : RelMap) (h : m.WF16) (h12 : relmapCrcOk .v12 (encRelMap m) = false) :
    Model.parseRelMapFile (encRelMap m) =
      .ok (some { magic := relmapMagic, numMappings := m.mappings.length, mappings := m.mappings.map toMapping, crc := m.crc }) := by
  have := parseRelMapFile_enc .v16 m h [] (isV16Of_enc16 m h [] (Or.inr (Or.inr ⟨rfl, by simpa using h12⟩)))
  rwa [List.append_nil] at this

set_option maxRecDepth 100000 in
example : (RelMap.mk [(1262, 1262), (1259, 16384)] (zeros (8 * 62)) 0x15E3B201 []).WF16 ∧
    relmapCrcOk .v12 (encRelMap (RelMap.mk [(1262, 1262), (1259, 16384)] (zeros (8 * 62)) 0x15E3B201 [])) = false := by
  unfold relmapCrcOk
  rw [CrcNat.crc32c_eq_crcN]
  decide +kernel

/-- The layouts overlap byte for byte.  The image of ANY well-formed 12–15 map followed by at least 12 bytes is, member
by member, the image of a well-formed 16 map with the same mappings (slots 62 and 63 = the old crc, padding and the next 8
bytes; crc = the four bytes at 520) followed by the rest.  So nothing in the bytes but the crc tells the layouts apart, and
the carve-outs `h16` / `h12` above are inherent. -/
theorem C20_relmap_overlap (m : RelMap) (h : m.WF) (tail : Bytes) (ht : 12 ≤ tail.length) :
    (as16 m tail).WF16 ∧ (as16 m tail).mappings = m.mappings ∧
    encRelMap m ++ tail = encRelMap (as16 m tail) ++ tail.drop 12 :=
  ⟨as16_wf m h tail ht, rfl, as16_enc m tail ht⟩

/-- The corner is inhabited — for EVERY intact 12–15 map and every 8 bytes `t8`: the 524-byte image
map ++ t8 ++ CRC-32C(map ++ t8) verifies under BOTH layouts; it is an intact 12–15 file with 12 trailing bytes and an
intact 16 file at once, and ParseRelMapFile reads it as the 16 one (crc = the last four bytes), where the 12–15 reading
has crc = `m.crc`.  No reader can do better on these bytes. -/
theorem C20_relmap_collision (m : RelMap) (h : m.WF) (hi : m.Intact .v12) (t8 : Bytes) (h8 : t8.length = 8) :
    relmapCrcOk .v12 (encRelMap m ++ (t8 ++ le 4 (crc32c (encRelMap m ++ t8)))) = true ∧
    relmapCrcOk .v16 (encRelMap m ++ (t8 ++ le 4 (crc32c (encRelMap m ++ t8)))) = true ∧
    Model.parseRelMapFile (encRelMap m ++ (t8 ++ le 4 (crc32c (encRelMap m ++ t8)))) =
      .ok (some { magic := relmapMagic, numMappings := m.mappings.length, mappings := m.mappings.map toMapping,
                  crc := crc32c (encRelMap m ++ t8) }) :=
  ⟨(collision_both m h hi t8 h8).1, (collision_both m h hi t8 h8).2, collision_parse m h hi t8 h8⟩

set_option maxRecDepth 100000 in
/-- on the example map the two readings differ: the 16 reading's crc is not the stored 12–15 crc -/
example : exMap12.WF ∧ exMap12.Intact .v12 ∧ crc32c (encRelMap exMap12 ++ zeros 8) ≠ exMap12.crc :=
  ⟨(withTrueCrc_intact .v12 _ (by decide)).1, (withTrueCrc_intact .v12 _ (by decide)).2, by
    unfold exMap12 Gen.withTrueCrc
    rw [CrcNat.crc32c_eq_crcN]
    decide +kernel⟩

/-- the defect fixes/control/09 removes (REVIEW B7), on the model of the code as written: on a PostgreSQL 16 file with two
mappings and stored crc 0x15E3B201 it reported the mapoid of slot 62 (here 0) as the crc -/
theorem witness_B7_crc :
    (Model.Orig.parseRelMapFile (encRelMap (RelMap.mk [(1262, 1262), (1259, 16384)] (zeros (8 * 62)) 0x15E3B201 []))).map
      (fun r => r.map (·.crc)) = .ok (some 0) := by decide +kernel

/-- B7, second half: the code as written rejected the counts 63 and 64, which are legal in PostgreSQL 16 -/
theorem witness_B7_count :
    Model.Orig.parseRelMapFile (encRelMap (RelMap.mk ((List.range 64).map fun i => (1000 + i, 2000 + i)) [] 7 [])) = .ok none := by
  decide +kernel

set_option maxRecDepth 100000 in
/-- the defect fixes/control/21 removes, on the model of the code between patches 09 and 21 (layout by `len(data) == 524`):
the intact 16 map `exMap16` followed by one byte (or zero-padded to 8 KiB: family relmap #120) was read with the 12–15
layout — the mapoid of slot 62 (here 0) reported as the crc — where the repaired code reports the stored crc -/
theorem witness_R21_crc :
    (Model.Orig.parseRelMapFileBySize (encRelMap exMap16 ++ [0])).map (fun r => r.map (·.crc)) = .ok (some 0) ∧
    (Model.parseRelMapFile (encRelMap exMap16 ++ [0])).map (fun r => r.map (·.crc)) = .ok (some exMap16.crc) ∧
    exMap16.crc ≠ 0 := by
  refine ⟨by decide +kernel, ?_, by unfold exMap16 Gen.withTrueCrc; rw [CrcNat.crc32c_eq_crcN]; decide +kernel⟩
  obtain ⟨hw, hi⟩ := withTrueCrc_intact .v16 (RelMap.mk [(1262, 1262), (1259, 16384)] (zeros (8 * 62)) 0 []) (by decide)
  rw [C20_relmap_v16 exMap16 hw hi [0]]; rfl

/-- fixes/control/21, second half: 64 mappings followed by one byte (family relmap #121) were rejected ("invalid number of mappings: 64") -/
theorem witness_R21_count :
    Model.Orig.parseRelMapFileBySize (encRelMap (RelMap.mk ((List.range 64).map fun i => (1000 + i, 2000 + i)) [] 7 []) ++ [0]) = .ok none ∧
    ∃ rm, Model.parseRelMapFile (encRelMap (RelMap.mk ((List.range 64).map fun i => (1000 + i, 2000 + i)) [] 7 []) ++ [0]) = .ok (some rm) ∧
      rm.numMappings = 64 := by
  refine ⟨by decide +kernel, _, C20_relmap_v16_full _ (by decide +kernel) (by decide +kernel) [0], rfl⟩

/-- Acceptance, for EVERY byte string: ParseRelMapFile returns a map iff the image has at least 512 bytes, the magic
0x592717 and a possible count — `Spec.relmapCountOk`: 0 ≤ count ≤ MAX_MAPPINGS of a layout whose struct fits in the
image (0..62 from 512 bytes on, 0..64 from 524 bytes on).  Images with a wrong magic or an impossible count are
rejected, and nothing else is. -/
theorem C20_relmap_accept_iff (bs : Bytes) :
    (∃ rm, Model.parseRelMapFile bs = .ok (some rm)) ↔
      512 ≤ bs.length ∧ rdAt 4 0 bs = 0x592717 ∧ relmapCountOk bs.length (toSigned 32 (rdAt 4 4 bs)) :=
  ⟨fun ⟨_, h⟩ => ((parseRelMapFile_some_iff bs _).1 h).1, fun c => ⟨_, (parseRelMapFile_some_iff bs _).2 ⟨c, rfl⟩⟩⟩

/-- Rejection: a file shorter than 512 bytes, a wrong magic or an impossible count gives the error return (no panic). -/
theorem C20_relmap_reject (bs : Bytes)
    (h : bs.length < 512 ∨ rdAt 4 0 bs ≠ 0x592717 ∨ ¬ relmapCountOk bs.length (toSigned 32 (rdAt 4 4 bs))) :
    Model.parseRelMapFile bs = .ok none := by
  rw [parseRelMapFile_eq, if_neg]
  rintro ⟨a1, a2, a3⟩
  rcases h with h | h | h
  · omega
  · exact h a2
  · exact h a3

example : ¬ relmapCountOk 8192 (toSigned 32 (2 ^ 32 - 1)) ∧ ¬ relmapCountOk 512 63 ∧ ¬ relmapCountOk 8192 65 := by decide

/-- What an accepted map carries: whatever is accepted has at least 512 bytes, the magic, the stored count, which is a possible one, and no
more mappings than the count. -/
theorem C20_relmap_accept (bs : Bytes) (rm : Model.RelMapFile) (h : Model.parseRelMapFile bs = .ok (some rm)) :
    bs.length ≥ 512 ∧ rm.magic = 0x592717 ∧ rdAt 4 0 bs = 0x592717 ∧ relmapCountOk bs.length rm.numMappings ∧
    rm.numMappings = toSigned 32 (rdAt 4 4 bs) ∧ rm.mappings.length ≤ rm.numMappings.toNat := by
  obtain ⟨c, rfl⟩ := (parseRelMapFile_some_iff bs rm).1 h
  exact ⟨c.1, c.2.1, c.2.1, c.2.2, rfl, mappingsFrom_length bs _ 8⟩

/-- The count bound in numbers: an accepted count lies in 0..64, in 0..62 when the image is shorter than 524 bytes. -/
theorem C20_relmap_count_bound (bs : Bytes) (rm : Model.RelMapFile) (h : Model.parseRelMapFile bs = .ok (some rm)) :
    0 ≤ rm.numMappings ∧ rm.numMappings ≤ 64 ∧ (bs.length < 524 → rm.numMappings ≤ 62) ∧ rm.mappings.length ≤ 64 := by
  obtain ⟨_, _, _, hc, _, hm⟩ := C20_relmap_accept bs rm h
  rw [relmapCountOk_iff] at hc
  omega

set_option maxRecDepth 100000 in
example : ∃ rm, Model.parseRelMapFile (encRelMap exMap16) = .ok (some rm) :=
  ⟨_, by have := C20_relmap_v16 exMap16 (withTrueCrc_intact .v16 _ (by decide)).1 (withTrueCrc_intact .v16 _ (by decide)).2 []; simpa using this⟩

/-- Lookups.  GetFilenode / GetOID return the first stored match, or 0 when there is none. -/
theorem C20_lookup (ms : List (Nat × Nat)) (k : Nat) :
    Model.relMapGetFilenode (ms.map toMapping) k = filenodeOf ms k ∧ Model.relMapGetOID (ms.map toMapping) k = oidOf ms k :=
  ⟨relMapGetFilenode_eq ms k, relMapGetOID_eq ms k⟩

example : filenodeOf [(1262, 1262), (1259, 16384), (1262, 7)] 1262 = 1262 ∧ oidOf [(5, 9), (6, 9)] 9 = 5 ∧
    filenodeOf [(5, 9)] 6 = 0 := by decide

/-- GetEnhancedMappings keeps every mapping, in stored order, and only adds a name. -/
theorem C20_enhanced (names : List (Nat × String)) (ms : List Model.RelMapping) :
    (Model.getEnhancedMappings names ms).map (fun e => (⟨e.oid, e.filenode⟩ : Model.RelMapping)) = ms := by
  unfold Model.getEnhancedMappings
  induction ms with
  | nil => rfl
  | cons m t ih => simp only [List.map_cons, ih]

/-- the constants the model uses are the code's (Generated/Control.lean is produced by executing the code) -/
theorem C20_constants : Generated.Control.relMapMagic = relmapMagic ∧ Generated.Control.relMapMaxMappings = relmapMax ∧
    Generated.Control.sequenceMagic = seqMagic := by decide

/-! ### the defects of sequence.go the repairs remove, on the model of the code as written (Model.Orig); those of
relmap.go (`witness_B7_*`, `witness_R21_*`) stand with the relation-map theorems above -/

/-- A62a: last_value = 20 (low word looks like the type oid of int8) made the parser fail -/
theorem witness_A62_guess :
    Model.Orig.parseSequenceFile (encSeqPage (Gen.plainSeqPage 20 true)) = .ok none := by
  rw [parseSequenceFile_orig_enc _ (by decide)]; decide +kernel

/-- A62b: is_called was never read -/
theorem witness_A62_called :
    Model.Orig.parseSequenceFile (encSeqPage (Gen.plainSeqPage 42 true)) = .ok (some { lastValue := 42, isCalled := false }) := by
  rw [parseSequenceFile_orig_enc _ (by decide)]; decide +kernel

/-- A63: the magic was compared as u16: a page whose special space holds 0xABCD1717 was accepted -/
theorem witness_A63 :
    Model.Orig.isSequenceFile (zeros 16 ++ le 2 8184 ++ zeros (8184 - 18) ++ le 4 0xABCD1717 ++ zeros 4) = .ok true := by
  have hl : (zeros 16 ++ le 2 8184 ++ zeros (8184 - 18) ++ le 4 0xABCD1717 ++ zeros 4).length = 8192 := by
    simp only [List.length_append, zeros_length, le_length]
  have r16 : rd 2 ((zeros 16 ++ le 2 8184 ++ zeros (8184 - 18) ++ le 4 0xABCD1717 ++ zeros 4).drop 16) = 8184 := by
    rw [List.append_assoc, List.append_assoc, List.append_assoc (zeros 16)]
    exact rdAt_append' 2 8184 16 (zeros 16) _ (zeros_length 16).symm (by decide)
  have hsp : (zeros 16 ++ le 2 8184 ++ zeros (8184 - 18) ++ le 4 0xABCD1717 ++ zeros 4).drop 8184 = le 4 0xABCD1717 ++ zeros 4 := by
    rw [List.append_assoc]
    exact List.drop_left' (by simp only [List.length_append, zeros_length, le_length])
  unfold Model.Orig.isSequenceFile
  -- the low two bytes of the stored u32 are the magic: the u16 comparison accepts it
  rw [if_neg (by omega), uN_ok 2 _ 16 (by omega), ok_bind, r16, if_neg (by decide), uN_ok 2 _ 8184 (by omega), ok_bind, hsp]
  decide +kernel

end PgVerif.Props.C20
