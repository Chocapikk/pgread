/-
  Area `dropped` — pgdump/dropped.go reports exactly the dropped columns PostgreSQL has (the tree after
  fixes/dropped/01..02; fix 03 changes what ScanDroppedColumns costs, not what it returns).

  As in C01 the model is parametric in the row reader `rr` (heap.go:ReadRows, area `rows`, refinement theorem
  C03_file): the theorems are about dropped.go's own logic — which pg_attribute layout it settles on, which rows
  it reports, what it copies from them, in which order, which schema it decodes the heap with — on top of ANY row
  reader.  The reader hypotheses
    `hread`           under the schema of the database's layout the reader delivers the live pg_attribute rows
                      (the nine fields dropped.go looks at),
    `hb16/hb15/hb12`  under the two other schemas no row shows a legal attalign/attstorage pair,
    `hcrows`          the reader delivers the live pg_class rows (C01's hypothesis; `dropped_find_exact_reader`)
  are equations about association lists keyed by string literals, which the kernel does not evaluate; they are
  re-checked at run time on every database of every generated cluster with the executable reader on the encoded
  catalogs (families `dropped_wf` / `dropped_any`: tags `hyp:attr=ok|FAIL`, `hyp:names=ok|FAIL`; counts are in the
  evidence histogram).  `dropped_schemas_are_layouts` is the static half of `hread`: the schema literals are,
  column by column, PostgreSQL's layouts, so C03_layout applies to them.
-/
import PgVerif.Proofs.Dropped
import PgVerif.Proofs.DroppedNames
import PgVerif.Proofs.ClusterCat
namespace PgVerif.Props.Dropped
open PgVerif PgVerif.Model PgVerif.Spec PgVerif.Proofs.Dropped List
open PgVerif.Proofs.Rows (ColsMatch ColMatch)

/-- **The three schema literals of dropped.go are PostgreSQL's three pg_attribute layouts** (fix 01; the constants are
regenerated from the Go source on every check): column by column — name, type oid, length, and the alignment the
tuple decoder derives for it — the schema the tool uses for layout `l` is the initial segment, up to and including
`attisdropped`, of the specification's `pgAttributeCols l` (PostgreSQL 12–13: 18 columns, 14–15: 19, 16: 18).  So the
tool reads attlen, attnum, attbyval, attalign, attstorage and attisdropped from the bytes where PostgreSQL stores
them (C03_layout: matching columns are decoded from exactly their bytes).  On the tree before fix 01 this theorem does
not hold (there `attisdropped` of the 16 schema is the byte of `attnotnull`). -/
theorem dropped_schemas_are_layouts (l : Layout) :
    ColsMatch 0 (schemaOfLayout l) ((pgAttributeCols l).take (schemaOfLayout l).length) := by
  -- a literal carries names, type oids and lengths only, so DecodeTuple aligns each column by `typeAlign` (`schemaCol`,
  -- Proofs/ClusterCat.lean); per layout the kernel compares the literal's entries, so aligned, with the spec's columns
  cases l with
  | v12 =>
    exact (rfl : (pgAttributeCols .v12).take (schemaOfLayout .v12).length =
      Generated.Dropped.schemaPGAttrDroppedV12.map Proofs.Cluster.schemaCol) ▸ Proofs.Cluster.colsMatch_mkSchema 0 _
  | v14 =>
    exact (rfl : (pgAttributeCols .v14).take (schemaOfLayout .v14).length =
      Generated.Dropped.schemaPGAttrDroppedV15.map Proofs.Cluster.schemaCol) ▸ Proofs.Cluster.colsMatch_mkSchema 0 _
  | v16 =>
    exact (rfl : (pgAttributeCols .v16).take (schemaOfLayout .v16).length =
      Generated.Dropped.schemaPGAttrDropped.map Proofs.Cluster.schemaCol) ▸ Proofs.Cluster.colsMatch_mkSchema 0 _

/-- … and each ends with `attisdropped` -/
theorem dropped_schemas_end_with_attisdropped (l : Layout) :
    ((schemaOfLayout l).getLast?.map (·.name)) = some (strBytes "attisdropped") := by
  cases l <;> rfl

/-- **Every dropped attribute of every relation, exactly the specification's list.**
Let `d` be the content of a database whose pg_attribute is stored in layout `l` (PostgreSQL 12–13, 14–15 or 16),
every live attribute row being one PostgreSQL writes (`DroppedWF`: a legal attstorage; a dropped attribute has
atttypid 0, NOT NULL cleared, attnum > 0 and the name `........pg.dropped.<attnum>........`; the name of an attribute
that is not dropped does not begin with `dropped_`; and, as the separate hypothesis `AlignOK`, attalign one of c/s/i/d).  If the row reader, under the schema of layout `l`, delivers the live pg_attribute rows of `d` (as far as
the nine fields dropped.go looks at go), and under the two other schemas delivers no row with a legal
attalign/attstorage pair, then for every byte string `data` so read and every name table that names the relations
as the specification does, parseDroppedColumns returns exactly `Spec.expectedDropped d`: one entry per live
pg_attribute row with attisdropped and attnum > 0 — dead row versions (the column's row before the drop) and
system attributes ignored, NOT NULL columns not mistaken for dropped ones — each with the relation oid, attnum,
PostgreSQL's placeholder name, `dropped_<attnum>` as recovered name, type oid 0, and the attlen, attalign and
attbyval of the old type, ordered by relation oid and attnum.  (The printed type NAME is outside the comparison:
PostgreSQL has no type for oid 0.) -/
theorem dropped_columns_exact (rr : RowReader) (data : Bytes) (l : Layout) (d : DbContent) (names : List (Nat × Bytes))
    (r16 r15 r12 : List Row)
    (h16 : rr data schemaPGAttrDropped true = .ok r16) (h15 : rr data schemaPGAttrDroppedV15 true = .ok r15)
    (h12 : rr data schemaPGAttrDroppedV12 true = .ok r12)
    (hread : (rowsOfLayout l r16 r15 r12).map factsOfRow = d.att.live.map factsOfAttr)
    (hb16 : l ≠ .v16 → drAttrScore r16 = 0) (hb15 : l ≠ .v14 → drAttrScore r15 = 0) (hb12 : l ≠ .v12 → drAttrScore r12 = 0)
    (hwf : ∀ a ∈ d.att.live, a.DroppedWF ∧ AlignOK a)
    (hnames : ∀ a ∈ d.att.live, (mapGet names a.relid).getD [] = drRelNameOf d a.relid) :
    ∃ r, parseDroppedColumns rr data names = .ok r ∧
         r.map eraseTypeName = (expectedDropped d).map eraseTypeName := by
  have hsel := readAttrRows_select rr data l _ r16 r15 r12 h16 h15 h12 hread hb16 hb15 hb12 hwf
  refine ⟨_, by simp only [parseDroppedColumns, hsel, ok_bind, pure_eq_ok]; rfl, ?_⟩
  rw [filterMap_of_read _ _ (droppedOfRow_facts names) _ _ _ _ hread fun a ha => droppedOfFacts_attr names a (hwf a ha).1 (hwf a ha).2,
    drSortByRelNum_eq, drSortDropped_erase]
  unfold expectedDropped
  rw [drSortDropped_erase]
  congr 1
  rw [List.map_map, List.map_map]
  apply List.map_congr_left
  intro a ha
  have hal := (List.mem_filter.mp ha).1
  show eraseTypeName (modelInfo names a) = eraseTypeName (droppedInfo d a)
  unfold modelInfo droppedInfo eraseTypeName
  rw [hnames a hal]

/-- **Exactly once.**  Under the same hypotheses and PostgreSQL's uniqueness of (attrelid, attnum) among the live
rows: for every live dropped attribute `a` with attnum > 0 the result holds exactly one entry with `a`'s relation oid
and attnum, and it carries `a`'s attnum, attlen, attalign and attbyval. -/
theorem dropped_columns_once (rr : RowReader) (data : Bytes) (l : Layout) (d : DbContent) (names : List (Nat × Bytes))
    (r16 r15 r12 : List Row)
    (h16 : rr data schemaPGAttrDropped true = .ok r16) (h15 : rr data schemaPGAttrDroppedV15 true = .ok r15)
    (h12 : rr data schemaPGAttrDroppedV12 true = .ok r12)
    (hread : (rowsOfLayout l r16 r15 r12).map factsOfRow = d.att.live.map factsOfAttr)
    (hb16 : l ≠ .v16 → drAttrScore r16 = 0) (hb15 : l ≠ .v14 → drAttrScore r15 = 0) (hb12 : l ≠ .v12 → drAttrScore r12 = 0)
    (hwf : ∀ a ∈ d.att.live, a.DroppedWF ∧ AlignOK a)
    (hnames : ∀ a ∈ d.att.live, (mapGet names a.relid).getD [] = drRelNameOf d a.relid)
    (hnd : (d.att.live.map fun a => (a.relid, a.num)).Nodup)
    (a : AttrRow) (ha : a ∈ d.att.live) (hdrop : a.dropped = true) (hnum : 0 < a.num) :
    ∃ r, parseDroppedColumns rr data names = .ok r ∧
         (r.filter fun c => c.relOID == a.relid && c.attNum == a.num).map eraseTypeName = [eraseTypeName (droppedInfo d a)] := by
  obtain ⟨r, hr, heq⟩ := dropped_columns_exact rr data l d names r16 r15 r12 h16 h15 h12 hread hb16 hb15 hb12 hwf hnames
  refine ⟨r, hr, ?_⟩
  have hkey : ∀ (l : List DroppedColumnInfo),
      (l.filter fun c => c.relOID == a.relid && c.attNum == a.num).map eraseTypeName =
      (l.map eraseTypeName).filter fun c => c.relOID == a.relid && c.attNum == a.num := by
    intro l; rw [List.filter_map]; rfl
  rw [hkey, heq, ← hkey]
  -- the specification's list is a rearrangement of the live dropped attributes
  have hperm : expectedDropped d ~ (d.att.live.filter fun a => a.dropped && decide (a.num > 0)).map (droppedInfo d) :=
    drSortDropped_perm _
  have hfp := (hperm.filter fun c => c.relOID == a.relid && c.attNum == a.num)
  have hsingle : ((d.att.live.filter fun a => a.dropped && decide (a.num > 0)).map (droppedInfo d)).filter
      (fun c => c.relOID == a.relid && c.attNum == a.num) = [droppedInfo d a] := by
    rw [List.filter_map, List.filter_filter]
    have : (d.att.live.filter fun x => ((fun c : DroppedColumnInfo => c.relOID == a.relid && c.attNum == a.num) ∘ droppedInfo d) x &&
        (x.dropped && decide (x.num > 0))) = [a] := by
      apply filter_key_eq_singleton (key := fun a : AttrRow => (a.relid, a.num)) hnd ha
      · simp [droppedInfo, hdrop, hnum]
      · intro x _ hx
        simp only [Function.comp, droppedInfo, Bool.and_eq_true, beq_iff_eq] at hx
        exact Prod.ext hx.1.1 hx.1.2
    rw [this]; rfl
  rw [hsingle] at hfp
  rw [List.perm_singleton.mp hfp]
  rfl

/-- **The exported entry point.**  FindDroppedColumns on a file tree in which `global/1262` lists the database and
`base/<oid>/1249`, `base/<oid>/1259` are its catalogs returns — under the hypotheses of `dropped_columns_exact` for
the pg_attribute file, and with the relation names ParsePGClass yields — the database name, the number of dropped
columns PostgreSQL has there, and exactly the specification's list; for every iteration order of Go's table map. -/
theorem dropped_find_exact (rr : RowReader) (π : MapOrder TableInfo) (fs : Bytes → Option Bytes) (dbName : Bytes)
    (dbData attrData classData : Bytes) (dbs : List DatabaseInfo) (db : DatabaseInfo) (tables : List (Nat × TableInfo))
    (l : Layout) (d : DbContent) (r16 r15 r12 : List Row)
    (hfs : fs pathGlobal1262 = some dbData) (hdbs : parsePGDatabase rr dbData = .ok dbs) (hdb : drFindDb dbs dbName = some db)
    (hatt : fs (basePath db.oid 1249) = some attrData) (hcls : fs (basePath db.oid 1259) = some classData)
    (htab : parsePGClass rr classData = .ok tables)
    (h16 : rr attrData schemaPGAttrDropped true = .ok r16) (h15 : rr attrData schemaPGAttrDroppedV15 true = .ok r15)
    (h12 : rr attrData schemaPGAttrDroppedV12 true = .ok r12)
    (hread : (rowsOfLayout l r16 r15 r12).map factsOfRow = d.att.live.map factsOfAttr)
    (hb16 : l ≠ .v16 → drAttrScore r16 = 0) (hb15 : l ≠ .v14 → drAttrScore r15 = 0) (hb12 : l ≠ .v12 → drAttrScore r12 = 0)
    (hwf : ∀ a ∈ d.att.live, a.DroppedWF ∧ AlignOK a)
    (hnames : ∀ a ∈ d.att.live, (mapGet (drTableNamesOf π tables) a.relid).getD [] = drRelNameOf d a.relid) :
    ∃ res, findDroppedColumns rr π fs dbName = .ok (some res) ∧ res.database = dbName ∧
           res.droppedCount = (expectedDropped d).length ∧
           res.columns.map eraseTypeName = (expectedDropped d).map eraseTypeName := by
  obtain ⟨r, hr, heq⟩ := dropped_columns_exact rr attrData l d (drTableNamesOf π tables) r16 r15 r12 h16 h15 h12 hread
    hb16 hb15 hb12 hwf hnames
  refine ⟨{ database := dbName, droppedCount := r.length, columns := r }, ?_, rfl, ?_, heq⟩
  · simp only [findDroppedColumns, hfs, hdbs, hdb, hatt, hcls, htab, hr, ok_bind, pure_eq_ok]
  · show r.length = _
    rw [← List.length_map (f := eraseTypeName), heq, List.length_map]

/-- **FindDroppedColumns end to end, relative to the row reader only.**  For a database content `d` (live pg_class rows
with pairwise distinct oids, those with storage with pairwise distinct filenodes; live pg_attribute rows as PostgreSQL
writes them, stored in layout `l`): if the reader delivers the live pg_class rows for the pg_class file (C01's
hypothesis) and the live pg_attribute rows for the pg_attribute file under layout `l`'s schema (and nothing plausible
under the two other schemas), FindDroppedColumns returns the database name, the number of dropped columns and exactly
`Spec.expectedDropped d` — relation names included — for every iteration order of Go's table map. -/
theorem dropped_find_exact_reader (rr : RowReader) (π : MapOrder TableInfo) (hπ : ∀ l, π l ~ l) (fs : Bytes → Option Bytes)
    (dbName : Bytes) (dbData attrData classData : Bytes) (dbs : List DatabaseInfo) (db : DatabaseInfo)
    (l : Layout) (d : DbContent) (crows r16 r15 r12 : List Row)
    (hfs : fs pathGlobal1262 = some dbData) (hdbs : parsePGDatabase rr dbData = .ok dbs) (hdb : drFindDb dbs dbName = some db)
    (hatt : fs (basePath db.oid 1249) = some attrData) (hcls : fs (basePath db.oid 1259) = some classData)
    (hcr : rr classData schemaPGClass true = .ok crows) (hcrows : crows.map infoOfRow = d.cls.live.map infoOfRel)
    (hfn : ((d.cls.live.filter (·.filenode != 0)).map (·.filenode)).Nodup) (hoid : (d.cls.live.map (·.oid)).Nodup)
    (h16 : rr attrData schemaPGAttrDropped true = .ok r16) (h15 : rr attrData schemaPGAttrDroppedV15 true = .ok r15)
    (h12 : rr attrData schemaPGAttrDroppedV12 true = .ok r12)
    (hread : (rowsOfLayout l r16 r15 r12).map factsOfRow = d.att.live.map factsOfAttr)
    (hb16 : l ≠ .v16 → drAttrScore r16 = 0) (hb15 : l ≠ .v14 → drAttrScore r15 = 0) (hb12 : l ≠ .v12 → drAttrScore r12 = 0)
    (hwf : ∀ a ∈ d.att.live, a.DroppedWF ∧ AlignOK a) :
    ∃ res, findDroppedColumns rr π fs dbName = .ok (some res) ∧ res.database = dbName ∧
           res.droppedCount = (expectedDropped d).length ∧
           res.columns.map eraseTypeName = (expectedDropped d).map eraseTypeName := by
  obtain ⟨tables, htab, hnames⟩ := tableNames_exact rr π hπ classData crows d hcr hcrows hfn hoid
  exact dropped_find_exact rr π fs dbName dbData attrData classData dbs db tables l d r16 r15 r12 hfs hdbs hdb hatt hcls
    htab h16 h15 h12 hread hb16 hb15 hb12 hwf (fun a _ => hnames a.relid)

/-- **The recovery schema.**  Under the reader hypotheses of `dropped_columns_exact`, distinct (attrelid, attnum)
among the live rows and non-empty attribute names: for every relation oid, parseAllAttributes followed by
buildColumnsWithDropped — what GetDroppedColumnSchema returns and what RecoverDroppedColumnData decodes the heap
with — is exactly the schema the specification gives the relation (`Spec.droppedSchemaCol` over `Spec.userAttrs`, the list
`Spec.expectedSchema` returns once database and table are found by name; the lookup by name is stated by no theorem): all live attributes of the relation with
attnum > 0 in attnum order, dropped ones included under `dropped_<attnum>`, live ones under their own names, each
with its type oid (0 for a dropped one), attlen, attnum and the attalign byte PostgreSQL stored — so a row written
before the drop is walked with the lengths and alignments it was formed with (C03). -/
theorem dropped_schema_exact (rr : RowReader) (data : Bytes) (l : Layout) (d : DbContent) (relOID : Nat)
    (r16 r15 r12 : List Row)
    (h16 : rr data schemaPGAttrDropped true = .ok r16) (h15 : rr data schemaPGAttrDroppedV15 true = .ok r15)
    (h12 : rr data schemaPGAttrDroppedV12 true = .ok r12)
    (hread : (rowsOfLayout l r16 r15 r12).map factsOfRow = d.att.live.map factsOfAttr)
    (hb16 : l ≠ .v16 → drAttrScore r16 = 0) (hb15 : l ≠ .v14 → drAttrScore r15 = 0) (hb12 : l ≠ .v12 → drAttrScore r12 = 0)
    (hwf : ∀ a ∈ d.att.live, a.DroppedWF ∧ AlignOK a) (hname : ∀ a ∈ d.att.live, a.name ≠ [])
    (hnd : (d.att.live.map fun a => (a.relid, a.num)).Nodup) :
    ∃ r, parseAllAttributes rr data relOID = .ok r ∧
         buildColumnsWithDropped r = (userAttrs d.att relOID).map (columnOf ∘ droppedSchemaCol) := by
  exact ⟨_, parseAllAttributes_exact rr data relOID _ d.att
    (readAttrRows_select rr data l _ r16 r15 r12 h16 h15 h12 hread hb16 hb15 hb12 hwf) hread (fun a ha => (hwf a ha).2) hnd,
    buildColumns_userAttrs d.att relOID hname⟩

/-- **Recovering the values.**  RecoverDroppedColumnData on a file tree with the database, its catalogs and the
table's heap file: under the hypotheses of `dropped_schema_exact`, if attribute number `attNum` is attribute `a` of
the table, the function hands the row reader the heap file together with exactly the specification's recovery
schema, and returns the reader's rows unchanged, for each row the entry `dropped_<attNum>` of that row (NULL when
the row has none) as the recovered value, and `a`'s description.  What the reader returns for a well-formed heap
under that schema is C03_file's business (area `rows`): each live row with every stored value — in particular the
value a row written before the drop still holds for the dropped column, and NULL for rows written later. -/
theorem dropped_recover_exact (rr : RowReader) (π : MapOrder TableInfo) (fs : Bytes → Option Bytes)
    (dbName tableName : Bytes) (attNum : Int)
    (dbData attrData classData tableData : Bytes) (dbs : List DatabaseInfo) (db : DatabaseInfo)
    (tables : List (Nat × TableInfo)) (t : TableInfo) (l : Layout) (d : DbContent) (r16 r15 r12 : List Row)
    (a : AttrRow) (rows : List Row)
    (hfs : fs pathGlobal1262 = some dbData) (hdbs : parsePGDatabase rr dbData = .ok dbs) (hdb : drFindDb dbs dbName = some db)
    (hcls : fs (basePath db.oid 1259) = some classData) (htab : parsePGClass rr classData = .ok tables)
    (ht : drFindTable π tables tableName = some t)
    (hatt : fs (basePath db.oid 1249) = some attrData)
    (h16 : rr attrData schemaPGAttrDropped true = .ok r16) (h15 : rr attrData schemaPGAttrDroppedV15 true = .ok r15)
    (h12 : rr attrData schemaPGAttrDroppedV12 true = .ok r12)
    (hread : (rowsOfLayout l r16 r15 r12).map factsOfRow = d.att.live.map factsOfAttr)
    (hb16 : l ≠ .v16 → drAttrScore r16 = 0) (hb15 : l ≠ .v14 → drAttrScore r15 = 0) (hb12 : l ≠ .v12 → drAttrScore r12 = 0)
    (hwf : ∀ a ∈ d.att.live, a.DroppedWF ∧ AlignOK a) (hname : ∀ a ∈ d.att.live, a.name ≠ [])
    (hnd : (d.att.live.map fun a => (a.relid, a.num)).Nodup)
    (ha : (userAttrs d.att t.oid).find? (fun x => x.num == attNum) = some a)
    (hheap : fs (basePath db.oid t.filenode) = some tableData)
    (hrows : rr tableData ((userAttrs d.att t.oid).map (columnOf ∘ droppedSchemaCol)) true = .ok rows) :
    ∃ res, recoverDroppedColumnData rr π fs dbName tableName attNum = .ok (some res) ∧
           res.rows = rows ∧
           res.values = rows.map (fun row => (row.lookup (droppedPrefix ++ drDecInt attNum)).getD .nil) ∧
           eraseTypeName res.column = eraseTypeName (drAttrInfo a) := by
  have hall := parseAllAttributes_exact rr attrData t.oid _ d.att
    (readAttrRows_select rr attrData l _ r16 r15 r12 h16 h15 h12 hread hb16 hb15 hb12 hwf) hread (fun a ha => (hwf a ha).2) hnd
  have hcols := buildColumns_userAttrs d.att t.oid hname
  have hfind : ((userAttrs d.att t.oid).map modelAttr).find? (fun c => c.attNum == attNum) = some (modelAttr a) := by
    rw [List.find?_map]
    have : ((fun c : DroppedColumnInfo => c.attNum == attNum) ∘ modelAttr) = fun x : AttrRow => x.num == attNum := rfl
    rw [this, ha]; rfl
  refine ⟨{ column := modelAttr a, values := rows.map fun row => (row.lookup (droppedKey attNum)).getD .nil, rows := rows },
    ?_, rfl, rfl, ?_⟩
  · simp only [recoverDroppedColumnData, hfs, hdbs, hdb, hcls, htab, ht, hatt, hall, hfind, hheap, hcols, hrows,
      ok_bind, pure_eq_ok]
  · show eraseTypeName (modelAttr a) = eraseTypeName (drAttrInfo a)
    unfold modelAttr drAttrInfo eraseTypeName drRecoveredName droppedKey
    rfl

/-- the decidable side conditions hold on a small pg_attribute (a NOT NULL column, a dropped text column whose dead
pre-drop row version is still there, a system attribute); for the reader hypotheses see the head of this file -/
example :
    let att : HeapOf AttrRow :=
      [[⟨{ relid := 16384, name := [105, 100], typid := 23, len := 4, num := 1, align := 4, notnull := true }, 0x0900⟩,
        ⟨{ relid := 16384, name := [115], typid := 25, len := -1, num := 2, align := 4, storage := 120 }, 0x0500⟩,
        ⟨{ relid := 16384, name := pgDroppedName 2, typid := 0, len := -1, num := 2, align := 4, storage := 120, dropped := true }, 0x0900⟩,
        ⟨{ relid := 16384, name := [120], typid := 28, len := 4, num := -2, align := 4 }, 0x0900⟩]]
    (∀ a ∈ att.live, a.DroppedWF ∧ AlignOK a) ∧ (att.live.map fun a => (a.relid, a.num)).Nodup ∧
    (att.live.filter fun a => a.dropped && decide (a.num > 0)).length = 1 := by
  refine ⟨by decide, by decide, by decide⟩

end PgVerif.Props.Dropped

#print axioms PgVerif.Props.Dropped.dropped_columns_exact
#print axioms PgVerif.Props.Dropped.dropped_columns_once
#print axioms PgVerif.Props.Dropped.dropped_find_exact
#print axioms PgVerif.Props.Dropped.dropped_find_exact_reader
#print axioms PgVerif.Props.Dropped.dropped_schema_exact
#print axioms PgVerif.Props.Dropped.dropped_recover_exact
#print axioms PgVerif.Props.Dropped.dropped_schemas_are_layouts
