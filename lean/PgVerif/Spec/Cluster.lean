/-
  Spec side of a whole cluster (C01, C11, C12): the contents of a PostgreSQL data directory as abstract
  values — pg_database, per database pg_class / pg_attribute (each a heap of row *versions*, live and dead,
  spread over pages), user heaps, files of other relations — the encoder `fsOf` into a file tree
  (paths ↦ bytes) in PostgreSQL's REAL catalog layouts (12–13, 14–15, 16; DESIGN.md section 3), and
  `expectedDump`, the direct definition of what the property text says a dump must contain.
  Knows nothing about the Go code.

  Where PostgreSQL's notion and pgread's differ the Spec takes PostgreSQL's (remediation R6): a template database is one
  whose `datistemplate` is set (not one whose name starts with `template`); the value of an inline-compressed or
  out-of-line (TOASTed) datum is the ORIGINAL value (`Comp.original` / `DbContent.detoast`), not the stored bytes / a placeholder; a heap is
  all its segment files (`Cluster.segPages`) wherever its tablespace puts them (`ClassRow.tblspc`).  The open findings
  C01-TPL, A02, C01-SEG, C01-TBLSPC of fixes/cluster/known_findings.json are exactly the clusters on which pgread's
  answer differs; the theorems of Props/C01.lean carry them as explicit hypotheses (`TemplatesByName`, `A02Free`,
  `Cluster.Plain`).
  Second review (R11): the MAPPED catalogs pg_database, pg_class, pg_attribute live under the relfilenode that
  `pg_filenode.map` records for them (`Cluster.globalMap`, `DbContent.relmap`; identity after initdb, different after
  VACUUM FULL / CLUSTER of the catalog) and `fsOf` writes the map files (`Spec.encRelMap`, area control); a database lies in
  its default tablespace (`DbRow.tblspc` = pg_database.dattablespace); a column added with a non-NULL fast default
  (`DbContent.missing` = pg_attribute.atthasmissing / attmissingval, PostgreSQL ≥ 11) has that default in every row written
  before the ALTER TABLE.  Open findings C01-MAPPED, C01-TBLSPC (extended), C01-MISSINGVAL; hypotheses
  `Cluster.IdentityMapped`, `Cluster.Plain`, `Cluster.NoFastDefaults`.
  Interpretations that remain (the property text leaves them open and they are stated in the claim): "ordinary user
  table" = relkind `r` with a relfilenode of its own (relfilenode 0 with relkind `r` is a MAPPED SYSTEM CATALOG — pg_class,
  pg_attribute, pg_type, pg_proc …, located through pg_filenode.map — never a user table); the "system-table filter" is the
  documented `SkipSystemTables` = "skip pg_* tables" (name prefix); a dropped column keeps its pg_attribute row and is
  listed (type id 0); the case-insensitive table filter folds ASCII letters only (`lowerB`): where Go's Unicode folding
  differs the Spec is silent (`Model.GoCase.FilterStable` hypotheses).
-/
import PgVerif.Basic.Canon
import PgVerif.Spec.Heap
import PgVerif.Spec.Rows
import PgVerif.Spec.Relmap
import PgVerif.Spec.Crc
namespace PgVerif.Spec
open PgVerif

/-! ## Result types shared by the spec view and the model (plain data) -/

/-- a decoded row: column name ↦ value (Go: `map[string]interface{}`) -/
abbrev DRow := List (Bytes × GoVal)

structure ColumnInfo where
  name : Bytes
  typ : Bytes
  typid : Int
deriving Repr, Inhabited

structure TableDump where
  oid : Nat
  name : Bytes
  filenode : Nat
  kind : Bytes
  columns : List ColumnInfo
  rows : List DRow
  rowCount : Nat
deriving Repr, Inhabited

structure DatabaseDump where
  oid : Nat
  name : Bytes
  tables : List TableDump
deriving Repr, Inhabited

abbrev DumpResult := List DatabaseDump

structure Options where
  dbFilter : Bytes := []
  tableFilter : Bytes := []
  listOnly : Bool := false
  skipSystem : Bool := true
  pgVersion : Nat := 0
deriving Repr, Inhabited, DecidableEq

/-! ## Abstract cluster -/

/-- a stored row version: the row and its `t_infomask` visibility bits -/
structure Stored (α : Type) where
  val : α
  infomask : Nat
deriving Repr, Inhabited

/-- a heap of row versions: pages, and per page the versions in line-pointer order -/
abbrev HeapOf (α : Type) := List (List (Stored α))

def HeapOf.versions {α} (h : HeapOf α) : List (Stored α) := h.flatten
/-- the versions a reader must see: inserter committed, no committed deleter (hint bits, C09) -/
def HeapOf.live {α} (h : HeapOf α) : List α := (h.versions.filter fun s => liveBits s.infomask).map (·.val)

structure DbRow where
  oid : Nat
  name : Bytes
  /-- pg_database.datistemplate -/
  isTemplate : Bool := false
  allowConn : Bool := true
  /-- pg_database.dattablespace: 0 = pg_default (oid 1663, directory `base/<db>/`), else the oid of the tablespace that holds
  the database's directory (`pg_tblspc/<oid>/PG_<major>_<catversion>/<db>/`: CREATE DATABASE … TABLESPACE) -/
  tblspc : Nat := 0
deriving Repr, Inhabited, DecidableEq

structure ClassRow where
  oid : Nat
  name : Bytes
  kind : Nat            -- relkind byte: r i S t v m c f p I
  filenode : Nat        -- 0 = no storage / mapped
  nsp : Nat := 2200
  toast : Nat := 0      -- reltoastrelid
  natts : Nat := 0
  pages : Nat := 0
  tuples : Nat := 0     -- reltuples as float4 bits
  hasIndex : Bool := false
  persistence : Nat := 112   -- 'p'
  /-- reltablespace: 0 = the database's default tablespace (files under `base/<db>/`), else the oid of a tablespace
  (files under `pg_tblspc/<oid>/PG_<major>_<catversion>/<db>/`) -/
  tblspc : Nat := 0
deriving Repr, Inhabited, DecidableEq

structure AttrRow where
  relid : Nat
  name : Bytes
  typid : Nat           -- 0 for a dropped column
  len : Int             -- attlen
  num : Int             -- attnum (system attributes < 0)
  align : Nat           -- true attalign in bytes (1, 2, 4, 8)
  typmod : Int := -1
  ndims : Nat := 0
  byval : Bool := true
  storage : Nat := 112  -- 'p'
  notnull : Bool := false
  dropped : Bool := false
  stattarget : Int := -1
deriving Repr, Inhabited, DecidableEq

/-- contents of `base/<oid>/` -/
structure DbContent where
  cls : HeapOf ClassRow
  att : HeapOf AttrRow
  /-- heap files of relations by filenode: pages of row versions (formed with the relation's columns) -/
  heaps : List (Nat × List (List RowV))
  /-- files of other relations (indexes, sequences, TOAST …) and raw oddities, by filenode -/
  raws : List (Nat × Bytes)
  /-- the ORIGINAL bytes of every value that is stored out of line in the TOAST relation (`Datum.external`; an
  inline-compressed `Datum.compressed` carries its own original, `Comp.original`): what PostgreSQL hands to a query after detoasting.  How they follow from the stored bytes
  (pglz / LZ4, chunk reassembly) is C08's specification (Spec/Pglz, Spec/Lz4, Spec/Toast); here they are data of the cluster -/
  detoast : List (Datum × Bytes) := []
  /-- the database's relation map (`base/<db>/pg_filenode.map`): (catalog oid, relfilenode) for the mapped catalogs whose
  file is NOT named after their oid any more (VACUUM FULL / CLUSTER / a rewriting ALTER of pg_class or pg_attribute gives the
  catalog a new relfilenode that is recorded only here: pg_class.relfilenode stays 0).  A catalog that is not listed lives
  under its oid (the state initdb leaves) -/
  relmap : List (Nat × Nat) := []
  /-- fast defaults (PostgreSQL ≥ 11): ((attrelid, attnum), payload bytes of the default) for the columns added by
  `ALTER TABLE … ADD COLUMN … DEFAULT <constant>` without a table rewrite: pg_attribute.atthasmissing is set and
  attmissingval holds the value; a row written before the ALTER stores fewer attributes (`RowV.natts`) and PostgreSQL
  returns the default for the missing one -/
  missing : List ((Nat × Int) × Bytes) := []
deriving Inhabited

structure Cluster where
  pgVersion : Nat                      -- 12 … 16: content of PG_VERSION, selects the catalog layouts
  dbs : HeapOf DbRow
  content : List (Nat × DbContent)     -- by database oid
  /-- RELSEG_SIZE in pages (`--with-segsize`, 131072 = 1 GiB by default; `--with-segsize-blocks` allows small values): a
  heap of more pages is split into the files `<filenode>`, `<filenode>.1`, `<filenode>.2` … of that many pages each.
  0 = heaps are never split (every heap generated here is far below 1 GiB) -/
  segPages : Nat := 0
  /-- the shared relation map (`global/pg_filenode.map`): (catalog oid, relfilenode) for the shared mapped catalogs
  (pg_database 1262, pg_authid 1260 …) whose file is not named after their oid any more; see `DbContent.relmap` -/
  globalMap : List (Nat × Nat) := []
deriving Inhabited

/-- the relfilenode of mapped catalog `oid` under the recorded deviations `m` from the identity map -/
def mappedNode (m : List (Nat × Nat)) (oid : Nat) : Nat := (m.lookup oid).getD oid

inductive Layout where
  | v12 | v14 | v16
deriving Repr, DecidableEq, Inhabited

def Cluster.layout (c : Cluster) : Layout :=
  if c.pgVersion ≥ 16 then .v16 else if c.pgVersion ≥ 14 then .v14 else .v12

/-! ## Real catalog layouts -/

def cOid (n : String) : Col := ⟨strBytes n, 26, 4, 4⟩
def cName (n : String) : Col := ⟨strBytes n, 19, 64, 1⟩
def cInt4 (n : String) : Col := ⟨strBytes n, 23, 4, 4⟩
def cInt2 (n : String) : Col := ⟨strBytes n, 21, 2, 2⟩
def cBool (n : String) : Col := ⟨strBytes n, 16, 1, 1⟩
def cChar (n : String) : Col := ⟨strBytes n, 18, 1, 1⟩
def cFloat4 (n : String) : Col := ⟨strBytes n, 700, 4, 4⟩
def cXid (n : String) : Col := ⟨strBytes n, 28, 4, 4⟩
def cText (n : String) : Col := ⟨strBytes n, 25, -1, 4⟩
def cArr (n : String) (typid : Int) (al : Nat := 4) : Col := ⟨strBytes n, typid, -1, al⟩

def dU32 (v : Nat) : Option Datum := some (.fixed (le 4 v))
def dI32 (v : Int) : Option Datum := some (.fixed (le 4 (ofSigned 32 v)))
def dI16 (v : Int) : Option Datum := some (.fixed (le 2 (ofSigned 16 v)))
def dByte (v : Nat) : Option Datum := some (.fixed [UInt8.ofNat v])
def dBool (b : Bool) : Option Datum := some (.fixed [if b then 1 else 0])
def dName (n : Bytes) : Option Datum := some (.fixed (n ++ zeros (64 - n.length)))
def dText (p : Bytes) : Option Datum := some (textDatum p)

/-- pg_database, PostgreSQL 12–14 (14 attributes) -/
def pgDatabaseColsOld : List Col :=
  [cOid "oid", cName "datname", cOid "datdba", cInt4 "encoding", cName "datcollate", cName "datctype",
   cBool "datistemplate", cBool "datallowconn", cInt4 "datconnlimit", cOid "datlastsysoid", cXid "datfrozenxid",
   cXid "datminmxid", cOid "dattablespace", cArr "datacl" 1034]

/-- pg_database, PostgreSQL 15–16 (16 attributes; the collation columns became text) -/
def pgDatabaseColsNew : List Col :=
  [cOid "oid", cName "datname", cOid "datdba", cInt4 "encoding", cChar "datlocprovider", cBool "datistemplate",
   cBool "datallowconn", cInt4 "datconnlimit", cXid "datfrozenxid", cXid "datminmxid", cOid "dattablespace",
   cText "datcollate", cText "datctype", cText "daticulocale", cText "datcollversion", cArr "datacl" 1034]

def locale : Bytes := strBytes "en_US.UTF-8"

def pgDatabaseCols (v : Nat) : List Col := if v ≥ 15 then pgDatabaseColsNew else pgDatabaseColsOld

def dbVals (v : Nat) (d : DbRow) : List (Option Datum) :=
  if v ≥ 15 then
    [dU32 d.oid, dName d.name, dU32 10, dI32 6, dByte 99, dBool d.isTemplate, dBool d.allowConn, dI32 (-1),
     dU32 722, dU32 1, dU32 (if d.tblspc = 0 then 1663 else d.tblspc), dText locale, dText locale, none, none, none]
  else
    [dU32 d.oid, dName d.name, dU32 10, dI32 6, dName locale, dName locale, dBool d.isTemplate, dBool d.allowConn,
     dI32 (-1), dU32 13000, dU32 480, dU32 1, dU32 (if d.tblspc = 0 then 1663 else d.tblspc), none]

/-- pg_class, PostgreSQL 12–16 (33 attributes) -/
def pgClassCols : List Col :=
  [cOid "oid", cName "relname", cOid "relnamespace", cOid "reltype", cOid "reloftype", cOid "relowner", cOid "relam",
   cOid "relfilenode", cOid "reltablespace", cInt4 "relpages", cFloat4 "reltuples", cInt4 "relallvisible",
   cOid "reltoastrelid", cBool "relhasindex", cBool "relisshared", cChar "relpersistence", cChar "relkind",
   cInt2 "relnatts", cInt2 "relchecks", cBool "relhasrules", cBool "relhastriggers", cBool "relhassubclass",
   cBool "relrowsecurity", cBool "relforcerowsecurity", cBool "relispopulated", cChar "relreplident",
   cBool "relispartition", cOid "relrewrite", cXid "relfrozenxid", cXid "relminmxid",
   cArr "relacl" 1034, cArr "reloptions" 1009, cText "relpartbound"]

def classVals (r : ClassRow) : List (Option Datum) :=
  [dU32 r.oid, dName r.name, dU32 r.nsp, dU32 (if r.kind = 114 then r.oid + 2 else 0), dU32 0, dU32 10,
   dU32 (if r.kind = 114 ∨ r.kind = 116 ∨ r.kind = 109 then 2 else if r.kind = 105 then 403 else 0),
   dU32 r.filenode, dU32 r.tblspc, dI32 r.pages, dU32 r.tuples, dI32 0,
   dU32 r.toast, dBool r.hasIndex, dBool false, dByte r.persistence, dByte r.kind,
   dI16 r.natts, dI16 0, dBool false, dBool false, dBool false,
   dBool false, dBool false, dBool true, dByte (if r.kind = 114 then 100 else 110),
   dBool false, dU32 0, dU32 (if r.kind = 114 then 726 else 0), dU32 (if r.kind = 114 then 1 else 0),
   none, none, none]

def alignCh (a : Nat) : Nat := if a = 1 then 99 else if a = 2 then 115 else if a = 4 then 105 else 100

def pgAttributeCols : Layout → List Col
  | .v12 =>
    [cOid "attrelid", cName "attname", cOid "atttypid", cInt4 "attstattarget", cInt2 "attlen", cInt2 "attnum",
     cInt4 "attndims", cInt4 "attcacheoff", cInt4 "atttypmod", cBool "attbyval", cChar "attstorage", cChar "attalign",
     cBool "attnotnull", cBool "atthasdef", cBool "atthasmissing", cChar "attidentity", cChar "attgenerated",
     cBool "attisdropped", cBool "attislocal", cInt4 "attinhcount", cOid "attcollation",
     cArr "attacl" 1034, cArr "attoptions" 1009, cArr "attfdwoptions" 1009, cArr "attmissingval" 2277 8]
  | .v14 =>
    [cOid "attrelid", cName "attname", cOid "atttypid", cInt4 "attstattarget", cInt2 "attlen", cInt2 "attnum",
     cInt4 "attndims", cInt4 "attcacheoff", cInt4 "atttypmod", cBool "attbyval", cChar "attalign", cChar "attstorage",
     cChar "attcompression", cBool "attnotnull", cBool "atthasdef", cBool "atthasmissing", cChar "attidentity",
     cChar "attgenerated", cBool "attisdropped", cBool "attislocal", cInt4 "attinhcount", cOid "attcollation",
     cArr "attacl" 1034, cArr "attoptions" 1009, cArr "attfdwoptions" 1009, cArr "attmissingval" 2277 8]
  | .v16 =>
    [cOid "attrelid", cName "attname", cOid "atttypid", cInt2 "attlen", cInt2 "attnum", cInt4 "attcacheoff",
     cInt4 "atttypmod", cInt2 "attndims", cBool "attbyval", cChar "attalign", cChar "attstorage",
     cChar "attcompression", cBool "attnotnull", cBool "atthasdef", cBool "atthasmissing", cChar "attidentity",
     cChar "attgenerated", cBool "attisdropped", cBool "attislocal", cInt2 "attinhcount", cInt2 "attstattarget",
     cOid "attcollation",
     cArr "attacl" 1034, cArr "attoptions" 1009, cArr "attfdwoptions" 1009, cArr "attmissingval" 2277 8]

def attrVals (l : Layout) (a : AttrRow) : List (Option Datum) :=
  let coll : Nat := if a.typid = 25 ∨ a.typid = 1043 ∨ a.typid = 1042 ∨ a.typid = 19 then 100 else 0
  let tail : List (Option Datum) := [none, none, none, none]
  match l with
  | .v12 =>
    [dU32 a.relid, dName a.name, dU32 a.typid, dI32 a.stattarget, dI16 a.len, dI16 a.num,
     dI32 a.ndims, dI32 (-1), dI32 a.typmod, dBool a.byval, dByte a.storage, dByte (alignCh a.align),
     dBool a.notnull, dBool false, dBool false, dByte 0, dByte 0,
     dBool a.dropped, dBool true, dI32 0, dU32 coll] ++ tail
  | .v14 =>
    [dU32 a.relid, dName a.name, dU32 a.typid, dI32 a.stattarget, dI16 a.len, dI16 a.num,
     dI32 a.ndims, dI32 (-1), dI32 a.typmod, dBool a.byval, dByte (alignCh a.align), dByte a.storage,
     dByte 0, dBool a.notnull, dBool false, dBool false, dByte 0,
     dByte 0, dBool a.dropped, dBool true, dI32 0, dU32 coll] ++ tail
  | .v16 =>
    [dU32 a.relid, dName a.name, dU32 a.typid, dI16 a.len, dI16 a.num, dI32 (-1),
     dI32 a.typmod, dI16 a.ndims, dBool a.byval, dByte (alignCh a.align), dByte a.storage,
     dByte 0, dBool a.notnull, dBool false, dBool false, dByte 0,
     dByte 0, dBool a.dropped, dBool true, dI16 0, dI16 a.stattarget,
     dU32 coll] ++ tail

/-! ### fast defaults (atthasmissing / attmissingval) -/

/-- position of `atthasmissing` in the three layouts -/
def hasMissingIdx : Layout → Nat | .v12 => 14 | .v14 => 15 | .v16 => 14

/-- `attmissingval`: a one-dimensional, one-element array (anyarray: ndim 1, no null bitmap, element type, dimension 1,
lower bound 1) holding the default; a varlena element carries its own (short or 4-byte) header -/
def missingArray (a : AttrRow) (payload : Bytes) : Datum :=
  let elem : Bytes :=
    if a.len = -1 then
      (if payload.length ≤ 126 then UInt8.ofNat (2 * (payload.length + 1) + 1) :: payload else le 4 (4 * (payload.length + 4)) ++ payload)
    else payload
  textDatum (le 4 1 ++ le 4 0 ++ le 4 a.typid ++ le 4 1 ++ le 4 1 ++ elem)

/-- the pg_attribute row of `a` when the database records fast defaults `m`: as `attrVals`, with atthasmissing set and
attmissingval filled for the attributes `m` lists -/
def attrValsM (l : Layout) (m : List ((Nat × Int) × Bytes)) (a : AttrRow) : List (Option Datum) :=
  match m.lookup (a.relid, a.num) with
  | none => attrVals l a
  | some p => ((attrVals l a).set (hasMissingIdx l) (dBool true)).set ((attrVals l a).length - 1) (some (missingArray a p))

theorem attrValsM_nil (l : Layout) : attrValsM l [] = attrVals l := rfl

/-! ## Encoding: row versions → pages → files → tree -/

def formRow (cols : List Col) (vals : List (Option Datum)) (infomask : Nat) : Tuple :=
  formTuple cols { vals, natts := cols.length, infomask }

def pad8 (n : Nat) : Nat := (8 - n % 8) % 8

/-- the slots of a page holding `ts` in order: every tuple starts MAXALIGNed (the padding after a tuple is
the junk before the next) -/
def slotsOf : List Tuple → Nat → List (Bytes × Tuple)
  | [], _ => []
  | t :: ts, prevPad => (zeros prevPad, t) :: slotsOf ts (pad8 t.len)

/-- a heap page holding the tuples `ts` (pointer k → tuple k), free space between pointers and tuples -/
def pageOfTuples (ts : List Tuple) : Page :=
  let slots := slotsOf ts 0
  let used := (slots.map slotLen).sum
  let tailLen := match ts.getLast? with | some t => pad8 t.len | none => 0
  let lower := 24 + 4 * ts.length
  { hdr0 := zeros 12, special := 8192, version := 4, prune := 0,
    lps := (List.range ts.length).map .normal,
    free := zeros (8192 - lower - used - tailLen), slots, tail := zeros tailLen }

/-- bytes needed by the tuples of a page, line pointers included -/
def pageNeed (ts : List Tuple) : Nat := 24 + (ts.map fun t => 4 + t.len + pad8 t.len).sum

def encTuplePages (pages : List (List Tuple)) : Bytes := (pages.map fun ts => encPage (pageOfTuples ts)).flatten

def encHeapOf {α} (cols : List Col) (vals : α → List (Option Datum)) (h : HeapOf α) : Bytes :=
  encTuplePages (h.map fun pg => pg.map fun s => formRow cols (vals s.val) s.infomask)

def encRowPages (cols : List Col) (pages : List (List RowV)) : Bytes :=
  encTuplePages (pages.map fun pg => pg.map (formTuple cols))

/-- decimal text of a natural number -/
def natBytes (n : Nat) : Bytes := strBytes (toString n)

def pathGlobal (n : Nat) : Bytes := strBytes "global/" ++ natBytes n
def pathBase (db n : Nat) : Bytes := strBytes "base/" ++ natBytes db ++ strBytes "/" ++ natBytes n

def insertAttr (a : AttrRow) : List AttrRow → List AttrRow
  | [] => [a]
  | b :: bs => if a.num < b.num then a :: b :: bs else b :: insertAttr a bs

def sortAttrs (as : List AttrRow) : List AttrRow := as.foldr insertAttr []

/-- the user columns of relation `relid` as the catalog describes them: live pg_attribute rows with
attnum > 0 in attnum order -/
def userAttrs (att : HeapOf AttrRow) (relid : Nat) : List AttrRow :=
  sortAttrs (att.live.filter fun a => a.relid = relid ∧ a.num > 0)

def attrCol (a : AttrRow) : Col := ⟨a.name, a.typid, a.len, a.align⟩

/-- the relation (live pg_class row) that owns filenode `fn` -/
def relOfFilenode (cls : HeapOf ClassRow) (fn : Nat) : Option ClassRow := cls.live.find? fun r => r.filenode = fn

def colsOfFilenode (d : DbContent) (fn : Nat) : List Col :=
  match relOfFilenode d.cls fn with
  | some r => (userAttrs d.att r.oid).map attrCol
  | none => []

def dbFiles (l : Layout) (oid : Nat) (d : DbContent) : List (Bytes × Bytes) :=
  [(pathBase oid 1259, encHeapOf pgClassCols classVals d.cls),
   (pathBase oid 1249, encHeapOf (pgAttributeCols l) (attrVals l) d.att)] ++
  d.heaps.map (fun (fn, pages) => (pathBase oid fn, encRowPages (colsOfFilenode d fn) pages)) ++
  d.raws.map (fun (fn, bs) => (pathBase oid fn, bs))

/-! ### segments and tablespaces -/

/-- CATALOG_VERSION_NO of the major versions (the directory `PG_<major>_<catversion>` inside a tablespace) -/
def catVersion (v : Nat) : Nat :=
  if v ≥ 16 then 202307071 else if v = 15 then 202209061 else if v = 14 then 202107181 else if v = 13 then 202007201 else 201909212

def pathTblspc (spc ver db fn : Nat) : Bytes :=
  strBytes "pg_tblspc/" ++ natBytes spc ++ strBytes "/PG_" ++ natBytes ver ++ strBytes "_" ++ natBytes (catVersion ver) ++
    strBytes "/" ++ natBytes db ++ strBytes "/" ++ natBytes fn

def chunksAux {α} (n : Nat) : Nat → List α → List (List α)
  | 0, _ => []
  | f + 1, l => if l.length ≤ n then [l] else l.take n :: chunksAux n f (l.drop n)

/-- a list cut into pieces of `n` elements (the last one shorter; one empty piece for the empty list); `n = 0`: one piece -/
def chunksOf {α} (n : Nat) (l : List α) : List (List α) := if n = 0 then [l] else chunksAux n (l.length + 1) l

/-- suffix of segment `k` of a relation file: none for the first, `.k` after -/
def segSuffix (k : Nat) : Bytes := if k = 0 then [] else strBytes "." ++ natBytes k

def numbered {α} : Nat → List α → List (Nat × α)
  | _, [] => []
  | k, x :: xs => (k, x) :: numbered (k + 1) xs

/-- a file of database `oid` in the database's default tablespace `dspc` (pg_database.dattablespace; 0 = pg_default) -/
def pathDb (dspc ver oid fn : Nat) : Bytes := if dspc = 0 then pathBase oid fn else pathTblspc dspc ver oid fn

/-- where the first segment of the relation file `fn` of database `oid` lies -/
def heapPath (ver oid : Nat) (d : DbContent) (fn : Nat) (dspc : Nat := 0) : Bytes :=
  match relOfFilenode d.cls fn with
  | some r => if r.tblspc = 0 then pathDb dspc ver oid fn else pathTblspc r.tblspc ver oid fn
  | none => pathDb dspc ver oid fn

/-- the segment files of one heap -/
def heapFiles (ver seg oid : Nat) (d : DbContent) (h : Nat × List (List RowV)) (dspc : Nat := 0) : List (Bytes × Bytes) :=
  (numbered 0 (chunksOf seg h.2)).map fun (k, pages) =>
    (heapPath ver oid d h.1 dspc ++ segSuffix k, encRowPages (colsOfFilenode d h.1) pages)

/-- the files of one database as PostgreSQL lays them out: the mapped catalogs pg_class / pg_attribute under the
relfilenode the relation map records for them (`mappedNode d.relmap`: their oid unless the catalog was rewritten), every heap
in its tablespace and cut into segments, other relations; `dspc` = the database's default tablespace -/
def dbFilesPlaced (ver seg : Nat) (l : Layout) (oid : Nat) (d : DbContent) (dspc : Nat := 0) : List (Bytes × Bytes) :=
  [(pathDb dspc ver oid (mappedNode d.relmap 1259), encHeapOf pgClassCols classVals d.cls),
   (pathDb dspc ver oid (mappedNode d.relmap 1249), encHeapOf (pgAttributeCols l) (attrValsM l d.missing) d.att)] ++
  (d.heaps.map (fun h => heapFiles ver seg oid d h dspc)).flatten ++
  d.raws.map (fun (fn, bs) => (pathDb dspc ver oid fn, bs))

/-! ### relation maps -/

/-- the mapped catalogs every database's map lists (pg_class, pg_attribute, pg_type, pg_proc) and the shared ones
(pg_database, pg_authid, pg_auth_members, pg_tablespace) — a real map also lists their indexes and TOAST relations, which no
reader of this project looks up -/
def localMapped : List Nat := [1259, 1249, 1247, 1255]
def globalMapped : List Nat := [1262, 1260, 1261, 1213]

/-- a `pg_filenode.map` file of a cluster of major version `ver` holding `entries`: PostgreSQL's layout (`Spec.encRelMap`,
Spec/Relmap.lean: 512 bytes up to version 15, 524 bytes in 16), unused slots zero, the CRC-32C of the bytes before it -/
def relmapFileOf (ver : Nat) (entries : List (Nat × Nat)) : Bytes :=
  let lay : RelMapLayout := if ver ≥ 16 then .v16 else .v12
  let unused := zeros (8 * (lay.maxMappings - entries.length))
  let body := le 4 relmapMagic ++ (le 4 entries.length ++ (entries.flatMap encMapping ++ unused))
  encRelMap { mappings := entries, unused, crc := crc32c body, pad := zeros lay.padLen }

/-- the entries of a map: every listed catalog with its current relfilenode -/
def relmapEntries (cats : List Nat) (m : List (Nat × Nat)) : List (Nat × Nat) := cats.map fun o => (o, mappedNode m o)

def pathMapGlobal : Bytes := strBytes "global/pg_filenode.map"
def pathMapDb (dspc ver oid : Nat) : Bytes :=
  if dspc = 0 then strBytes "base/" ++ natBytes oid ++ strBytes "/pg_filenode.map"
  else strBytes "pg_tblspc/" ++ natBytes dspc ++ strBytes "/PG_" ++ natBytes ver ++ strBytes "_" ++ natBytes (catVersion ver) ++
    strBytes "/" ++ natBytes oid ++ strBytes "/pg_filenode.map"

def dbTblspc (c : Cluster) (oid : Nat) : Nat :=
  match c.dbs.live.find? (fun db => db.oid == oid) with | some db => db.tblspc | none => 0

/-- the relation map files of the cluster: the shared one and one per database directory (listed after every relation
file) -/
def mapFilesOf (c : Cluster) : List (Bytes × Bytes) :=
  (pathMapGlobal, relmapFileOf c.pgVersion (relmapEntries globalMapped c.globalMap)) ::
  c.content.map fun (oid, d) => (pathMapDb (dbTblspc c oid) c.pgVersion oid, relmapFileOf c.pgVersion (relmapEntries localMapped d.relmap))

/-- the file tree of the cluster: (relative path, content).  (`dbFiles` above is the special case without segments and
tablespaces: `Proofs.Cluster.dbFilesPlaced_plain`.) -/
def filesOf (c : Cluster) : List (Bytes × Bytes) :=
  ([(strBytes "PG_VERSION", natBytes c.pgVersion ++ [10]),
    (pathGlobal (mappedNode c.globalMap 1262), encHeapOf (pgDatabaseCols c.pgVersion) (dbVals c.pgVersion) c.dbs)] ++
   (c.content.map fun (oid, d) => dbFilesPlaced c.pgVersion c.segPages c.layout oid d (dbTblspc c oid)).flatten) ++
  mapFilesOf c

/-- the file system a reader sees: first entry for a path wins -/
def fsOf (c : Cluster) : Bytes → Option Bytes := fun p => (filesOf c).lookup p

/-! ## The expected dump -/

def isPrefixB (p s : Bytes) : Bool := p.isPrefixOf s

/-- lower-casing of the ASCII letters A–Z: the Spec's definition of "case-insensitive" (PostgreSQL's own identifier folding
touches ASCII letters only in the encodings where that matters).  pgread follows Go's Unicode tables (É/é, K/K …, and maps
invalid bytes to U+FFFD); the theorems are stated for the filters and names on which both notions coincide
(`Model.GoCase.FilterStable`: every ASCII string, and e.g. `été`, `日本`; not `ÉTÉ`, not `Āb`), the families tag the other cases
`case=unicode` / `spec-silent-name` and give no SPEC -/
def lowerB (s : Bytes) : Bytes := s.map fun b => if 65 ≤ b ∧ b ≤ 90 then b + 32 else b

/-- every byte is ASCII -/
def asciiB (s : Bytes) : Bool := s.all fun b => b < 128

def containsB (s sub : Bytes) : Bool := (List.range (s.length + 1)).any fun i => sub.isPrefixOf (s.drop i)

/-- PostgreSQL's names of the built-in types the generated clusters use -/
def typeNames : List (Nat × String) :=
  [(16, "bool"), (17, "bytea"), (18, "char"), (19, "name"), (20, "int8"), (21, "int2"), (23, "int4"), (25, "text"),
   (26, "oid"), (700, "float4"), (701, "float8"), (1042, "bpchar"), (1043, "varchar"), (1082, "date"),
   (1114, "timestamp"), (1184, "timestamptz"), (1700, "numeric"), (2950, "uuid"), (3802, "jsonb"), (114, "json")]

def typeName (typid : Nat) : Option Bytes := (typeNames.lookup typid).map strBytes

/-- pgread's heuristic for a template database: the name starts with `template` (NOT the Spec's notion — that is
`DbRow.isTemplate` = pg_database.datistemplate; open finding C01-TPL is the set of clusters where the two differ) -/
def isTemplateName (n : Bytes) : Bool := isPrefixB (strBytes "template") n

/-- a non-template database (`datistemplate` false) that passes the database filter -/
def selectedDb (o : Options) (d : DbRow) : Bool :=
  !d.isTemplate && (o.dbFilter.isEmpty || d.name == o.dbFilter)

/-- ordinary user table passing the system-table and name filters: relkind `r` with a relfilenode of its own (relkind `r`
with relfilenode 0 is a mapped system catalog, not a user table), not `pg_`-prefixed when system tables are skipped (the
documented meaning of SkipSystemTables), containing the table filter case-insensitively (ASCII letters, see `lowerB`) -/
def selectedRel (o : Options) (r : ClassRow) : Bool :=
  r.kind == 114 && r.filenode != 0 &&
  !(o.skipSystem && isPrefixB (strBytes "pg_") r.name) &&
  (o.tableFilter.isEmpty || containsB (lowerB r.name) (lowerB o.tableFilter))

/-- the value rendering of a column type is C04's business: a parameter here -/
abbrev Val := Bytes → Int → M GoVal

/-- the row as C03's view has it: the value of every column as the tuple's own bytes give it, rendered by `val` — for an
inline-compressed value the original bytes, for an out-of-line one nil.  Equal to `storedRow` when no value of the row is
out of line (`storedRow_inline`) -/
def rowOf (val : Val) (cols : List Col) (r : RowV) : DRow :=
  match rowView val cols r with
  | .ok ps => ps
  | .error _ => []

/-- the original bytes of an out-of-line datum as the cluster records them -/
def detoastOf (tbl : List (Datum × Bytes)) (d : Datum) : Bytes := (tbl.lookup d).getD []

/-- **what was stored** in a column: the payload of a plain value, the C string, for a value PostgreSQL compressed in
line the ORIGINAL bytes (what its stream stands for) and for one moved to the TOAST relation the original bytes the
cluster records (`detoast`), rendered by `val` -/
def storedVal (val : Val) (tbl : List (Datum × Bytes)) (c : Col) : Datum → M GoVal
  | .fixed bs => val bs c.typid
  | .short p => val p c.typid
  | .long p => val p c.typid
  | .compressed z => val z.original c.typid
  | .external body => val (detoastOf tbl (.external body)) c.typid
  | .cstr p => pure (.str p)

def storedCols (val : Val) (tbl : List (Datum × Bytes)) : List Col → List (Option Datum) → Nat → M (List (Bytes × GoVal))
  | c :: cs, v :: vs, natts => do
    let x ← match natts, v with
      | _ + 1, some d => storedVal val tbl c d
      | _, _ => pure GoVal.nil
    let rest ← storedCols val tbl cs vs (natts - 1)
    pure ((c.name, x) :: rest)
  | _, _, _ => pure []

/-- the row as its own bytes give it: every declared column with the value that was stored (NULL where the value is NULL
and for columns added after the row was written — `fillMissing` then puts the column's fast default there, if it has one) -/
def storedRow (val : Val) (tbl : List (Datum × Bytes)) (cols : List Col) (r : RowV) : DRow :=
  match storedCols val tbl cols r.vals r.natts with
  | .ok ps => ps
  | .error _ => []

/-- fast defaults: an attribute the row does not store (position ≥ the row's natts) whose column has a recorded default
reads as that default, not NULL -/
def fillMissing (val : Val) (m : List ((Nat × Int) × Bytes)) : List AttrRow → Nat → DRow → DRow
  | a :: as, natts, kv :: row =>
    (match natts, m.lookup (a.relid, a.num) with
     | 0, some p => (kv.1, match val p a.typid with | .ok v => v | .error _ => GoVal.nil)
     | _, _ => kv) :: fillMissing val m as (natts - 1) row
  | _, _, row => row

def liveRows (pages : List (List RowV)) (cols : List Col) : List RowV :=
  pages.flatten.filter fun r => liveBits (formTuple cols r).infomask

def expectedTable (val : Val) (d : DbContent) (o : Options) (r : ClassRow) : TableDump :=
  let attrs := userAttrs d.att r.oid
  let cols := attrs.map attrCol
  let rows : List DRow :=
    if o.listOnly then []
    else match d.heaps.lookup r.filenode with
      | some pages => (liveRows pages cols).map fun row => fillMissing val d.missing attrs row.natts (storedRow val d.detoast cols row)
      | none => []
  { oid := r.oid, name := r.name, filenode := r.filenode, kind := [114],
    columns := attrs.map fun a => ⟨a.name, (typeName a.typid).getD [], a.typid⟩,
    rows, rowCount := rows.length }

def insertTable (t : TableDump) : List TableDump → List TableDump
  | [] => [t]
  | u :: us => if t.filenode ≤ u.filenode then t :: u :: us else u :: insertTable t us

/-- tables in filenode order (the canonical order used for comparison; the property fixes no order) -/
def sortTables (ts : List TableDump) : List TableDump := ts.foldr insertTable []

def expectedDb (val : Val) (o : Options) (db : DbRow) (d : DbContent) : DatabaseDump :=
  { oid := db.oid, name := db.name,
    tables := sortTables ((d.cls.live.filter (selectedRel o)).map (expectedTable val d o)) }

/-- what the property text says the dump of cluster `c` under options `o` contains -/
def expectedDump (val : Val) (c : Cluster) (o : Options) : DumpResult :=
  (c.dbs.live.filter (selectedDb o)).filterMap fun db =>
    (c.content.lookup db.oid).map (expectedDb val o db)

/-! ## What the other access paths must expose (C12) -/

/-- a relation listing entry: (oid, filenode, name, relkind) -/
structure RelEntry where
  oid : Nat
  filenode : Nat
  name : Bytes
  kind : Bytes
deriving Repr, DecidableEq, Inhabited

def insertRel (t : RelEntry) : List RelEntry → List RelEntry
  | [] => [t]
  | u :: us => if t.filenode ≤ u.filenode then t :: u :: us else u :: insertRel t us

/-- every relation with storage of a database (any relkind), in filenode order -/
def expectedRels (d : DbContent) : List RelEntry :=
  ((d.cls.live.filter (·.filenode != 0)).map fun r => (⟨r.oid, r.filenode, r.name, [UInt8.ofNat r.kind]⟩ : RelEntry)).foldr insertRel []

/-- the documented omissions of the remote dump: empty tables and sql_* tables (pg_* are system tables) -/
def remoteKeeps (t : TableDump) : Bool := t.rows.length > 0 && !isPrefixB (strBytes "sql_") t.name

def expectedRemoteDb (val : Val) (db : DbRow) (d : Option DbContent) : DatabaseDump :=
  match d with
  | some d => let e := expectedDb val {} db d; { e with tables := e.tables.filter remoteKeeps }
  | none => { oid := db.oid, name := db.name, tables := [] }

/-- names differing only in case: an exact match wins, otherwise the unique case-insensitive match;
`none` when there is no match; the spec is silent (`none` of the outer option) when several
case-insensitive matches exist and none is exact -/
def lookupName {α} (name : α → Bytes) (l : List α) (n : Bytes) : Option (Option α) :=
  match l.find? (fun x => name x == n) with
  | some x => some (some x)
  | none =>
    match l.filter (fun x => lowerB (name x) == lowerB n) with
    | [] => some none
    | [x] => some (some x)
    | _ => none

/-! ## Well-formedness -/

def nameOK (n : Bytes) : Prop := 1 ≤ n.length ∧ n.length ≤ 63 ∧ (0 : UInt8) ∉ n
instance (n : Bytes) : Decidable (nameOK n) := by unfold nameOK; infer_instance

/-- not out of line: the value can be read from the tuple alone (plain, or compressed in line — read since fixes/rows/09) -/
def inlineDatum : Option Datum → Bool
  | some (.external _) => false
  | _ => true

/-- the cluster records the original bytes of the datum if it is out of line -/
def detoastKnown (tbl : List (Datum × Bytes)) : Option Datum → Bool
  | some (.external b) => (tbl.lookup (.external b)).isSome
  | _ => true

def pagesFit (pages : List (List Tuple)) : Prop := ∀ ts ∈ pages, pageNeed ts ≤ 8192
instance (pages : List (List Tuple)) : Decidable (pagesFit pages) := by unfold pagesFit; infer_instance

def DbContent.WF (l : Layout) (d : DbContent) : Prop :=
  d.cls ≠ [] ∧
  ((d.cls.live.map (·.oid)).Nodup) ∧
  (((d.cls.live.filter (·.filenode != 0)).map (·.filenode)).Nodup) ∧
  (∀ s ∈ d.cls.versions, nameOK s.val.name ∧ s.val.oid < 2 ^ 32 ∧ 0 < s.val.oid ∧ s.val.filenode < 2 ^ 32 ∧
      s.val.kind < 256 ∧ s.infomask < 65536 ∧ s.val.tblspc < 2 ^ 32) ∧
  ((d.att.live.map fun a => (a.relid, a.num)).Nodup) ∧
  (∀ s ∈ d.att.versions, nameOK s.val.name ∧ 0 < s.val.relid ∧ s.val.relid < 2 ^ 32 ∧ s.val.typid < 2 ^ 32 ∧
      -32768 ≤ s.val.num ∧ s.val.num < 32768 ∧ -32768 ≤ s.val.len ∧ s.val.len < 32768 ∧ s.infomask < 65536 ∧
      (s.val.align = 1 ∨ s.val.align = 2 ∨ s.val.align = 4 ∨ s.val.align = 8)) ∧
  pagesFit (d.cls.map fun pg => pg.map fun s => formRow pgClassCols (classVals s.val) s.infomask) ∧
  pagesFit (d.att.map fun pg => pg.map fun s => formRow (pgAttributeCols l) (attrVals l s.val) s.infomask) ∧
  ((d.heaps.map (·.1) ++ d.raws.map (·.1)).Nodup) ∧
  (∀ h ∈ d.heaps,
      (∃ r ∈ d.cls.live, r.filenode = h.1) ∧
      let cols := colsOfFilenode d h.1
      ((cols.map (·.name)).Nodup) ∧
      (∀ pg ∈ h.2, ∀ r ∈ pg, r.WF cols ∧ r.vals.all (detoastKnown d.detoast)) ∧
      pagesFit (h.2.map fun pg => pg.map (formTuple cols)))

def Cluster.WF (c : Cluster) : Prop :=
  12 ≤ c.pgVersion ∧ c.pgVersion ≤ 16 ∧
  ((c.dbs.live.map (·.oid)).Nodup) ∧
  (∀ s ∈ c.dbs.versions, nameOK s.val.name ∧ 0 < s.val.oid ∧ s.val.oid < 2 ^ 32 ∧ s.infomask < 65536) ∧
  pagesFit (c.dbs.map fun pg => pg.map fun s => formRow (pgDatabaseCols c.pgVersion) (dbVals c.pgVersion s.val) s.infomask) ∧
  ((c.content.map (·.1)).Nodup) ∧
  (∀ p ∈ c.content, p.2.WF c.layout)

/-! ## The classes of the open findings (fixes/cluster/known_findings.json), as predicates on the abstract cluster -/

/-- pgread's name heuristic classifies every live database as `datistemplate` does (finding C01-TPL is its negation) -/
def TemplatesByName (c : Cluster) : Prop := ∀ db ∈ c.dbs.live, isTemplateName db.name = db.isTemplate
instance (c : Cluster) : Decidable (TemplatesByName c) := by unfold TemplatesByName; infer_instance

/-- no heap is split into segments, no relation lies outside its database's default tablespace and every database's default
tablespace is pg_default (findings C01-SEG, C01-TBLSPC are the negations: the first part, and the second or third part) -/
def Cluster.Plain (c : Cluster) : Prop :=
  c.segPages = 0 ∧ (∀ p ∈ c.content, ∀ r ∈ p.2.cls.live, r.tblspc = 0) ∧ ∀ db ∈ c.dbs.live, db.tblspc = 0
instance (c : Cluster) : Decidable c.Plain := by unfold Cluster.Plain; infer_instance

/-- the mapped catalogs the dump reads — pg_database, and pg_class / pg_attribute of every database — still live under
their oid (the state after initdb; finding C01-MAPPED is the negation: pgread opens `global/1262`, `base/<db>/1259`,
`base/<db>/1249` by name and never reads pg_filenode.map) -/
def Cluster.IdentityMapped (c : Cluster) : Prop :=
  mappedNode c.globalMap 1262 = 1262 ∧ ∀ p ∈ c.content, mappedNode p.2.relmap 1259 = 1259 ∧ mappedNode p.2.relmap 1249 = 1249
instance (c : Cluster) : Decidable c.IdentityMapped := by unfold Cluster.IdentityMapped; infer_instance

/-- no database records a fast default (finding C01-MISSINGVAL is about the clusters that do: pgread reports NULL where
PostgreSQL returns the default) -/
def Cluster.NoFastDefaults (c : Cluster) : Prop := ∀ p ∈ c.content, p.2.missing = []
instance (c : Cluster) : Decidable c.NoFastDefaults := by unfold Cluster.NoFastDefaults; infer_instance

/-- what `Cluster.WF` does not ask and a real cluster satisfies: the relation maps are maps (no catalog listed twice,
relfilenodes in 1 … 2^32 − 1), a relocated catalog file does not collide with another file of its directory, and the recorded
fast defaults belong to live user attributes and are short enough for the pg_attribute page -/
def Cluster.MapWF (c : Cluster) : Prop :=
  ((c.globalMap.map (·.1)).Nodup) ∧ (∀ e ∈ c.globalMap, 0 < e.2 ∧ e.2 < 2 ^ 32 ∧ e.1 ∈ globalMapped) ∧
  ((globalMapped.map (mappedNode c.globalMap)).Nodup) ∧
  ∀ p ∈ c.content,
    ((p.2.relmap.map (·.1)).Nodup) ∧ (∀ e ∈ p.2.relmap, 0 < e.2 ∧ e.2 < 2 ^ 32 ∧ e.1 ∈ localMapped) ∧
    ((localMapped.map (mappedNode p.2.relmap) ++ (p.2.heaps.map (·.1) ++ p.2.raws.map (·.1))).Nodup ∨ p.2.relmap = []) ∧
    ((p.2.missing.map (·.1)).Nodup) ∧
    (∀ e ∈ p.2.missing, e.2.length ≤ 64 ∧ ∃ a ∈ p.2.att.live, (a.relid, a.num) = e.1 ∧ 0 < a.num ∧ ¬ a.dropped) ∧
    pagesFit (p.2.att.map fun pg => pg.map fun s => formRow (pgAttributeCols c.layout) (attrValsM c.layout p.2.missing s.val) s.infomask)
instance (c : Cluster) : Decidable c.MapWF := by unfold Cluster.MapWF; infer_instance

/-- no row of a table that `o` dumps with its rows holds an OUT-OF-LINE value (18-byte TOAST pointer; finding A02 is the
negation).  Inline-compressed values are no longer excluded: ReadVarlena decompresses them (fixes/rows/09). -/
def A02Free (d : DbContent) (o : Options) : Prop :=
  o.listOnly = false → ∀ r ∈ d.cls.live, selectedRel o r = true → ∀ pages, d.heaps.lookup r.filenode = some pages →
    ∀ pg ∈ pages, ∀ row ∈ pg, row.vals.all inlineDatum = true
instance (d : DbContent) (o : Options) : Decidable (A02Free d o) := by unfold A02Free; infer_instance

end PgVerif.Spec
