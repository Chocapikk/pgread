/-
  Spec side of the page checksum (C19; REVIEW.md B2): PostgreSQL's `pg_checksum_page`
  (src/include/storage/checksum_impl.h), as far as it is established in this sandbox.

  ESTABLISHED (structure of the algorithm, from checksum_impl.h):
    * the page is read as 2048 little-endian 32-bit words, laid out as 64 rows of N_SUMS = 32 columns
      (`uint32 data[BLCKSZ / (sizeof(uint32) * N_SUMS)][N_SUMS]`): word number r·32 + j is column j of row r;
    * 32 partial sums, sum j initialised with `checksumBaseOffsets[j]`;
    * for every row, every sum j is mixed with the row's word j by
        `CHECKSUM_COMP(checksum, value): tmp = checksum ^ value; checksum = tmp * FNV_PRIME ^ (tmp >> 17)`
      with FNV_PRIME = 16777619 and uint32 arithmetic (the product wraps);
    * two more rounds with the value 0 for every sum; the result of the block function is the xor of the 32 sums;
    * `pg_checksum_page(page, blkno)`: the block function over the page with `pd_checksum` (bytes 8..9) set to 0,
      xor `blkno`, then `(checksum % 65535) + 1` — so the result is never 0.

  The 32 constants of `checksumBaseOffsets[]` are the definition `checksumBaseOffsets` below.  No PostgreSQL source is
  available in this sandbox: the table is WRITTEN FROM MEMORY of checksum_impl.h (it is the table quoted in REVIEW2.md
  item 7).  Cross-check available here: with this table the empty heap page (`PageInit`: pd_lower 24, pd_upper =
  pd_special 8192, pd_pagesize_version 0x2004, everything else zero) has `pg_checksum_page` 0x6560 / 0x655F / 0x655D as
  block 0 / 1 / 7 — the three values two independent reviews computed (REVIEW.md, REVIEW2.md item 7); checked by
  `emptyHeapPage_checksums` in Proofs/PgChecksum.lean.

  Knows nothing about the Go code.  Core only.
-/
import PgVerif.Basic.Bytes
namespace PgVerif.Spec.PgChecksum
open PgVerif

/-- `FNV_PRIME` -/
def fnvPrime : Nat := 16777619

/-- `N_SUMS` -/
def nSums : Nat := 32

/-- uint32 -/
def u32 (v : Nat) : Nat := v % 2 ^ 32

/-- `CHECKSUM_COMP`: `tmp = checksum ^ value; checksum = tmp * FNV_PRIME ^ (tmp >> 17)` on uint32 -/
def comp (checksum value : Nat) : Nat :=
  let tmp := checksum ^^^ value
  u32 (tmp * fnvPrime) ^^^ (tmp >>> 17)

/-- the little-endian 32-bit words of a byte string (whole words only) -/
def words : Bytes → List Nat
  | a :: b :: c :: d :: rest => (a.toNat + 256 * b.toNat + 65536 * c.toNat + 16777216 * d.toNat) :: words rest
  | _ => []

/-- `checksumBaseOffsets[N_SUMS]` of checksum_impl.h (written from memory of that file, see the header comment) -/
def checksumBaseOffsets : List Nat :=
  [0x5B1F36E9, 0xB8525960, 0x02AB50AA, 0x1DE66D2A, 0x79FF467A, 0x9BB9F8A3, 0x217E7CD2, 0x83E13D2C,
   0xF8D4474F, 0xE39EB970, 0x42C6AE16, 0x993216FA, 0x7B093B5D, 0x98DAFF3C, 0xF718902A, 0x0B1C9CDB,
   0xE58F764B, 0x187636BC, 0x5D7B3BB1, 0xE73DE7DE, 0x92BEC979, 0xCCA6C0B2, 0x304A0979, 0x85AA43D4,
   0x783125BB, 0x6CA8EAA2, 0xE407EAC6, 0x4B5CFC3E, 0x9FBF8C76, 0x15CA20BE, 0xF2CA9FD3, 0x959BD756]

/-- one round: sum j is mixed with value j (`row` shorter than the sums: the remaining sums are dropped — never the
case below: rows have exactly 32 words) -/
def round (sums row : List Nat) : List Nat := List.zipWith comp sums row

/-- the rows of 32 words (fuel = number of words) -/
def rowsFuel : Nat → List Nat → List (List Nat)
  | 0, _ => []
  | fuel + 1, ws => if ws.length < nSums then [] else ws.take nSums :: rowsFuel fuel (ws.drop nSums)

def rows (ws : List Nat) : List (List Nat) := rowsFuel ws.length ws

def zeroRow : List Nat := List.replicate nSums 0

/-- `pg_checksum_block` over the given bytes -/
def pgChecksumBlock (page : Bytes) : Nat :=
  let sums := (rows (words page)).foldl round checksumBaseOffsets
  let sums := round (round sums zeroRow) zeroRow
  sums.foldl (· ^^^ ·) 0

/-- the page with `pd_checksum` set to zero ("save pd_checksum and temporarily set it to zero") -/
def clearChecksumField (page : Bytes) : Bytes := page.take 8 ++ [0, 0] ++ page.drop 10

/-- `pg_checksum_page(page, blkno)` -/
def pgChecksumPage (page : Bytes) (blkno : Nat) : Nat :=
  (pgChecksumBlock (clearChecksumField page) ^^^ blkno) % 65535 + 1

/-- `pd_upper` (bytes 14..15) -/
def pdUpper (page : Bytes) : Nat := rd 2 (page.drop 14)

/-- `pd_checksum` (bytes 8..9) -/
def pdChecksum (page : Bytes) : Nat := rd 2 (page.drop 8)

def allZero (page : Bytes) : Bool := page.all (· == 0)

/-- The verdict PostgreSQL gives a block of a relation file when data checksums are on (bufpage.c
`PageIsVerifiedExtended`, pg_checksums.c `scan_file`): an all-zero block is fine; a block that is not new
(`pd_upper ≠ 0`) is valid exactly when its stored `pd_checksum` equals `pg_checksum_page(block, blkno)`.
(A block with `pd_upper = 0` that is not all zeros is skipped by pg_checksums and rejected as an invalid page by the
buffer manager: the Spec gives no verdict for it — `none`.) -/
def pageVerdict (page : Bytes) (blkno : Nat) : Option Bool :=
  if allZero page then some true
  else if pdUpper page = 0 then none
  else some (pdChecksum page == pgChecksumPage page blkno)

end PgVerif.Spec.PgChecksum
